import Sudachi.Model.Wire
import Sudachi.Proofs.Basic
import Sudachi.Model.CharCat
import Sudachi.Proofs.CharCat
import Sudachi.Proofs.CharCatIter
import Sudachi.Proofs.CharCatRead
import Sudachi.Driver
import Sudachi.Props.C17
import Sudachi.Model.Edit
import Sudachi.Proofs.Edit
import Sudachi.Model.EditAccess
import Sudachi.Proofs.EditAccess
import Sudachi.Proofs.EditExact
import Sudachi.Model.EditGhost
import Sudachi.Proofs.EditGhost
import Sudachi.Props.C08
import Sudachi.Proofs.Partition
import Sudachi.Proofs.TotalBundled
import Sudachi.Proofs.PartitionUtf8
import Sudachi.Props.C01
import Sudachi.Model.Lattice
import Sudachi.Proofs.Lattice
import Sudachi.Model.LatticeRec
import Sudachi.Model.LatticeLex
import Sudachi.Proofs.LatticeRec
import Sudachi.Proofs.LatticeI32
import Sudachi.Proofs.LatticeLex
import Sudachi.Props.C02
import Sudachi.Model.Sentence
import Sudachi.Proofs.Utf8
import Sudachi.Proofs.SentenceText
import Sudachi.Proofs.SentenceChecker
import Sudachi.Proofs.SentenceBreaker
import Sudachi.Proofs.Sentence
import Sudachi.Proofs.SentenceIter
import Sudachi.Props.C16
import Sudachi.Model.Oov
import Sudachi.Model.OovIO
import Sudachi.Model.OovTables
import Sudachi.Proofs.Oov
import Sudachi.Proofs.OovLattice
import Sudachi.Proofs.OovIter
import Sudachi.Proofs.OovRead
import Sudachi.Proofs.OovTables
import Sudachi.Props.C13
import Sudachi.Model.Normalize
import Sudachi.Proofs.Normalize
import Sudachi.Proofs.NormalizeBuf
import Sudachi.Proofs.NormalizeRegex
import Sudachi.Proofs.NormalizeParse
import Sudachi.Props.C07
import Sudachi.Model.Numeric
import Sudachi.Proofs.Numeric
import Sudachi.Proofs.NumericSN
import Sudachi.Proofs.NumericLang
import Sudachi.Proofs.NumericSim
import Sudachi.Proofs.NumericValue
import Sudachi.Proofs.NumericDenote
import Sudachi.Proofs.NumericClear
import Sudachi.Proofs.NumericBackoff
import Sudachi.Model.RewriteNumeric
import Sudachi.Model.RewriteNumericSplit
import Sudachi.Proofs.RewriteNumericRun
import Sudachi.Proofs.RewriteTrace
import Sudachi.Proofs.RewriteNumericTrace
import Sudachi.Proofs.RewriteNumericSplit
import Sudachi.Props.C15
import Sudachi.Model.Cli
import Sudachi.Model.PyGlue
import Sudachi.Model.PySession
import Sudachi.Proofs.Cli
import Sudachi.Proofs.PySession
import Sudachi.Props.C19
import Sudachi.Model.Rewrite
import Sudachi.Proofs.RewriteCoarsens
import Sudachi.Proofs.RewriteConcat
import Sudachi.Proofs.RewriteStep
import Sudachi.Proofs.Rewrite
import Sudachi.Proofs.RewriteSplit
import Sudachi.Proofs.RewriteNumeral
import Sudachi.Proofs.RewriteKatakana
import Sudachi.Proofs.RewriteF3
import Sudachi.Proofs.RewriteLocal
import Sudachi.Proofs.RewriteLocalKatakana
import Sudachi.Proofs.RewriteSafe
import Sudachi.Proofs.RewriteNoErr
import Sudachi.Props.C14
import Sudachi.Model.Sched
import Sudachi.Proofs.Sched
import Sudachi.Props.C18
import Sudachi.Model.Subset
import Sudachi.Model.SubsetRw
import Sudachi.Proofs.Subset
import Sudachi.Proofs.SubsetTok
import Sudachi.Proofs.SubsetRw
import Sudachi.Props.C11
import Sudachi.Model.Split
import Sudachi.Proofs.Split
import Sudachi.Props.C09
import Sudachi.Proofs.SentenceBytes
import Sudachi.Proofs.SentenceRegex
import Sudachi.Model.Params
import Sudachi.Model.ParamsCfg
import Sudachi.Model.ParamsGrammar
import Sudachi.Proofs.ParamsOutcome
import Sudachi.Proofs.ParamsCheck
import Sudachi.Proofs.ParamsMatrix
import Sudachi.Proofs.ParamsPos
import Sudachi.Proofs.Params
import Sudachi.Proofs.ParamsCfg
import Sudachi.Proofs.ParamsGrammar
import Sudachi.Props.C20
import Sudachi.Model.Layers
import Sudachi.Model.LayersIO
import Sudachi.Model.LayersLoad
import Sudachi.Model.LayersReads
import Sudachi.Proofs.Layers
import Sudachi.Proofs.LayersLoad
import Sudachi.Proofs.LayersRefs
import Sudachi.Proofs.LayersLimit
import Sudachi.Proofs.LayersReads
import Sudachi.Props.C12
import Sudachi.Model.Codec
import Sudachi.Model.CodecCsv
import Sudachi.Model.CodecBuild
import Sudachi.Proofs.Codec
import Sudachi.Proofs.CodecLayout
import Sudachi.Proofs.CodecFile
import Sudachi.Proofs.CodecCsv
import Sudachi.Proofs.CodecDec
import Sudachi.Proofs.CodecFields
import Sudachi.Proofs.CodecSubset
import Sudachi.Props.C05
import Sudachi.Model.Trie
import Sudachi.Proofs.Trie
import Sudachi.Proofs.TrieIndex
import Sudachi.Props.C04
import Sudachi.Model.Build
import Sudachi.Model.BuildIO
import Sudachi.Model.BuildLoad
import Sudachi.Proofs.Build
import Sudachi.Proofs.BuildTotal
import Sudachi.Proofs.BuildLimits
import Sudachi.Proofs.BuildKept
import Sudachi.Proofs.BuildShape
import Sudachi.Proofs.BuildCodec
import Sudachi.Props.C06
import Sudachi.Model.Recycle
import Sudachi.Model.RecycleFast
import Sudachi.Model.RecycleIO
import Sudachi.Model.RecycleTotal
import Sudachi.Proofs.Recycle
import Sudachi.Proofs.RecycleWorld
import Sudachi.Proofs.RecycleObs
import Sudachi.Proofs.RecycleFast
import Sudachi.Proofs.RecycleTotal
import Sudachi.Proofs.RecycleBridge
import Sudachi.Props.C10
import Sudachi.Model.Total
import Sudachi.Proofs.Total
import Sudachi.Proofs.TotalCompose
import Sudachi.Proofs.TotalSucceeds
import Sudachi.Proofs.TotalRows
import Sudachi.Model.TotalIO
import Sudachi.Model.Stages
import Sudachi.Props.C03
import Sudachi.Proofs.RowWrap
import Sudachi.Proofs.TotalPathCost
