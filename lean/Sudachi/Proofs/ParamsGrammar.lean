import Sudachi.Proofs.ParamsOutcome
import Sudachi.Model.ParamsGrammar
/-!
# C20: what `Grammar::parse` guarantees about the matrix it hands to the range checks

Everything turns on the sign of the two header numbers.  Once both are known to be below 2^15 —
because the repaired reader tests it, because a debug build got through the overflow-checked product
`2 * L * R`, or by hypothesis — no product or sum of the reader reaches 2^64, so nothing wraps: the
dimensions are the header numbers, the slice lies inside the buffer and holds exactly `L * R` cells
(`grammarParse_facts`), and the repaired reader cannot panic (`grammarParse_repaired_safe`).
-/
namespace Params
open Outcome

def BytesOk (bs : Codec.Bytes) : Prop := ∀ b ∈ bs, b < 256

theorem leU16_lt {bs r : Codec.Bytes} {n : Nat} (hb : BytesOk bs) (h : Codec.leU16 bs = some (n, r)) : n < 65536 := by
  match bs, h with
  | a :: b :: _, h =>
    cases h
    have := hb a List.mem_cons_self
    have := hb b (List.mem_cons_of_mem _ List.mem_cons_self)
    omega

theorem countStr_length : ∀ (n : Nat) {bs r : Codec.Bytes} {ss : List Codec.Str},
    Codec.countStr n bs = some (ss, r) → ss.length = n
  | 0, bs, r, ss, h => by
    simp only [Codec.countStr, Option.some.injEq, Prod.mk.injEq] at h
    rw [← h.1]; rfl
  | n + 1, bs, r, ss, h => by
    simp only [Codec.countStr] at h
    split at h
    · cases h
    · split at h
      · cases h
      · rename_i ss' r' h2
        simp only [Option.some.injEq, Prod.mk.injEq] at h
        rw [← h.1, List.length_cons, countStr_length n h2]

theorem countPos_wf : ∀ (n : Nat) {bs r : Codec.Bytes} {ps : List (List Codec.Str)},
    Codec.countPos n bs = some (ps, r) → ps.length = n ∧ ∀ p ∈ ps, p.length = 6
  | 0, bs, r, ps, h => by
    simp only [Codec.countPos, Option.some.injEq, Prod.mk.injEq] at h
    rw [← h.1]; exact ⟨rfl, fun p hp => by cases hp⟩
  | n + 1, bs, r, ps, h => by
    simp only [Codec.countPos] at h
    split at h
    · cases h
    · rename_i p r1 h1
      split at h
      · cases h
      · rename_i ps' r' h2
        simp only [Option.some.injEq, Prod.mk.injEq] at h
        obtain ⟨ih1, ih2⟩ := countPos_wf n h2
        rw [← h.1]
        refine ⟨by simp [ih1], fun q hq => ?_⟩
        simp only [List.mem_cons] at hq
        rcases hq with hq | hq
        · subst hq; exact countStr_length 6 h1
        · exact ih2 q hq

theorem readI16s_length : ∀ (n : Nat) (bs : Codec.Bytes), 2 * n ≤ bs.length → (readI16s n bs).length = n
  | 0, _, _ => rfl
  | n + 1, [], h => by simp at h
  | n + 1, [_], h => by simp at h; omega
  | n + 1, a :: b :: r, h => by
    simp only [readI16s, List.length_cons]
    rw [readI16s_length n r (by simp only [List.length_cons] at h; omega)]

theorem wmul_small {dbg : Bool} {a b : Nat} (h : a * b < TWO64) : wmul dbg a b = ok (a * b) := if_pos h

theorem wadd_small {dbg : Bool} {a b : Nat} (h : a + b < TWO64) : wadd dbg a b = ok (a + b) := if_pos h

/-- `usize` arithmetic that returned: the exact result, or — without overflow checks — the wrapped one.  Stated about the
bare `if` that both `wmul` and `wadd` unfold to, so that it applies to products and sums alike. -/
theorem wrap_cases {dbg : Bool} {s c : Nat}
    (h : (if s < TWO64 then ok s else if dbg then crash else ok (s % TWO64)) = ok c) :
    (s < TWO64 ∧ c = s) ∨ (dbg = false ∧ TWO64 ≤ s ∧ c = s % TWO64) := by
  by_cases hs : s < TWO64
  · rw [if_pos hs] at h; exact Or.inl ⟨hs, (ok.inj h).symm⟩
  · rw [if_neg hs] at h
    cases dbg
    · exact Or.inr ⟨rfl, Nat.le_of_not_lt hs, (ok.inj h).symm⟩
    · cases h

theorem i16AsUsize_nonneg {u : Nat} (h : u < 32768) : i16AsUsize u = u := if_pos h

theorem posListParser_wf {bs r : Codec.Bytes} {pos : List (List Codec.Str)} (hb : BytesOk bs)
    (h : Codec.posListParser bs = some (pos, r)) : pos.length ≤ 65535 ∧ ∀ q ∈ pos, q.length = 6 := by
  unfold Codec.posListParser at h
  rcases hn : Codec.leU16 bs with _ | ⟨n, rest⟩ <;> rw [hn] at h
  · cases h
  · obtain ⟨hplen, hpwf⟩ := countPos_wf n h
    exact ⟨hplen ▸ Nat.le_of_lt_succ (leU16_lt hb hn), hpwf⟩

/-- A debug build computes `2 * L * R` with overflow checks: when it gets through and `L ≠ 0`, neither
header number was negative (a negative one is `≥ 2^64 - 32768` after `as usize`). -/
theorem header_nonneg_of_debug {hl hr t t2 : Nat} (h0 : 0 < hl)
    (ht : wmul true 2 (i16AsUsize hl) = ok t) (ht2 : wmul true t (i16AsUsize hr) = ok t2) :
    hl < 32768 ∧ hr < 32768 := by
  obtain ⟨h1, rfl⟩ := (wrap_cases ht).resolve_right (fun h => nomatch h.1)
  obtain ⟨h2, _⟩ := (wrap_cases ht2).resolve_right (fun h => nomatch h.1)
  have hl' : hl < 32768 := by
    unfold i16AsUsize TWO64 at h1
    split at h1 <;> omega
  rw [i16AsUsize_nonneg hl'] at h2
  refine ⟨hl', Decidable.by_contra fun hge => ?_⟩
  have : 2 * hl * (hr + (TWO64 - 65536)) < TWO64 := by rwa [i16AsUsize, if_neg hge] at h2
  have := Nat.mul_le_mul_right (hr + (TWO64 - 65536)) (show 2 ≤ 2 * hl by omega)
  unfold TWO64 at *
  omega

structure ParseFacts (g : GParsed) : Prop where
  nl_eq : g.nl = g.rawL
  nr_eq : g.nr = g.rawR
  nl_le : g.nl ≤ 32767
  nr_le : g.nr ≤ 32767
  cells_len : g.cells.length = g.nl * g.nr
  pos_len : g.pos.length ≤ 65535
  pos_wf : ∀ q ∈ g.pos, q.length = 6

/-- A successful `Grammar::parse` fixes the dimensions, the number of cells and the shape of the POS
list — provided the header numbers are not negative, which a debug build enforces by itself (the
products overflow) as soon as the first one is not 0. -/
theorem grammarParse_facts {hdr dbg : Bool} {buf : Codec.Bytes} {offset : Nat} {g : GParsed}
    (hb : BytesOk buf) (h : grammarParse hdr dbg buf offset = ok g)
    (hd : hdr = true ∨ (dbg = true ∧ 0 < g.rawL) ∨ (g.rawL < 32768 ∧ g.rawR < 32768)) : ParseFacts g := by
  unfold grammarParse at h
  obtain ⟨-, h⟩ := of_ite_eq_ok h nofun
  rcases hpos : Codec.posListParser (buf.drop offset) with _ | ⟨pos, r1⟩ <;> rw [hpos] at h
  · cases h
  dsimp only at h
  rcases hhl : Codec.leU16 r1 with _ | ⟨hl, r2⟩ <;> rw [hhl] at h
  · cases h
  dsimp only at h
  rcases hhr : Codec.leU16 r2 with _ | ⟨hr, rest⟩ <;> rw [hhr] at h
  · cases h
  dsimp only at h
  obtain ⟨hguard, h⟩ := of_ite_eq_ok h nofun
  simp only [bind_eq_ok] at h
  obtain ⟨t, ht, t2, ht2, storage, -, size, hsize, end_, -, h⟩ := h
  obtain ⟨hend, h⟩ := of_ite_eq_ok h nofun
  simp only [bind_eq_ok] at h
  obtain ⟨realSize, hrs, e2, he2, h⟩ := h
  obtain ⟨hslice, h⟩ := of_ite_eq_ok h nofun
  obtain ⟨-, h⟩ := of_ite_eq_ok h nofun
  cases h
  dsimp only at hd ⊢
  have hbd : BytesOk (buf.drop offset) := fun x hx => hb x (List.mem_of_mem_drop hx)
  obtain ⟨hplen, hpwf⟩ := posListParser_wf hbd hpos
  -- the header numbers are not negative
  obtain ⟨kl, kr⟩ : hl < 32768 ∧ hr < 32768 := by
    rcases hd with rfl | ⟨rfl, hl0⟩ | hd
    · simpa using hguard
    · exact header_nonneg_of_debug hl0 ht ht2
    · exact hd
  -- so nothing wraps: `size = L * R`, the slice is `connOff .. connOff + 2 * size`, inside the buffer
  have eL := i16AsUsize_nonneg kl
  have eR := i16AsUsize_nonneg kr
  have hprod : hl * hr ≤ 32767 * 32767 := Nat.mul_le_mul (by omega) (by omega)
  rw [eL, eR, wmul_small (by unfold TWO64; omega)] at hsize
  cases hsize
  rw [wmul_small (by unfold TWO64; omega)] at hrs
  cases hrs
  simp only [Bool.or_eq_true, decide_eq_true_eq, not_or, Nat.not_lt] at hslice
  have he : e2 = (buf.length - rest.length) + hl * hr * 2 := by
    rcases wrap_cases he2 with h1 | ⟨_, h1, h2⟩
    · exact h1.2
    · unfold TWO64 at h1 h2; omega
  refine ⟨eL, eR, Nat.le_of_lt_succ (eL.symm ▸ kl), Nat.le_of_lt_succ (eR.symm ▸ kr), ?_, hplen, hpwf⟩
  rw [eL, eR]
  exact readI16s_length _ _ (by rw [List.length_drop]; omega)

/-- with `hdr = true` (a negative header number is refused, the length test counts bytes) `Grammar::parse` returns a grammar or an error value for EVERY buffer
(shorter than 2^62 bytes) and every offset, in both builds -/
theorem grammarParse_repaired_safe (dbg : Bool) (buf : Codec.Bytes) (offset : Nat)
    (hlen : buf.length < 4611686018427387904) : (grammarParse true dbg buf offset).isSafe = true := by
  unfold grammarParse
  refine ite_safe rfl ?_
  rcases Codec.posListParser (buf.drop offset) with _ | ⟨pos, r1⟩
  · rfl
  dsimp only
  rcases Codec.leU16 r1 with _ | ⟨hl, r2⟩
  · rfl
  dsimp only
  rcases Codec.leU16 r2 with _ | ⟨hr, rest⟩
  · rfl
  dsimp only
  by_cases hguard : (true && (decide (hl ≥ 32768) || decide (hr ≥ 32768))) = true
  · rw [if_pos hguard]; rfl
  rw [if_neg hguard]
  simp only [Bool.true_and, Bool.or_eq_true, decide_eq_true_eq, not_or, Nat.not_le] at hguard
  obtain ⟨kl, kr⟩ := hguard
  -- header numbers below 2^15 and a buffer below 2^62: no product or sum reaches 2^64
  have hp : hl * hr ≤ 32767 * 32767 := Nat.mul_le_mul (by omega) (by omega)
  have hp2 : 2 * hl * hr ≤ 65534 * 32767 := Nat.mul_le_mul (by omega) (by omega)
  rw [i16AsUsize_nonneg kl, i16AsUsize_nonneg kr, wmul_small (a := 2) (by unfold TWO64; omega)]
  dsimp only [Outcome.bind]
  rw [wmul_small (a := 2 * hl) (by unfold TWO64; omega)]
  dsimp only [Outcome.bind]
  rw [wadd_small (by unfold TWO64; omega)]
  dsimp only [Outcome.bind]
  rw [wmul_small (a := hl) (by unfold TWO64; omega)]
  dsimp only [Outcome.bind]
  rw [if_pos rfl, wmul_small (a := hl * hr) (by unfold TWO64; omega)]
  dsimp only [Outcome.bind]
  rw [wadd_small (by unfold TWO64; omega)]
  dsimp only [Outcome.bind]
  -- past the length test the slice is inside the buffer, and `2 * size` bytes are `size` elements
  by_cases hend : buf.length - rest.length + hl * hr * 2 > buf.length
  · rw [if_pos hend]; rfl
  · rw [if_neg hend, if_neg (by simp only [Bool.or_eq_true, decide_eq_true_eq]; omega),
      if_neg (by simp only [bne_iff_ne, ne_eq, Decidable.not_not]; omega)]
    rfl

end Params
