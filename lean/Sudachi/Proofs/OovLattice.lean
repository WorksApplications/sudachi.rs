import Sudachi.Proofs.Oov
/-!
# C13: the lattice builder

The model has the builder three times: plain (`stepAt`, `buildFrom`, `buildLattice`), with every provider call recorded
(suffix `T`: a `PosTrace` per position, lost when the run fails), and with the calls kept when the run fails (suffix `P`:
the result is a pair, the completed calls beside the outcome).  Each level is taken apart once for the three.  The provider
list (`list_does`): all providers answer, or one panics.  One iteration of the position loop (`step_does`): the three steps
are read from one pair, the recorded answer and the completed calls, and `StepDoes` lists what that pair can be, in terms
of node lists only: the mask of a builder state is always that of its buffer (`provideAllT_spec`, `stepLoop_ok`), so
"nothing created" is the state `(0, [])`; what a successful step consists of, what a failing one leaves behind and
everything about the plain step are read off it.  The position loop (`loop_does`).  What a completed loop has computed is
said in closed form (`buildFrom_eq`): what the steps insert at the positions that have a previous node in the finished
lattice; that candidates come in order of begin and that the lattice is connected up to the end of the text (`LatInv`)
are read off it.
-/
namespace Oov

/-! ## outcomes -/

/-- the outcome with its value mapped: "the recorded builder, calls forgotten, is the plain builder" is
`(…T).mapO (·.nodes) = …` -/
def Outcome.mapO {α β : Type} (f : α → β) : Outcome α → Outcome β
  | .ok a => .ok (f a)
  | .err k => .err k
  | .panic w => .panic w

theorem mapO_eq_ok {α β : Type} {f : α → β} {x : Outcome α} {b : β} (h : x.mapO f = .ok b) : ∃ a, x = .ok a ∧ f a = b := by
  cases x with
  | ok a => exact ⟨a, rfl, Outcome.ok.inj h⟩
  | err k => cases h
  | panic w => cases h

theorem bind_eq_ok {α β : Type} (x : Outcome α) (f : α → Outcome β) (b : β) (h : x.bind f = .ok b) :
    ∃ a, x = .ok a ∧ f a = .ok b := by
  cases x with
  | ok a => exact ⟨a, rfl, h⟩
  | err k => cases h
  | panic w => cases h

theorem asksProviders_iff (cat : Nat) : asksProviders cat = true ↔ cat &&& (NOOOVBOW ||| NOOOVBOW2) = 0 := by
  simp [asksProviders]

/-! The provider loop of a step is the loop over the providers the character's class lets run: all or none. -/

theorem loopT_eq (ps : List Provider) (cat : Nat) (buf : Buf) (o : Nat) (st : Nat × List Node) :
    (if asksProviders cat = true then provideAllT ps 0 buf o st else .ok (st, [])) =
      provideAllT (if asksProviders cat = true then ps else []) 0 buf o st := by
  cases asksProviders cat <;> rfl

theorem loopP_eq (ps : List Provider) (cat : Nat) (buf : Buf) (o : Nat) (st : Nat × List Node) :
    (if asksProviders cat = true then provideAllP ps 0 buf o st else ([], .ok st)) =
      provideAllP (if asksProviders cat = true then ps else []) 0 buf o st := by
  cases asksProviders cat <;> rfl

theorem afterLoop_eq (ps : List Provider) (lex : List Word) (buf : Buf) (o cat : Nat) :
    afterLoop ps lex buf o cat =
      provideAll (if asksProviders cat = true then ps else []) buf o (addAll 0 (lexNodes lex buf o), lexNodes lex buf o) := by
  unfold afterLoop
  by_cases ha : cat &&& (NOOOVBOW ||| NOOOVBOW2) = 0
  · rw [if_pos ha, if_pos ((asksProviders_iff cat).mpr ha)]
  · rw [if_neg ha, if_neg (mt (asksProviders_iff cat).mp ha)]; rfl

/-! ## the provider list: order, masks, buffers -/

def outsOf (cs : List Call) : List Node := cs.flatMap (·.out)

theorem provideOovsT_ok {i : Nat} {p : Provider} {buf : Buf} {o : Nat} {st st' : Nat × List Node} {c : Call}
    (h : provideOovsT i p buf o st = .ok (st', c)) :
    provide p buf o st.1 st.2 = .ok c.out ∧ c.idx = i ∧ c.offset = o ∧ c.created = st.1 ∧ c.pre = st.2.length ∧
    st' = (addAll st.1 c.out, st.2 ++ c.out) := by
  unfold provideOovsT at h
  cases hp : provide p buf o st.1 st.2 with
  | ok new => simp only [hp, Outcome.ok.injEq, Prod.mk.injEq] at h; obtain ⟨h1, h2⟩ := h; subst h1 h2; simp
  | err k => simp [hp] at h
  | panic w => simp [hp] at h

theorem provideAllT_cons_ok {p : Provider} {rest : List Provider} {i : Nat} {buf : Buf} {o : Nat} {st st' : Nat × List Node}
    {calls : List Call} (h : provideAllT (p :: rest) i buf o st = .ok (st', calls)) :
    ∃ st1 c cs, provideOovsT i p buf o st = .ok (st1, c) ∧ provideAllT rest (i + 1) buf o st1 = .ok (st', cs) ∧
      calls = c :: cs := by
  simp only [provideAllT] at h
  cases h1 : provideOovsT i p buf o st with
  | err k => simp [h1] at h
  | panic w => simp [h1] at h
  | ok r =>
    obtain ⟨st1, c⟩ := r
    simp only [h1] at h
    cases h2 : provideAllT rest (i + 1) buf o st1 with
    | err k => simp [h2] at h
    | panic w => simp [h2] at h
    | ok r2 =>
      obtain ⟨st2, cs⟩ := r2
      simp only [h2, Outcome.ok.injEq, Prod.mk.injEq] at h
      obtain ⟨rfl, rfl⟩ := h
      exact ⟨st1, c, cs, rfl, h2, rfl⟩

/-- the provider list run from the nodes `prior` under the mask of their lengths: the only states the builder is ever in -/
theorem provideAllT_spec {ps : List Provider} {i : Nat} {buf : Buf} {o : Nat} {prior : List Node} {st' : Nat × List Node}
    {calls : List Call} (h : provideAllT ps i buf o (addAll 0 prior, prior) = .ok (st', calls)) :
    calls.length = ps.length ∧
    st' = (addAll 0 (prior ++ outsOf calls), prior ++ outsOf calls) ∧
    ∀ before c after, calls = before ++ c :: after →
      ∃ p, ps[before.length]? = some p ∧ c.idx = i + before.length ∧ c.offset = o ∧
        c.created = addAll 0 (prior ++ outsOf before) ∧ c.pre = (prior ++ outsOf before).length ∧
        provide p buf o (addAll 0 (prior ++ outsOf before)) (prior ++ outsOf before) = .ok c.out := by
  have hnil : prior ++ outsOf [] = prior := List.append_nil prior
  induction ps generalizing i prior calls with
  | nil =>
    cases h
    exact ⟨rfl, by rw [hnil], fun before c after hc => by cases before <;> cases hc⟩
  | cons p rest ih =>
    obtain ⟨st1, c0, cs, h1, h2, rfl⟩ := provideAllT_cons_ok h
    obtain ⟨hp, hidx, hoff, hcr, hpre, rfl⟩ := provideOovsT_ok h1
    simp only [← addAll_append] at h2
    obtain ⟨ihl, ihst, ihc⟩ := ih h2 (List.append_nil _)
    have hout : ∀ l : List Call, prior ++ outsOf (c0 :: l) = prior ++ c0.out ++ outsOf l := fun l =>
      (List.append_assoc _ _ _).symm
    refine ⟨by rw [List.length_cons, ihl, List.length_cons], by rw [ihst, hout], fun before c after hc => ?_⟩
    cases before with
    | nil =>
      obtain ⟨rfl, -⟩ := List.cons.inj hc
      rw [hnil]
      exact ⟨p, rfl, hidx, hoff, hcr, hpre, hp⟩
    | cons b0 before' =>
      obtain ⟨rfl, hcs⟩ := List.cons.inj hc
      obtain ⟨q, hq, hi2, ho2, hrest⟩ := ihc before' c after hcs
      rw [hout]
      exact ⟨q, hq, by rw [hi2, List.length_cons]; omega, ho2, hrest⟩

theorem provideAllT_idx {ps : List Provider} {i : Nat} {buf : Buf} {o : Nat} {st st' : Nat × List Node} {calls : List Call}
    (h : provideAllT ps i buf o st = .ok (st', calls)) : calls.map (·.idx) = List.range' i ps.length := by
  induction ps generalizing i st calls with
  | nil => cases h; rfl
  | cons p rest ih =>
    obtain ⟨st1, c0, cs, h1, h2, rfl⟩ := provideAllT_cons_ok h
    rw [List.map_cons, (provideOovsT_ok h1).2.1, ih h2, List.length_cons, List.range'_succ]

theorem provideAllT_fruitless {ps : List Provider} {i : Nat} {buf : Buf} {o : Nat} {st st' : Nat × List Node} {calls : List Call}
    (h : provideAllT ps i buf o st = .ok (st', calls)) (hout : outsOf calls = []) :
    (∀ p ∈ ps, provide p buf o st.1 st.2 = .ok []) ∧
    ∀ c ∈ calls, c.out = [] ∧ c.offset = o ∧ c.created = st.1 ∧ c.pre = st.2.length := by
  induction ps generalizing i calls with
  | nil => cases h; exact ⟨nofun, nofun⟩
  | cons p rest ih =>
    obtain ⟨st1, c, cs, h1, h2, rfl⟩ := provideAllT_cons_ok h
    obtain ⟨hp, _, hoff, hcr, hpre, rfl⟩ := provideOovsT_ok h1
    obtain ⟨hc, hcs⟩ := List.append_eq_nil_iff.mp (show c.out ++ outsOf cs = [] from hout)
    rw [hc] at hp h2
    rw [List.append_nil] at h2
    obtain ⟨i1, i2⟩ := ih h2 hcs
    exact ⟨fun q hq => (List.mem_cons.mp hq).elim (· ▸ hp) (i1 q),
      fun x hx => (List.mem_cons.mp hx).elim (· ▸ ⟨hc, hoff, hcr, hpre⟩) (i2 x)⟩

/-- **What the provider list can do**, for the three builders at once: every provider answers, with the same final
state in all three and the calls `cs` in the two that keep them; or a provider panics, with that panic in all three
(the third keeps the calls `cs` completed before it).  No provider returns `Err`. -/
theorem list_does (buf : Buf) (o : Nat) : ∀ (ps : List Provider) (i : Nat) (st : Nat × List Node),
    (∃ st' cs, provideAllT ps i buf o st = .ok (st', cs) ∧ provideAll ps buf o st = .ok st' ∧
      provideAllP ps i buf o st = (cs, .ok st')) ∨
    ∃ w cs, (∃ p ∈ ps, ∃ c ex, provide p buf o c ex = .panic w) ∧ provideAllT ps i buf o st = .panic w ∧
      provideAll ps buf o st = .panic w ∧ provideAllP ps i buf o st = (cs, .panic w)
  | [], i, st => .inl ⟨st, [], rfl, rfl, rfl⟩
  | p :: rest, i, st => by
    simp only [provideAllT, provideAll, provideAllP, provideOovsT, provideOovs]
    cases hp : provide p buf o st.1 st.2 with
    | err k => exact absurd hp (provide_ne_err _ _ _ _ _ _)
    | panic w => exact .inr ⟨w, [], ⟨p, List.mem_cons_self, _, _, hp⟩, rfl, rfl, rfl⟩
    | ok new =>
      dsimp only
      rcases list_does buf o rest (i + 1) (addAll st.1 new, st.2 ++ new) with
        ⟨st', cs, h1, h2, h3⟩ | ⟨w, cs, ⟨q, hq, hpr⟩, h1, h2, h3⟩
      · exact .inl ⟨st', _ :: cs, by rw [h1], h2, by rw [h3]⟩
      · exact .inr ⟨w, _ :: cs, ⟨q, List.mem_cons_of_mem _ hq, hpr⟩, by rw [h1], h2, by rw [h3]⟩

theorem provideAllT_fst (ps : List Provider) (i : Nat) (buf : Buf) (o : Nat) (st : Nat × List Node) :
    (provideAllT ps i buf o st).mapO Prod.fst = provideAll ps buf o st := by
  rcases list_does buf o ps i st with ⟨st', cs, h1, h2, _⟩ | ⟨w, cs, _, h1, h2, _⟩
  · rw [h1, h2]; rfl
  · rw [h1, h2]; rfl

theorem provideAllP_provideAllT (ps : List Provider) (i : Nat) (buf : Buf) (o : Nat) (st : Nat × List Node) :
    match provideAllT ps i buf o st with
    | .ok (st', cs) => provideAllP ps i buf o st = (cs, .ok st')
    | .err k => (provideAllP ps i buf o st).2 = .err k
    | .panic w => (provideAllP ps i buf o st).2 = .panic w := by
  rcases list_does buf o ps i st with ⟨st', cs, h1, _, h3⟩ | ⟨w, cs, _, h1, _, h3⟩
  · rw [h1]; exact h3
  · rw [h1, h3]

/-! ## what one step can do -/

/-- the provider loop of a step at a character of class `cat`, as the recorded builder runs it -/
def stepLoop (ps : List Provider) (lex : List Word) (buf : Buf) (o cat : Nat) : Outcome ((Nat × List Node) × List Call) :=
  provideAllT (if asksProviders cat = true then ps else []) 0 buf o (addAll 0 (lexNodes lex buf o), lexNodes lex buf o)

theorem stepLoop_ok {ps : List Provider} {lex : List Word} {buf : Buf} {o cat : Nat} {st1 : Nat × List Node} {calls : List Call}
    (h : stepLoop ps lex buf o cat = .ok (st1, calls)) :
    st1 = (addAll 0 (lexNodes lex buf o ++ outsOf calls), lexNodes lex buf o ++ outsOf calls) ∧
    (asksProviders cat = true →
      provideAllT ps 0 buf o (addAll 0 (lexNodes lex buf o), lexNodes lex buf o) = .ok (st1, calls)) ∧
    (asksProviders cat = false → calls = []) :=
  ⟨(provideAllT_spec h).2.1, fun ha => by rwa [stepLoop, if_pos ha] at h,
    fun hf => by rw [stepLoop, hf] at h; cases h; rfl⟩

/-- **What one iteration of the position loop can do**, as the recorded answer `a` and the completed calls `cs` (from which
the three builders' answers are read: `step_does`).  The mask of a state is that of its buffer, so "nothing created" is
the state `(0, [])`, and the extra call of the last provider is a call with an empty mask and an empty buffer. -/
inductive StepDoes (ps : List Provider) (lex : List Word) (buf : Buf) (o : Nat) : Outcome PosTrace → List Call → Prop
  | index : buf.cats[o]? = none → StepDoes ps lex buf o (.panic "index") []
  | loopPanics {cat cs w} : buf.cats[o]? = some cat → (∃ p ∈ ps, ∃ c ex, provide p buf o c ex = .panic w) →
      provideAllP (if asksProviders cat = true then ps else []) 0 buf o (addAll 0 (lexNodes lex buf o), lexNodes lex buf o)
        = (cs, .panic w) → StepDoes ps lex buf o (.panic w) cs
  | found {cat st1 calls} : buf.cats[o]? = some cat → stepLoop ps lex buf o cat = .ok (st1, calls) → st1.2 ≠ [] →
      StepDoes ps lex buf o (.ok ⟨o, asksProviders cat, lexNodes lex buf o, calls, none, st1.2⟩) calls
  | noProvider {cat calls} : buf.cats[o]? = some cat → stepLoop ps lex buf o cat = .ok ((0, []), calls) →
      ps.getLast? = none → StepDoes ps lex buf o (.panic "unwrap") calls
  | extraPanics {cat calls p w} : buf.cats[o]? = some cat → stepLoop ps lex buf o cat = .ok ((0, []), calls) →
      ps.getLast? = some p → provide p buf o 0 [] = .panic w → StepDoes ps lex buf o (.panic w) calls
  | disconnect {cat calls p} : buf.cats[o]? = some cat → stepLoop ps lex buf o cat = .ok ((0, []), calls) →
      ps.getLast? = some p → provide p buf o 0 [] = .ok [] →
      StepDoes ps lex buf o (.err "Disconnect") (calls ++ [⟨ps.length - 1, o, 0, 0, []⟩])
  | extra {cat calls p out} : buf.cats[o]? = some cat → stepLoop ps lex buf o cat = .ok ((0, []), calls) →
      ps.getLast? = some p → provide p buf o 0 [] = .ok out → out ≠ [] →
      StepDoes ps lex buf o (.ok ⟨o, asksProviders cat, lexNodes lex buf o, calls, some ⟨ps.length - 1, o, 0, 0, out⟩, out⟩)
        (calls ++ [⟨ps.length - 1, o, 0, 0, out⟩])

/-- the three builders' steps are one step: the recorded answer, its nodes, and the completed calls beside them -/
theorem step_does (ps : List Provider) (lex : List Word) (buf : Buf) (o : Nat) :
    ∃ a cs, StepDoes ps lex buf o a cs ∧ stepAtT ps lex buf o = a ∧ stepAt ps lex buf o = a.mapO (·.nodes) ∧
      stepAtP ps lex buf o = (cs, a.mapO (·.nodes)) := by
  unfold stepAtT stepAt stepAtP
  cases hc : buf.cats[o]? with
  | none => exact ⟨_, _, .index hc, rfl, rfl, rfl⟩
  | some cat =>
    simp only
    rw [loopT_eq, loopP_eq, afterLoop_eq]
    rcases list_does buf o (if asksProviders cat = true then ps else []) 0 (addAll 0 (lexNodes lex buf o), lexNodes lex buf o)
      with ⟨st1, calls, hT, hS, hP⟩ | ⟨w, cs, ⟨p, hp, hpan⟩, hT, hS, hP⟩
    · rw [hT, hS, hP]
      -- the mask is that of the buffer: nothing created = an empty buffer
      obtain ⟨m, l⟩ := st1
      obtain ⟨rfl, rfl⟩ := Prod.mk.inj (stepLoop_ok (cat := cat) hT).1
      generalize lexNodes lex buf o ++ outsOf calls = l at hT ⊢
      simp only [Outcome.mapO, Outcome.bind, fallback, provideOovs, provideOovsT]
      cases l with
      | cons x l =>
        have hz : addAll 0 (x :: l) ≠ 0 := mt (addAll_zero_iff _).mp nofun
        simp only [if_neg hz, finish]
        exact ⟨_, _, .found hc hT nofun, rfl, rfl, rfl⟩
      | nil =>
        simp only [show addAll 0 ([] : List Node) = 0 from rfl, ↓reduceIte]
        cases hl : ps.getLast? with
        | none => exact ⟨_, _, .noProvider hc hT hl, rfl, rfl, rfl⟩
        | some p =>
          simp only
          cases h2 : provide p buf o 0 [] with
          | err k => exact absurd h2 (provide_ne_err _ _ _ _ _ _)
          | panic w => exact ⟨_, _, .extraPanics hc hT hl h2, rfl, rfl, rfl⟩
          | ok out =>
            cases out with
            | nil => exact ⟨_, _, .disconnect hc hT hl h2, rfl, rfl, rfl⟩
            | cons x out =>
              have hz : addAll 0 (x :: out) ≠ 0 := mt (addAll_zero_iff _).mp nofun
              simp only [finish, if_neg hz]
              exact ⟨_, _, .extra hc hT hl h2 nofun, rfl, rfl, rfl⟩
    · rw [hT, hS, hP]
      have hp : p ∈ ps := by
        split at hp
        · exact hp
        · cases hp
      exact ⟨_, _, .loopPanics hc ⟨p, hp, hpan⟩ hP, rfl, rfl, rfl⟩

theorem stepAtT_nodes (ps : List Provider) (lex : List Word) (buf : Buf) (o : Nat) :
    (stepAtT ps lex buf o).mapO (·.nodes) = stepAt ps lex buf o := by
  obtain ⟨a, cs, _, hT, hS, _⟩ := step_does ps lex buf o
  rw [hT, hS]

theorem stepAtP_outcome (ps : List Provider) (lex : List Word) (buf : Buf) (o : Nat) :
    (stepAtP ps lex buf o).2 = stepAt ps lex buf o := by
  obtain ⟨a, cs, _, _, hS, hP⟩ := step_does ps lex buf o
  rw [hP, hS]

theorem stepAtP_stepAtT (ps : List Provider) (lex : List Word) (buf : Buf) (o : Nat) :
    match stepAtT ps lex buf o with
    | .ok t => stepAtP ps lex buf o = (t.calls ++ t.fb.toList, .ok t.nodes)
    | .err k => (stepAtP ps lex buf o).2 = .err k
    | .panic w => (stepAtP ps lex buf o).2 = .panic w := by
  obtain ⟨a, cs, hd, hT, _, hP⟩ := step_does ps lex buf o
  rw [hT, hP]
  cases hd with
  | found _ _ _ => exact congrArg (·, _) (List.append_nil _).symm
  | _ => rfl

/-! ## the three position loops are one loop -/

theorem allCalls_append (a b : List PosTrace) : allCalls (a ++ b) = allCalls a ++ allCalls b := by
  simp [allCalls]

/-- **What the position loop can do**, for the three builders at once: it completes, with the same lattice in all three,
the traces `new` of its successful steps in the recorded one and their calls in the third; or it stops at the first
position `p` whose step does not succeed, with that step's outcome in all three and, in the third, the calls `pre` of
the steps before it followed by the calls the failing step completed. -/
def LoopDoes (ps : List Provider) (lex : List Word) (buf : Buf) (todo : List Nat) (nodes : List Node) (tr : List PosTrace)
    (cs : List Call) : Prop :=
  (∃ n' new, buildFrom ps lex buf todo nodes = .ok n' ∧ buildFromT ps lex buf todo nodes tr = .ok (n', tr ++ new) ∧
    buildFromP ps lex buf todo nodes cs = (cs ++ allCalls new, .ok n')) ∨
  ∃ p ∈ todo, ∃ pre, (∀ n, (stepAtP ps lex buf p).2 ≠ .ok n) ∧
    buildFrom ps lex buf todo nodes = (stepAtP ps lex buf p).2 ∧
    (buildFromT ps lex buf todo nodes tr).mapO Prod.fst = (stepAtP ps lex buf p).2 ∧
    buildFromP ps lex buf todo nodes cs = (cs ++ pre ++ (stepAtP ps lex buf p).1, (stepAtP ps lex buf p).2)

theorem loop_does (ps : List Provider) (lex : List Word) (buf : Buf) :
    ∀ (todo : List Nat) (nodes : List Node) (tr : List PosTrace) (cs : List Call), LoopDoes ps lex buf todo nodes tr cs
  | [], nodes, tr, cs =>
    .inl ⟨nodes, [], rfl, by rw [List.append_nil]; rfl, by rw [allCalls, List.flatMap_nil, List.append_nil]; rfl⟩
  | p :: rest, nodes, tr, cs => by
    -- the loop goes on from `nodes₁` after the successful steps `new₀` (none, or the one at `p`)
    have next : ∀ (nodes₁ : List Node) (new₀ : List PosTrace),
        buildFrom ps lex buf (p :: rest) nodes = buildFrom ps lex buf rest nodes₁ →
        buildFromT ps lex buf (p :: rest) nodes tr = buildFromT ps lex buf rest nodes₁ (tr ++ new₀) →
        buildFromP ps lex buf (p :: rest) nodes cs = buildFromP ps lex buf rest nodes₁ (cs ++ allCalls new₀) →
        LoopDoes ps lex buf (p :: rest) nodes tr cs := by
      intro nodes₁ new₀ e1 e2 e3
      unfold LoopDoes
      rw [e1, e2, e3]
      rcases loop_does ps lex buf rest nodes₁ (tr ++ new₀) (cs ++ allCalls new₀) with
        ⟨n', new, h1, h2, h3⟩ | ⟨q, hq, pre, hne, h1, h2, h3⟩
      · exact .inl ⟨n', new₀ ++ new, h1, by rw [h2, List.append_assoc], by rw [h3, allCalls_append, List.append_assoc]⟩
      · exact .inr ⟨q, List.mem_cons_of_mem _ hq, allCalls new₀ ++ pre, hne, h1, h2, by rw [h3, List.append_assoc cs]⟩
    cases hr : reachable nodes p with
    | false =>
      exact next nodes [] (by rw [buildFrom, hr]; rfl) (by rw [List.append_nil, buildFromT, hr]; rfl)
        (by rw [allCalls, List.flatMap_nil, List.append_nil, buildFromP, hr]; rfl)
    | true =>
      have hS := stepAtT_nodes ps lex buf p
      have hP := stepAtP_stepAtT ps lex buf p
      cases hT : stepAtT ps lex buf p with
      | ok t =>
        rw [hT] at hS hP
        exact next (nodes ++ t.nodes) [t] (by rw [buildFrom, hr, ← hS]; rfl) (by rw [buildFromT, hr, hT]; rfl)
          (by rw [buildFromP, hr, hP]; simp [allCalls])
      | _ =>
        rw [hT] at hS hP
        refine .inr ⟨p, List.mem_cons_self, [], by rw [hP]; nofun, by rw [buildFrom, hr, ← hS, hP]; rfl,
          by rw [buildFromT, hr, hT, hP]; rfl, ?_⟩
        rw [buildFromP, hr]; simp [hP]

theorem buildFromT_nodes (ps : List Provider) (lex : List Word) (buf : Buf) (todo : List Nat) (nodes : List Node)
    (tr : List PosTrace) :
    (buildFromT ps lex buf todo nodes tr).mapO Prod.fst = buildFrom ps lex buf todo nodes := by
  rcases loop_does ps lex buf todo nodes tr [] with ⟨n', new, h1, h2, _⟩ | ⟨p, _, pre, _, h1, h2, _⟩
  · rw [h1, h2]; rfl
  · rw [h1, h2]

theorem buildLatticeT_nodes (ps : List Provider) (lex : List Word) (buf : Buf) :
    (buildLatticeT ps lex buf).mapO Prod.fst = buildLattice ps lex buf := by
  unfold buildLatticeT buildLattice
  rw [← buildFromT_nodes ps lex buf _ [] []]
  cases buildFromT ps lex buf (List.range buf.chars.length) [] [] with
  | ok r =>
    obtain ⟨nodes, tr⟩ := r
    simp only [Outcome.mapO]
    by_cases h : reachable nodes buf.chars.length = true
    · rw [if_pos h, if_pos h]
    · rw [if_neg h, if_neg h]
  | err k => rfl
  | panic w => rfl

/-! ## a successful step -/

/-- a completed recorded step is one of the two successful cases of `StepDoes` -/
theorem stepAtT_ok {ps : List Provider} {lex : List Word} {buf : Buf} {o : Nat} {t : PosTrace}
    (h : stepAtT ps lex buf o = .ok t) : ∃ cs, StepDoes ps lex buf o (.ok t) cs :=
  let ⟨_, cs, hd, hT, _, _⟩ := step_does ps lex buf o
  ⟨cs, (hT.symm.trans h) ▸ hd⟩

/-- When the character's class lets the provider loop run, the extra call of the last provider can never help:
it repeats a call that has just returned nothing. -/
theorem fallback_redundant_when_asked (ps : List Provider) (lex : List Word) (buf : Buf) (o : Nat) (t : PosTrace)
    (h : stepAtT ps lex buf o = .ok t) (ha : t.asked = true) : t.fb = none ∧ t.nodes = t.lexN ++ outsOf t.calls := by
  obtain ⟨cs, hd⟩ := stepAtT_ok h
  cases hd with
  | found _ hloop _ => exact ⟨rfl, congrArg Prod.snd (stepLoop_ok hloop).1⟩
  | @extra cat calls p out _ hloop hl hp hout =>
    obtain ⟨hs1, hasked, _⟩ := stepLoop_ok hloop
    obtain ⟨hlex, houts⟩ := List.append_eq_nil_iff.mp (congrArg Prod.snd hs1).symm
    have := (provideAllT_fruitless (hasked ha) houts).1 p (List.mem_of_getLast? hl)
    rw [hlex] at this
    exact absurd (Outcome.ok.inj (hp.symm.trans this)) hout

/-! ## a failing step -/

/-- what the completed calls `cs` of a step that failed with `Err k` look like (`stepAtP_err`) -/
structure StepFail (ps : List Provider) (lex : List Word) (buf : Buf) (o : Nat) (cs : List Call) (k : String)
    (cat : Nat) (loop : List Call) (c : Call) (p : Provider) : Prop where
  kind : k = "Disconnect"
  no_lex : lexNodes lex buf o = []
  cat_eq : buf.cats[o]? = some cat
  calls : cs = loop ++ [c]
  extra_idx : c.idx = ps.length - 1
  loop_idx : loop.map (·.idx) = (if asksProviders cat then List.range ps.length else [])
  fruitless : ∀ x ∈ cs, x.out = [] ∧ x.offset = o ∧ x.created = 0 ∧ x.pre = 0
  last : ps.getLast? = some p
  last_out : provide p buf o 0 [] = .ok []

/-- **A step can only fail with `EosBosDisconnect`, and then nothing exists at the position**: there is no dictionary
word, the provider list (if the character's class `cat` let it run) was called completely, in order (`loop`), and every
provider returned nothing for an empty mask and an empty buffer; the last completed call `c` is the extra call of the last
provider `p`, again with an empty mask and buffer, again without result. -/
theorem stepAtP_err (ps : List Provider) (lex : List Word) (buf : Buf) (o : Nat) (cs : List Call) (k : String)
    (h : stepAtP ps lex buf o = (cs, .err k)) : ∃ cat loop c p, StepFail ps lex buf o cs k cat loop c p := by
  obtain ⟨a, cs', hd, _, _, hP⟩ := step_does ps lex buf o
  obtain ⟨rfl, ha⟩ := Prod.mk.inj (h.symm.trans hP)
  cases hd with
  | @disconnect cat calls p hc hT hl hp =>
    obtain ⟨hlex, houts⟩ := List.append_eq_nil_iff.mp (Prod.mk.inj (stepLoop_ok hT).1).2.symm
    refine ⟨cat, calls, _, p, (Outcome.err.inj ha), hlex, hc, rfl, rfl, ?_, fun x hx => ?_, hl, hp⟩
    · rw [provideAllT_idx hT, ← List.range_eq_range']; cases asksProviders cat <;> rfl
    · rcases List.mem_append.mp hx with hx | hx
      · have := (provideAllT_fruitless hT houts).2 x hx
        rwa [hlex] at this
      · obtain rfl := List.mem_singleton.mp hx
        exact ⟨rfl, rfl, rfl, rfl⟩
  | _ => cases ha

/-! ## what every step does, read off the recorded step -/

theorem stepAt_ok_trace {ps : List Provider} {lex : List Word} {buf : Buf} {o : Nat} {nodes : List Node}
    (h : stepAt ps lex buf o = .ok nodes) : ∃ t, stepAtT ps lex buf o = .ok t ∧ t.nodes = nodes :=
  mapO_eq_ok ((stepAtT_nodes ps lex buf o).trans h)

theorem stepAtT_sources {ps : List Provider} {lex : List Word} {buf : Buf} {o : Nat} {t : PosTrace}
    (h : stepAtT ps lex buf o = .ok t) :
    t.nodes ≠ [] ∧ t.nodes = lexNodes lex buf o ++ outsOf (t.calls ++ t.fb.toList) ∧
    ∀ c ∈ t.calls ++ t.fb.toList, ∃ p ∈ ps, ∃ cr ex, provide p buf o cr ex = .ok c.out := by
  obtain ⟨cs, hd⟩ := stepAtT_ok h
  have hcalls : ∀ {cat : Nat} {st1 : Nat × List Node} {calls : List Call}, stepLoop ps lex buf o cat = .ok (st1, calls) →
      ∀ c ∈ calls, ∃ p ∈ ps, ∃ cr ex, provide p buf o cr ex = .ok c.out := by
    intro cat st1 calls hloop c hc
    obtain ⟨before, after, hba⟩ := List.append_of_mem hc
    obtain ⟨p, hp, _, _, _, _, hprov⟩ := (provideAllT_spec hloop).2.2 before c after hba
    have hm := List.mem_of_getElem? hp
    split at hm
    · exact ⟨p, hm, _, _, hprov⟩
    · cases hm
  cases hd with
  | found _ hloop hne =>
    obtain ⟨rfl, _, _⟩ := stepLoop_ok hloop
    exact ⟨hne, by rw [Option.toList_none, List.append_nil], fun c hc => hcalls hloop c (by simpa using hc)⟩
  | @extra cat calls p out _ hloop hl hp hout =>
    have hnil : lexNodes lex buf o ++ outsOf calls = [] := (congrArg Prod.snd (stepLoop_ok hloop).1).symm
    refine ⟨hout, ?_, fun c hc => ?_⟩
    · rw [show outsOf (calls ++ (some _).toList) = outsOf calls ++ out by simp [outsOf], ← List.append_assoc, hnil]; rfl
    · rcases List.mem_append.mp hc with hc | hc
      · exact hcalls hloop c hc
      · obtain rfl := List.mem_singleton.mp hc
        exact ⟨p, List.mem_of_getLast? hl, _, _, hp⟩

theorem stepAt_nonempty (ps : List Provider) (lex : List Word) (buf : Buf) (o : Nat) (nodes : List Node)
    (h : stepAt ps lex buf o = .ok nodes) : nodes ≠ [] := by
  obtain ⟨t, ht, rfl⟩ := stepAt_ok_trace h
  exact (stepAtT_sources ht).1

/-- a step only inserts dictionary words and what configured providers return -/
theorem stepAt_forall (P : Node → Prop) (ps : List Provider) (lex : List Word) (buf : Buf) (o : Nat) (nodes : List Node)
    (hlex : ∀ x ∈ lexNodes lex buf o, P x)
    (hprov : ∀ p ∈ ps, ∀ c ex out, provide p buf o c ex = .ok out → ∀ x ∈ out, P x)
    (h : stepAt ps lex buf o = .ok nodes) : ∀ x ∈ nodes, P x := by
  obtain ⟨t, ht, rfl⟩ := stepAt_ok_trace h
  obtain ⟨_, hn, hc⟩ := stepAtT_sources ht
  intro x hx
  rw [hn] at hx
  rcases List.mem_append.mp hx with hx | hx
  · exact hlex x hx
  · obtain ⟨c, hcm, hxc⟩ := List.mem_flatMap.mp hx
    obtain ⟨p, hp, cr, ex, hpr⟩ := hc c hcm
    exact hprov p hp cr ex c.out hpr x hxc

theorem stepAt_index (ps : List Provider) (lex : List Word) (buf : Buf) (o : Nat) (nodes : List Node)
    (h : stepAt ps lex buf o = .ok nodes) : o < buf.cats.length := by
  rw [stepAt] at h
  cases hc : buf.cats[o]? with
  | none => rw [hc] at h; cases h
  | some cat => exact (List.getElem?_eq_some_iff.mp hc).1

/-- a step panics only on a class read out of range, on `last().unwrap()` of an empty provider list, or where a call of
a configured provider panics -/
theorem stepAt_panic {ps : List Provider} {lex : List Word} {buf : Buf} {o : Nat} {w : String}
    (h : stepAt ps lex buf o = .panic w) :
    buf.cats[o]? = none ∨ ps = [] ∨ ∃ p ∈ ps, ∃ c ex, provide p buf o c ex = .panic w := by
  obtain ⟨a, cs, hd, _, hS, _⟩ := step_does ps lex buf o
  rw [hS] at h
  cases hd with
  | index hc => exact .inl hc
  | @loopPanics _ _ w' _ hp _ =>
    obtain rfl : w' = w := Outcome.panic.inj h
    exact .inr (.inr hp)
  | noProvider _ _ hl => exact .inr (.inl (List.getLast?_eq_none_iff.mp hl))
  | @extraPanics _ _ p w' _ _ hl h2 =>
    obtain rfl : w' = w := Outcome.panic.inj h
    exact .inr (.inr ⟨p, List.mem_of_getLast? hl, _, _, h2⟩)
  | _ => cases h

/-- with the fallback provider configured last, a step never reports `EosBosDisconnect` (nor any other `Err`): a
failing step ends with a fruitless call of the last provider for an empty mask, and for an empty mask the fallback
provider returns a node -/
theorem stepAt_no_disconnect (ps : List Provider) (cfg : SimpleCfg) (lex : List Word) (buf : Buf) (o : Nat)
    (hlast : ps.getLast? = some (.simple cfg)) (k : String) :
    stepAt ps lex buf o ≠ .err k := by
  intro h
  rw [← stepAtP_outcome] at h
  obtain ⟨_, _, _, p, s⟩ := stepAtP_err ps lex buf o _ k (Prod.ext rfl h)
  obtain rfl : Provider.simple cfg = p := Option.some.inj (hlast.symm.trans s.last)
  have hprov := s.last_out
  simp only [provide, simpleProvide, ne_eq, not_true_eq_false, if_false] at hprov
  split at hprov <;> cases hprov

/-! ## every candidate of a step starts at its position, is non-empty and ends inside the text -/

theorem stepAt_nodeOk (ps : List Provider) (lex : List Word) (buf : Buf) (o : Nat) (nodes : List Node)
    (hcats : buf.cats.length = buf.chars.length) (hbow : buf.bow.length = buf.chars.length)
    (hcont : ∀ c, buf.cont[o]? = some c → o + c ≤ buf.chars.length)
    (h : stepAt ps lex buf o = .ok nodes) : ∀ x ∈ nodes, NodeOk o buf.chars.length x :=
  stepAt_forall _ ps lex buf o nodes (fun x hx => (lexNodes_spec hx).1)
    (fun p _ c ex out hp => provide_nodeOk p buf o c ex out hbow hcont (hcats ▸ stepAt_index ps lex buf o nodes h) hp) h

/-- `stepAt_nonempty` and `stepAt_nodeOk`, with the hypotheses about the buffer packed into `buf.WF` -/
theorem stepAt_ok (ps : List Provider) (lex : List Word) (buf : Buf) (o : Nat) (nodes : List Node) (hwf : buf.WF)
    (h : stepAt ps lex buf o = .ok nodes) : nodes ≠ [] ∧ ∀ x ∈ nodes, NodeOk o buf.chars.length x :=
  ⟨stepAt_nonempty ps lex buf o nodes h,
    stepAt_nodeOk ps lex buf o nodes hwf.cats_len hwf.bow_len (fun c hc => (hwf.cont_bound o c hc).2) h⟩

/-! ## the lattice as a whole -/

theorem reachable_append (nodes new : List Node) (q : Nat) :
    reachable (nodes ++ new) q = (reachable nodes q || new.any (fun x => x.e == q)) := by
  simp only [reachable, List.any_append, Bool.or_assoc]

theorem reachable_mono (nodes new : List Node) (q : Nat) (h : reachable nodes q = true) : reachable (nodes ++ new) q = true := by
  rw [reachable_append, h, Bool.true_or]

theorem reachable_append_gt (nodes new : List Node) (q : Nat) (hnew : ∀ x ∈ new, q < x.e) :
    reachable (nodes ++ new) q = reachable nodes q := by
  rw [reachable_append, List.any_eq_false.mpr fun x hx => by simpa using Nat.ne_of_gt (hnew x hx), Bool.or_false]

theorem reachable_iff (nodes : List Node) (p : Nat) : reachable nodes p = true ↔ p = 0 ∨ ∃ x ∈ nodes, x.e = p := by
  simp only [reachable, Bool.or_eq_true, List.any_eq_true, beq_iff_eq]

theorem reachable_end (nodes : List Node) (x : Node) (hx : x ∈ nodes) : reachable nodes x.e = true :=
  (reachable_iff nodes x.e).mpr (.inr ⟨x, hx, rfl⟩)

def stepOut (ps : List Provider) (lex : List Word) (buf : Buf) (p : Nat) : List Node :=
  match stepAt ps lex buf p with
  | .ok new => new
  | _ => []

theorem stepOut_eq {ps : List Provider} {lex : List Word} {buf : Buf} {p : Nat} {new : List Node}
    (h : stepAt ps lex buf p = .ok new) : stepOut ps lex buf p = new := by
  rw [stepOut, h]

/-- **The lattice in closed form.**  A completed loop over increasing positions has inserted, in order, what the step
inserts at the positions `ran` where it ran, and those steps succeeded.  If candidates end after the position that
creates them, later insertions do not change whether a position has a previous node, so `ran` is the set of positions
that have a previous node IN THE FINISHED LATTICE: the lattice is determined by an equation about itself. -/
theorem buildFrom_eq {ps : List Provider} {lex : List Word} {buf : Buf} :
    ∀ (todo : List Nat) (nodes nodes' : List Node), todo.Pairwise (· < ·) → buildFrom ps lex buf todo nodes = .ok nodes' →
    ∃ ran : List Nat, ran.Sublist todo ∧ nodes' = nodes ++ ran.flatMap (stepOut ps lex buf) ∧
      (∀ q ∈ ran, stepAt ps lex buf q = .ok (stepOut ps lex buf q)) ∧
      ((∀ q new, stepAt ps lex buf q = .ok new → ∀ x ∈ new, q < x.e) →
        ∀ q ∈ todo, (q ∈ ran ↔ reachable nodes' q = true))
  | [], nodes, nodes', _, h => by
    cases h
    exact ⟨[], .slnil, (List.append_nil _).symm, nofun, fun _ _ hq => nomatch hq⟩
  | p :: rest, nodes, nodes', hp, h => by
    obtain ⟨hlt, hrest⟩ := List.pairwise_cons.mp hp
    rw [buildFrom] at h
    cases hr : reachable nodes p with
    | false =>
      rw [hr] at h
      obtain ⟨ran, hsub, e, hst, hfix⟩ := buildFrom_eq rest nodes nodes' hrest h
      refine ⟨ran, hsub.cons p, e, hst, fun hpos q hq => ?_⟩
      rcases List.mem_cons.mp hq with rfl | hq
      · -- `q` was skipped: it is not in `ran`, and nothing inserted later ends there
        have hgt : ∀ x ∈ ran.flatMap (stepOut ps lex buf), q < x.e := fun x hx =>
          let ⟨q', hq', hx'⟩ := List.mem_flatMap.mp hx
          Nat.lt_trans (hlt q' (hsub.subset hq')) (hpos q' _ (hst q' hq') x hx')
        rw [e, reachable_append_gt _ _ _ hgt, hr]
        exact ⟨fun hm => absurd (hlt q (hsub.subset hm)) (Nat.lt_irrefl q), nofun⟩
      · exact hfix hpos q hq
    | true =>
      rw [hr] at h
      cases hs : stepAt ps lex buf p with
      | err k => rw [hs] at h; cases h
      | panic w => rw [hs] at h; cases h
      | ok new =>
        rw [hs] at h
        obtain ⟨ran, hsub, e, hst, hfix⟩ := buildFrom_eq rest (nodes ++ new) nodes' hrest h
        have hso := stepOut_eq hs
        refine ⟨p :: ran, hsub.cons_cons p, by rw [List.flatMap_cons, hso, ← List.append_assoc]; exact e,
          fun q hq => ?_, fun hpos q hq => ?_⟩
        · rcases List.mem_cons.mp hq with rfl | hq
          · rw [hso]; exact hs
          · exact hst q hq
        · rcases List.mem_cons.mp hq with rfl | hq
          · exact ⟨fun _ => by rw [e]; exact reachable_mono _ _ _ (reachable_mono _ _ _ hr), fun _ => List.mem_cons_self⟩
          · rw [List.mem_cons, ← hfix hpos q hq]
            exact ⟨fun h => h.resolve_left (Nat.ne_of_gt (hlt q hq)), .inr⟩

theorem buildFrom_fail {ps : List Provider} {lex : List Word} {buf : Buf} {r : Outcome (List Node)} (hr : ∀ n, r ≠ .ok n)
    (todo : List Nat) (nodes : List Node) (h : buildFrom ps lex buf todo nodes = r) : ∃ p ∈ todo, stepAt ps lex buf p = r := by
  rcases loop_does ps lex buf todo nodes [] [] with ⟨n', _, h1, _, _⟩ | ⟨p, hp, _, _, h1, _, _⟩
  · exact absurd (h.symm.trans h1) (hr n')
  · exact ⟨p, hp, (stepAtP_outcome ps lex buf p).symm.trans (h1.symm.trans h)⟩

theorem buildFrom_forall (P : Node → Prop) (ps : List Provider) (lex : List Word) (buf : Buf) (n : Nat) (nodes : List Node)
    (hstep : ∀ p new, stepAt ps lex buf p = .ok new → ∀ x ∈ new, P x)
    (h : buildFrom ps lex buf (List.range n) [] = .ok nodes) : ∀ x ∈ nodes, P x := by
  obtain ⟨ran, _, e, hst, _⟩ := buildFrom_eq _ [] nodes List.pairwise_lt_range h
  intro x hx
  rw [e, List.nil_append] at hx
  obtain ⟨q, hq, hxq⟩ := List.mem_flatMap.mp hx
  exact hstep q _ (hst q hq) x hxq

theorem buildFrom_no_disconnect (ps : List Provider) (cfg : SimpleCfg) (lex : List Word) (buf : Buf)
    (hlast : ps.getLast? = some (.simple cfg)) (todo : List Nat)
    (nodes : List Node) (k : String) : buildFrom ps lex buf todo nodes ≠ .err k := fun h =>
  let ⟨p, _, hs⟩ := buildFrom_fail (r := .err k) nofun todo nodes h
  stepAt_no_disconnect ps cfg lex buf p hlast k hs

/-- the lattice when the position loop is about to look at position `p` of `n`: connected behind `p`, and some position
from `p` on has a previous node; `buildFrom_latInv` shows it of the completed loop (`p = n`) -/
structure LatInv (n : Nat) (nodes : List Node) (p : Nat) : Prop where
  node_ok : ∀ x ∈ nodes, x.b < p ∧ x.b < x.e ∧ x.e ≤ n ∧ reachable nodes x.b = true
  covered : ∀ q, q < p → reachable nodes q = true → ∃ x ∈ nodes, x.b = q
  frontier : ∃ q, p ≤ q ∧ q ≤ n ∧ reachable nodes q = true

theorem buildFrom_latInv {ps : List Provider} {lex : List Word} {buf : Buf} (hwf : buf.WF) {nodes : List Node}
    (h : buildFrom ps lex buf (List.range buf.chars.length) [] = .ok nodes) :
    LatInv buf.chars.length nodes buf.chars.length := by
  obtain ⟨ran, hsub, e, hst, hfix⟩ := buildFrom_eq _ [] nodes List.pairwise_lt_range h
  have hok := fun q hq => stepAt_ok ps lex buf q _ hwf (hst q hq)
  have hfix := hfix fun q new hs x hx => ((stepAt_ok ps lex buf q new hwf hs).2 x hx).2.1
  have hmem : ∀ x, x ∈ nodes ↔ ∃ q ∈ ran, x ∈ stepOut ps lex buf q := fun x => by
    rw [e, List.nil_append, List.mem_flatMap]
  have hcov : ∀ q, q < buf.chars.length → reachable nodes q = true → ∃ x ∈ nodes, x.b = q := fun q hq hr => by
    have hq' := (hfix q (List.mem_range.mpr hq)).mpr hr
    obtain ⟨x, hx⟩ := List.exists_mem_of_ne_nil _ (hok q hq').1
    exact ⟨x, (hmem x).mpr ⟨q, hq', hx⟩, ((hok q hq').2 x hx).1⟩
  have hnode : ∀ x ∈ nodes, x.b < buf.chars.length ∧ x.b < x.e ∧ x.e ≤ buf.chars.length ∧ reachable nodes x.b = true :=
    fun x hx => by
      obtain ⟨q, hq, hxq⟩ := (hmem x).mp hx
      obtain ⟨hb, hlt, hle⟩ := (hok q hq).2 x hxq
      rw [hb]
      exact ⟨List.mem_range.mp (hsub.subset hq), hlt, hle, (hfix q (hsub.subset hq)).mp hq⟩
  refine ⟨hnode, hcov, _, Nat.le_refl _, Nat.le_refl _, ?_⟩
  -- from a position with a previous node a candidate leads to a later one, until the end of the text
  have hfront : ∀ k q, buf.chars.length - q = k → q ≤ buf.chars.length → reachable nodes q = true →
      reachable nodes buf.chars.length = true := by
    intro k
    induction k using Nat.strongRecOn with
    | _ k ih =>
      intro q hk hq hr
      rcases Nat.eq_or_lt_of_le hq with rfl | hlt
      · exact hr
      · obtain ⟨x, hx, hb⟩ := hcov q hlt hr
        obtain ⟨_, h1, h2, _⟩ := hnode x hx
        exact ih (buf.chars.length - x.e) (by omega) x.e rfl h2 (reachable_end nodes x hx)
  exact hfront _ 0 rfl (Nat.zero_le _) rfl

/-- a completed position loop has reached the end of the text: `connect_eos` cannot fail -/
theorem buildFrom_end_reachable {ps : List Provider} {lex : List Word} {buf : Buf} (hwf : buf.WF) {nodes : List Node}
    (h : buildFrom ps lex buf (List.range buf.chars.length) [] = .ok nodes) : reachable nodes buf.chars.length = true := by
  obtain ⟨_, _, q, hq1, hq2, hq3⟩ := buildFrom_latInv hwf h
  rwa [Nat.le_antisymm hq2 hq1] at hq3

/-- with the Simple provider last `build_lattice` returns no `Err`: none from the position loop, and `connect_eos`
finds the end reachable -/
theorem buildLattice_ne_err (ps : List Provider) (cfg : SimpleCfg) (lex : List Word) (buf : Buf) (hwf : buf.WF)
    (hlast : ps.getLast? = some (.simple cfg)) (k : String) : buildLattice ps lex buf ≠ .err k := by
  unfold buildLattice
  intro h
  cases hb : buildFrom ps lex buf (List.range buf.chars.length) [] with
  | err k' => exact buildFrom_no_disconnect ps cfg lex buf hlast _ [] k' hb
  | panic w => simp [hb] at h
  | ok nodes => simp [hb, buildFrom_end_reachable hwf hb] at h

theorem buildLattice_ok {ps : List Provider} {lex : List Word} {buf : Buf} {nodes : List Node}
    (h : buildLattice ps lex buf = .ok nodes) :
    buildFrom ps lex buf (List.range buf.chars.length) [] = .ok nodes ∧ reachable nodes buf.chars.length = true := by
  unfold buildLattice at h
  cases hb : buildFrom ps lex buf (List.range buf.chars.length) [] with
  | err k => rw [hb] at h; cases h
  | panic w => rw [hb] at h; cases h
  | ok nodes' =>
    rw [hb] at h
    dsimp only at h
    by_cases hr : reachable nodes' buf.chars.length = true
    · rw [if_pos hr] at h; cases h; exact ⟨rfl, hr⟩
    · rw [if_neg hr] at h; cases h

/-- the position loop inserts its candidates in order of begin: what a position creates begins there -/
theorem buildFrom_sorted (ps : List Provider) (lex : List Word) (buf : Buf) (hwf : buf.WF) (nodes : List Node)
    (h : buildFrom ps lex buf (List.range buf.chars.length) [] = .ok nodes) : nodes.Pairwise (fun a b => a.b ≤ b.b) := by
  obtain ⟨ran, hsub, e, hst, _⟩ := buildFrom_eq _ [] nodes List.pairwise_lt_range h
  have hb : ∀ q ∈ ran, ∀ x ∈ stepOut ps lex buf q, x.b = q := fun q hq x hx =>
    ((stepAt_ok ps lex buf q _ hwf (hst q hq)).2 x hx).1
  rw [e, List.nil_append, List.pairwise_flatMap]
  exact ⟨fun q hq => List.pairwise_of_forall_mem_list fun a ha b hb' => Nat.le_of_eq ((hb q hq a ha).trans (hb q hq b hb').symm),
    (List.Pairwise.sublist hsub List.pairwise_lt_range).imp_of_mem fun {q1 q2} h1 h2 hlt x hx y hy => by
      rw [hb q1 h1 x hx, hb q2 h2 y hy]; exact Nat.le_of_lt hlt⟩

/-! ## `build_lattice` with the calls of a failing run kept is the recorded `build_lattice` -/

theorem buildLatticeP_outcome (ps : List Provider) (lex : List Word) (buf : Buf) :
    (buildLatticeP ps lex buf).2 = buildLattice ps lex buf := by
  unfold buildLatticeP buildLattice
  rcases loop_does ps lex buf (List.range buf.chars.length) [] [] [] with
    ⟨n', new, h1, _, h3⟩ | ⟨p, _, pre, hne, h1, _, h3⟩
  · rw [h1, h3]; dsimp only; split <;> rfl
  · rw [h1, h3]; dsimp only
    cases h : (stepAtP ps lex buf p).2 with
    | ok n => exact absurd h (hne n)
    | err k => rfl
    | panic w => rfl

theorem buildLatticeP_calls (ps : List Provider) (lex : List Word) (buf : Buf) (nodes : List Node) (tr : List PosTrace)
    (h : buildLatticeT ps lex buf = .ok (nodes, tr)) : buildLatticeP ps lex buf = (allCalls tr, .ok nodes) := by
  unfold buildLatticeT at h
  rcases loop_does ps lex buf (List.range buf.chars.length) [] [] [] with
    ⟨n', new, _, h2, h3⟩ | ⟨p, _, pre, hne, _, h2, _⟩
  · rw [h2] at h
    dsimp only at h
    by_cases hr : reachable n' buf.chars.length = true
    · rw [if_pos hr] at h; cases h
      simp only [buildLatticeP, h3, if_pos hr, List.nil_append]
    · rw [if_neg hr] at h; cases h
  · cases hT : buildFromT ps lex buf (List.range buf.chars.length) [] [] with
    | ok r => rw [hT] at h2; exact absurd h2.symm (hne r.1)
    | err k => rw [hT] at h; cases h
    | panic w => rw [hT] at h; cases h

/-- a failing run fails in one step inside the text, never in `connect_eos` -/
theorem buildLatticeP_err (ps : List Provider) (lex : List Word) (buf : Buf) (hwf : buf.WF) (cs : List Call) (k : String)
    (h : buildLatticeP ps lex buf = (cs, .err k)) :
    ∃ p, p < buf.chars.length ∧ ∃ pre last, cs = pre ++ last ∧ stepAtP ps lex buf p = (last, .err k) := by
  unfold buildLatticeP at h
  rcases loop_does ps lex buf (List.range buf.chars.length) [] [] [] with
    ⟨n', new, h1, _, h3⟩ | ⟨p, hp, pre, hne, _, _, h3⟩
  · rw [h3] at h
    simp [buildFrom_end_reachable hwf h1] at h
  · rw [h3] at h
    dsimp only at h
    cases hs : (stepAtP ps lex buf p).2 with
    | ok n => exact absurd hs (hne n)
    | panic w => rw [hs] at h; cases h
    | err k' =>
      rw [hs] at h
      obtain ⟨h1, h2⟩ := Prod.mk.inj h
      exact ⟨p, List.mem_range.mp hp, pre, (stepAtP ps lex buf p).1, by rw [← h1]; rfl,
        Prod.ext rfl (hs.trans h2)⟩

end Oov
