import Sudachi.Proofs.RewriteSafe
/-!
# C14: `Err(InvalidRange)` is unreachable for a parser that rejects a leading separator

`JoinNumericPlugin::rewrite_gen` can return `InvalidRange` only through the trailing-separator rule with an EMPTY
range (`Rewrite.nconcat_safe`, `Rewrite.nclose_safe`): the run consists of the separator alone.  A parser that rejects `,`
and `.` as the first character of a number (`SepNotFirst`, true of the real `NumericParser`) never opens such a run
(`Rewrite.NOne.not_lone_sep`); the safety theorems of `RewriteSafe` carry that in their `InvalidRange` case, and here it
is discharged.
-/
namespace Rewrite

theorem nloop_ok (v : NVariant) (cfg : NCfg) (cat : List Nat) (P : List Char → POut) (hP : SepNotFirst P)
    (fuel : Nat) (st : NState) (hs : Safe cat st.path) (hinv : NInv2 st) (hone : NOne P st) :
    nloop v cfg cat P fuel st = .fuel ∨ ∃ q, nloop v cfg cat P fuel st = .ok q ∧ Safe cat q :=
  (nloop_safe v cfg cat P fuel st hs hinv).imp_right fun h => h.resolve_left fun ⟨_, hd⟩ => hd hP hone

theorem rewriteAll_ok (v : NVariant) (cat : List Nat) (P : List Char → POut) (hP : SepNotFirst P)
    (pls : List Plugin) (path : List Node) (hs : Safe cat path) :
    rewriteAll v cat P pls path = .fuel ∨ ∃ q, rewriteAll v cat P pls path = .ok q ∧ Safe cat q :=
  (rewriteAll_safe v cat P pls path hs).imp_right fun h => h.resolve_left fun ⟨_, hd⟩ => hd hP

end Rewrite
