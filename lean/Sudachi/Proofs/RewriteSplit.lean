import Sudachi.Proofs.Rewrite
/-!
# C14: `split_path` after the plugin loop

A token the plugins made is a new word without A/B units, so the split stage leaves it whole; a kept
token is split exactly as on the un-rewritten path.  Stated block by block over the alignment that a
coarsening gives (`Aligned`), and as membership.
-/
namespace Rewrite

variable {R : List Node → Node → Prop}

theorem splitNode_of_newWord (U : Mode → Node → List Node) (md : Mode) {m : Node} (h : NewWord m) :
    splitNode U md m = [m] := by
  unfold splitNode numSplits
  cases md <;> simp [h.1, h.2.1]

theorem splitPath_cons (U : Mode → Node → List Node) (md : Mode) (n : Node) (p : List Node) :
    splitPath U md (n :: p) = (if md = .C then [n] else splitNode U md n) ++ splitPath U md p := by
  cases md <;> simp [splitPath]

theorem splitPath_eq_flatMap (U : Mode → Node → List Node) (md : Mode) (p : List Node) :
    splitPath U md p = p.flatMap (fun n => if md = .C then [n] else splitNode U md n) := by
  cases md <;> simp [splitPath]

/-- the split of the rewritten path, block by block: a kept token is split exactly as in the
un-rewritten path, a merged token stays whole -/
def splitAligned (U : Mode → Node → List Node) (md : Mode) : List (List Node) → List Node → List Node
  | blk :: bs, m :: q =>
    (if blk = [m] then (if md = .C then [m] else splitNode U md m) else [m]) ++ splitAligned U md bs q
  | _, _ => []

theorem splitPath_of_aligned (U : Mode → Node → List Node) (md : Mode)
    (hR : ∀ blk m, R blk m → NewWord m) (bs : List (List Node)) (q : List Node) (h : Aligned R bs q) :
    splitPath U md q = splitAligned U md bs q := by
  fun_induction Aligned R bs q with
  | case1 => cases md <;> rfl
  | case2 blk bs m q ih =>
    rw [splitPath_cons, splitAligned, ih h.2]
    congr 1
    rcases h.1 with rfl | ⟨_, hr⟩
    · simp
    · have hw := splitNode_of_newWord U md (hR _ _ hr)
      by_cases hb : blk = [m]
      · rw [if_pos hb]
      · rw [if_neg hb]
        by_cases hm : md = .C
        · rw [if_pos hm]
        · rw [if_neg hm, hw]
  | case3 => exact h.elim

theorem splitPath_mem_of_coarsens (U : Mode → Node → List Node) (md : Mode)
    (hR : ∀ blk m, R blk m → NewWord m) {p q : List Node} (h : Coarsens R p q) :
    ∀ t ∈ splitPath U md q, t ∈ q ∨ (t ∈ splitPath U md p ∧ ∃ n ∈ p, n ∈ q ∧ t ∈ splitNode U md n) := by
  intro t ht
  rw [splitPath_eq_flatMap, List.mem_flatMap] at ht
  obtain ⟨m, hm, ht⟩ := ht
  have hwhole : t ∈ [m] → t ∈ q := fun h => by rw [List.mem_singleton.mp h]; exact hm
  by_cases hmd : md = .C
  · rw [if_pos hmd] at ht
    exact .inl (hwhole ht)
  · rw [if_neg hmd] at ht
    rcases h.classify m hm with hp | ⟨_, blk, _, _, _, hr⟩
    · -- a kept token is cut as on the un-rewritten path
      refine .inr ⟨?_, m, hp, hm, ht⟩
      rw [splitPath_eq_flatMap, List.mem_flatMap]
      exact ⟨m, hp, by rw [if_neg hmd]; exact ht⟩
    · -- a merged token is a new word and stays whole
      rw [splitNode_of_newWord U md (hR _ _ hr)] at ht
      exact .inl (hwhole ht)

theorem RS_newWord (poses : List Nat) : ∀ blk m, RS poses blk m → NewWord m := fun _ _ h => h.2

end Rewrite
