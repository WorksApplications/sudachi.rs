import Sudachi.Model.OovTables
import Sudachi.Proofs.Oov
/-!
# C13: the byte tables of a recycled `InputBuffer` (`Model/OovTables.lean`)

`build` writes the word-start table only at the first byte of every character.  On a cleared table that gives the
per-character flags of `Buf` spread over the bytes; on a table with arbitrary old contents it still gives the right entry
at every character start, and that is all `get_word_candidate_length` reads, because it goes through `mod_c2b`.
-/
namespace Oov

theorem utf8Width_pos (c : Nat) : 1 ≤ utf8Width c := by
  unfold utf8Width
  split; · decide
  split; · decide
  split <;> decide

theorem bowFlags_length (bowFix : Bool) (cats : List Nat) :
    (if bowFix then bowTableFix cats else bowTable cats).length = cats.length := by
  cases bowFix <;> exact bowGoV_length _ cats true 0

theorem fillCatContinuity_length (v : Variant) (cats : List Nat) : (fillCatContinuity v cats).length = cats.length :=
  (fillCatContinuity_contOk v cats).1

theorem vecResize_nil {α : Type} (n : Nat) (v : α) : vecResize ([] : List α) n v = List.replicate n v := by
  simp [vecResize]

theorem vecResize_length {α : Type} (l : List α) (n : Nat) (v : α) : (vecResize l n v).length = n := by
  rw [vecResize, List.length_append, List.length_take, List.length_replicate]; omega

/-! ## the writes at the character starts -/

theorem writeBow_cleared (chars : List Nat) : ∀ (pre flags : List Bool), flags.length = chars.length →
    writeBow (pre ++ List.replicate (byteLen chars) false) pre.length chars flags = some (pre ++ bowBytes chars flags) := by
  induction chars with
  | nil => intro pre flags _; simp [writeBow, byteLen, bowBytes]
  | cons c cs ih =>
    intro pre flags hl
    cases flags with
    | nil => simp at hl
    | cons f fs =>
      simp only [List.length_cons, Nat.add_right_cancel_iff] at hl
      obtain ⟨k, hk⟩ : ∃ k, utf8Width c = k + 1 := ⟨utf8Width c - 1, by have := utf8Width_pos c; omega⟩
      have hrep : List.replicate (byteLen (c :: cs)) false = false :: (List.replicate k false ++ List.replicate (byteLen cs) false) := by
        simp only [byteLen, hk]
        rw [show k + 1 + byteLen cs = (k + byteLen cs) + 1 by omega, List.replicate_succ, List.replicate_append_replicate]
      have hset : (pre ++ false :: (List.replicate k false ++ List.replicate (byteLen cs) false)).set pre.length f
          = (pre ++ f :: List.replicate k false) ++ List.replicate (byteLen cs) false := by
        rw [List.set_append_right _ _ (Nat.le_refl _)]; simp
      have hlen : (pre ++ f :: List.replicate k false).length = pre.length + utf8Width c := by simp [hk]
      rw [hrep]
      simp only [writeBow]
      rw [if_pos (by simp), hset, ← hlen, ih _ fs hl]
      simp [bowBytes, hk]

/-- the writes on ANY table that is long enough: nothing before `off` changes, and the entry at the start of character `j` is
flag `j` - whatever the other bytes hold -/
theorem writeBow_general (chars : List Nat) : ∀ (t : List Bool) (off : Nat) (flags : List Bool), flags.length = chars.length →
    off + byteLen chars ≤ t.length →
    ∃ t', writeBow t off chars flags = some t' ∧ t'.length = t.length ∧ (∀ p, p < off → t'[p]? = t[p]?) ∧
      (∀ j, j < chars.length → ∃ b, (c2bFrom off chars)[j]? = some b ∧ t'[b]? = flags[j]?) := by
  induction chars with
  | nil =>
    intro t off flags _ _
    exact ⟨t, by simp [writeBow], rfl, fun _ _ => rfl, fun j hj => by simp at hj⟩
  | cons c cs ih =>
    intro t off flags hl hlen
    cases flags with
    | nil => simp at hl
    | cons f fs =>
      simp only [List.length_cons, Nat.add_right_cancel_iff] at hl
      have hw := utf8Width_pos c
      simp only [byteLen] at hlen
      have hoff : off < t.length := by omega
      obtain ⟨t', h1, h2, h3, h4⟩ := ih (t.set off f) (off + utf8Width c) fs hl (by simp; omega)
      refine ⟨t', by simp [writeBow, hoff, h1], by simpa using h2, ?_, ?_⟩
      · intro p hp
        rw [h3 p (by omega), List.getElem?_set_ne (by omega)]
      · intro j hj
        cases j with
        | zero =>
          refine ⟨off, by simp [c2bFrom], ?_⟩
          rw [h3 off (by omega), List.getElem?_set_self hoff]; simp
        | succ j =>
          obtain ⟨b, hb1, hb2⟩ := h4 j (by simpa using hj)
          exact ⟨b, by simpa [c2bFrom] using hb1, by simpa using hb2⟩

/-! ## `reset` + `build` -/

theorem Tables.next_eq (v : Variant) (bowFix : Bool) (t : Tables) (chars cats : List Nat) (h : cats.length = chars.length) :
    t.next v bowFix chars cats = some
      { chars := chars, c2b := c2bFrom 0 chars, b2c := b2cFrom 0 chars ++ [(chars.length - 1) + 1],
        bow := bowBytes chars (if bowFix then bowTableFix cats else bowTable cats), cat := cats,
        cont := fillCatContinuity v cats } := by
  have hw := writeBow_cleared chars [] _ ((bowFlags_length bowFix cats).trans h)
  simp only [List.nil_append, List.length_nil] at hw
  simp only [Tables.next, Tables.build, Tables.reset, vecResize_nil, hw, List.nil_append]
  congr 2
  cases chars with
  | nil =>
    have : cats = [] := List.eq_nil_of_length_eq_zero (by simpa using h)
    subst this
    have := fillCatContinuity_length v []
    simp only [List.length_nil] at this
    simp [List.eq_nil_of_length_eq_zero this]
  | cons c cs =>
    simp [overwrite, fillCatContinuity_length]

/-- `build` on an object whose `mod_c2b` is empty (as both resets leave it), whatever `mod_bow` holds: it succeeds, and the
CHARACTER view of the word-start table is the flags of this text (the bytes inside the characters are whatever they were) -/
theorem Tables.build_canBowChar (v : Variant) (bowFix : Bool) (t : Tables) (hc : t.c2b = []) (chars cats : List Nat)
    (h : cats.length = chars.length) :
    ∃ t', t.build v bowFix chars cats = some t' ∧ t'.chars = chars ∧
      ∀ j, j < chars.length → t'.canBowChar j = (if bowFix then bowTableFix cats else bowTable cats)[j]? := by
  obtain ⟨bow, h1, _, _, h4⟩ := writeBow_general chars (vecResize t.bow (byteLen chars) false) 0 _
    ((bowFlags_length bowFix cats).trans h) (by rw [vecResize_length]; omega)
  simp only [Tables.build, h1]
  refine ⟨_, rfl, rfl, fun j hj => ?_⟩
  obtain ⟨b, hb1, hb2⟩ := h4 j hj
  simp only [Tables.canBowChar, Tables.canBow, hc, List.nil_append, hb1, hb2]

/-! ## `get_word_candidate_length` -/

/-- on tables whose character view of the word-start table is `flags`, the loop of `get_word_candidate_length` is the scan
`nextBow` of the flags: the byte tables are read through `mod_c2b` only -/
theorem wclLoop_eq_nextBow (t : Tables) (flags : List Bool) (hlook : ∀ j, j < t.chars.length → t.canBowChar j = flags[j]?)
    (hlen : flags.length = t.chars.length) (idx : Nat) :
    ∀ (fuel i : Nat), i + fuel = t.chars.length → idx ≤ i → wclLoop t idx fuel i = some (i - idx + nextBow (flags.drop i)) := by
  intro fuel
  induction fuel with
  | zero =>
    intro i hi _
    rw [List.drop_of_length_le (by omega)]
    exact congrArg some (by rw [← hi]; rfl)
  | succ fuel ih =>
    intro i hi hle
    have hlt : i < flags.length := by omega
    rw [wclLoop, hlook i (by omega), List.getElem?_eq_getElem hlt, List.drop_eq_getElem_cons hlt]
    cases flags[i] with
    | true => rfl
    | false =>
      rw [ih (i + 1) (by omega) (Nat.le_succ_of_le hle)]
      exact congrArg some (by rw [nextBow, if_neg Bool.false_ne_true]; omega)

theorem Tables.wordCandidateLength_eq (t : Tables) (flags : List Bool) (hlen : flags.length = t.chars.length)
    (hlook : ∀ j, j < t.chars.length → t.canBowChar j = flags[j]?) (idx : Nat) (hi : idx < t.chars.length) :
    t.wordCandidateLength idx = Oov.wordCandidateLength flags idx := by
  rw [Tables.wordCandidateLength, if_pos (Nat.le_of_lt hi), Oov.wordCandidateLength, if_pos (hlen ▸ hi),
    wclLoop_eq_nextBow t flags hlook hlen idx _ (idx + 1) (by omega) (Nat.le_succ idx), Nat.add_sub_cancel_left]

theorem Tables.wordCandidateLength_nextStart (t : Tables) (flags : List Bool) (hlen : flags.length = t.chars.length)
    (hlook : ∀ j, j < t.chars.length → t.canBowChar j = flags[j]?) (idx : Nat) (hi : idx < t.chars.length) :
    ∃ k, t.wordCandidateLength idx = some k ∧ NextStart flags idx k :=
  Tables.wordCandidateLength_eq t flags hlen hlook idx hi ▸ wordCandidateLength_spec flags idx (hlen ▸ hi)

/-- on ANY table contents on which `can_bow(mod_c2b[j])` is defined for every character `j`: the defined values are the flags -/
theorem Tables.wordCandidateLength_spec (t : Tables) (idx : Nat) (h : idx < t.chars.length)
    (hdef : ∀ j, j < t.chars.length → ∃ b, t.canBowChar j = some b) :
    ∃ k, t.wordCandidateLength idx = some k ∧ 1 ≤ k ∧ idx + k ≤ t.chars.length ∧
      (∀ j, idx < j → j < idx + k → t.canBowChar j = some false) ∧
      (idx + k = t.chars.length ∨ t.canBowChar (idx + k) = some true) := by
  have hlen : ((List.range t.chars.length).map fun j => (t.canBowChar j).getD false).length = t.chars.length := by simp
  have hlook : ∀ j, j < t.chars.length →
      t.canBowChar j = ((List.range t.chars.length).map fun j => (t.canBowChar j).getD false)[j]? := fun j hj => by
    obtain ⟨b, hb⟩ := hdef j hj
    simp [hj, hb]
  obtain ⟨k, h1, h2, h3, h4, h5⟩ := Tables.wordCandidateLength_nextStart t _ hlen hlook idx h
  rw [hlen] at h3 h5
  refine ⟨k, h1, h2, h3, fun j hj1 hj2 => (hlook j (by omega)).trans (h4 j hj1 hj2), h5.imp id fun h => ?_⟩
  have hk : idx + k < t.chars.length := by
    have := (List.getElem?_eq_some_iff.mp h).1; rwa [hlen] at this
  exact (hlook _ hk).trans h

end Oov
