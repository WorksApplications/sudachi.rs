import Sudachi.Proofs.Codec
import Sudachi.Proofs.Subset
/-!
# The C05 writer and the C11 reader speak about the same bytes

`Codec` (C05) transcribes the WRITER `write_word_info` (`encWordInfo`) and the full reader; `Subset` (C11) transcribes
the reader with a field subset (`parse_field!`, `skip_u16_string`, `skip_wid_array`, `skip_u32_array`) together with
its own description of the record (`Subset.encodeBytes`).  The two byte-level descriptions are spelt differently
(`[(n >>> 8) % 256 ||| 0x80, n % 256 &&& 0xff]` vs `[128 + n / 256, n % 256]`, `flatMap le16` vs `encUnits`, ...).
That the strings and length prefixes are the same bytes, and read by the same readers, is in `Proofs/Subset.lean`
(`Subset.encLen_eq`, `encStr_eq`, `strOk_iff`; C11's string round trip rests on C05's); this file adds the integers and
arrays and proves the whole RECORDS equal for every well-formed declared entry (`toSub`, `encodeBytes_toSub`), so that the
C11 theorems about the subset parser apply to what the C05 writer writes.
-/
namespace CodecSubset
open Codec
open Subset (encLen_eq encStr_eq)

theorem encU16_eq (v : Nat) (h : v < 65536) : Subset.encU16 v = Codec.le16 v := by
  rw [Subset.encU16, Codec.le16, Nat.mod_eq_of_lt (Nat.div_lt_of_lt_mul h : v / 256 < 256)]

theorem encU32_eq (v : Nat) (h : v < 4294967296) : Subset.encU32 v = Codec.le32 v := by
  rw [Subset.encU32, Codec.le32, Nat.mod_eq_of_lt (Nat.div_lt_of_lt_mul h : v / 16777216 < 256)]

theorem encI32_eq (n : Nat) (h : n < 4294967296) : Subset.encI32 (Codec.u32ToI n) = Codec.le32 n := by
  unfold Subset.encI32 Codec.u32ToI
  by_cases h1 : n < 2147483648
  · have h2 : ¬ ((n : Int) < 0) := by omega
    simp only [h1, if_true, h2, if_false, Int.toNat_natCast]
    exact encU32_eq n h
  · have h2 : ((n : Int) - 4294967296 < 0) := by omega
    have h3 : ((n : Int) - 4294967296 + 4294967296).toNat = n := by omega
    simp only [h1, if_false, h2, if_true, h3]
    exact encU32_eq n h

theorem encBody_eq (a : List Nat) (h : ∀ x ∈ a, x < 4294967296) : Subset.encBody a = a.flatMap Codec.le32 := by
  induction a with
  | nil => rfl
  | cons v r ih =>
    simp only [Subset.encBody, List.flatMap_cons, encU32_eq v (h v (by simp)), ih (fun x hx => h x (by simp [hx]))]

theorem encArr_eq (a : List Nat) (h : ∀ x ∈ a, x < 4294967296) : Subset.encArr a = Codec.encU32s a := by
  simp only [Subset.encArr, Codec.encU32s, encBody_eq a h]

theorem arrOk_to (a : List Nat) (h : Codec.U32s a) : Subset.ArrOk a := ⟨by have := h.1; omega, h.2⟩

/-- the stored word-info record of a declared entry, in the reader's record type: what `write_word_info` puts into
the ten fields (forms equal to the headword are stored empty) -/
def toSub (e : Entry) : Subset.WordInfoData :=
  { surface := e.headwordS, headWordLength := utf8LenStr e.surface, posId := e.pos,
    normalizedForm := stored e.normS e.headwordS, dictionaryFormWordId := u32ToI e.dicForm,
    readingForm := stored e.readingS e.headwordS, aUnitSplit := e.splitsA, bUnitSplit := e.splitsB,
    wordStructure := e.wordStructure, synonymGroupIds := e.synonyms }

theorem toSub_wf (e : Entry) (wf : e.WF) : Subset.WF (toSub e) where
  surface := (Subset.strOk_iff _).2 wf.hw
  headWordLength := by have := wf.key; simp only [toSub]; omega
  posId := wf.pos
  normalizedForm := (Subset.strOk_iff _).2 (strOk_stored _ _ wf.nf)
  dfLo := by have := wf.df; simp only [toSub, u32ToI]; split <;> omega
  dfHi := by have := wf.df; simp only [toSub, u32ToI]; split <;> omega
  readingForm := (Subset.strOk_iff _).2 (strOk_stored _ _ wf.rd)
  a := arrOk_to _ wf.a
  b := arrOk_to _ wf.b
  ws := arrOk_to _ wf.ws
  syn := arrOk_to _ wf.syn

/-- **the bridge**: the record the C05 writer writes for a well-formed entry is, byte for byte, the record the C11
reader theorems are stated about -/
theorem encodeBytes_toSub (e : Entry) (wf : e.WF) : Subset.encodeBytes (toSub e) = encWordInfo e := by
  simp only [Subset.encodeBytes, Subset.encode, Subset.encAll, List.foldr, toSub, List.append_nil]
  rw [encStr_eq _ wf.hw, encLen_eq _ wf.key, encU16_eq _ wf.pos, encStr_eq _ (strOk_stored _ _ wf.nf),
    encI32_eq _ wf.df, encStr_eq _ (strOk_stored _ _ wf.rd), encArr_eq _ wf.a.2, encArr_eq _ wf.b.2,
    encArr_eq _ wf.ws.2, encArr_eq _ wf.syn.2]
  simp only [encWordInfo, stored, List.append_assoc]

end CodecSubset
