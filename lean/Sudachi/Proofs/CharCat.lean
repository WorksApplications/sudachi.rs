import Sudachi.Model.CharCat
/-!
# The character-category table (C17): `compile`, bisection, `lookup`

`spec` is the property's own wording: the union of the classes of all covering lines, DEFAULT when that is
empty.  A table of `(right boundary, classes)` pairs means a function of the code point, read left to right
(`denI` before the empty entries are defaulted, `denF` after); each stage of `compile` is followed through
that meaning (`den_*`) over the strictly increasing boundary set, which gives `compile_correct`.  The
transcribed `binary_search_by` returns the lower bound of its key on a strictly increasing slice, and the
entry `lookup` reads there is the one `denF` reads.
-/
namespace CharCat

/-! ## the specification -/

/-- spec: union of categories of all ranges containing `x` -/
def unionAt (rs : List CatRange) (x : Nat) : Nat :=
  rs.foldl (fun acc r => if r.b ≤ x ∧ x < r.e then acc ||| r.c else acc) 0

def spec (rs : List CatRange) (x : Nat) : Nat :=
  let u := unionAt rs x
  if u = 0 then DEFAULT else u

def unionFrom (acc : Nat) (rs : List CatRange) (x : Nat) : Nat :=
  rs.foldl (fun acc r => if r.b ≤ x ∧ x < r.e then acc ||| r.c else acc) acc

theorem unionAt_eq_unionFrom (rs : List CatRange) (x : Nat) : unionAt rs x = unionFrom 0 rs x := rfl

theorem unionFrom_cons (acc : Nat) (r : CatRange) (rs : List CatRange) (x : Nat) :
    unionFrom acc (r :: rs) x = unionFrom (if r.b ≤ x ∧ x < r.e then acc ||| r.c else acc) rs x := rfl

theorem unionFrom_eq_or (acc : Nat) (rs : List CatRange) (x : Nat) : unionFrom acc rs x = acc ||| unionAt rs x := by
  induction rs generalizing acc with
  | nil => exact (Nat.or_zero acc).symm
  | cons r rs ih =>
    rw [unionFrom_cons, ih, unionAt_eq_unionFrom (r :: rs), unionFrom_cons, ih (if r.b ≤ x ∧ x < r.e then 0 ||| r.c else 0)]
    split
    · rw [Nat.zero_or, Nat.or_assoc]
    · rw [Nat.zero_or]

theorem unionAt_cons (r : CatRange) (rs : List CatRange) (x : Nat) :
    unionAt (r :: rs) x = (if r.b ≤ x ∧ x < r.e then r.c else 0) ||| unionAt rs x := by
  rw [unionAt_eq_unionFrom, unionFrom_cons, unionFrom_eq_or, Nat.zero_or]

theorem unionAt_eq_zero (rs : List CatRange) (x : Nat) :
    unionAt rs x = 0 ↔ ∀ r ∈ rs, r.b ≤ x ∧ x < r.e → r.c = 0 := by
  induction rs with
  | nil => simp [unionAt]
  | cons r rs ih =>
    rw [unionAt_cons, Nat.or_eq_zero_iff, ih, List.forall_mem_cons]
    by_cases h : r.b ≤ x ∧ x < r.e
    · simp only [h, and_self, if_true, forall_const]
    · simp only [h, if_false, false_imp_iff, true_and]

theorem testBit_unionAt (rs : List CatRange) (x k : Nat) :
    (unionAt rs x).testBit k = rs.any (fun r => decide (r.b ≤ x ∧ x < r.e) && r.c.testBit k) := by
  induction rs with
  | nil => exact Nat.zero_testBit k
  | cons r rs ih =>
    rw [unionAt_cons, Nat.testBit_or, ih, List.any_cons]
    by_cases h : r.b ≤ x ∧ x < r.e
    · rw [if_pos h, decide_eq_true h, Bool.true_and]
    · rw [if_neg h, decide_eq_false h, Bool.false_and, Nat.zero_testBit]

/-! ## strictly increasing lists and the boundary set -/

/-- strictly increasing -/
def SInc : List Nat → Prop
  | [] => True
  | [_] => True
  | x :: y :: ys => x < y ∧ SInc (y :: ys)

theorem sinc_iff_pairwise : ∀ {l : List Nat}, SInc l ↔ l.Pairwise (· < ·)
  | [] => by simp [SInc]
  | [_] => by simp [SInc]
  | x :: y :: ys => by
    rw [SInc, sinc_iff_pairwise, List.pairwise_cons (a := x), List.forall_mem_cons]
    exact ⟨fun ⟨h, hp⟩ => ⟨⟨h, fun a ha => Nat.lt_trans h (List.rel_of_pairwise_cons hp ha)⟩, hp⟩,
      fun ⟨h, hp⟩ => ⟨h.1, hp⟩⟩

theorem sinc_cons_iff {x : Nat} {l : List Nat} : SInc (x :: l) ↔ (∀ y ∈ l, x < y) ∧ SInc l := by
  simp only [sinc_iff_pairwise, List.pairwise_cons]

theorem SInc.tail {x : Nat} {xs : List Nat} (h : SInc (x :: xs)) : SInc xs := (sinc_cons_iff.mp h).2

theorem SInc.head_lt {x : Nat} {xs : List Nat} (h : SInc (x :: xs)) : ∀ y ∈ xs, x < y := (sinc_cons_iff.mp h).1

theorem SInc.sublist {l l' : List Nat} (h : SInc l) (hl : l'.Sublist l) : SInc l' :=
  sinc_iff_pairwise.mpr ((sinc_iff_pairwise.mp h).sublist hl)

theorem SInc.drop_second {a b : Nat} {l : List Nat} (h : SInc (a :: b :: l)) : SInc (a :: l) :=
  h.sublist (.cons_cons a (.cons b (.refl l)))

theorem sinc_getElem (l : List Nat) (hs : SInc l) (i j : Nat) (hj : j < l.length) (hij : i < j) :
    l[i]'(Nat.lt_trans hij hj) < l[j] :=
  List.pairwise_iff_getElem.mp (sinc_iff_pairwise.mp hs) i j _ hj hij

theorem sinc_getElem_le (l : List Nat) (hs : SInc l) (i j : Nat) (hj : j < l.length) (hij : i ≤ j) :
    l[i]'(Nat.lt_of_le_of_lt hij hj) ≤ l[j] := by
  rcases Nat.eq_or_lt_of_le hij with rfl | h
  · exact Nat.le_refl _
  · exact Nat.le_of_lt (sinc_getElem l hs i j hj h)

theorem mem_insertSorted (x : Nat) (l : List Nat) (y : Nat) :
    y ∈ insertSorted x l ↔ y = x ∨ y ∈ l := by
  induction l with
  | nil => simp [insertSorted]
  | cons z zs ih =>
    rw [insertSorted]
    by_cases h1 : x < z
    · rw [if_pos h1]; exact List.mem_cons
    · rw [if_neg h1]
      by_cases h2 : x = z
      · rw [if_pos h2, h2, List.mem_cons, or_self_left]
      · rw [if_neg h2, List.mem_cons, List.mem_cons, ih, or_left_comm]

theorem sinc_insertSorted (x : Nat) (l : List Nat) (h : SInc l) : SInc (insertSorted x l) := by
  induction l with
  | nil => trivial
  | cons z zs ih =>
    rw [insertSorted]
    by_cases h1 : x < z
    · rw [if_pos h1]; exact ⟨h1, h⟩
    · rw [if_neg h1]
      by_cases h2 : x = z
      · rw [if_pos h2]; exact h
      · rw [if_neg h2]
        refine sinc_cons_iff.mpr ⟨fun y hy => ?_, ih h.tail⟩
        rcases (mem_insertSorted x zs y).mp hy with rfl | hy
        · exact Nat.lt_of_le_of_ne (Nat.not_lt.mp h1) (Ne.symm h2)
        · exact h.head_lt y hy

theorem collect_inv (rs : List CatRange) : ∀ acc, SInc acc →
    SInc (rs.foldl (fun acc r => insertSorted r.e (insertSorted r.b acc)) acc) ∧
    (∀ y, y ∈ rs.foldl (fun acc r => insertSorted r.e (insertSorted r.b acc)) acc ↔
        (y ∈ acc ∨ ∃ r ∈ rs, y = r.b ∨ y = r.e)) := by
  induction rs with
  | nil => intro acc h; simp [h]
  | cons r rs ih =>
    intro acc h
    obtain ⟨ha, hb⟩ := ih _ (sinc_insertSorted r.e _ (sinc_insertSorted r.b acc h))
    refine ⟨ha, fun y => ?_⟩
    rw [List.foldl_cons, hb y, mem_insertSorted, mem_insertSorted]
    simp only [List.mem_cons, or_and_right, exists_or, exists_eq_left, or_assoc, or_left_comm]

theorem sinc_collect (rs : List CatRange) : SInc (collectBoundaries rs) :=
  (collect_inv rs [] trivial).1

theorem mem_collect (rs : List CatRange) (y : Nat) :
    y ∈ collectBoundaries rs ↔ ∃ r ∈ rs, y = r.b ∨ y = r.e := by
  simpa [collectBoundaries] using (collect_inv rs [] trivial).2 y

/-! ## the meaning of a table, through the stages of `compile` -/

/-- what a table gives a code point, read left to right, before the empty entries are defaulted: 0 beyond the last boundary -/
def denI : List (Nat × Nat) → Nat → Nat
  | [], _ => 0
  | (b, c) :: rest, x => if x < b then c else denI rest x

/-- final lookup: categories has one more element than boundaries, the last one is DEFAULT -/
def denF : List (Nat × Nat) → Nat → Nat
  | [], _ => DEFAULT
  | (b, c) :: rest, x => if x < b then c else denF rest x

theorem fsts_cons (b c : Nat) (l : List (Nat × Nat)) : fsts ((b, c) :: l) = b :: fsts l := rfl

theorem fsts_orWhile (re c : Nat) (l : List (Nat × Nat)) : fsts (orWhile re c l) = fsts l := by
  induction l with
  | nil => rfl
  | cons p rest ih =>
    obtain ⟨b, x⟩ := p
    rw [orWhile]
    split
    · rfl
    · rw [fsts_cons, fsts_cons, ih]

theorem fsts_applyRange (r : CatRange) (l : List (Nat × Nat)) : fsts (applyRange r l) = fsts l := by
  induction l with
  | nil => rfl
  | cons p rest ih =>
    obtain ⟨b, x⟩ := p
    rw [applyRange]
    split
    · rw [fsts_cons, fsts_cons, fsts_orWhile]
    · rw [fsts_cons, fsts_cons, ih]

theorem fsts_applyAll (rs : List CatRange) : ∀ l, fsts (applyAll rs l) = fsts l := by
  induction rs with
  | nil => intro l; rfl
  | cons r rs ih => intro l; exact (ih _).trans (fsts_applyRange r l)

theorem fsts_initCats (bs : List Nat) : fsts (initCats bs) = bs := by
  simp [fsts, initCats, List.map_map, Function.comp_def]

theorem fsts_setFirst (l : List (Nat × Nat)) : fsts (setFirst l) = fsts l := by
  cases l with
  | nil => rfl
  | cons p rest => rfl

theorem fsts_finalize (l : List (Nat × Nat)) : fsts (finalize l) = fsts l := by
  simp [fsts, finalize, List.map_map, Function.comp_def]

theorem orWhile_all_gt (re c : Nat) (l : List (Nat × Nat)) (h : ∀ b ∈ fsts l, re < b) :
    orWhile re c l = l := by
  cases l with
  | nil => rfl
  | cons p rest => obtain ⟨b, x⟩ := p; rw [orWhile, if_pos (h b (List.mem_cons_self ..))]

theorem den_orWhile (re c : Nat) : ∀ (l : List (Nat × Nat)), SInc (fsts l) → re ∈ fsts l →
    ∀ x, denI (orWhile re c l) x = if x < re then denI l x ||| c else denI l x := by
  intro l
  induction l with
  | nil => intro _ hmem; cases hmem
  | cons p rest ih =>
    obtain ⟨b, y⟩ := p
    intro hs hmem x
    rw [fsts_cons] at hs hmem
    obtain ⟨hlt, hs'⟩ := sinc_cons_iff.mp hs
    have hble : b ≤ re := by
      rcases List.mem_cons.mp hmem with rfl | h
      · exact Nat.le_refl _
      · exact Nat.le_of_lt (hlt re h)
    rw [orWhile, if_neg (Nat.not_lt.mpr hble)]
    by_cases hx : x < b
    · simp only [denI, if_pos hx, if_pos (Nat.lt_of_lt_of_le hx hble)]
    · simp only [denI, if_neg hx]
      by_cases hbe : b = re
      · subst hbe; rw [orWhile_all_gt b c rest hlt, if_neg hx]
      · exact ih hs' ((List.mem_cons.mp hmem).resolve_left (Ne.symm hbe)) x

theorem den_applyRange (r : CatRange) (hr : r.b < r.e) : ∀ (l : List (Nat × Nat)), SInc (fsts l) →
    r.b ∈ fsts l → r.e ∈ fsts l →
    ∀ x, denI (applyRange r l) x = if r.b ≤ x ∧ x < r.e then denI l x ||| r.c else denI l x := by
  intro l
  induction l with
  | nil => intro _ hb; cases hb
  | cons p rest ih =>
    obtain ⟨b, y⟩ := p
    intro hs hb he x
    rw [fsts_cons] at hs hb he
    obtain ⟨hlt, hs'⟩ := sinc_cons_iff.mp hs
    rw [applyRange]
    by_cases hbb : b = r.b
    · subst hbb
      have he' : r.e ∈ fsts rest := (List.mem_cons.mp he).resolve_left (Nat.ne_of_gt hr)
      rw [if_pos rfl]
      by_cases hx : x < r.b
      · simp only [denI, if_pos hx, if_neg fun h : r.b ≤ x ∧ x < r.e => Nat.not_lt.mpr h.1 hx]
      · simp only [denI, if_neg hx, den_orWhile r.e r.c rest hs' he' x, Nat.not_lt.mp hx, true_and]
    · have hb' : r.b ∈ fsts rest := (List.mem_cons.mp hb).resolve_left (Ne.symm hbb)
      have hbr : b < r.b := hlt r.b hb'
      have he' : r.e ∈ fsts rest := (List.mem_cons.mp he).resolve_left (Nat.ne_of_gt (Nat.lt_trans hbr hr))
      rw [if_neg hbb]
      by_cases hx : x < b
      · simp only [denI, if_pos hx,
          if_neg fun h : r.b ≤ x ∧ x < r.e => Nat.not_lt.mpr h.1 (Nat.lt_trans hx hbr)]
      · simp only [denI, if_neg hx]; exact ih hs' hb' he' x

theorem den_applyAll (rs : List CatRange) : ∀ (l : List (Nat × Nat)), SInc (fsts l) →
    (∀ r ∈ rs, r.b < r.e ∧ r.b ∈ fsts l ∧ r.e ∈ fsts l) →
    ∀ x, denI (applyAll rs l) x = unionFrom (denI l x) rs x := by
  induction rs with
  | nil => intro l _ _ x; rfl
  | cons r rs ih =>
    intro l hs hr x
    obtain ⟨h0, hr'⟩ := List.forall_mem_cons.mp hr
    rw [unionFrom_cons, ← den_applyRange r h0.1 l hs h0.2.1 h0.2.2 x]
    exact ih (applyRange r l) (by rwa [fsts_applyRange]) (by rwa [fsts_applyRange]) x

theorem den_initCats (bs : List Nat) (x : Nat) : denI (initCats bs) x = 0 := by
  induction bs with
  | nil => rfl
  | cons b bs ih => show (if x < b then 0 else denI (initCats bs) x) = 0; rw [ih, ite_self]

theorem den_mergeGo : ∀ (l : List (Nat × Nat)) (lb lc : Nat), SInc (lb :: fsts l) →
    ∀ x, denI (mergeGo lb lc l) x = if x < lb then lc else denI l x := by
  intro l
  induction l with
  | nil => intro lb lc _ x; rfl
  | cons p rest ih =>
    obtain ⟨b, y⟩ := p
    intro lb lc hs x
    rw [mergeGo]
    by_cases hy : y = lc
    · rw [if_pos hy, ih b lc hs.2 x, hy]
      simp only [denI]
      by_cases h1 : x < lb
      · rw [if_pos h1, if_pos (Nat.lt_trans h1 hs.1)]
      · rw [if_neg h1]
    · rw [if_neg hy]
      simp only [denI]
      rw [ih b y hs.2 x]

theorem den_merge (l : List (Nat × Nat)) (hs : SInc (fsts l)) (x : Nat) :
    denI (merge l) x = denI l x := by
  cases l with
  | nil => rfl
  | cons p rest => exact den_mergeGo rest p.1 p.2 hs x

theorem den_finalize (l : List (Nat × Nat)) (x : Nat) :
    denF (finalize l) x = if denI l x = 0 then DEFAULT else denI l x := by
  induction l with
  | nil => rfl
  | cons p rest ih =>
    obtain ⟨b, c⟩ := p
    simp only [finalize, List.map_cons, denF, denI] at ih ⊢
    by_cases hx : x < b
    · simp only [if_pos hx]
    · simp only [if_neg hx]; exact ih

/-- the compiled table, read left to right, means `spec`; with `lookup_eq_denF` this is `C17.lookup_compile_eq_union` -/
theorem compile_correct (rs : List CatRange) (hwf : ∀ r ∈ rs, r.b < r.e) (x : Nat) :
    denF (compile rs) x = spec rs x := by
  have hs := sinc_collect rs
  have hmem : ∀ r ∈ rs, r.b ∈ collectBoundaries rs ∧ r.e ∈ collectBoundaries rs := fun r hr =>
    ⟨(mem_collect rs r.b).mpr ⟨r, hr, .inl rfl⟩, (mem_collect rs r.e).mpr ⟨r, hr, .inr rfl⟩⟩
  have hall : denI (applyAll rs (initCats (collectBoundaries rs))) x = unionAt rs x := by
    rw [den_applyAll rs _ (by rwa [fsts_initCats])
      (by rw [fsts_initCats]; exact fun r hr => ⟨hwf r hr, hmem r hr⟩) x, den_initCats, unionAt_eq_unionFrom]
  have hf : fsts (applyAll rs (initCats (collectBoundaries rs))) = collectBoundaries rs := by
    rw [fsts_applyAll, fsts_initCats]
  rw [compile, den_finalize, den_merge _ (by rwa [fsts_setFirst, hf]), spec]
  generalize applyAll rs (initCats (collectBoundaries rs)) = l at hall hf
  cases l with
  | nil => rw [← hall]; rfl
  | cons p rest =>
    obtain ⟨b0, c0⟩ := p
    simp only [setFirst, denI] at hall ⊢
    by_cases hx : x < b0
    · -- below the first boundary no line applies, so `setFirst` and `spec` both give DEFAULT
      rw [if_pos hx, (unionAt_eq_zero rs x).mpr fun r hr hc => ?_]
      · rfl
      · have := (hmem r hr).1
        rw [← hf, fsts_cons] at this hs
        rcases List.mem_cons.mp this with h | h
        · exact absurd hx (Nat.not_lt.mpr (h ▸ hc.1))
        · exact absurd (Nat.lt_trans hx (hs.head_lt _ h)) (Nat.not_lt.mpr hc.1)
    · rw [if_neg hx] at hall ⊢
      rw [hall]

theorem fsts_mergeGo_sublist (l : List (Nat × Nat)) (lb lc : Nat) :
    (fsts (mergeGo lb lc l)).Sublist (lb :: fsts l) := by
  induction l generalizing lb lc with
  | nil => exact .refl _
  | cons p rest ih =>
    obtain ⟨b, x⟩ := p
    rw [mergeGo]
    split
    · exact .cons lb (ih b lc)
    · exact .cons_cons lb (ih b x)

theorem fsts_compile_sublist (rs : List CatRange) : (fsts (compile rs)).Sublist (collectBoundaries rs) := by
  have : ∀ l, (fsts (merge l)).Sublist (fsts l)
    | [] => .refl _
    | (b, c) :: rest => fsts_mergeGo_sublist rest b c
  simpa [compile, fsts_finalize, fsts_setFirst, fsts_applyAll, fsts_initCats] using
    this (setFirst (applyAll rs (initCats (collectBoundaries rs))))

theorem sinc_compile (rs : List CatRange) : SInc (fsts (compile rs)) :=
  (sinc_collect rs).sublist (fsts_compile_sublist rs)

/-! ## bisection and `lookup` -/

/-- Contract of `slice::binary_search` on a strictly increasing slice (a linear scan):
`(i, true)` = `Ok(i)` with `bs[i] = x`; `(i, false)` = `Err(i)` with `i` the insertion point. -/
def searchIdx : List Nat → Nat → Nat × Bool
  | [], _ => (0, false)
  | b :: bs, x =>
    if x < b then (0, false) else if x = b then (0, true)
    else ((searchIdx bs x).1 + 1, (searchIdx bs x).2)

theorem searchIdx_of_lower_bound : ∀ (l : List Nat) (x k : Nat), k ≤ l.length →
    (∀ i (h : i < l.length), i < k → l[i] < x) → (∀ i (h : i < l.length), k ≤ i → x ≤ l[i]) →
    searchIdx l x = (k, decide (l[k]? = some x)) := by
  intro l
  induction l with
  | nil => intro x k hk _ _; rw [Nat.le_zero.mp hk]; rfl
  | cons b bs ih =>
    intro x k hk hlt hge
    rw [searchIdx]
    cases k with
    | zero =>
      have hxb : x ≤ b := hge 0 (Nat.zero_lt_succ _) (Nat.le_refl _)
      by_cases h1 : x < b
      · rw [if_pos h1]
        exact congrArg _ (decide_eq_false fun h => Nat.ne_of_gt h1 (Option.some.inj h)).symm
      · have hxb' : x = b := Nat.le_antisymm hxb (Nat.not_lt.mp h1)
        rw [if_neg h1, if_pos hxb', hxb']
        exact congrArg _ (decide_eq_true rfl).symm
    | succ k' =>
      have hbx : b < x := hlt 0 (Nat.zero_lt_succ _) (Nat.succ_pos _)
      rw [if_neg (Nat.lt_asymm hbx), if_neg (Nat.ne_of_gt hbx), ih x k' (Nat.le_of_succ_le_succ hk)
        (fun i h hi => hlt (i + 1) (Nat.succ_lt_succ h) (Nat.succ_lt_succ hi))
        (fun i h hi => hge (i + 1) (Nat.succ_lt_succ h) (Nat.succ_le_succ hi))]
      rfl

/-- The `while` loop under an invariant `I size base` that both outcomes of the comparison preserve
(`half = size / 2`, and `size'` is what is left of `size`): it never reads outside the slice (no
sortedness needed for that) and ends with `I 1 base`. -/
theorem bsLoop_inv (l : List Nat) (x : Nat) (I : Nat → Nat → Prop)
    (step : ∀ size' base half (h : base + half < l.length), half ≤ size' → I (size' + half) base →
      I size' (if l[base + half] > x then base else base + half)) :
    ∀ (fuel size base : Nat), size ≤ fuel → 1 ≤ size → base + size ≤ l.length → I size base →
    ∃ b, bsLoop l x fuel size base = some b ∧ b < l.length ∧ I 1 b := by
  intro fuel
  induction fuel with
  | zero => intro size base h0 h1; exact absurd (Nat.le_trans h1 h0) (by decide)
  | succ fuel ih =>
    intro size base hf h1 h2 hI
    rw [bsLoop]
    by_cases hsz : size > 1
    · have hh : 1 ≤ size / 2 ∧ size / 2 ≤ size - size / 2 ∧ size - size / 2 + size / 2 = size :=
        ⟨Nat.div_pos hsz (by decide), Nat.le_sub_of_add_le (Nat.two_mul _ ▸ Nat.mul_div_le size 2),
          Nat.sub_add_cancel (Nat.div_le_self size 2)⟩
      simp only [if_pos hsz]
      -- from here on `size = size' + half` with `1 ≤ half ≤ size'`, and no division is left
      generalize size / 2 = half at hh ⊢
      generalize size - half = size' at hh ⊢
      obtain ⟨hh1, hle, rfl⟩ := hh
      have hmid : base + half < l.length :=
        Nat.lt_of_lt_of_le (Nat.add_lt_add_left (Nat.lt_add_of_pos_left (Nat.lt_of_lt_of_le hh1 hle)) base) h2
      simp only [List.getElem?_eq_getElem hmid]
      refine ih _ _ (Nat.le_of_add_le_add_right (Nat.le_trans (Nat.add_le_add_left hh1 size') hf))
        (Nat.le_trans hh1 hle) ?_ (step size' base half hmid hle hI)
      split
      · exact Nat.le_trans (Nat.add_le_add_left (Nat.le_add_right size' half) base) h2
      · rwa [Nat.add_assoc, Nat.add_comm half]
    · rw [if_neg hsz]
      rw [Nat.le_antisymm (Nat.not_lt.mp hsz) h1] at h2 hI
      exact ⟨base, rfl, h2, hI⟩

theorem bsearch_of_loop {l : List Nat} {x b : Nat} (hl : l.length ≠ 0)
    (hb : bsLoop l x l.length l.length 0 = some b) (hlt : b < l.length) :
    bsearch l x = some (if l[b] = x then (b, true) else (b + (if l[b] < x then 1 else 0), false)) := by
  simp only [bsearch, if_neg hl, hb, List.getElem?_eq_getElem hlt]
  split <;> rfl

/-- memory safety of the two `get_unchecked` calls, for ANY slice (sorted or not): the loop keeps
`base + size ≤ len` and `size ≥ 1` -/
theorem bsearch_in_range (l : List Nat) (x : Nat) : bsearch l x ≠ none := by
  by_cases h0 : l.length = 0
  · simp [bsearch, h0]
  · obtain ⟨b, hb, hlt, _⟩ := bsLoop_inv l x (fun _ _ => True) (fun _ _ _ _ _ _ => trivial)
      l.length l.length 0 (Nat.le_refl _) (Nat.pos_of_ne_zero h0) (Nat.le_of_eq (Nat.zero_add _)) trivial
    rw [bsearch_of_loop h0 hb hlt]
    exact Option.some_ne_none _

theorem bsearch_lower_bound (l : List Nat) (hs : SInc l) (x : Nat) :
    ∃ k, bsearch l x = some (k, decide (l[k]? = some x)) ∧ k ≤ l.length ∧
      (∀ i (h : i < l.length), i < k → l[i] < x) ∧ (∀ i (h : i < l.length), k ≤ i → x ≤ l[i]) := by
  by_cases h0 : l.length = 0
  · rw [List.eq_nil_of_length_eq_zero h0]
    exact ⟨0, rfl, Nat.le_refl _, nofun, nofun⟩
  · -- loop invariant: the lower bound of `x` lies in `[base, base + size]`
    obtain ⟨b, hb, hlt, hlo, hhi⟩ := bsLoop_inv l x
      (fun size base => (∀ i (h : i < l.length), i < base → l[i] < x) ∧
        ∀ i (h : i < l.length), base + size ≤ i → x < l[i])
      (fun size' base half hmid hle ⟨hlo, hhi⟩ => by
        by_cases hp : l[base + half] > x
        · rw [if_pos hp]
          exact ⟨hlo, fun i h hi => Nat.lt_of_lt_of_le hp
            (sinc_getElem_le l hs _ i h (Nat.le_trans (Nat.add_le_add_left hle base) hi))⟩
        · rw [if_neg hp]
          exact ⟨fun i h hi => Nat.lt_of_lt_of_le (sinc_getElem l hs i _ hmid hi) (Nat.not_lt.mp hp),
            fun i h hi => hhi i h (by rwa [Nat.add_assoc, Nat.add_comm half] at hi)⟩)
      l.length l.length 0 (Nat.le_refl _) (Nat.pos_of_ne_zero h0) (Nat.le_of_eq (Nat.zero_add _))
      ⟨nofun, fun i h hi => absurd h (Nat.not_lt.mpr (by rwa [Nat.zero_add] at hi))⟩
    rw [bsearch_of_loop h0 hb hlt]
    by_cases hless : l[b] < x
    · refine ⟨b + 1, ?_, hlt, fun i h hi => ?_, fun i h hi => Nat.le_of_lt (hhi i h hi)⟩
      · have : l[b + 1]? ≠ some x := fun h =>
          let ⟨h', e⟩ := List.getElem?_eq_some_iff.mp h
          Nat.ne_of_gt (hhi (b + 1) h' (Nat.le_refl _)) e
        rw [if_neg (Nat.ne_of_lt hless), if_pos hless, decide_eq_false this]
      · rcases Nat.eq_or_lt_of_le (Nat.le_of_lt_succ hi) with rfl | hi
        · exact hless
        · exact hlo i h hi
    · refine ⟨b, ?_, Nat.le_of_lt hlt, hlo, fun i h hi => ?_⟩
      · rw [List.getElem?_eq_getElem hlt]
        by_cases heq : l[b] = x
        · rw [if_pos heq, heq, decide_eq_true rfl]
        · rw [if_neg heq, if_neg hless, Nat.add_zero, decide_eq_false fun h => heq (Option.some.inj h)]
      · rcases Nat.eq_or_lt_of_le hi with rfl | hi
        · exact Nat.not_lt.mp hless
        · exact Nat.le_of_lt (hhi i h hi)

theorem bsearch_eq_searchIdx (l : List Nat) (hs : SInc l) (x : Nat) : bsearch l x = some (searchIdx l x) := by
  obtain ⟨k, hk, hle, h1, h2⟩ := bsearch_lower_bound l hs x
  rw [hk, searchIdx_of_lower_bound l x k hle h1 h2]

theorem categoriesVec_searchIdx (tab : List (Nat × Nat)) (hs : SInc (fsts tab)) (x : Nat) :
    (if (searchIdx (fsts tab) x).2 then (categoriesVec tab)[(searchIdx (fsts tab) x).1 + 1]?
     else (categoriesVec tab)[(searchIdx (fsts tab) x).1]?) = some (denF tab x) := by
  induction tab with
  | nil => rfl
  | cons p rest ih =>
    obtain ⟨b, c⟩ := p
    rw [fsts_cons] at hs
    rw [fsts_cons, searchIdx, denF]
    by_cases h1 : x < b
    · rw [if_pos h1, if_pos h1]; rfl
    · rw [if_neg h1, if_neg h1]
      by_cases h2 : x = b
      · -- the element after `b`: first entry of the rest (or the trailing DEFAULT)
        rw [if_pos h2]
        cases rest with
        | nil => rfl
        | cons q rest' =>
          obtain ⟨b', c'⟩ := q
          exact congrArg some (if_pos (h2 ▸ hs.1)).symm
      · rw [if_neg h2]
        exact ih hs.tail

theorem lookup_eq_denF (tab : List (Nat × Nat)) (hs : SInc (fsts tab)) (x : Nat) :
    lookup tab x = some (denF tab x) := by
  cases tab with
  | nil => rfl
  | cons p rest =>
    simp only [lookup, List.isEmpty_cons, Bool.false_eq_true, if_false, bsearch_eq_searchIdx _ hs]
    exact categoriesVec_searchIdx (p :: rest) hs x

/-! ## beside: the category column of `InputBuffer::build`; scalar values -/

theorem bufferCats_eq_map (tab : List (Nat × Nat)) (f : Nat → Nat) (h : ∀ x, lookup tab x = some (f x))
    (text : List Nat) : bufferCats tab text = some (text.map f) := by
  induction text with
  | nil => rfl
  | cons c rest ih => rw [bufferCats, h, ih]; rfl

/-- `char::from_u32(n).is_some()` implies `n ≤ char::MAX` -/
theorem isScalar_le {n : Nat} (h : isScalar n = true) : n ≤ charMax := by
  simp [isScalar, charMax] at *
  omega

end CharCat
