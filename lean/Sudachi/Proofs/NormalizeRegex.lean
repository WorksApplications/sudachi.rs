import Sudachi.Proofs.Normalize
/-!
# Declarative specifications of the two regular expressions of the input-text plugins (C07)

`ProlongedSoundMarkPlugin` builds `[marks]{2,}` and uses `find_iter`; `IgnoreYomiganaPlugin` builds
`K(L R{1,n} B)` (`K` kanji class, `L`/`B` bracket sets, `R` kana class) and uses `captures_iter`, deleting
group 1.  `RE` is a small regular-expression syntax (class, sequence, counted repetition) with its standard
language `RE.lang`.  The two patterns are written down as `RE` values following the pattern text token by
token, and the hand-written matchers of `Model/Normalize.lean` (`takeWhile`-run, `yomiAt`/`backtrack`,
`psmGo`, `yomiGo`) are proved equal to what the regex engine is documented to compute from that language:
the match at a position is the LONGEST prefix in the language (both patterns have a single greedy
repetition over one class and fixed-width rest, so the engine's leftmost-first preference "more iterations
first" is "longest"), and `find_iter`/`captures_iter` report, scanning from the left, the match at the first
position that has one and continue behind its end (`FindIter`; neither pattern matches the empty string).
What stays trusted: this reading of the engine, and the transcription of the pattern text / the classes.
-/
namespace Normalize

inductive RE where
  | cls (p : Nat → Bool) : RE                       -- `[...]`
  | seq (a b : RE) : RE
  | rep (a : RE) (lo : Nat) (hi : Option Nat) : RE  -- `a{lo,hi}` / `a{lo,}`

def RE.lang : RE → List Nat → Prop
  | .cls p, u => ∃ c, u = [c] ∧ p c = true
  | .seq a b, u => ∃ x y, u = x ++ y ∧ a.lang x ∧ b.lang y
  | .rep a lo hi, u => ∃ us : List (List Nat), u = us.flatten ∧ (∀ x ∈ us, a.lang x) ∧ lo ≤ us.length ∧
      (∀ h, hi = some h → us.length ≤ h)

theorem flatten_singletons (p : Nat → Bool) : ∀ (us : List (List Nat)), (∀ x ∈ us, ∃ c, x = [c] ∧ p c = true) →
    us.flatten.length = us.length ∧ ∀ c ∈ us.flatten, p c = true := by
  intro us
  induction us with
  | nil => intro _; simp
  | cons x xs ih =>
    intro h
    obtain ⟨⟨c, rfl, hc⟩, hxs⟩ := List.forall_mem_cons.mp h
    exact ⟨congrArg (· + 1) (ih hxs).1, List.forall_mem_cons.mpr ⟨hc, (ih hxs).2⟩⟩

theorem lang_rep_cls (p : Nat → Bool) (lo : Nat) (hi : Option Nat) (u : List Nat) :
    (RE.rep (.cls p) lo hi).lang u ↔ lo ≤ u.length ∧ (∀ h, hi = some h → u.length ≤ h) ∧ ∀ c ∈ u, p c = true := by
  constructor
  · rintro ⟨us, rfl, hall, hlo, hhi⟩
    obtain ⟨h1, h2⟩ := flatten_singletons p us hall
    exact ⟨h1 ▸ hlo, fun h hh => h1 ▸ hhi h hh, h2⟩
  · rintro ⟨hlo, hhi, hall⟩
    refine ⟨u.map (fun c => [c]), (List.flatMap_singleton' u).symm.trans List.flatMap_def, ?_,
      by rw [List.length_map]; exact hlo, fun h hh => by rw [List.length_map]; exact hhi h hh⟩
    intro x hx
    obtain ⟨c, hc, rfl⟩ := List.mem_map.mp hx
    exact ⟨c, rfl, hall c hc⟩

/-- the engine's match at the head of `s`: the longest prefix of `s` in the language -/
def LongestPrefix (L : List Nat → Prop) (s : List Nat) (n : Nat) : Prop :=
  n ≤ s.length ∧ L (s.take n) ∧ ∀ m, m ≤ s.length → L (s.take m) → m ≤ n

/-- `find_iter` / `captures_iter` for a pattern that does not match the empty string: `M rest n` = "the match
at the head of `rest` has length `n`"; the result lists the matches as (start, end) -/
inductive FindIter (M : List Nat → Nat → Prop) : Nat → List Nat → List (Nat × Nat) → Prop
  | nil (pos : Nat) : FindIter M pos [] []
  | skip (pos c : Nat) (cs : List Nat) (ms : List (Nat × Nat)) : (∀ n, ¬ M (c :: cs) n) →
      FindIter M (pos + 1) cs ms → FindIter M pos (c :: cs) ms
  | hit (pos c : Nat) (cs : List Nat) (n : Nat) (ms : List (Nat × Nat)) : M (c :: cs) n →
      FindIter M (pos + n) ((c :: cs).drop n) ms → FindIter M pos (c :: cs) ((pos, pos + n) :: ms)

def rePsm (marks : List Nat) : RE := .rep (.cls marks.contains) 2 none

theorem psm_lang (marks u : List Nat) :
    (rePsm marks).lang u ↔ 2 ≤ u.length ∧ ∀ c ∈ u, marks.contains c = true := by
  unfold rePsm
  rw [lang_rep_cls]
  constructor
  · rintro ⟨h1, _, h3⟩; exact ⟨h1, h3⟩
  · rintro ⟨h1, h3⟩; exact ⟨h1, (fun _ hh => by cases hh), h3⟩

theorem psm_run_spec (marks s : List Nat) :
    (2 ≤ (s.takeWhile marks.contains).length →
      LongestPrefix (rePsm marks).lang s (s.takeWhile marks.contains).length) ∧
    (¬ 2 ≤ (s.takeWhile marks.contains).length → ∀ n, ¬ LongestPrefix (rePsm marks).lang s n) := by
  have hle : (s.takeWhile marks.contains).length ≤ s.length := (List.takeWhile_sublist _).length_le
  have hupper : ∀ m, m ≤ s.length → (rePsm marks).lang (s.take m) → m ≤ (s.takeWhile marks.contains).length := by
    intro m hm hl
    obtain ⟨_, hall⟩ := (psm_lang marks _).mp hl
    exact le_takeWhile_of_all marks.contains s m hm hall
  constructor
  · intro h2
    refine ⟨hle, (psm_lang marks _).mpr ⟨by rw [List.length_take_of_le hle]; exact h2, ?_⟩, hupper⟩
    exact take_of_le_takeWhile marks.contains s _ (Nat.le_refl _)
  · intro h2 n ⟨hn, hl, _⟩
    obtain ⟨h3, _⟩ := (psm_lang marks _).mp hl
    rw [List.length_take_of_le hn] at h3
    exact h2 (Nat.le_trans h3 (hupper n hn hl))

theorem psmGo_find_iter (marks rep : List Nat) (pos : Nat) (s : List Nat) :
    FindIter (LongestPrefix (rePsm marks).lang) pos s ((psmGo marks rep pos s).map (fun e => (e.s, e.e))) ∧
    ∀ e ∈ psmGo marks rep pos s, e.rep = rep := by
  fun_induction psmGo marks rep pos s with
  | case1 pos => exact ⟨FindIter.nil pos, nofun⟩
  | case2 pos c cs h ih =>
    refine ⟨?_, ?_⟩
    · simp only [List.map_cons]
      exact FindIter.hit pos c cs _ _ ((psm_run_spec marks (c :: cs)).1 h) ih.1
    · exact List.forall_mem_cons.mpr ⟨rfl, ih.2⟩
  | case3 pos c cs h ih =>
    exact ⟨FindIter.skip pos c cs _ ((psm_run_spec marks (c :: cs)).2 h) ih.1, ih.2⟩

/-- the capture group `(L R{1,n} B)` -/
def reYomiGroup (Y : Yomi) : RE :=
  .seq (.cls Y.left.contains) (.seq (.rep (.cls Y.kana) 1 (some Y.max)) (.cls Y.right.contains))

def reYomi (Y : Yomi) : RE := .seq (.cls Y.kanji) (reYomiGroup Y)

theorem yomi_lang (Y : Yomi) (u : List Nat) :
    (reYomi Y).lang u ↔ ∃ k l rd b, u = k :: l :: (rd ++ [b]) ∧ Y.kanji k = true ∧ Y.left.contains l = true ∧
      1 ≤ rd.length ∧ rd.length ≤ Y.max ∧ (∀ x ∈ rd, Y.kana x = true) ∧ Y.right.contains b = true := by
  unfold reYomi reYomiGroup
  constructor
  · rintro ⟨x, y, rfl, ⟨k, rfl, hk⟩, x2, y2, rfl, ⟨l, rfl, hl⟩, x3, y3, rfl, hrep, ⟨b, rfl, hb⟩⟩
    obtain ⟨h1, h2, h3⟩ := (lang_rep_cls _ _ _ _).mp hrep
    exact ⟨k, l, x3, b, by simp, hk, hl, h1, h2 _ rfl, h3, hb⟩
  · rintro ⟨k, l, rd, b, rfl, hk, hl, h1, h2, h3, hb⟩
    refine ⟨[k], l :: (rd ++ [b]), by simp, ⟨k, rfl, hk⟩, [l], rd ++ [b], by simp, ⟨l, rfl, hl⟩, rd, [b], rfl, ?_, ⟨b, rfl, hb⟩⟩
    exact (lang_rep_cls _ _ _ _).mpr ⟨h1, (fun h hh => by cases hh; exact h2), h3⟩

theorem yomi_lang_take {Y : Yomi} {s : List Nat} {m : Nat} (hm : m ≤ s.length)
    (h : (reYomi Y).lang (s.take m)) : ∃ n, m = n + 3 ∧ YomiMatch Y s n := by
  obtain ⟨k, l, rd, b, hu, hk, hl, h1, h2, h3, hb⟩ := (yomi_lang Y _).mp h
  have hlen := congrArg List.length hu
  rw [List.length_take_of_le hm] at hlen
  simp only [List.length_cons, List.length_append, List.length_nil] at hlen
  refine ⟨rd.length, hlen, k, l, rd, b, s.drop m, ?_, hk, hl, rfl, h3, h1, h2, hb⟩
  have := List.take_append_drop m s
  rw [hu] at this
  exact this.symm.trans (by simp only [List.cons_append, List.append_assoc, List.nil_append])

theorem yomiMatch_iff_lang (Y : Yomi) (s : List Nat) (n : Nat) :
    YomiMatch Y s n ↔ n + 3 ≤ s.length ∧ (reYomi Y).lang (s.take (n + 3)) := by
  constructor
  · rintro ⟨k, l, rd, b, rest, rfl, hk, hl, rfl, hkana, h1, h2, hb⟩
    refine ⟨span_length_le, (yomi_lang Y _).mpr ?_⟩
    refine ⟨k, l, rd, b, ?_, hk, hl, h1, h2, hkana, hb⟩
    rw [List.take_succ_cons, List.take_succ_cons, List.take_length_add_append, List.take_succ_cons, List.take_zero]
  · rintro ⟨hlen, hl⟩
    obtain ⟨n', e, hm⟩ := yomi_lang_take hlen hl
    rwa [Nat.add_right_cancel e]

theorem yomiAt_regex_spec (Y : Yomi) (s : List Nat) :
    (∀ n, yomiAt Y s = some n → LongestPrefix (reYomi Y).lang s (n + 3)) ∧
    (yomiAt Y s = none → ∀ m, ¬ LongestPrefix (reYomi Y).lang s m) := by
  constructor
  · intro n h
    obtain ⟨hlen, hl⟩ := (yomiMatch_iff_lang Y s n).mp (yomiAt_sound h)
    refine ⟨hlen, hl, fun m hm hlm => ?_⟩
    obtain ⟨n', rfl, hmm⟩ := yomi_lang_take hm hlm
    exact Nat.add_le_add_right (yomiAt_longest h n' hmm) 3
  · intro h m ⟨hm, hlm, _⟩
    obtain ⟨n', _, hmm⟩ := yomi_lang_take hm hlm
    exact yomiAt_none h n' hmm

theorem yomiGo_captures_iter (Y : Yomi) (pos : Nat) (s : List Nat) :
    FindIter (LongestPrefix (reYomi Y).lang) pos s ((yomiGo Y pos s).map (fun e => (e.s - 1, e.e))) ∧
    ∀ e ∈ yomiGo Y pos s, e.rep = [] ∧ 1 ≤ e.s := by
  fun_induction yomiGo Y pos s with
  | case1 pos => exact ⟨FindIter.nil pos, nofun⟩
  | case2 pos c cs k h ih =>
    refine ⟨?_, ?_⟩
    · simp only [List.map_cons, Nat.add_sub_cancel]
      rw [Nat.add_assoc pos k 3] at ih ⊢
      exact FindIter.hit pos c cs (k + 3) _ ((yomiAt_regex_spec Y (c :: cs)).1 k h) ih.1
    · exact List.forall_mem_cons.mpr ⟨⟨rfl, Nat.le_add_left 1 pos⟩, ih.2⟩
  | case3 pos c cs h ih =>
    exact ⟨FindIter.skip pos c cs _ ((yomiAt_regex_spec Y (c :: cs)).2 h) ih.1, ih.2⟩

end Normalize
