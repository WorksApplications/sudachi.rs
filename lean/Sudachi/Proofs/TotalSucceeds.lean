import Sudachi.Proofs.Partition
/-!
# The stages of `do_tokenize` from the lattice on: they do not panic; within the cost bound `connect_eos` finds a path and
they return; the morphemes lie inside the text

* `bestPath_index`, `analyse_noPanic`: the walk of `fill_top_path` returns a chain of entries over the text
  (`Partition.bestPath_chain`), so it and the look-ups of `resolve_best_path` stay in range; what is left of "no panic" is
  the rewrite stage and `split_path`;
* `lattice_connects`: `build_lattice = ok` ⇒ all inserts succeed and `connect_eos` returns a cost (no `EosBosDisconnect`).
  Within the bound the `i32` lattice is the unbounded lattice of C02 (`Vit.buildAll_rep`, `Vit.connectEos_rep`), whose
  `connect_eos` fails only if no chain of candidates covers the text (`Vit.eos_min`); the candidates of `Oov.buildFrom` are
  non-empty, come in order of begin (`Oov.buildFrom_sorted`), and every position the loop reached is the end of a chain
  from BOS (`isChain_to`, from `Oov.LatInv.node_ok`);
* `analyse_ok`: with the fallback provider last every stage from the lattice on then returns, so `analyse` returns a result;
* `InText` and the `*_inText` lemmas (for `C03.morpheme_offsets_defined_partial`): the offsets of a node of the best path, and of
  every unit the repaired split iterator makes of it, lie inside the rewritten text.
-/
namespace Total
open Oov (Outcome)

/-! ## the best path: the walk and `resolve_best_path` stay in range -/

/-- after a `connect_eos` that succeeded, the walk of `fill_top_path` along the back-pointers stays in range, ends within
`len + 1` steps, visits only nodes inside the text (it returns a chain: `Partition.bestPath_chain`), and the `mod_c2b` look-ups
of `resolve_best_path` for those nodes are in range in every text with at least `len` character starts — whatever the
addition and the costs are -/
theorem bestPath_index (add : Int → Int → Option Int) (conn : Nat → Nat → Int) (len : Nat) (hlen : 1 ≤ len ∧ len ≤ 65535)
    (rows : Rows) (hinv : PathInv len [] rows) (c : Int) (pe pi : Nat)
    (he : connectEos add I32_MAX conn rows len = .ok (c, pe, pi)) (t : List Nat) (ht : len ≤ EditM.nchars t) :
    pe = len ∧ ∃ path, topPath rows (len + 1) (pe, pi) [] = .ok path ∧
      (∀ x ∈ path, x.node.b < x.node.e ∧ x.node.e ≤ len) ∧
      ∃ rs, mapM (resultNode (EditM.c2b t)) path = .ok rs := by
  obtain ⟨hpe, path, g1, g2⟩ := Partition.bestPath_chain hlen hinv he
  have g3 : ∀ x ∈ path, x.node.b < x.node.e ∧ x.node.e ≤ len := fun x hx =>
    ⟨Partition.EChain.fwd path 0 len g2 x hx, (Partition.EChain.ends_le path 0 len g2).2 x hx⟩
  refine ⟨hpe, path, g1, g3, mapM_ok _ path fun x hx => ?_⟩
  obtain ⟨a1, a2⟩ := g3 x hx
  have hl := EditM.c2b_length t
  have hb := List.getElem?_eq_getElem (show x.node.b < (EditM.c2b t).length by omega)
  have he := List.getElem?_eq_getElem (show x.node.e < (EditM.c2b t).length by omega)
  exact ⟨_, by simp only [resultNode, hb, he]; rfl⟩

/-- **`analyse` does not panic if the rewrite stage and `split_path` do not**: inside the bounds the lattice stages end in `EosBosDisconnect`
or hand the path of `resolve_best_path` to the rewrite stage, so what is left to show (`htail`) is that the rewrite stage
and `split_path` do not panic on a path that was reached this way -/
theorem analyse_noPanic (v : SplitV) (cfg : Cfg) (l : List (EditM.P Nat)) (chars : List Nat) (hne : chars ≠ [])
    (hlen : chars.length ≤ 32767) (hnc : chars.length ≤ EditM.nchars (EditM.textOf l))
    (hlat : NoPanic (Oov.buildLattice cfg.providers cfg.lex (cfg.mkBuf chars)))
    (hbuf : BufOk (cfg.mkBuf chars)) (hchars : (cfg.mkBuf chars).chars.length = chars.length)
    (hconn : I16Conn cfg.conn)
    (hcost : ∀ nodes, Oov.buildLattice cfg.providers cfg.lex (cfg.mkBuf chars) = .ok nodes →
      ∀ x ∈ nodes, I16 x.c)
    (hrowsz : ∀ nodes, Oov.buildLattice cfg.providers cfg.lex (cfg.mkBuf chars) = .ok nodes →
      ∀ e, (nodes.map toVit).countP (fun n => n.e == e) ≤ 4294967295)
    (htail : ∀ rows c pi es path, PathInv chars.length [] rows →
      connectEos addI32 I32_MAX cfg.conn rows chars.length = .ok (c, chars.length, pi) →
      topPath rows (chars.length + 1) (chars.length, pi) [] = .ok es →
      mapM (resultNode (EditM.c2b (EditM.textOf l))) es = .ok path →
      NoPanic (cfg.rewrite path) ∧ ∀ path', cfg.rewrite path = .ok path' →
        NoPanic (splitPath v (EditM.b2c (EditM.textOf l)) (EditM.c2b (EditM.textOf l)) path')) :
    NoPanic (analyse v cfg l chars) := by
  unfold analyse
  refine bind_noPanic _ _ hlat fun nodes h3 => ?_
  have hin := buildLattice_cand cfg.providers cfg.lex (cfg.mkBuf chars) hbuf nodes h3
  rw [hchars] at hin
  have hnodes := toVit_nodeOk chars.length (by omega) nodes hin (hcost nodes h3)
  -- for `i16` costs and at most 32767 characters every `insert` succeeds
  obtain ⟨rows, ents, hb, _, heos⟩ := Vit.buildAll_connectEos_ok cfg.conn hconn chars.length hlen (nodes.map toVit) hnodes
  have hpinv := buildAll_pathInv addI32 cfg.conn chars.length (by omega) (nodes.map toVit) (reset chars.length) [] rows ents
    (reset_pathInv chars.length _ (hrowsz nodes h3)) (fun n hn => ⟨(hnodes n hn).1, (hnodes n hn).2.1⟩) hb
  rw [hb, ok_bind]
  rcases heos with ⟨⟨c, pe, pi⟩, he⟩ | he
  · -- from the back-pointer `connect_eos` returns, `fill_top_path` and `resolve_best_path` succeed
    obtain ⟨rfl, es, h5, _, path, h6⟩ := bestPath_index addI32 cfg.conn chars.length
      ⟨List.length_pos_iff.mpr hne, by omega⟩ rows hpinv c pe pi he (EditM.textOf l) hnc
    rw [he, ok_bind, h5, ok_bind, h6, ok_bind]
    obtain ⟨hrew, hsplit⟩ := htail rows c pi es path hpinv he h5 h6
    exact bind_noPanic _ _ hrew fun path' h7 => bind_noPanic _ _ (hsplit path' h7) fun ms _ w h => by cases h
  · rw [he]; intro w h; cases h

/-! ## the lattice connects -/

/-- every position the position loop has reached is the end of a chain of candidates from BOS: a candidate begins at 0
or where another one ends (`Oov.LatInv.node_ok`) -/
theorem isChain_to (len : Nat) (h16 : len ≤ 65535) (nodes : List Oov.Node) (hinv : Oov.LatInv len nodes len) :
    ∀ (k q : Nat), q < k → Oov.reachable nodes q = true →
      ∃ ws, Vit.IsChain (nodes.map toVit) Vit.bos ws ∧ Vit.lastEnd Vit.bos ws = q := by
  intro k
  induction k with
  | zero => intro q h; exact absurd h (Nat.not_lt_zero _)
  | succ k ih =>
    intro q hq hr
    simp only [Oov.reachable, Bool.or_eq_true, beq_iff_eq, List.any_eq_true] at hr
    rcases hr with rfl | ⟨y, hy, rfl⟩
    · exact ⟨[], trivial, rfl⟩
    · obtain ⟨_, hbe, hle, hrb⟩ := hinv.node_ok y hy
      obtain ⟨e1, e2⟩ := toVit_be len h16 y ⟨hbe, hle⟩
      obtain ⟨ws, hc, hl⟩ := ih y.b (Nat.lt_of_lt_of_le hbe (Nat.le_of_lt_succ hq)) hrb
      refine ⟨ws ++ [toVit y], (Vit.isChain_snoc _ _ ws Vit.bos).mpr ⟨hc, List.mem_map.mpr ⟨y, hy, rfl⟩, ?_⟩, ?_⟩
      · rw [e1, Vit.lastNode_e, hl]
      · rw [← Vit.lastNode_e, Vit.lastNode_snoc, e2]

/-- **within the cost bound the lattice connects**: for a well-formed buffer of at most 32767 characters, `i16` word and
connection costs, every `insert` of the candidates of `build_lattice` succeeds and `connect_eos` returns a cost —
neither an overflow nor `EosBosDisconnect` (the argument: head of this file) -/
theorem lattice_connects (ps : List Oov.Provider) (lex : List Oov.Word) (buf : Oov.Buf) (hwf : buf.WF)
    (conn : Nat → Nat → Int) (hconn : I16Conn conn) (hlen : buf.chars.length ≤ 32767)
    (nodes : List Oov.Node) (h : Oov.buildLattice ps lex buf = .ok nodes)
    (hcost : ∀ x ∈ nodes, -32768 ≤ x.c ∧ x.c ≤ 32767) :
    ∃ rows ents r, buildAll addI32 I32_MAX conn (nodes.map toVit) (reset buf.chars.length) [] = .ok (rows, ents) ∧
      connectEos addI32 I32_MAX conn rows buf.chars.length = .ok r := by
  have hin := buildLattice_cand ps lex buf (wf_bufOk buf hwf) nodes h
  have hns := (Oov.buildLattice_ok h).1
  have h16 : buf.chars.length ≤ 65535 := Nat.le_trans hlen (by decide)
  have hnodes := toVit_nodeOk buf.chars.length h16 nodes hin hcost
  have hwfF : Vit.WF (nodes.map toVit) := fun n hn => (hnodes n hn).1
  have hs : (nodes.map toVit).Pairwise (fun a b => a.b ≤ b.b) := by
    refine List.pairwise_map.mpr ((Oov.buildFrom_sorted ps lex buf hwf nodes hns).imp_of_mem fun {a b} ha hb hab => ?_)
    rw [(toVit_be _ h16 a (hin a ha)).1, (toVit_be _ h16 b (hin b hb)).1]; exact hab
  obtain ⟨ws, hc, hl⟩ := isChain_to _ h16 nodes (Oov.buildFrom_latInv hwf hns) _ _ (Nat.lt_succ_self _)
    (Oov.buildFrom_end_reachable hwf hns)
  obtain ⟨rows, ents, g1, g2, g3⟩ := Vit.buildAll_rep conn hconn _ hlen _ (reset _) Vit.init [] (reset_inv _)
    (Vit.reset_rep _) hnodes
  have he := Vit.connectEos_rep conn hconn _ hlen rows _ g2 g3
  obtain ⟨v, hv, _⟩ := (Vit.eos_min conn _ hwfF (Vit.ordered_of_sorted _ hwfF hs) buf.chars.length).le ⟨ws, hc, hl, rfl⟩
  obtain ⟨j, hj⟩ := Vit.connect_argmin conn _ _ v hv
  rw [hj] at he
  exact ⟨rows, ents, _, g1, he⟩

/-- **inside the cost bound, with the fallback provider last, every stage from the lattice on returns**: `build_lattice`
returns candidates, they connect (`lattice_connects`), the walk and `resolve_best_path` succeed (`bestPath_index`), and the
repaired `split_path` cannot fail; what is asked is that the rewrite stage returns a path whose nodes end inside the text when
it is given one (`hrewin`) -/
theorem analyse_ok (cfg : Cfg) (l : List (EditM.P Nat)) (chars : List Nat) (hne : chars ≠ [])
    (hlen : chars.length ≤ 32767) (hnc : chars.length ≤ EditM.nchars (EditM.textOf l))
    (sc : Oov.SimpleCfg) (hlast : cfg.providers.getLast? = some (.simple sc)) (hrx : RegexRepaired cfg.providers)
    (hwf : (cfg.mkBuf chars).WF) (hchars : (cfg.mkBuf chars).chars.length = chars.length) (hconn : I16Conn cfg.conn)
    (hcost : ∀ nodes, Oov.buildLattice cfg.providers cfg.lex (cfg.mkBuf chars) = .ok nodes → ∀ x ∈ nodes, I16 x.c)
    (hrowsz : ∀ nodes, Oov.buildLattice cfg.providers cfg.lex (cfg.mkBuf chars) = .ok nodes →
      ∀ e, (nodes.map toVit).countP (fun n => n.e == e) ≤ 4294967295)
    (hrewin : ∀ path, (∀ q ∈ path, q.eb ≤ (EditM.textOf l).length) →
      ∃ path', cfg.rewrite path = .ok path' ∧ ∀ p ∈ path', p.1.eb ≤ (EditM.textOf l).length) :
    ∃ ms, analyse .d6fix cfg l chars = .ok ⟨l, ms⟩ := by
  obtain ⟨nodes, h3⟩ := buildLattice_returns cfg.providers sc hlast hrx cfg.lex _ hwf
  obtain ⟨rows, ents, ⟨c, pe, pi⟩, h4, h5⟩ := lattice_connects cfg.providers cfg.lex _ hwf cfg.conn hconn
    (by rw [hchars]; exact hlen) nodes h3 (hcost nodes h3)
  rw [hchars] at h4 h5
  have hin := buildLattice_cand _ _ _ (wf_bufOk _ hwf) nodes h3
  rw [hchars] at hin
  have hpinv := buildAll_pathInv addI32 cfg.conn chars.length (by omega) _ _ [] rows ents
    (reset_pathInv _ _ (hrowsz nodes h3)) (toVit_inside chars.length (by omega) nodes hin) h4
  have hpos := List.length_pos_iff.mpr hne
  obtain ⟨_, es, h6, _, path, h7⟩ := bestPath_index addI32 cfg.conn chars.length ⟨hpos, by omega⟩ rows hpinv c pe pi h5
    (EditM.textOf l) hnc
  obtain ⟨path', h8, hin'⟩ := hrewin path fun q hq => by
    obtain ⟨ent, _, hf⟩ := mapM_mem _ es path h7 q hq
    exact (resultNode_bytes_le _ ent q hf).2
  obtain ⟨ms, h9⟩ := splitPath_d6fix_ok _ _ _ (tables_of_text _ (Nat.le_trans hpos hnc)) path' hin'
  refine ⟨ms, ?_⟩
  unfold analyse
  rw [h3, ok_bind, h4, ok_bind, h5, ok_bind, h6, ok_bind, h7, ok_bind, h8, ok_bind, h9, ok_bind]

/-! ## the morphemes of a result lie inside the rewritten text -/

def InText (t : List Nat) (n : NodeRange) : Prop :=
  n.bc ≤ EditM.nchars t ∧ n.ec ≤ EditM.nchars t ∧ n.bb ≤ t.length ∧ n.eb ≤ t.length

theorem unitEnd_d6fix_inText (t : List Nat) (h1 : 1 ≤ EditM.nchars t) (byteEnd bs h ce be : Nat)
    (hu : unitEnd .d6fix (EditM.b2c t) (EditM.c2b t) byteEnd bs h = .ok (ce, be)) :
    ce ≤ EditM.nchars t ∧ be ≤ t.length := by
  unfold unitEnd at hu
  simp only [] at hu
  split at hu
  · cases hu
  · rename_i c hc
    split at hu
    · cases hu
    · rename_i b hb
      cases hu
      have a1 := b2c_getElem_le t h1 _ _ hc
      have a2 := (EditM.c2b_getElem_boOf hb).2
      have b1 := asU16_le c
      have b2 := asU16_le b
      omega

theorem splitGo_d6fix_inText (t : List Nat) (h1 : 1 ≤ EditM.nchars t) (charEnd byteEnd : Nat)
    (hce : charEnd ≤ EditM.nchars t) (hbe : byteEnd ≤ t.length) :
    ∀ (units : List Nat) (cs bs : Nat) (us : List NodeRange),
      splitGo .d6fix (EditM.b2c t) (EditM.c2b t) charEnd byteEnd units cs bs = .ok us →
      cs ≤ EditM.nchars t → bs ≤ t.length → ∀ u ∈ us, InText t u
  | [], _, _, us, h, _, _ => by simp only [splitGo] at h; cases h; intro u hu; cases hu
  | [_], cs, bs, us, h, hcs, hbs => by
    simp only [splitGo] at h; cases h
    intro u hu
    simp only [List.mem_singleton] at hu
    subst hu
    exact ⟨hcs, hce, hbs, hbe⟩
  | h0 :: u0 :: rest, cs, bs, us, h, hcs, hbs => by
    simp only [splitGo] at h
    split at h
    · cases h
    · cases h
    · rename_i ce be hue
      obtain ⟨a1, a2⟩ := unitEnd_d6fix_inText t h1 byteEnd bs h0 ce be hue
      split at h
      · rename_i l hl
        cases h
        intro u hu
        rcases List.mem_cons.mp hu with rfl | hu
        · exact ⟨hcs, a1, hbs, a2⟩
        · exact splitGo_d6fix_inText t h1 charEnd byteEnd hce hbe (u0 :: rest) ce be l hl a1 a2 u hu
      · cases h
      · cases h

theorem splitPath_d6fix_inText (t : List Nat) (h1 : 1 ≤ EditM.nchars t) :
    ∀ (path : List (NodeRange × List Nat)) (us : List NodeRange),
      splitPath .d6fix (EditM.b2c t) (EditM.c2b t) path = .ok us → (∀ p ∈ path, InText t p.1) → ∀ u ∈ us, InText t u
  | [], us, h, _ => by simp only [splitPath] at h; cases h; intro u hu; cases hu
  | (n, units) :: rest, us, h, hp => by
    obtain ⟨a, b, ha, hb, rfl⟩ := splitPath_cons_ok _ _ _ n units rest us h
    have hn : InText t n := hp (n, units) List.mem_cons_self
    intro u hu
    rcases List.mem_append.mp hu with hu | hu
    · split at ha
      · cases ha
        simp only [List.mem_singleton] at hu
        subst hu; exact hn
      · exact splitGo_d6fix_inText t h1 n.ec n.eb hn.2.1 hn.2.2.2 units n.bc n.bb a ha hn.1 hn.2.2.1 u hu
    · exact splitPath_d6fix_inText t h1 rest b hb (fun p hp' => hp p (List.mem_cons_of_mem _ hp')) u hu

theorem resultNode_inText (t : List Nat) (ent : Entry) (r : NodeRange) (h : resultNode (EditM.c2b t) ent = .ok r)
    (hb : ent.node.b ≤ EditM.nchars t) (he : ent.node.e ≤ EditM.nchars t) : InText t r := by
  obtain ⟨a1, a2⟩ := resultNode_bytes_le t ent r h
  unfold resultNode at h
  split at h
  · cases h; exact ⟨hb, he, a1, a2⟩
  · cases h

end Total
