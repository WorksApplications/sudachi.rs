import Sudachi.Model.Layers
import Sudachi.Proofs.Basic
/-!
# Word ids, the lexicon set and the loaded POS list (property C12)

Each model function gets its equation on the inputs it accepts (`widNew_ok`, `append_eq`, `mergeUser_eq`, `load_bind`, …), so
that a successful `load` can be written in closed form (`mergeAll_eq`, `load_spec`): the POS list is
`sys ++ plug ++ own_1 ++ … ++ own_k`, lexicon `j` sits at position `j` with the length the list had at its turn as offset.
From that, `load_getWordInfo` gives the exact word info of every user word, which is what the POS theorems of C12 read off.

`Model/Subset.lean` (C11) transcribes `WordId`, `update_dict_id` and `get_word_info_subset` a second time (`widDic = raw >>> 28`
without the `as u8` of `dicOf`); no lemma relates the two, its re-stamping fact is `Subset.updateDictId_spec`.
-/
namespace Layers
open Basic (pack_div_mod pack_lt)

/-! ## `WordId`: the bit-level packing is `dic * 2^28 + word` -/

theorem P28_pos : 0 < P28 := by decide

theorem and_wordMask (w : Nat) : w &&& WORD_MASK = w % P28 := Nat.and_two_pow_sub_one_eq_mod w 28

theorem and_0xf (d : Nat) : d &&& 0xf = d % 16 := Nat.and_two_pow_sub_one_eq_mod d 4

theorem mkRaw_eq (d w : Nat) : mkRaw d w = (d % 16) * P28 + w % P28 :=
  Basic.wid_pack d w

theorem dicOf_eq (raw : Nat) : dicOf raw = raw / P28 % 256 := by
  unfold dicOf P28
  rw [Nat.shiftRight_eq_div_pow]

theorem wordOf_eq (raw : Nat) : wordOf raw = raw % P28 := and_wordMask raw

theorem dicOf_mkRaw {d : Nat} (w : Nat) (hd : d < 16) : dicOf (mkRaw d w) = d := by
  rw [mkRaw_eq, dicOf_eq, (pack_div_mod P28 _ _ (Nat.mod_lt w P28_pos)).1, Nat.mod_eq_of_lt hd,
    Nat.mod_eq_of_lt (Nat.lt_trans hd (by decide))]

theorem wordOf_mkRaw (d : Nat) {w : Nat} (hw : w < P28) : wordOf (mkRaw d w) = w := by
  rw [mkRaw_eq, wordOf_eq, (pack_div_mod P28 _ _ (Nat.mod_lt w P28_pos)).2, Nat.mod_eq_of_lt hw]

theorem wordOf_lt (raw : Nat) : wordOf raw < P28 := by
  rw [wordOf_eq]; exact Nat.mod_lt raw P28_pos

theorem mkRaw_dicOf_wordOf (raw : Nat) (h : raw < 4294967296) : mkRaw (dicOf raw) (wordOf raw) = raw := by
  have hq : raw / P28 < 16 := Nat.div_lt_of_lt_mul h
  rw [mkRaw_eq, dicOf_eq, wordOf_eq, Nat.mod_eq_of_lt (Nat.lt_trans hq (by decide)), Nat.mod_eq_of_lt hq,
    Nat.mod_mod, Nat.div_add_mod']

theorem mkRaw_bits {d w : Nat} (hd : d < 16) (hw : w < P28) :
    mkRaw d w = (d <<< 28) ||| w ∧ mkRaw d w < 4294967296 := by
  constructor
  · unfold mkRaw
    rw [and_wordMask, and_0xf, Nat.mod_eq_of_lt hw, Nat.mod_eq_of_lt hd]
  · rw [mkRaw_eq]; exact pack_lt (n := 16) (Nat.mod_lt d (by decide)) (Nat.mod_lt w P28_pos)

theorem widNew_ok {d w : Nat} (hd : d < 16) (hw : w < P28) : widNew d w = .ok (mkRaw d w) := by
  unfold widNew
  rw [if_neg (Nat.not_le_of_lt hw), if_neg (Nat.not_le_of_lt hd)]

theorem widChecked_ok {d w : Nat} (hd : d < 16) (hw : w < P28) : widChecked d w = .ok (mkRaw d w) := by
  unfold widChecked
  rw [if_neg (Nat.not_le_of_lt hd), if_neg (Nat.not_le_of_lt hw)]
  exact widNew_ok hd hw

theorem isOov_mkRaw {d : Nat} (w : Nat) (hd : d < 16) : isOov (mkRaw d w) = (d == 15) := by
  unfold isOov; rw [dicOf_mkRaw w hd]

theorem dictionaryId_mkRaw {d : Nat} (w : Nat) (hd : d < 15) : dictionaryId (mkRaw d w) = Int.ofNat d := by
  unfold dictionaryId
  rw [isOov_mkRaw w (Nat.lt_succ_of_lt hd), dicOf_mkRaw w (Nat.lt_succ_of_lt hd),
    beq_false_of_ne (Nat.ne_of_lt hd)]
  rfl

theorem oov_mkRaw (w : Nat) : isOov (mkRaw 15 w) = true ∧ dictionaryId (mkRaw 15 w) = -1 := by
  have h : isOov (mkRaw 15 w) = true := isOov_mkRaw w (by decide)
  exact ⟨h, by unfold dictionaryId; rw [h]; rfl⟩

/-! ## `Outcome` -/

theorem bind_eq_ok {α β : Type} {x : Outcome α} {f : α → Outcome β} {b : β} (h : x.bind f = .ok b) :
    ∃ a, x = .ok a ∧ f a = .ok b := by
  cases x with
  | ok a => exact ⟨a, rfl, h⟩
  | err e => cases h
  | panic w => cases h

theorem mapO_ok_of_all {α β : Type} (f : α → Outcome β) (g : α → β) (l : List α)
    (h : ∀ a ∈ l, f a = .ok (g a)) : mapO f l = .ok (l.map g) := by
  induction l with
  | nil => rfl
  | cons a as ih =>
    rw [mapO, h a List.mem_cons_self, ih (fun x hx => h x (List.mem_cons_of_mem a hx))]
    rfl

theorem mapO_ok_inv {α β : Type} (f : α → Outcome β) (l : List α) (r : List β) (h : mapO f l = .ok r) :
    r.length = l.length ∧ ∀ (i : Nat) (a : α), l[i]? = some a → ∃ b, f a = .ok b ∧ r[i]? = some b := by
  induction l generalizing r with
  | nil => cases h; exact ⟨rfl, fun i a hi => nomatch hi⟩
  | cons a0 as ih =>
    unfold mapO at h
    cases hb : f a0 with
    | err e => rw [hb] at h; cases h
    | panic w => rw [hb] at h; cases h
    | ok b =>
      cases hbs : mapO f as with
      | err e => rw [hb, hbs] at h; cases h
      | panic w => rw [hb, hbs] at h; cases h
      | ok bs =>
        rw [hb, hbs] at h
        cases h
        obtain ⟨hl, hall⟩ := ih bs hbs
        refine ⟨congrArg (· + 1) hl, fun i a hi => ?_⟩
        cases i with
        | zero => cases hi; exact ⟨b, hb, rfl⟩
        | succ i => exact hall i a hi

/-! ## `update_dict_id` -/

/-- `update_dict_id` on one id (`updateDictId_ok`) -/
def restamp (dictId id : Nat) : Nat := if dicOf id > 0 then mkRaw dictId (wordOf id) else id

theorem updateDictId_ok (split : List Nat) {dictId : Nat} (hd : dictId < 16) :
    updateDictId split dictId = .ok (split.map (restamp dictId)) := by
  unfold updateDictId
  apply mapO_ok_of_all
  intro id _
  unfold restamp
  split
  · exact widChecked_ok hd (wordOf_lt id)
  · rfl

theorem restamp_sys (d : Nat) {t : Nat} (h : dicOf t = 0) : restamp d t = t := by
  unfold restamp; rw [h]; rfl

theorem restamp_user {d t : Nat} (hd : d < 16) (h : dicOf t > 0) :
    dicOf (restamp d t) = d ∧ wordOf (restamp d t) = wordOf t := by
  unfold restamp
  rw [if_pos h]
  exact ⟨dicOf_mkRaw _ hd, wordOf_mkRaw d (wordOf_lt t)⟩

/-- the "simplified" `update_dict_id` of `seeded/C12b`: `WordId::from_raw((dict_id << 28) | id.as_raw())` for a user
reference — the compiled dictionary bits are not masked out (NOT the code; kept to state what goes wrong with it) -/
def restampOr (dictId id : Nat) : Nat := if dicOf id > 0 ∧ dicOf id ≠ 15 then (dictId <<< 28) ||| id else id

theorem restampOr_stored {d w : Nat} (hd : d < 16) (hw : w < P28) :
    dicOf (restampOr d (mkRaw 1 w)) = d ||| 1 ∧ wordOf (restampOr d (mkRaw 1 w)) = w := by
  have hor : d ||| 1 < 16 := Nat.or_lt_two_pow (n := 4) hd (by decide)
  have key : restampOr d (mkRaw 1 w) = mkRaw (d ||| 1) w := by
    unfold restampOr
    rw [dicOf_mkRaw w (by decide), if_pos (by decide), (mkRaw_bits (by decide) hw).1,
      (mkRaw_bits hor hw).1, ← Nat.or_assoc, ← Nat.shiftLeft_or_distrib]
  rw [key]
  exact ⟨dicOf_mkRaw w hor, wordOf_mkRaw _ hw⟩

/-! ## `LexiconSet::new` / `append`: ids are positions -/

/-- every lexicon carries its position as id, and the two vectors are parallel -/
def IdsOk (s : LexSet) : Prop :=
  s.lexicons.length = s.posOffsets.length ∧ s.lexicons.length ≤ MAXD ∧ 0 < s.lexicons.length ∧
  ∀ (i : Nat) (l : Lexicon), s.lexicons[i]? = some l → l.lexId = i

theorem IdsOk.get {s : LexSet} (hs : IdsOk s) {i : Nat} {l : Lexicon} (hl : s.lexicons[i]? = some l) :
    i < MAXD ∧ l.lexId = i :=
  ⟨Nat.lt_of_lt_of_le (List.getElem?_eq_some_iff.1 hl).1 hs.2.1, hs.2.2.2 i l hl⟩

theorem LexSet.new_eq (sys : Lexicon) (n : Nat) : LexSet.new sys n = .ok ⟨[{ sys with lexId := 0 }], [0], n⟩ := rfl

theorem idsOk_new (sys : Lexicon) (n : Nat) : IdsOk ⟨[{ sys with lexId := 0 }], [0], n⟩ :=
  ⟨rfl, (by decide : 1 ≤ 15), (by decide : 0 < 1), fun i l hl => match i, hl with | 0, rfl => rfl⟩

theorem append_eq {s : LexSet} (lex : Lexicon) (off : Nat) (h : s.lexicons.length < MAXD) :
    s.append lex off =
      .ok ⟨s.lexicons ++ [{ lex with lexId := s.lexicons.length }], s.posOffsets ++ [off], s.numSystemPos⟩ := by
  unfold LexSet.append LexSet.isFull Lexicon.setDicId
  rw [if_neg (by rw [decide_eq_true_eq]; exact Nat.not_le_of_lt h),
    Nat.mod_eq_of_lt (Nat.lt_trans h (by decide)), if_pos h]

theorem append_full {s : LexSet} (lex : Lexicon) (off : Nat) (h : MAXD ≤ s.lexicons.length) :
    s.append lex off = .err .tooManyDictionaries := by
  unfold LexSet.append LexSet.isFull
  rw [if_pos (decide_eq_true h)]

theorem IdsOk.append {s : LexSet} (hs : IdsOk s) (lex : Lexicon) (off : Nat) (h : s.lexicons.length < MAXD) :
    IdsOk ⟨s.lexicons ++ [{ lex with lexId := s.lexicons.length }], s.posOffsets ++ [off], s.numSystemPos⟩ := by
  refine ⟨by simp only [List.length_append, List.length_singleton, hs.1],
    by simp only [List.length_append, List.length_singleton]; exact h,
    by simp only [List.length_append, List.length_singleton]; exact Nat.succ_pos _, ?_⟩
  intro i l hl
  by_cases hi : i < s.lexicons.length
  · rw [List.getElem?_append_left hi] at hl
    exact hs.2.2.2 i l hl
  · have hlt := (List.getElem?_eq_some_iff.1 hl).1
    rw [List.length_append, List.length_singleton] at hlt
    obtain rfl : i = s.lexicons.length := Nat.le_antisymm (Nat.le_of_lt_succ hlt) (Nat.le_of_not_lt hi)
    rw [List.getElem?_concat_length] at hl
    cases hl
    rfl

theorem append_idsOk {s s' : LexSet} {lex : Lexicon} {off : Nat} (hs : IdsOk s) (h : s.append lex off = .ok s') :
    IdsOk s' := by
  by_cases hlt : s.lexicons.length < MAXD
  · rw [append_eq lex off hlt] at h
    cases h
    exact hs.append lex off hlt
  · rw [append_full lex off (Nat.le_of_not_lt hlt)] at h
    cases h

/-! ## plugin POS -/

theorem registerPos_inv {g g' : List Pos} {p : Pos} {id : Nat} (h : registerPos g p = .ok (g', id)) :
    g' = g ∨ (g' = g ++ [p] ∧ g.length ≤ 65535) := by
  unfold registerPos at h
  by_cases hp : p.length ≠ POS_DEPTH
  · rw [if_pos hp] at h; cases h
  · rw [if_neg hp] at h
    cases hg : getPosId g p with
    | some i => rw [hg] at h; cases h; exact .inl rfl
    | none =>
      rw [hg] at h
      by_cases hl : g.length > 65535
      · rw [if_pos hl] at h; cases h
      · rw [if_neg hl] at h; cases h; exact .inr ⟨rfl, Nat.le_of_not_lt hl⟩

theorem handleUserPos_inv {g g' : List Pos} {p : Pos} {allow : Bool} {id : Nat}
    (h : handleUserPos g p allow = .ok (g', id)) : g' = g ∨ (g' = g ++ [p] ∧ g.length ≤ 65535) := by
  unfold handleUserPos at h
  cases hg : getPosId g p with
  | some i => rw [hg] at h; cases h; exact .inl rfl
  | none =>
    rw [hg] at h
    cases allow with
    | true => exact registerPos_inv h
    | false => cases h

/-- the plugins' registrations extend the list at its end; `register_pos` refuses the 65 537th entry -/
theorem loadPlugins_appends {ps : List (Bool × Pos)} {g g' : List Pos} {ids : List Nat}
    (h : loadPlugins g ps = .ok (g', ids)) : ∃ ext, g' = g ++ ext ∧ (g.length ≤ U16_IDS → g'.length ≤ U16_IDS) := by
  induction ps generalizing g ids with
  | nil => cases h; exact ⟨[], (List.append_nil _).symm, id⟩
  | cons ap rest ih =>
    obtain ⟨allow, p⟩ := ap
    unfold loadPlugins at h
    cases h1 : handleUserPos g p allow with
    | err e => rw [h1] at h; cases h
    | panic w => rw [h1] at h; cases h
    | ok x1 =>
      obtain ⟨g1, id1⟩ := x1
      cases h2 : loadPlugins g1 rest with
      | err e => rw [h1] at h; simp only [h2] at h; cases h
      | panic w => rw [h1] at h; simp only [h2] at h; cases h
      | ok x2 =>
        obtain ⟨g2, ids2⟩ := x2
        rw [h1] at h; simp only [h2] at h
        cases h
        obtain ⟨e2, rfl, hb2⟩ := ih h2
        rcases handleUserPos_inv h1 with rfl | ⟨rfl, hlen⟩
        · exact ⟨e2, rfl, hb2⟩
        · exact ⟨[p] ++ e2, (List.append_assoc g [p] e2).symm ▸ rfl,
            fun _ => hb2 (by rw [List.length_append]; exact Nat.succ_le_succ hlen)⟩

/-! ## `merge_user_dictionary`, one after the other -/

def ownBefore (us : List (List Pos × Lexicon)) (j : Nat) : List Pos := ((us.take j).map (·.1)).flatten

theorem ownBefore_zero (us : List (List Pos × Lexicon)) : ownBefore us 0 = [] := rfl

theorem ownBefore_cons_succ (u : List Pos × Lexicon) (us : List (List Pos × Lexicon)) (j : Nat) :
    ownBefore (u :: us) (j + 1) = u.1 ++ ownBefore us j := rfl

theorem flatten_own_getElem? : ∀ {us : List (List Pos × Lexicon)} {j : Nat} {own : List Pos} {lex : Lexicon},
    us[j]? = some (own, lex) → ∀ {k}, k < own.length →
      ((us.map (·.1)).flatten)[(ownBefore us j).length + k]? = own[k]?
  | u :: us, 0, own, lex, hj, k, hk => by
    cases hj
    rw [ownBefore_zero, List.length_nil, Nat.zero_add, List.map_cons, List.flatten_cons,
      List.getElem?_append_left hk]
  | u :: us, j + 1, own, lex, hj, k, hk => by
    rw [ownBefore_cons_succ, List.length_append, Nat.add_assoc, List.map_cons, List.flatten_cons,
      List.getElem?_append_right (Nat.le_add_right _ _), Nat.add_sub_cancel_left]
    exact flatten_own_getElem? (us := us) hj hk

theorem mergeUser_eq {d : Dict} (own : List Pos) (lex : Lexicon) (h : d.set.lexicons.length < MAXD) :
    mergeUser d own lex = .ok ⟨d.posList ++ own, ⟨d.set.lexicons ++ [{ lex with lexId := d.set.lexicons.length }],
      d.set.posOffsets ++ [d.posList.length], d.set.numSystemPos⟩⟩ := by
  unfold mergeUser; rw [append_eq _ _ h]; rfl

theorem mergeUser_full {d : Dict} (own : List Pos) (lex : Lexicon) (h : MAXD ≤ d.set.lexicons.length) :
    mergeUser d own lex = .err .tooManyDictionaries := by
  unfold mergeUser; rw [append_full _ _ h]

theorem mergeUser_room {d d' : Dict} {own : List Pos} {lex : Lexicon} (h : mergeUser d own lex = .ok d') :
    d.set.lexicons.length < MAXD :=
  Nat.lt_of_not_le fun hfull => by rw [mergeUser_full own lex hfull] at h; cases h

/-- the dictionary a successful `mergeAll` returns, in closed form: every user dictionary is appended at the position
it has in the list, with the length the POS list had when its turn came as offset -/
theorem mergeAll_eq {us : List (List Pos × Lexicon)} {d D : Dict} (h : mergeAll d us = .ok D) :
    D.posList = d.posList ++ (us.map (·.1)).flatten ∧
    D.set.lexicons = d.set.lexicons ++ us.mapIdx (fun j u => ⟨u.2.words, d.set.lexicons.length + j, u.2.hits⟩) ∧
    D.set.posOffsets = d.set.posOffsets ++ us.mapIdx (fun j _ => d.posList.length + (ownBefore us j).length) ∧
    D.set.numSystemPos = d.set.numSystemPos ∧ (IdsOk d.set → IdsOk D.set) := by
  induction us generalizing d with
  | nil =>
    cases h
    exact ⟨(List.append_nil _).symm, (List.append_nil _).symm, (List.append_nil _).symm, rfl, id⟩
  | cons u rest ih =>
    obtain ⟨own0, lex0⟩ := u
    unfold mergeAll at h
    by_cases hlt : d.set.lexicons.length < MAXD
    · rw [mergeUser_eq own0 lex0 hlt] at h
      obtain ⟨r1, r2, r3, r4, r5⟩ := ih h
      refine ⟨?_, ?_, ?_, r4, fun hd => r5 (hd.append lex0 _ hlt)⟩
      · rw [r1, List.map_cons, List.flatten_cons, List.append_assoc]
      · rw [r2, List.mapIdx_cons, List.append_assoc]
        simp only [List.length_append, List.length_singleton, List.singleton_append, Nat.add_zero, Nat.add_assoc,
          Nat.add_comm 1]
      · rw [r3, List.mapIdx_cons, List.append_assoc]
        simp only [List.length_append, List.singleton_append, ownBefore_zero, ownBefore_cons_succ, List.length_nil,
          Nat.add_zero, Nat.add_assoc]
    · rw [mergeUser_full own0 lex0 (Nat.le_of_not_lt hlt)] at h
      cases h

theorem mergeAll_err_full (us : List (List Pos × Lexicon)) (d : Dict) (hd : d.set.lexicons.length ≤ MAXD)
    (h : MAXD < d.set.lexicons.length + us.length) : mergeAll d us = .err .tooManyDictionaries := by
  induction us generalizing d with
  | nil => exact absurd hd (Nat.not_le_of_lt h)
  | cons u rest ih =>
    unfold mergeAll
    by_cases hlt : d.set.lexicons.length < MAXD
    · rw [mergeUser_eq u.1 u.2 hlt]
      apply ih
      · rw [List.length_append]; exact hlt
      · rw [List.length_append, List.length_singleton, Nat.add_assoc, Nat.add_comm 1]; exact h
    · rw [mergeUser_full u.1 u.2 (Nat.le_of_not_lt hlt)]

theorem mergeAll_ok_of_room (us : List (List Pos × Lexicon)) (d : Dict)
    (h : d.set.lexicons.length + us.length ≤ MAXD) : ∃ D, mergeAll d us = .ok D := by
  induction us generalizing d with
  | nil => exact ⟨d, rfl⟩
  | cons u rest ih =>
    unfold mergeAll
    rw [mergeUser_eq u.1 u.2 (Nat.lt_of_lt_of_le (Nat.lt_add_of_pos_right (Nat.succ_pos _)) h)]
    apply ih
    rw [List.length_append, List.length_singleton, Nat.add_assoc, Nat.add_comm 1]; exact h

/-! ## `from_cfg_storage` -/

section load
variable {sys : List Pos} {sysLex : Lexicon} {plugs : List (Bool × Pos)} {us : List (List Pos × Lexicon)} {D : Dict}

theorem load_bind : load sys sysLex plugs us = (loadPlugins sys plugs).bind fun gi =>
    mergeAll ⟨gi.1, ⟨[{ sysLex with lexId := 0 }], [0], sys.length⟩⟩ us := by
  unfold load; cases loadPlugins sys plugs <;> rfl

theorem load_eq {g : List Pos} {ids : List Nat} (hp : loadPlugins sys plugs = .ok (g, ids)) :
    load sys sysLex plugs us = mergeAll ⟨g, ⟨[{ sysLex with lexId := 0 }], [0], sys.length⟩⟩ us := by
  rw [load_bind, hp]; rfl

/-- what a successful `from_cfg_storage` leaves behind; `plug` = the POS the plugins appended to the system list -/
structure Loaded (sys : List Pos) (sysLex : Lexicon) (plugs : List (Bool × Pos)) (us : List (List Pos × Lexicon))
    (D : Dict) (plug : List Pos) (ids : List Nat) : Prop where
  plugins : loadPlugins sys plugs = .ok (sys ++ plug, ids)
  idsOk : IdsOk D.set
  posList : D.posList = sys ++ plug ++ (us.map (·.1)).flatten
  numSystemPos : D.set.numSystemPos = sys.length
  length : D.set.lexicons.length = 1 + us.length
  system : D.set.lexicons[0]? = some { sysLex with lexId := 0 }
  user : ∀ {j own lex}, us[j]? = some (own, lex) →
    D.set.lexicons[1 + j]? = some { lex with lexId := 1 + j } ∧
    D.set.posOffsets[1 + j]? = some (sys.length + plug.length + (ownBefore us j).length)

theorem load_spec (h : load sys sysLex plugs us = .ok D) : ∃ plug ids, Loaded sys sysLex plugs us D plug ids := by
  rw [load_bind] at h
  obtain ⟨⟨g, ids⟩, hp, h⟩ := bind_eq_ok h
  obtain ⟨plug, rfl, _⟩ := loadPlugins_appends hp
  obtain ⟨r1, r2, r3, r4, r5⟩ := mergeAll_eq h
  refine ⟨plug, ids, hp, r5 (idsOk_new sysLex sys.length), r1, r4, ?_, ?_, ?_⟩
  · rw [r2, List.length_append, List.length_mapIdx]; rfl
  · rw [r2]; rfl
  · intro j own lex hj
    rw [r2, r3]
    simp only [List.singleton_append, List.length_singleton, List.length_append, Nat.add_comm 1,
      List.getElem?_cons_succ, List.getElem?_mapIdx, hj, Option.map_some, and_self]

end load

/-! ## `lookup` and `get_word_info_subset` -/

def stamped (l : Lexicon) : List (Nat × Nat) := l.hits.map (fun h => (mkRaw l.lexId h.1, h.2))

theorem lexicon_lookup_ok (l : Lexicon) (hid : l.lexId < MAXD) (hw : ∀ h ∈ l.hits, h.1 < P28) :
    l.lookup = .ok (stamped l) := by
  unfold Lexicon.lookup stamped
  rw [if_neg (Nat.not_le_of_lt hid)]
  apply mapO_ok_of_all
  intro h hh
  rw [widNew_ok (Nat.lt_succ_of_lt hid) (hw h hh)]

theorem concatO_ok (ls : List Lexicon) (h : ∀ l ∈ ls, l.lookup = .ok (stamped l)) :
    concatO (ls.map Lexicon.lookup) = .ok (ls.flatMap stamped) := by
  induction ls with
  | nil => rfl
  | cons l ls ih =>
    simp only [List.map_cons, concatO, h l List.mem_cons_self, ih (fun x hx => h x (List.mem_cons_of_mem l hx)),
      List.flatMap_cons]

theorem lookup_spec (s : LexSet) (hs : IdsOk s) (hw : ∀ l ∈ s.lexicons, ∀ h ∈ l.hits, h.1 < P28) :
    s.lookup = .ok (s.lexicons.reverse.flatMap stamped) := by
  unfold LexSet.lookup
  apply concatO_ok
  intro l hl
  have hl' : l ∈ s.lexicons := List.mem_reverse.1 hl
  obtain ⟨i, hget⟩ := List.getElem?_of_mem hl'
  obtain ⟨hi, hid⟩ := hs.get hget
  exact lexicon_lookup_ok l (hid ▸ hi) (hw l hl')

theorem rebasePos_sys (s : LexSet) (p : Nat) : rebasePos s 0 p = .ok p :=
  if_neg (fun h => Nat.lt_irrefl 0 h.1)

theorem getWordInfo_mkRaw {s : LexSet} {d w : Nat} {lex : Lexicon} {stored : Word} {p : Nat}
    (hd : d < 16) (hw28 : w < P28) (hl : s.lexicons[d]? = some lex) (hw : lex.words[w]? = some stored)
    (hp : rebasePos s d stored.posId = .ok p) :
    s.getWordInfo (mkRaw d w) =
      .ok ⟨p, stored.a.map (restamp d), stored.b.map (restamp d), stored.w.map (restamp d)⟩ := by
  unfold LexSet.getWordInfo
  simp only [dicOf_mkRaw w hd, wordOf_mkRaw d hw28, hl, hw, hp, updateDictId_ok _ hd]

theorem getWordInfo_inv {s : LexSet} {id : Nat} {wi : Word} (hd : dicOf id < 16) (h : s.getWordInfo id = .ok wi) :
    ∃ lex stored, s.lexicons[dicOf id]? = some lex ∧ lex.words[wordOf id]? = some stored ∧
      rebasePos s (dicOf id) stored.posId = .ok wi.posId ∧
      wi.a = stored.a.map (restamp (dicOf id)) ∧ wi.b = stored.b.map (restamp (dicOf id)) ∧
      wi.w = stored.w.map (restamp (dicOf id)) := by
  unfold LexSet.getWordInfo at h
  simp only [updateDictId_ok _ hd] at h
  cases hl : s.lexicons[dicOf id]? with
  | none => simp only [hl] at h; cases h
  | some lex =>
    cases hw : lex.words[wordOf id]? with
    | none => simp only [hl, hw] at h; cases h
    | some stored =>
      cases hp : rebasePos s (dicOf id) stored.posId with
      | err e => simp only [hl, hw, hp] at h; cases h
      | panic w => simp only [hl, hw, hp] at h; cases h
      | ok p =>
        simp only [hl, hw, hp] at h
        cases h
        exact ⟨lex, stored, rfl, hw, hp, rfl, rfl, rfl⟩

theorem getWordInfo_sys_only {s s' : LexSet} {id : Nat} (hid : dicOf id = 0)
    (h : s.lexicons[0]? = s'.lexicons[0]?) : s.getWordInfo id = s'.getWordInfo id := by
  unfold LexSet.getWordInfo
  simp only [hid, h, rebasePos_sys]

/-! ## the words of a loaded stack -/

section loaded
variable {sys : List Pos} {sysLex : Lexicon} {plugs : List (Bool × Pos)} {us : List (List Pos × Lexicon)} {D : Dict}
  {j : Nat} {own : List Pos} {lex : Lexicon}

/-- position `|sys| + |plug| + Σ_{i<j} |own_i| + k` of the loaded POS list holds entry `k` of the `j`-th own table -/
theorem posList_own_getElem? (sys plug : List Pos) (hj : us[j]? = some (own, lex)) {k : Nat} (hk : k < own.length) :
    (sys ++ plug ++ (us.map (·.1)).flatten)[sys.length + plug.length + (ownBefore us j).length + k]? = own[k]? := by
  rw [Nat.add_assoc, ← List.length_append, List.getElem?_append_right (Nat.le_add_right _ _),
    Nat.add_sub_cancel_left]
  exact flatten_own_getElem? hj hk

theorem posList_own_lt (sys plug : List Pos) (hj : us[j]? = some (own, lex)) {k : Nat} (hk : k < own.length) :
    sys.length + plug.length + (ownBefore us j).length + k < (sys ++ plug ++ (us.map (·.1)).flatten).length := by
  have h := posList_own_getElem? sys plug hj hk
  rw [List.getElem?_eq_getElem hk] at h
  exact (List.getElem?_eq_some_iff.1 h).1

/-- what `get_word_info_subset` reports for every word of every user dictionary of a loaded stack; the own POS id is moved by
the offset of its dictionary and then narrowed with `as u16` -/
theorem load_getWordInfo (hload : load sys sysLex plugs us = .ok D) :
    ∃ plug ids, loadPlugins sys plugs = .ok (sys ++ plug, ids) ∧
      D.posList = sys ++ plug ++ (us.map (·.1)).flatten ∧
      ∀ {j : Nat} {own : List Pos} {lex : Lexicon}, us[j]? = some (own, lex) →
      ∀ {w : Nat} {stored : Word}, lex.words[w]? = some stored → w < P28 →
        D.set.getWordInfo (mkRaw (1 + j) w) = .ok
          ⟨if stored.posId < sys.length then stored.posId
            else asU16 (sys.length + plug.length + (ownBefore us j).length + (stored.posId - sys.length)),
           stored.a.map (restamp (1 + j)), stored.b.map (restamp (1 + j)), stored.w.map (restamp (1 + j))⟩ := by
  obtain ⟨plug, ids, L⟩ := load_spec hload
  refine ⟨plug, ids, L.plugins, L.posList, fun {j own lex} hj {w stored} hw hw28 => ?_⟩
  obtain ⟨hlexj, hoffj⟩ := L.user hj
  refine getWordInfo_mkRaw (Nat.lt_succ_of_lt (L.idsOk.get hlexj).1) hw28 hlexj hw ?_
  unfold rebasePos
  rw [L.numSystemPos]
  by_cases hsys : stored.posId < sys.length
  · rw [if_neg (fun h => Nat.not_le_of_lt hsys h.2), if_pos hsys]
  · rw [if_pos ⟨Nat.lt_add_right j Nat.one_pos, Nat.le_of_not_lt hsys⟩, hoffj, if_neg hsys]
    exact congrArg (fun n => Outcome.ok (asU16 n)) (Nat.add_comm _ _)

/-- the loader reports the POS the builder meant (`sys ++ own` is the numbering of the builder), as long as the loaded list is
within what a `u16` id addresses -/
theorem load_reports_pos (hload : load sys sysLex plugs us = .ok D) (hsmall : D.posList.length ≤ 65536)
    (hj : us[j]? = some (own, lex)) {i : Nat} {wd : Word} (hwd : lex.words[i]? = some wd) (hi28 : i < P28) {pos : Pos}
    (hpos : (sys ++ own)[wd.posId]? = some pos) :
    ∃ wi, D.set.getWordInfo (mkRaw (1 + j) i) = .ok wi ∧ D.posList[wi.posId]? = some pos := by
  obtain ⟨plug, ids, _, hlist, hwi⟩ := load_getWordInfo hload
  refine ⟨_, hwi hj hwd hi28, ?_⟩
  by_cases hsys : wd.posId < sys.length
  · rw [if_pos hsys, ← hpos, hlist, List.append_assoc, List.getElem?_append_left hsys,
      List.getElem?_append_left hsys]
  · have hge : sys.length ≤ wd.posId := Nat.le_of_not_lt hsys
    rw [List.getElem?_append_right hge] at hpos
    have hk := (List.getElem?_eq_some_iff.1 hpos).1
    rw [if_neg hsys, asU16, Nat.mod_eq_of_lt (Nat.lt_of_lt_of_le (hlist ▸ posList_own_lt sys plug hj hk) hsmall), hlist,
      posList_own_getElem? sys plug hj hk]
    exact hpos

/-- One user dictionary with one word, stored with POS id `p`, over a system dictionary without words and without plugins:
the load succeeds whatever the own table is (it enters as a variable, so a table of 65 537 entries is never evaluated). -/
theorem load_one_word (sys own : List Pos) (p : Nat) :
    ∃ D, load sys ⟨[], 255, []⟩ [] [(own, ⟨[⟨p, [], [], []⟩], 255, []⟩)] = .ok D ∧ D.posList = sys ++ own ∧
      D.set.getWordInfo (mkRaw 1 0) =
        .ok ⟨if p < sys.length then p else asU16 (sys.length + (p - sys.length)), [], [], []⟩ := by
  obtain ⟨D, hD⟩ : ∃ D, load sys ⟨[], 255, []⟩ [] [(own, ⟨[⟨p, [], [], []⟩], 255, []⟩)] = .ok D := by
    rw [load_eq (g := sys) (ids := []) rfl]
    exact mergeAll_ok_of_room _ _ (show 1 + 1 ≤ 15 by decide)
  obtain ⟨plug, ids, hpl, hpos, hwi⟩ := load_getWordInfo hD
  obtain rfl := List.self_eq_append_right.1 (Prod.mk.inj (Outcome.ok.inj hpl)).1
  refine ⟨D, hD, ?_, hwi (j := 0) rfl (w := 0) rfl (by decide)⟩
  rw [hpos, List.append_nil, List.map_singleton, List.flatten_singleton]

end loaded

end Layers
