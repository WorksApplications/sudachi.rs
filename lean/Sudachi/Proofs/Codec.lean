import Sudachi.Model.Codec
import Sudachi.Proofs.Basic
/-!
# The binary codec read back (C05): every writer of `Model/Codec.lean` against its reader

One lemma per format element, `reader (writer x ++ rest) = some (x, rest)` under the size limit the writer checks, and
`writer x = .ok (bytes x)` under the same limit: length prefix, little-endian integers, UTF-16 strings, counted arrays,
the ten-field word-info record (`parseWordInfo_enc`), word ids as arithmetic instead of bit operations.  The matrix is
the invariant `Holds m nl nr v` (the bytes `m` hold the costs `v`), kept by `write_elem` (`holds_setCell`) and hence by
the line loop (`writeAll_holds`).
-/
namespace Codec
open Basic

/-! ## length prefix and little-endian integers -/

/-- the two-byte form of the prefix, in arithmetic: `[0x80 | n >> 8, n & 0xff]` -/
theorem encLen_long (n : Nat) (h : ¬ n < 127) (hn : n ≤ 32767) : encLen n = [n / 256 + 128, n % 256] := by
  have hq : n / 256 < 128 := Nat.div_lt_of_lt_mul (Nat.lt_of_le_of_lt hn (by decide))
  have hor : n / 256 ||| 128 = n / 256 + 128 := by
    rw [Nat.or_comm, Nat.add_comm]
    exact (Nat.shiftLeft_add_eq_or_of_lt (a := 1) (i := 7) hq).symm
  have hand : n % 256 &&& 0xff = n % 256 :=
    (Nat.and_two_pow_sub_one_eq_mod (n % 256) 8).trans (Nat.mod_mod n 256)
  rw [encLen, if_neg h, Nat.shiftRight_eq_div_pow, hand, Nat.mod_eq_of_lt (Nat.lt_trans hq (by decide) : n / 2 ^ 8 < 256)]
  exact congrArg (· :: _) hor

theorem stringLength_long (hi lo : Nat) (h : hi < 128) (hlo : lo < 256) (rest : Bytes) :
    stringLength ((hi + 128) :: lo :: rest) = some (hi * 256 + lo, rest) := by
  have hand : (hi + 128) &&& 0x7F = hi :=
    (Nat.and_two_pow_sub_one_eq_mod (hi + 128) 7).trans ((Nat.add_mod_right hi 128).trans (Nat.mod_eq_of_lt h))
  rw [stringLength, if_pos (Nat.le_add_left 128 hi), hand, ← Nat.shiftLeft_add_eq_or_of_lt (hlo : lo < 2 ^ 8), Nat.shiftLeft_eq]

theorem stringLength_encLen (n : Nat) (hn : n ≤ 32767) (rest : Bytes) :
    stringLength (encLen n ++ rest) = some (n, rest) := by
  by_cases h : n < 127
  · rw [encLen, if_pos h]
    exact if_neg (Nat.not_le.2 (Nat.lt_trans h (by decide)))
  · rw [encLen_long n h hn, List.cons_append, List.cons_append, List.nil_append,
      stringLength_long _ _ (Nat.div_lt_of_lt_mul (Nat.lt_of_le_of_lt hn (by decide))) (Nat.mod_lt _ (by decide)),
      Nat.div_add_mod']

theorem writeLen_ok (n : Nat) (hn : n ≤ 32767) : writeLen n = .ok (encLen n) :=
  if_neg (Nat.not_lt.2 hn)

theorem encLen_length (n : Nat) : (encLen n).length = if n < 127 then 1 else 2 := by
  unfold encLen; split <;> rfl

theorem byte2 (n : Nat) (h : n < 65536) : n % 256 + 256 * (n / 256 % 256) = n :=
  (le16_sum n).trans (Nat.mod_eq_of_lt h)

theorem leU16_le16 (n : Nat) (h : n < 65536) (rest : Bytes) : leU16 (le16 n ++ rest) = some (n, rest) :=
  congrArg (fun x => some (x, rest)) (byte2 n h)

theorem leU32_le32 (n : Nat) (h : n < 4294967296) (rest : Bytes) : leU32 (le32 n ++ rest) = some (n, rest) :=
  congrArg (fun x => some (x, rest)) ((le32_sum n).trans (Nat.mod_eq_of_lt h))

theorem u16ToI_i16ToU (i : Int) (h1 : -32768 ≤ i) (h2 : i ≤ 32767) : u16ToI (i16ToU i) = i := by
  unfold u16ToI i16ToU
  split <;> omega

theorem u16ToI_bytes (v : Int) (h1 : -32768 ≤ v) (h2 : v ≤ 32767) :
    u16ToI (i16ToU v % 256 + 256 * (i16ToU v / 256 % 256)) = v := by
  have hu : i16ToU v < 65536 := (Int.toNat_lt (Int.emod_nonneg _ (by decide))).2 (Int.emod_lt_of_pos _ (by decide))
  rw [byte2 _ hu]
  exact u16ToI_i16ToU v h1 h2

/-! ## UTF-16 strings -/

def IsScalar (c : Nat) : Prop := c < 0xD800 ∨ (0xE000 ≤ c ∧ c ≤ 0x10FFFF)

def Scalars (s : Str) : Prop := ∀ c ∈ s, IsScalar c

def StrOk (s : Str) : Prop := Scalars s ∧ (units s).length ≤ 32767

theorem decodeUtf16_cons_bmp (c : Nat) (us : List Nat) (h : c < 0xD800 ∨ c > 0xDFFF) :
    decodeUtf16 (c :: us) = (decodeUtf16 us).map (c :: ·) := by
  cases us with
  | nil => rw [decodeUtf16.eq_2, if_pos h]
  | cons u2 r => rw [decodeUtf16.eq_3, if_pos h]

theorem decodeUtf16_encode (c : Nat) (hc : IsScalar c) (us : List Nat) :
    decodeUtf16 (encodeUtf16 c ++ us) = (decodeUtf16 us).map (c :: ·) := by
  unfold encodeUtf16 IsScalar at *
  by_cases h : c < 0x10000
  · rw [if_pos h]
    exact decodeUtf16_cons_bmp c us (hc.imp_right fun h2 => Nat.lt_of_lt_of_le (by decide) h2.1)
  · rw [if_neg h]
    -- high surrogate in D800..DBFF, low surrogate in DC00..DFFF, and the pair decodes to `c`
    obtain ⟨h1, h2, h3, hv⟩ : ¬ (0xD800 + (c - 0x10000) / 1024 < 0xD800 ∨ 0xD800 + (c - 0x10000) / 1024 > 0xDFFF) ∧
        ¬ (0xD800 + (c - 0x10000) / 1024 ≥ 0xDC00) ∧
        ¬ (0xDC00 + (c - 0x10000) % 1024 < 0xDC00 ∨ 0xDC00 + (c - 0x10000) % 1024 > 0xDFFF) ∧
        (0xD800 + (c - 0x10000) / 1024 - 0xD800) * 1024 + (0xDC00 + (c - 0x10000) % 1024 - 0xDC00) + 0x10000 = c := by
      omega
    rw [List.cons_append, List.cons_append, List.nil_append, decodeUtf16, if_neg h1, if_neg h2, if_neg h3, hv]

theorem decodeUtf16_units (s : Str) (hs : Scalars s) : decodeUtf16 (units s) = some s := by
  induction s with
  | nil => rfl
  | cons c s ih =>
    have hc : IsScalar c := hs c (List.mem_cons_self ..)
    have hs' : Scalars s := fun x hx => hs x (List.mem_cons_of_mem _ hx)
    simp only [units, List.flatMap_cons] at *
    rw [decodeUtf16_encode c hc, ih hs']
    rfl

theorem encodeUtf16_lt (c : Nat) (hc : IsScalar c) : ∀ u ∈ encodeUtf16 c, u < 65536 := by
  unfold encodeUtf16 IsScalar at *
  intro u hu
  by_cases h : c < 0x10000
  · rw [if_pos h, List.mem_singleton] at hu
    exact hu ▸ h
  · rw [if_neg h, List.mem_cons, List.mem_singleton] at hu
    omega

theorem units_lt (s : Str) (hs : Scalars s) : ∀ u ∈ units s, u < 65536 := by
  intro u hu
  simp only [units, List.mem_flatMap] at hu
  obtain ⟨c, hc, hu⟩ := hu
  exact encodeUtf16_lt c (hs c hc) u hu

theorem unitsOfBytes_le16 (us : List Nat) (h : ∀ u ∈ us, u < 65536) : unitsOfBytes (us.flatMap le16) = some us := by
  induction us with
  | nil => rfl
  | cons u us ih =>
    rw [List.flatMap_cons, le16, List.cons_append, List.cons_append, List.nil_append, unitsOfBytes,
      ih (fun x hx => h x (List.mem_cons_of_mem _ hx)), byte2 u (h u (List.mem_cons_self ..))]
    rfl

theorem units_eq_nil (s : Str) (h : units s = []) : s = [] := by
  cases s with
  | nil => rfl
  | cons c s =>
    simp only [units, List.flatMap_cons, encodeUtf16] at h
    split at h <;> simp at h

theorem utf16StringParser_encStr (s : Str) (hs : Scalars s) (hl : (units s).length ≤ 32767) (rest : Bytes) :
    utf16StringParser (encStr s ++ rest) = some (s, rest) := by
  rw [utf16StringParser, utf16StringData, encStr, List.append_assoc, stringLength_encLen _ hl]
  dsimp only
  by_cases h0 : (units s).length = 0
  · obtain rfl : s = [] := units_eq_nil s (List.eq_nil_of_length_eq_zero h0)
    rfl
  · have hlen : ((units s).flatMap le16).length = (units s).length * 2 := by
      rw [flatMap_length_const le16 2 _ (fun _ _ => rfl), Nat.mul_comm]
    have hne : ¬ ((units s).flatMap le16).isEmpty = true := fun h => by
      rw [List.isEmpty_iff.1 h, List.length_nil] at hlen
      exact h0 (by omega)
    rw [if_neg h0, if_neg (by rw [List.length_append, hlen]; exact Nat.not_lt.2 (Nat.le_add_right ..)), ← hlen,
      List.take_left, List.drop_left]
    dsimp only
    rw [if_neg hne, unitsOfBytes_le16 _ (units_lt s hs)]
    dsimp only
    rw [decodeUtf16_units s hs]

theorem utf8Len_le (c : Nat) : utf8Len c ≤ 3 * (encodeUtf16 c).length := by
  unfold utf8Len encodeUtf16
  by_cases h1 : c < 0x80
  · rw [if_pos h1, if_pos (Nat.lt_trans h1 (by decide))]; exact Nat.le_add_left 1 2
  · by_cases h2 : c < 0x800
    · rw [if_neg h1, if_pos h2, if_pos (Nat.lt_trans h2 (by decide))]; exact Nat.le_add_left 2 1
    · by_cases h3 : c < 0x10000
      · rw [if_neg h1, if_neg h2, if_pos h3, if_pos h3]; exact Nat.le_refl 3
      · rw [if_neg h1, if_neg h2, if_neg h3, if_neg h3]; exact Nat.le_add_left 4 2

/-- a string of `n` UTF-16 units has at most `3 n` UTF-8 bytes: the byte-size guard of `Utf16Writer::write`
(256 KiB) can never fire before the unit-count guard (32767) -/
theorem utf8LenStr_le (s : Str) : utf8LenStr s ≤ 3 * (units s).length := by
  induction s with
  | nil => exact Nat.le_refl 0
  | cons c s ih =>
    have := utf8Len_le c
    simp only [utf8LenStr, units, List.map_cons, List.sum_cons, List.flatMap_cons, List.length_append] at *
    omega

theorem writeStr_ok (s : Str) (h : StrOk s) : writeStr s = .ok (encStr s) := by
  have h1 := utf8LenStr_le s
  have h2 := h.2
  rw [writeStr, if_neg (by omega), if_neg (Nat.not_lt.2 h2)]

/-! ## repeated items (`nom::multi::count`) and u32 arrays -/

def U32s (xs : List Nat) : Prop := xs.length ≤ 127 ∧ ∀ x ∈ xs, x < 4294967296

/-- `count(p, n)` over the concatenation of `n` items, each of which `p` reads back; the model's three `count`
functions (`countU32`, `countStr`, `countPos`) are instances -/
theorem count_enc {α : Type} (p : Bytes → Option (α × Bytes)) (cnt : Nat → Bytes → Option (List α × Bytes)) (enc : α → Bytes)
    (h0 : ∀ bs, cnt 0 bs = some ([], bs))
    (hs : ∀ n bs v r vs r', p bs = some (v, r) → cnt n r = some (vs, r') → cnt (n + 1) bs = some (v :: vs, r'))
    (xs : List α) (hp : ∀ x ∈ xs, ∀ rest, p (enc x ++ rest) = some (x, rest)) (rest : Bytes) :
    cnt xs.length (xs.flatMap enc ++ rest) = some (xs, rest) := by
  induction xs with
  | nil => exact h0 rest
  | cons x xs ih =>
    rw [List.length_cons, List.flatMap_cons, List.append_assoc]
    exact hs _ _ _ _ _ _ (hp x (List.mem_cons_self ..) _) (ih (fun y hy => hp y (List.mem_cons_of_mem _ hy)))

theorem writeU32Array_ok (xs : List Nat) (h : xs.length ≤ 127) : writeU32Array xs = .ok (encU32s xs) :=
  if_neg (Nat.not_lt.2 h)

theorem u32ArrayParser_encU32s (xs : List Nat) (h : ∀ x ∈ xs, x < 4294967296) (rest : Bytes) :
    u32ArrayParser (encU32s xs ++ rest) = some (xs, rest) :=
  count_enc leU32 countU32 le32 (fun _ => rfl) (fun _ _ _ _ _ _ h1 h2 => by simp only [countU32, h1, h2]) xs (fun x hx => leU32_le32 x (h x hx)) rest

/-! ## word ids: dictionary number above bit 28, word number below -/

theorem widWord_eq_mod (w : Nat) : widWord w = w % 268435456 :=
  Nat.and_two_pow_sub_one_eq_mod w 28

theorem widDic_eq_div (w : Nat) : widDic w = w / 268435456 :=
  Nat.shiftRight_eq_div_pow w 28

theorem widNew_eq (d w : Nat) (hd : d < 16) (hw : w < 268435456) : widNew d w = d * 268435456 + w :=
  wid_pack_of_lt hd hw

theorem widWord_small (n : Nat) (h : n < 268435456) : widWord n = n :=
  (widWord_eq_mod n).trans (Nat.mod_eq_of_lt h)

theorem widWord_lt (x : Nat) : widWord x < 4294967296 :=
  widWord_eq_mod x ▸ Nat.lt_trans (Nat.mod_lt x (by decide)) (by decide)

theorem widNew_zero (n : Nat) (h : n < 268435456) : widNew 0 n = n := by
  rw [widNew_eq 0 n (by decide) h, Nat.zero_mul, Nat.zero_add]

theorem widNew_user (k : Nat) (h : k < 268435456) :
    widNew 1 k ≠ INVALID_WID ∧ widDic (widNew 1 k) = 1 ∧ widWord (widNew 1 k) = k := by
  rw [widNew_eq 1 k (by decide) h, widDic_eq_div, widWord_eq_mod, (pack_div_mod _ 1 k h).1, (pack_div_mod _ 1 k h).2]
  exact ⟨Nat.ne_of_lt (Nat.lt_trans (pack_lt (n := 2) (by decide) h) (by decide)), rfl, rfl⟩

theorem widWord_of_dic_zero (w : Nat) (h : widDic w = 0) : widWord w = w := by
  rw [widDic_eq_div, Nat.div_eq_zero_iff] at h
  exact widWord_small w (h.resolve_left (by decide))

/-! ## the word-info record -/

/-- the limits of the binary format on one entry: the string lengths and array counts are what `write_word_info` checks,
scalar values and `u32` ids come from the Rust types; that an accepted builder state satisfies it is
`Proofs/BuildCodec.lean` -/
structure Entry.WF (e : Entry) : Prop where
  hw : StrOk e.headwordS
  nf : StrOk e.normS
  rd : StrOk e.readingS
  key : utf8LenStr e.surface ≤ 32767
  pos : e.pos < 65536
  df : e.dicForm < 4294967296
  a : U32s e.splitsA
  b : U32s e.splitsB
  ws : U32s e.wordStructure
  syn : U32s e.synonyms

/-- the stored form of a string that is elided when equal to the headword -/
def stored (form headword : Str) : Str := if form = headword then [] else form

theorem strOk_stored (a b : Str) (h : StrOk a) : StrOk (stored a b) := by
  unfold stored
  by_cases hab : a = b
  · rw [if_pos hab]; exact ⟨fun c hc => (nomatch hc), Nat.zero_le _⟩
  · rw [if_neg hab]; exact h

theorem writeEmptyIfEqual_ok (a b : Str) (h : StrOk a) : writeEmptyIfEqual a b = .ok (encStr (stored a b)) := by
  unfold writeEmptyIfEqual stored
  by_cases hab : a = b
  · rw [if_pos hab, if_pos hab]; rfl
  · rw [if_neg hab, if_neg hab]; exact writeStr_ok a h

/-- the accessors of `WordInfo` answer the headword for a form stored empty: the declared form comes back unless it
was declared empty -/
theorem stored_accessor (form headword : Str) :
    (if (stored form headword).isEmpty then headword else stored form headword) = if form = [] then headword else form := by
  unfold stored
  by_cases h1 : form = headword
  · rw [if_pos h1, h1]
    by_cases h2 : headword = []
    · rw [if_pos h2]; rfl
    · rw [if_neg h2]; rfl
  · rw [if_neg h1]
    by_cases h2 : form = []
    · rw [if_pos h2, h2]; rfl
    · rw [if_neg h2, if_neg (by rwa [List.isEmpty_iff])]

/-- the record depends on the entry only through the stored fields -/
theorem encWordInfo_congr (e1 e2 : Entry) (h1 : e1.headwordS = e2.headwordS) (h2 : e1.surface = e2.surface) (h3 : e1.pos = e2.pos)
    (h4 : stored e1.normS e1.headwordS = stored e2.normS e2.headwordS) (h5 : e1.dicForm = e2.dicForm)
    (h6 : stored e1.readingS e1.headwordS = stored e2.readingS e2.headwordS)
    (h7 : e1.splitsA = e2.splitsA) (h8 : e1.splitsB = e2.splitsB) (h9 : e1.wordStructure = e2.wordStructure)
    (h10 : e1.synonyms = e2.synonyms) : encWordInfo e1 = encWordInfo e2 := by
  unfold stored at h4 h6
  unfold encWordInfo
  rw [h4, h6, h1, h2, h3, h5, h7, h8, h9, h10]

/-- what `write_word_info` puts into the ten fields, as the reader's record (the dictionary form is fetched later) -/
def storedInfo (e : Entry) : WordInfoData :=
  { surface := e.headwordS, headWordLength := utf8LenStr e.surface, posId := e.pos,
    normalizedForm := stored e.normS e.headwordS, dicFormWordId := u32ToI e.dicForm,
    readingForm := stored e.readingS e.headwordS, aUnitSplit := e.splitsA, bUnitSplit := e.splitsB,
    wordStructure := e.wordStructure, synonymGroupIds := e.synonyms }

theorem parseWordInfo_enc (e : Entry) (wf : e.WF) (rest : Bytes) :
    parseWordInfo (encWordInfo e ++ rest) = some (storedInfo e) := by
  have hn := strOk_stored _ e.headwordS wf.nf
  have hr := strOk_stored _ e.headwordS wf.rd
  unfold stored at hn hr
  -- the ten fields in the order written, each read back by its own round-trip lemma
  simp only [parseWordInfo, encWordInfo, List.append_assoc, utf16StringParser_encStr _ wf.hw.1 wf.hw.2,
    stringLength_encLen _ wf.key, leU16_le16 _ wf.pos, utf16StringParser_encStr _ hn.1 hn.2, leU32_le32 _ wf.df,
    utf16StringParser_encStr _ hr.1 hr.2, u32ArrayParser_encU32s _ wf.a.2, u32ArrayParser_encU32s _ wf.b.2,
    u32ArrayParser_encU32s _ wf.ws.2, u32ArrayParser_encU32s _ wf.syn.2, stored, storedInfo]

theorem writeWordInfo_ok (e : Entry) (wf : e.WF) : writeWordInfo e = .ok (encWordInfo e) := by
  unfold writeWordInfo encWordInfo
  simp only [bind, Outcome.bind, pure, writeStr_ok _ wf.hw, writeLen_ok _ wf.key, writeEmptyIfEqual_ok _ _ wf.nf,
    writeEmptyIfEqual_ok _ _ wf.rd, writeU32Array_ok _ wf.a.1, writeU32Array_ok _ wf.b.1, writeU32Array_ok _ wf.ws.1,
    writeU32Array_ok _ wf.syn.1, stored]

/-! ## connection matrix -/

theorem i16At_zero_iff (m : Bytes) (k : Nat) (x : Int) :
    i16At m 0 k = some x ↔ ∃ a b, m[2 * k]? = some a ∧ m[2 * k + 1]? = some b ∧ u16ToI (a + 256 * b) = x := by
  have e0 : m[2 * k]? = (m.drop (0 + 2 * k))[0]? := by rw [List.getElem?_drop, Nat.zero_add]; rfl
  have e1 : m[2 * k + 1]? = (m.drop (0 + 2 * k))[1]? := by rw [List.getElem?_drop, Nat.zero_add]
  rw [i16At, e0, e1]
  rcases m.drop (0 + 2 * k) with _ | ⟨a, _ | ⟨b, r⟩⟩ <;> simp [leU16]

theorem i16At_of_get (m : Bytes) (k a b : Nat) (ha : m[2 * k]? = some a) (hb : m[2 * k + 1]? = some b) :
    i16At m 0 k = some (u16ToI (a + 256 * b)) :=
  (i16At_zero_iff m k _).2 ⟨a, b, ha, hb, rfl⟩

theorem idx_lt (nl nr l r : Nat) (hl : l < nl) (hr : r < nr) : connIndex nl l r < nl * nr :=
  Nat.mul_comm nl nr ▸ pack_lt hr hl

theorem idx_inj (nl l r l' r' : Nat) (hl : l < nl) (hl' : l' < nl) (h : connIndex nl l r = connIndex nl l' r') :
    l = l' ∧ r = r' :=
  (pack_inj hl hl' h).symm

/-- matrix bytes `m` of an `nl × nr` matrix hold the costs `v` -/
def Holds (m : Bytes) (nl nr : Nat) (v : Nat → Nat → Int) : Prop :=
  m.length = nl * nr * 2 ∧ ∀ l r, l < nl → r < nr → i16At m 0 (connIndex nl l r) = some (v l r)

theorem getElem?_setCell_ne (m : Bytes) (k : Nat) (c : Int) (j : Nat) (h0 : k * 2 ≠ j) (h1 : k * 2 + 1 ≠ j) :
    (setCell m k c)[j]? = m[j]? := by
  rw [setCell, List.getElem?_set_ne h1, List.getElem?_set_ne h0]

theorem holds_setCell (m : Bytes) (nl nr : Nat) (v : Nat → Nat → Int) (h : Holds m nl nr v)
    (L R : Nat) (hL : L < nl) (hR : R < nr) (c : Int) (hc1 : -32768 ≤ c) (hc2 : c ≤ 32767) :
    Holds (setCell m (connIndex nl L R) c) nl nr (fun l r => if l = L ∧ r = R then c else v l r) := by
  obtain ⟨hlen, hv⟩ := h
  have hi := idx_lt nl nr L R hL hR
  refine ⟨by rw [setCell, List.length_set, List.length_set, hlen], fun l r hl hr => ?_⟩
  rw [i16At_zero_iff]
  by_cases heq : l = L ∧ r = R
  · obtain ⟨rfl, rfl⟩ := heq
    obtain ⟨i0, i1, i2⟩ : 2 * connIndex nl l r + 1 ≠ 2 * connIndex nl l r ∧ 2 * connIndex nl l r < m.length ∧
        2 * connIndex nl l r + 1 < m.length := by omega
    refine ⟨_, _, ?_, ?_, (u16ToI_bytes c hc1 hc2).trans (if_pos ⟨rfl, rfl⟩).symm⟩
    · rw [setCell, Nat.mul_comm, List.getElem?_set_ne i0, List.getElem?_set_self i1]
    · rw [setCell, Nat.mul_comm, List.getElem?_set_self (by rw [List.length_set]; exact i2)]
  · have hne : connIndex nl L R ≠ connIndex nl l r := fun hh => heq (idx_inj nl l r L R hl hL hh.symm)
    obtain ⟨a, b, ha, hb, hx⟩ := (i16At_zero_iff m _ _).1 (hv l r hl hr)
    -- the two bytes of another cell are untouched
    obtain ⟨j0, j1, j2, j3⟩ : connIndex nl L R * 2 ≠ 2 * connIndex nl l r ∧ connIndex nl L R * 2 + 1 ≠ 2 * connIndex nl l r ∧
        connIndex nl L R * 2 ≠ 2 * connIndex nl l r + 1 ∧ connIndex nl L R * 2 + 1 ≠ 2 * connIndex nl l r + 1 := by omega
    exact ⟨a, b, by rw [getElem?_setCell_ne m _ c _ j0 j1, ha], by rw [getElem?_setCell_ne m _ c _ j2 j3, hb],
      hx.trans (if_neg heq).symm⟩

/-- the cells a list of matrix lines writes, in file order (`parse_line` → `write_elem`) -/
def writeAll (nl : Nat) : List (Int × Int × Int) → Bytes → Outcome Bytes
  | [], m => .ok m
  | (l, r, c) :: rest, m =>
    match writeElem m nl l r c with
    | .ok m' => writeAll nl rest m'
    | e => e

/-- what the matrix text declares for `(l, r)`: the last line naming the pair, else `init` -/
def declared (lines : List (Int × Int × Int)) (l r : Nat) (init : Int) : Int :=
  lines.foldl (fun acc x => if x.1 = (l : Int) ∧ x.2.1 = (r : Int) then x.2.2 else acc) init

def LinesOk (nl nr : Nat) (lines : List (Int × Int × Int)) : Prop :=
  ∀ x ∈ lines, 0 ≤ x.1 ∧ x.1 < nl ∧ 0 ≤ x.2.1 ∧ x.2.1 < nr ∧ -32768 ≤ x.2.2 ∧ x.2.2 ≤ 32767

theorem writeAll_holds (nl nr : Nat) (lines : List (Int × Int × Int)) (hok : LinesOk nl nr lines) :
    ∀ (m : Bytes) (v : Nat → Nat → Int), Holds m nl nr v →
      ∃ m', writeAll nl lines m = .ok m' ∧ Holds m' nl nr (fun l r => declared lines l r (v l r)) := by
  induction lines with
  | nil => intro m v h; exact ⟨m, rfl, h⟩
  | cons x rest ih =>
    intro m v h
    obtain ⟨L, R, c⟩ := x
    obtain ⟨h0, h1, h2, h3, h4, h5⟩ : 0 ≤ L ∧ L < nl ∧ 0 ≤ R ∧ R < nr ∧ -32768 ≤ c ∧ c ≤ 32767 :=
      hok (L, R, c) (List.mem_cons_self ..)
    have hLn : L.toNat < nl := (Int.toNat_lt h0).2 h1
    have hRn : R.toNat < nr := (Int.toNat_lt h2).2 h3
    have hw : writeElem m nl L R c = .ok (setCell m (connIndex nl L.toNat R.toNat) c) := by
      have hi := idx_lt nl nr L.toNat R.toNat hLn hRn
      rw [writeElem, if_neg (not_or.2 ⟨Int.not_lt.2 h0, Int.not_lt.2 h2⟩)]
      exact if_neg (Nat.not_le.2 (h.1 ▸ by omega))
    obtain ⟨m', hm', hh⟩ := ih (fun y hy => hok y (List.mem_cons_of_mem _ hy)) _ _
      (holds_setCell m nl nr v h L.toNat R.toNat hLn hRn c h4 h5)
    refine ⟨m', by rw [writeAll, hw]; exact hm', hh.1, fun l r hl hr => (hh.2 l r hl hr).trans (congrArg some ?_)⟩
    show declared rest l r _ = declared rest l r (if L = (l : Int) ∧ R = (r : Int) then c else v l r)
    -- the cell just written is the one this line names
    have hiff : (l = L.toNat ∧ r = R.toNat) ↔ (L = (l : Int) ∧ R = (r : Int)) := by omega
    simp only [hiff]

theorem holds_zero (nl nr : Nat) : Holds (List.replicate (nl * nr * 2) 0) nl nr (fun _ _ => 0) := by
  refine ⟨List.length_replicate .., fun l r hl hr => ?_⟩
  have hi := idx_lt nl nr l r hl hr
  obtain ⟨h0, h1⟩ : 2 * connIndex nl l r < nl * nr * 2 ∧ 2 * connIndex nl l r + 1 < nl * nr * 2 := by omega
  exact i16At_of_get _ _ 0 0 (by rw [List.getElem?_replicate, if_pos h0]) (by rw [List.getElem?_replicate, if_pos h1])

theorem writeAll_zero_cost (nl nr : Nat) (lines : List (Int × Int × Int)) (hok : LinesOk nl nr lines) :
    ∃ m, writeAll nl lines (List.replicate (nl * nr * 2) 0) = .ok m ∧ m.length = nl * nr * 2 ∧
      ∀ l r, l < nl → r < nr → connCost m nl nr l r = .ok (declared lines l r 0) := by
  obtain ⟨m, hm, hh⟩ := writeAll_holds nl nr lines hok _ _ (holds_zero nl nr)
  refine ⟨m, hm, hh.1, fun l r hl hr => ?_⟩
  rw [connCost, if_neg (not_or.2 ⟨Nat.not_le.2 hl, Nat.not_le.2 hr⟩), hh.2 l r hl hr]

end Codec
