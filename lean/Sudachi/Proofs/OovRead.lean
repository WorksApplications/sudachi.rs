import Sudachi.Model.OovIO

/-!
# C13: the definition-file readers of the MeCab provider against a declarative description of the files

`read_character_property` (behaviour lines of char.def) and `read_oov` (unk.def) are line loops with early `Err`
exits.  Here every line is classified on its own (`classifyProp`, `classifyUnk`: skipped / malformed / one entry) and
the readers are shown to be TOTAL (they return a table or `Err`, nothing else) and to return exactly
* char.def: the entries of the file in file order, provided no line is malformed and no class key occurs twice;
* unk.def: for every class key the definitions of exactly the lines of that key, in file order, no key twice, provided
  no line is malformed.
The column splitters are characterised too (`words_spec`, `splitOn_spec`).
-/
namespace Oov

/-! ## columns -/

theorem words_go_spec (ws : Char → Bool) (s cur : List Char) (acc : List (List Char))
    (hcur : ∀ c ∈ cur, ws c = false) (hacc : ∀ w ∈ acc, w ≠ [] ∧ ∀ c ∈ w, ws c = false) :
    (∀ w ∈ wordsW.go ws s cur acc, w ≠ [] ∧ ∀ c ∈ w, ws c = false) ∧
    (wordsW.go ws s cur acc).reverse.flatten = acc.reverse.flatten ++ cur.reverse ++ s.filter (fun c => !ws c) := by
  -- closing the pending word: it joins the finished ones unless it is empty
  have flush : ∀ (cur : List Char) (acc : List (List Char)), (∀ c ∈ cur, ws c = false) → (∀ w ∈ acc, w ≠ [] ∧ ∀ c ∈ w, ws c = false) →
      (∀ w ∈ (if cur.isEmpty then acc else cur.reverse :: acc), w ≠ [] ∧ ∀ c ∈ w, ws c = false) ∧
      (if cur.isEmpty then acc else cur.reverse :: acc).reverse.flatten = acc.reverse.flatten ++ cur.reverse := by
    intro cur acc hcur hacc
    cases cur with
    | nil => exact ⟨hacc, by simp⟩
    | cons a r =>
      refine ⟨fun w hw => ?_, by simp⟩
      rcases List.mem_cons.mp hw with rfl | hw
      · exact ⟨by simp, fun c hc => hcur c (List.mem_reverse.mp hc)⟩
      · exact hacc w hw
  induction s generalizing cur acc with
  | nil =>
    simp only [wordsW.go, List.filter_nil, List.append_nil]
    exact flush cur acc hcur hacc
  | cons c cs ih =>
    simp only [wordsW.go]
    by_cases hws : ws c = true
    · rw [if_pos hws, ← apply_ite (wordsW.go ws cs [])]
      obtain ⟨f1, f2⟩ := flush cur acc hcur hacc
      obtain ⟨i1, i2⟩ := ih [] _ (by simp) f1
      exact ⟨i1, by rw [i2, f2]; simp [hws]⟩
    · have hws' : ws c = false := by simpa using hws
      rw [if_neg hws]
      obtain ⟨i1, i2⟩ := ih (c :: cur) acc (fun x hx => (List.mem_cons.mp hx).elim (· ▸ hws') (hcur x)) hacc
      exact ⟨i1, by rw [i2]; simp [hws']⟩

theorem words_spec (ws : Char → Bool) (line : List Char) :
    (∀ w ∈ wordsW ws line, w ≠ [] ∧ ∀ c ∈ w, ws c = false) ∧
    (wordsW ws line).flatten = line.filter (fun c => !ws c) := by
  have := words_go_spec ws line [] [] (by simp) (by simp)
  unfold wordsW
  refine ⟨fun w hw => this.1 w (by simpa using hw), ?_⟩
  rw [this.2]; simp

/-- the pieces of `split(sep)` joined by `sep` again -/
def joinSep (sep : Char) : List (List Char) → List Char
  | [] => []
  | [w] => w
  | w :: ws => w ++ sep :: joinSep sep ws

theorem splitOn_spec (sep : Char) (s : List Char) :
    Wire.splitOn sep s ≠ [] ∧ (∀ w ∈ Wire.splitOn sep s, sep ∉ w) ∧ joinSep sep (Wire.splitOn sep s) = s := by
  induction s with
  | nil => simp [Wire.splitOn, joinSep]
  | cons c cs ih =>
    obtain ⟨h1, h2, h3⟩ := ih
    simp only [Wire.splitOn]
    cases hs : Wire.splitOn sep cs with
    | nil => exact absurd hs h1
    | cons w ws =>
      rw [hs] at h2 h3
      simp only []
      by_cases hc : c = sep
      · simp only [hc, if_true]
        refine ⟨by simp, ?_, ?_⟩
        · intro x hx
          rcases List.mem_cons.mp hx with rfl | hx
          · simp
          · exact h2 x hx
        · simp only [joinSep, List.nil_append]; rw [h3]
      · simp only [hc, if_false]
        refine ⟨by simp, ?_, ?_⟩
        · intro x hx
          rcases List.mem_cons.mp hx with rfl | hx
          · have := h2 w List.mem_cons_self
            intro hm
            rcases List.mem_cons.mp hm with rfl | hm
            · exact hc rfl
            · exact this hm
          · exact h2 x (List.mem_cons_of_mem _ hx)
        · cases ws with
          | nil => simp only [joinSep] at h3 ⊢; rw [h3]
          | cons w2 ws2 => simp only [joinSep, List.cons_append] at h3 ⊢; rw [h3]

theorem nodup_snoc (l : List Nat) (k : Nat) (h : l.Nodup) (hk : k ∉ l) : (l ++ [k]).Nodup :=
  List.nodup_append.mpr ⟨h, by simp, fun a ha b hb => by rw [List.mem_singleton.mp hb]; exact fun e => hk (e ▸ ha)⟩

theorem findKey_isSome_iff {α : Type} (k : Nat) (l : List (Nat × α)) : (findKey k l).isSome = true ↔ k ∈ l.map (·.1) := by
  induction l with
  | nil => simp [findKey]
  | cons kv rest ih =>
    obtain ⟨k', v⟩ := kv
    simp only [findKey, List.map_cons, List.mem_cons]
    by_cases h : k' = k
    · simp [h]
    · simp only [h, if_false, ih]
      constructor
      · intro hm; exact Or.inr hm
      · rintro (e | hm)
        · exact absurd e.symm h
        · exact hm

/-! ## `read_character_property` -/

/-- what one line of char.def is for the MeCab provider -/
inductive PLine where
  /-- blank, comment (`#`), or a code-point range line (`0x…`, read by the grammar, C17) -/
  | skip
  /-- fewer than four columns, unknown class name, LENGTH that is not a `u32` -/
  | bad
  /-- `CLASS INVOKE GROUP LENGTH [anything]` -/
  | entry (k : Nat) (ci : CatInfo)
deriving DecidableEq

/-- declarative reading of ONE line: trimmed; blank / `#…` / `0x…` are skipped; otherwise the first four white-space
separated columns are a class expression (names or hex literals joined by `|`), two flags that are set iff the column
is exactly `1`, and a `u32`; further columns are ignored -/
def classifyProp (ws : Char → Bool) (line : List Char) : PLine :=
  let line := trimW ws line
  if line.isEmpty || line.head? == some '#' || line.take 2 == ['0', 'x'] then .skip
  else
    match wordsW ws line with
    | c0 :: c1 :: c2 :: c3 :: _ =>
      match parseCatTypeW ws c0, parseU32 c3 with
      | some ct, some len => .entry ct ⟨ct, c1 == ['1'], c2 == ['1'], len⟩
      | _, _ => .bad
    | _ => .bad

def entryOfProp (ws : Char → Bool) (line : List Char) : Option (Nat × CatInfo) :=
  match classifyProp ws line with
  | .entry k ci => some (k, ci)
  | _ => none

/-- the loop body in terms of the classification -/
theorem readCharPropW_cons (ws : Char → Bool) (line : List Char) (rest : List (List Char)) (acc : List (Nat × CatInfo)) :
    readCharPropW ws (line :: rest) acc =
      match classifyProp ws line with
      | .skip => readCharPropW ws rest acc
      | .bad => none
      | .entry k ci => if (findKey k acc).isSome then none else readCharPropW ws rest (acc ++ [(k, ci)]) := by
  simp only [readCharPropW, classifyProp]
  generalize trimW ws line = tl
  by_cases hs : (tl.isEmpty || tl.head? == some '#' || tl.take 2 == ['0', 'x']) = true
  · simp only [if_pos hs]
  · simp only [if_neg hs]
    generalize wordsW ws tl = cols
    rcases cols with _ | ⟨c0, _ | ⟨c1, _ | ⟨c2, _ | ⟨c3, more⟩⟩⟩⟩
    · rfl
    · rfl
    · rfl
    · rfl
    · simp only []
      cases parseCatTypeW ws c0 with
      | none => rfl
      | some ct =>
        cases parseU32 c3 with
        | none => exact ite_self _
        | some len => rfl

theorem readCharPropW_iff (ws : Char → Bool) (lines : List (List Char)) (acc T : List (Nat × CatInfo)) (hacc : (acc.map (·.1)).Nodup) :
    readCharPropW ws lines acc = some T ↔
      (∀ l ∈ lines, classifyProp ws l ≠ .bad) ∧ T = acc ++ lines.filterMap (entryOfProp ws) ∧ (T.map (·.1)).Nodup := by
  induction lines generalizing acc with
  | nil =>
    simp only [readCharPropW, List.filterMap_nil, List.append_nil, List.not_mem_nil, false_imp_iff, implies_true, true_and]
    constructor
    · intro h; cases h; exact ⟨rfl, hacc⟩
    · rintro ⟨rfl, _⟩; rfl
  | cons line rest ih =>
    rw [readCharPropW_cons]
    cases hcl : classifyProp ws line with
    | skip =>
      simp only []
      rw [ih acc hacc]
      have he : entryOfProp ws line = none := by simp [entryOfProp, hcl]
      simp only [List.mem_cons, forall_eq_or_imp, hcl, List.filterMap_cons, he]
      simp
    | bad =>
      simp only []
      constructor
      · intro h; cases h
      · rintro ⟨h, _⟩; exact absurd hcl (h line List.mem_cons_self)
    | entry k ci =>
      have he : entryOfProp ws line = some (k, ci) := by simp [entryOfProp, hcl]
      simp only [List.mem_cons, forall_eq_or_imp, hcl, List.filterMap_cons, he]
      by_cases hd : (findKey k acc).isSome = true
      · simp only [hd, if_true]
        constructor
        · intro h; cases h
        · rintro ⟨_, rfl, hn⟩
          exfalso
          have hk : k ∈ acc.map (·.1) := (findKey_isSome_iff k acc).mp hd
          rw [List.map_append, List.nodup_append] at hn
          exact hn.2.2 k hk k (by simp) rfl
      · simp only [hd, Bool.false_eq_true, if_false]
        have hk : k ∉ acc.map (·.1) := fun h => hd ((findKey_isSome_iff k acc).mpr h)
        have hacc' : ((acc ++ [(k, ci)]).map (·.1)).Nodup := by rw [List.map_append]; exact nodup_snoc _ k hacc hk
        rw [ih (acc ++ [(k, ci)]) hacc']
        simp [List.append_assoc]

/-! ## `read_oov` -/

/-- what one line of unk.def is for `read_oov` -/
inductive ULine where
  /-- blank or comment -/
  | skip
  /-- fewer than ten columns, unknown / undeclared class, ids or cost that are not `i16`, unknown POS, id out of range -/
  | bad
  /-- `CLASS,LEFT,RIGHT,COST,POS1,…,POS6[,anything]` -/
  | entry (k : Nat) (d : OovDef)
deriving DecidableEq

/-- the range test of one connection id as written: `id as usize > n` in the pinned tree, `>=` after the repair of D15b
(`ge`); a negative `i16` becomes a huge `usize` -/
def idBad (ge : Bool) (n : Nat) (x : Int) : Bool := x < 0 || x.toNat > n || (ge && x.toNat == n)

theorem idBad_false (ge : Bool) (n : Nat) (x : Int) (h : idBad ge n x = false) : x.toNat ≤ n ∧ (ge = true → x.toNat < n) := by
  simp only [idBad, Bool.or_eq_false_iff, Bool.and_eq_false_iff, decide_eq_false_iff_not, beq_eq_false_iff_ne] at h
  obtain ⟨⟨_, h1⟩, h2⟩ := h
  refine ⟨by omega, fun hge => ?_⟩
  rcases h2 with h2 | h2
  · rw [hge] at h2; cases h2
  · omega

/-- declarative reading of ONE line of unk.def: trimmed; blank / `#…` skipped; otherwise at least ten comma separated
columns (NOT trimmed): a class expression that has a behaviour line in char.def, three `i16`, six POS components that
are a part of speech of the dictionary; both ids inside the connection matrix -/
def classifyUnk (ws : Char → Bool) (ge : Bool) (cats : List (Nat × CatInfo)) (pos : List (List (List Char))) (numLeft numRight : Nat)
    (line : List Char) : ULine :=
  let line := trimW ws line
  if line.isEmpty || line.head? == some '#' then .skip
  else
    let cols := Wire.splitOn ',' line
    if cols.length < 10 then .bad else
    match cols with
    | c0 :: c1 :: c2 :: c3 :: more =>
      match parseCatTypeW ws c0, parseI16 c1, parseI16 c2, parseI16 c3, posIndex pos (more.take 6) with
      | some ct, some l, some r, some c, some p =>
        if (findKey ct cats).isNone || idBad ge numLeft l || idBad ge numRight r then .bad
        else .entry ct ⟨l.toNat, r.toNat, c, p⟩
      | _, _, _, _, _ => .bad
    | _ => .bad

def entryOfUnk (ws : Char → Bool) (ge : Bool) (cats : List (Nat × CatInfo)) (pos : List (List (List Char))) (numLeft numRight : Nat)
    (line : List Char) : Option (Nat × OovDef) :=
  match classifyUnk ws ge cats pos numLeft numRight line with
  | .entry k d => some (k, d)
  | _ => none

/-- one line of unk.def as `read_oov` treats it: a skipped line is passed over, a malformed one ends the reading, an
accepted one is pushed; and what acceptance guarantees: the class has a behaviour line and (after the repair of D15b,
`ge`) both connection ids are inside the matrix -/
theorem classifyUnk_cases (ws : Char → Bool) (ge : Bool) (cats : List (Nat × CatInfo)) (pos : List (List (List Char))) (nl nr : Nat)
    (line : List Char) :
    (∀ rest acc, readOov ws ge cats pos nl nr (line :: rest) acc =
      match classifyUnk ws ge cats pos nl nr line with
      | .skip => readOov ws ge cats pos nl nr rest acc
      | .bad => none
      | .entry k d => readOov ws ge cats pos nl nr rest (pushOov k d acc)) ∧
    ∀ k d, classifyUnk ws ge cats pos nl nr line = .entry k d →
      (findKey k cats).isSome = true ∧ d.l ≤ nl ∧ d.r ≤ nr ∧ (ge = true → d.l < nl ∧ d.r < nr) ∧ d.pos < pos.length := by
  -- `readOov` tests `(findKey ct cats).isNone` BEFORE it parses the three `i16` and the POS, `classifyUnk` after: in every branch
  -- where one of these parses fails the two sides agree only after `cases (findKey ct cats).isNone`
  simp only [readOov, classifyUnk]
  generalize trimW ws line = tl
  by_cases hs : (tl.isEmpty || tl.head? == some '#') = true
  · simp only [if_pos hs]; exact ⟨fun _ _ => trivial, nofun⟩
  · simp only [if_neg hs]
    generalize Wire.splitOn ',' tl = cols
    by_cases hl : cols.length < 10
    · simp only [if_pos hl]; exact ⟨fun _ _ => trivial, nofun⟩
    · simp only [if_neg hl]
      rcases cols with _ | ⟨c0, _ | ⟨c1, _ | ⟨c2, _ | ⟨c3, more⟩⟩⟩⟩
      · exact ⟨fun _ _ => rfl, nofun⟩
      · exact ⟨fun _ _ => rfl, nofun⟩
      · exact ⟨fun _ _ => rfl, nofun⟩
      · exact ⟨fun _ _ => rfl, nofun⟩
      · simp only []
        cases parseCatTypeW ws c0 with
        | none => exact ⟨fun _ _ => rfl, nofun⟩
        | some ct =>
        simp only []
        cases parseI16 c1 with
        | none => cases (findKey ct cats).isNone <;> exact ⟨fun _ _ => rfl, nofun⟩
        | some l =>
        cases parseI16 c2 with
        | none => cases (findKey ct cats).isNone <;> exact ⟨fun _ _ => rfl, nofun⟩
        | some r =>
        cases parseI16 c3 with
        | none => cases (findKey ct cats).isNone <;> exact ⟨fun _ _ => rfl, nofun⟩
        | some c =>
        cases h4 : posIndex pos (more.take 6) with
        | none => cases (findKey ct cats).isNone <;> exact ⟨fun _ _ => rfl, nofun⟩
        | some p =>
          simp only []
          cases hn : (findKey ct cats).isNone
          · refine ⟨fun rest acc => ?_, fun k d h => ?_⟩
            · change (if idBad ge nl l = true then none else if idBad ge nr r = true then none else _) = _
              cases idBad ge nl l <;> cases idBad ge nr r <;> rfl
            · by_cases hcond : (false || idBad ge nl l || idBad ge nr r) = true
              · rw [if_pos hcond] at h; cases h
              · rw [if_neg hcond, ULine.entry.injEq] at h
                obtain ⟨rfl, rfl⟩ := h
                simp only [Bool.false_or, Bool.or_eq_true, not_or, Bool.not_eq_true] at hcond
                have hl := idBad_false ge nl l hcond.1
                have hr := idBad_false ge nr r hcond.2
                refine ⟨by cases hf : findKey ct cats <;> simp [hf] at hn ⊢, hl.1, hr.1, fun hge => ⟨hl.2 hge, hr.2 hge⟩, ?_⟩
                unfold posIndex at h4
                by_cases hi : List.findIdx (· == more.take 6) pos < pos.length
                · rw [if_pos hi] at h4; cases h4; exact hi
                · rw [if_neg hi] at h4; cases h4
          · exact ⟨fun _ _ => rfl, nofun⟩

theorem readOov_cons (ws : Char → Bool) (ge : Bool) (cats : List (Nat × CatInfo)) (pos : List (List (List Char))) (nl nr : Nat)
    (line : List Char) (rest : List (List Char)) (acc : List (Nat × List OovDef)) :
    readOov ws ge cats pos nl nr (line :: rest) acc =
      match classifyUnk ws ge cats pos nl nr line with
      | .skip => readOov ws ge cats pos nl nr rest acc
      | .bad => none
      | .entry k d => readOov ws ge cats pos nl nr rest (pushOov k d acc) :=
  (classifyUnk_cases ws ge cats pos nl nr line).1 rest acc

/-- the table `read_oov` builds from a list of entries: `get_mut(cat).push(oov)` / insert, in order -/
def pushAll (es : List (Nat × OovDef)) (acc : List (Nat × List OovDef)) : List (Nat × List OovDef) :=
  es.foldl (fun a e => pushOov e.1 e.2 a) acc

theorem readOov_iff (ws : Char → Bool) (ge : Bool) (cats : List (Nat × CatInfo)) (pos : List (List (List Char))) (nl nr : Nat)
    (lines : List (List Char)) (acc T : List (Nat × List OovDef)) :
    readOov ws ge cats pos nl nr lines acc = some T ↔
      (∀ l ∈ lines, classifyUnk ws ge cats pos nl nr l ≠ .bad) ∧
      T = pushAll (lines.filterMap (entryOfUnk ws ge cats pos nl nr)) acc := by
  induction lines generalizing acc with
  | nil =>
    simp only [readOov, pushAll, List.filterMap_nil, List.foldl_nil, List.not_mem_nil, false_imp_iff, implies_true, true_and]
    constructor
    · intro h; cases h; rfl
    · rintro rfl; rfl
  | cons line rest ih =>
    rw [readOov_cons]
    cases hcl : classifyUnk ws ge cats pos nl nr line with
    | skip =>
      have he : entryOfUnk ws ge cats pos nl nr line = none := by simp [entryOfUnk, hcl]
      simp only [ih, List.mem_cons, forall_eq_or_imp, hcl, List.filterMap_cons, he]
      simp
    | bad =>
      simp only []
      constructor
      · intro h; cases h
      · rintro ⟨h, _⟩; exact absurd hcl (h line List.mem_cons_self)
    | entry k d =>
      have he : entryOfUnk ws ge cats pos nl nr line = some (k, d) := by simp [entryOfUnk, hcl]
      simp only [ih, List.mem_cons, forall_eq_or_imp, hcl, List.filterMap_cons, he, pushAll, List.foldl_cons]
      simp

theorem findKey_pushOov (k k' : Nat) (d : OovDef) (acc : List (Nat × List OovDef)) :
    findKey k (pushOov k' d acc) =
      if k = k' then some ((findKey k acc).getD [] ++ [d]) else findKey k acc := by
  induction acc with
  | nil =>
    simp only [pushOov, findKey]
    by_cases h : k = k'
    · subst h; simp
    · have : ¬ k' = k := fun e => h e.symm
      simp [h, this]
  | cons kv rest ih =>
    obtain ⟨k2, ds⟩ := kv
    simp only [pushOov]
    by_cases h2 : k2 = k'
    · subst h2
      simp only [if_true, findKey]
      by_cases h : k2 = k
      · subst h; simp
      · have : ¬ k = k2 := fun e => h e.symm
        simp [h, this]
    · simp only [h2, if_false, findKey]
      by_cases h : k2 = k
      · subst h
        have : ¬ k2 = k' := h2
        simp [this]
      · simp only [h, if_false, ih]

theorem findKey_pushAll (k : Nat) (es : List (Nat × OovDef)) (acc : List (Nat × List OovDef)) :
    findKey k (pushAll es acc) =
      if (es.filter (fun e => e.1 == k)) = [] then findKey k acc
      else some ((findKey k acc).getD [] ++ (es.filter (fun e => e.1 == k)).map (·.2)) := by
  induction es generalizing acc with
  | nil => simp [pushAll]
  | cons e rest ih =>
    obtain ⟨k', d⟩ := e
    have hp : pushAll ((k', d) :: rest) acc = pushAll rest (pushOov k' d acc) := by simp [pushAll]
    rw [hp, ih, findKey_pushOov]
    by_cases h : k = k'
    · subst h
      simp only [if_true, List.filter_cons, beq_self_eq_true, Option.getD_some]
      split
      · rename_i hnil
        simp [hnil]
      · simp [List.append_assoc]
    · have hb : (k' == k) = false := by simpa using fun e => h e.symm
      simp only [h, if_false, List.filter_cons, hb, Bool.false_eq_true]

theorem keys_pushOov (k : Nat) (d : OovDef) (acc : List (Nat × List OovDef)) :
    (pushOov k d acc).map (·.1) = if k ∈ acc.map (·.1) then acc.map (·.1) else acc.map (·.1) ++ [k] := by
  induction acc with
  | nil => simp [pushOov]
  | cons kv rest ih =>
    obtain ⟨k2, ds⟩ := kv
    simp only [pushOov]
    by_cases h2 : k2 = k
    · subst h2; simp
    · have : ¬ k = k2 := fun e => h2 e.symm
      simp only [h2, if_false, List.map_cons, ih, List.mem_cons, this, false_or]
      split <;> simp

theorem nodup_keys_pushAll (es : List (Nat × OovDef)) (acc : List (Nat × List OovDef)) (h : (acc.map (·.1)).Nodup) :
    ((pushAll es acc).map (·.1)).Nodup := by
  induction es generalizing acc with
  | nil => simpa [pushAll] using h
  | cons e rest ih =>
    have hp : pushAll (e :: rest) acc = pushAll rest (pushOov e.1 e.2 acc) := by simp [pushAll]
    rw [hp]
    apply ih
    rw [keys_pushOov]
    split
    · exact h
    · rename_i hk; exact nodup_snoc _ _ h hk

end Oov
