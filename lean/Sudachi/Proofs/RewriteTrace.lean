import Sudachi.Proofs.RewriteStep
/-!
# Every `concat` call of the numeral joiner, for every path (generic in the parser `P`)

`AccInv`: while a run is open the characters given to the parser are exactly the normalised forms of
the nodes of the run (the iterations of the loop are walked with `Rewrite.nstep_cases`).
`JoinTrace`: the output path arises from the input path by a sequence of `concat_nodes` calls, each
replacing a contiguous block of the CURRENT path by one token whose normalised form is — with
`enableNormalize` — the parser's rendering of the characters of exactly that block (closed with
`done()`), or of that block followed by the one separator that is split off (back-off: `done()` failed
with the matching error state); without `enableNormalize` no rendering is written at all.

The names are in `RewriteNumeric`: these are the statements that `Props/C15` instantiates with the parser model.
-/
namespace RewriteNumeric
open Rewrite

/-! ## the trace of `concat` calls -/

/-- one `concat_nodes` call of the numeral joiner: the contiguous block `blk` of the path is replaced
by ONE token; with `enableNormalize` its normalised form is the parser's rendering of the characters
of exactly the block (`tail = []`, the parser was `done()`), or of the block and the ONE separator
node that follows it and is split off (`done()` failed with exactly the error of that separator);
all of these characters were accepted.  Without `enableNormalize` the stored forms are concatenated
(`mergedNode … none`) and at least two nodes are joined. -/
def JoinStep (cfg : NCfg) (P : List Char → POut) (p q : List Node) : Prop :=
  ∃ pre blk post f l tail, p = pre ++ blk ++ post ∧ blk ≠ [] ∧
    q = pre ++ mergedNode f l blk
      (if cfg.enableNormalize then some (P (accOf blk ++ tail)).norm else none) :: post ∧
    (cfg.enableNormalize = false → 2 ≤ blk.length) ∧
    ¬ (P (accOf blk ++ tail)).n < (accOf blk ++ tail).length ∧
    ((tail = [] ∧ (P (accOf blk)).done = true) ∨
     (tail = [','] ∧ post.head?.map normForm = some [','] ∧ (P (accOf blk ++ tail)).done = false ∧
        (P (accOf blk ++ tail)).err = E_COMMA) ∨
     (tail = ['.'] ∧ post.head?.map normForm = some ['.'] ∧ (P (accOf blk ++ tail)).done = false ∧
        (P (accOf blk ++ tail)).err = E_POINT))

/-- reflexive-transitive closure of a one-step relation on paths -/
inductive Steps (S : List Node → List Node → Prop) : List Node → List Node → Prop
  | refl (p : List Node) : Steps S p p
  | step {p p' q : List Node} : S p p' → Steps S p' q → Steps S p q

theorem Steps.mono {S S' : List Node → List Node → Prop} (h : ∀ p q, S p q → S' p q) {p q : List Node}
    (ht : Steps S p q) : Steps S' p q := by
  induction ht with
  | refl p => exact .refl p
  | step hs _ ih => exact .step (h _ _ hs) ih

abbrev JoinTrace (cfg : NCfg) (P : List Char → POut) : List Node → List Node → Prop := Steps (JoinStep cfg P)

/-- while a run is open, the characters given to the parser are the normalised forms of the nodes of
the run, and all of them were accepted -/
def AccInv (P : List Char → POut) (st : NState) : Prop :=
  0 ≤ st.beginIdx →
    st.acc = accOf (block st.path st.beginIdx.toNat (st.i.toNat + 1)) ∧ ¬ (P st.acc).n < st.acc.length

theorem joinStep_of_nconcat (cfg : NCfg) (P : List Char → POut) (path q : List Node) (b e : Nat)
    (tail : List Char) (h : nconcat cfg P path b e (accOf (block path b e) ++ tail) = .ok q)
    (hacc : ¬ (P (accOf (block path b e) ++ tail)).n < (accOf (block path b e) ++ tail).length)
    (ht : (tail = [] ∧ (P (accOf (block path b e))).done = true) ∨
     (tail = [','] ∧ path[e]?.map normForm = some [','] ∧ (P (accOf (block path b e) ++ tail)).done = false ∧
        (P (accOf (block path b e) ++ tail)).err = E_COMMA) ∨
     (tail = ['.'] ∧ path[e]?.map normForm = some ['.'] ∧ (P (accOf (block path b e) ++ tail)).done = false ∧
        (P (accOf (block path b e) ++ tail)).err = E_POINT)) :
    q = path ∨ JoinStep cfg P path q := by
  rcases nconcat_ok h with rfl | ⟨f, l, -, -, -, hbe, he, h2, rfl⟩
  · exact .inl rfl
  · right
    refine ⟨path.take b, block path b e, path.drop e, f, l, tail, block_decomp path b e (by omega), ?_, rfl,
      ?_, hacc, ?_⟩
    · intro hn
      have := block_length path b e he
      rw [hn] at this
      simp at this
      omega
    · intro hn
      rw [block_length path b e he]
      have := h2 hn
      omega
    · rw [List.head?_drop]
      exact ht

theorem nclose_trace {cfg : NCfg} {P : List Char → POut} {st : NState} {j : Nat} {r : List Node × Int}
    (h : nclose cfg P st j = .ok r) (hb : st.beginIdx < j)
    (hacc : 0 ≤ st.beginIdx →
      st.acc = accOf (block st.path st.beginIdx.toNat j) ∧ ¬ (P st.acc).n < st.acc.length) :
    r.1 = st.path ∨ JoinStep cfg P st.path r.1 := by
  rcases nclose_cases h with h | ⟨h0, hd, h⟩ | ⟨h0, hd, h1, prev, hprev, hsep, h⟩ | ⟨h, -⟩
  · cases h; exact .inl rfl
  · -- `done()`: the whole run
    obtain ⟨p', hc, hr⟩ := Outcome.bind_eq_ok h.symm
    cases hr
    obtain ⟨hacc1, hacc2⟩ := hacc h0
    rw [Int.toNat_natCast] at hc
    rw [hacc1] at hc hacc2 hd
    rw [← List.append_nil (accOf _)] at hc hacc2
    exact joinStep_of_nconcat cfg P _ _ _ _ [] hc hacc2 (.inl ⟨rfl, hd⟩)
  · -- stuck on the separator `prev`, the last node of the run: the run without it
    obtain ⟨p', hc, hr⟩ := Outcome.bind_eq_ok h.symm
    cases hr
    obtain ⟨hacc1, hacc2⟩ := hacc h0
    rw [Int.toNat_natCast] at hc hprev h1
    have hsplit : st.acc = accOf (block st.path st.beginIdx.toNat (j - 1)) ++ normForm prev := by
      have hbs := block_snoc st.path st.beginIdx.toNat (j - 1) prev (by omega) hprev
      rw [show j - 1 + 1 = j by omega] at hbs
      rw [hacc1, hbs, accOf_append]
      simp [accOf]
    have hsep : ((P st.acc).err = E_COMMA ∧ normForm prev = [',']) ∨
        ((P st.acc).err = E_POINT ∧ normForm prev = ['.']) := by simpa [sepErr] using hsep
    rcases hsep with ⟨he, hs⟩ | ⟨he, hs⟩
    · rw [hs] at hsplit
      rw [hsplit] at hc hacc2 hd he
      exact joinStep_of_nconcat cfg P _ _ _ _ [','] hc hacc2
        (.inr (.inl ⟨rfl, by rw [hprev]; simp [hs], hd, he⟩))
    · rw [hs] at hsplit
      rw [hsplit] at hc hacc2 hd he
      exact joinStep_of_nconcat cfg P _ _ _ _ ['.'] hc hacc2
        (.inr (.inr ⟨rfl, by rw [hprev]; simp [hs], hd, he⟩))
  · cases h

theorem nstep_trace (v : NVariant) (cfg : NCfg) (cat : List Nat) (P : List Char → POut) (st st' : NState)
    (h : nstep v cfg cat P st = .ok st') (hinv : NInv2 st) (hacc : AccInv P st) :
    AccInv P st' ∧ (st'.path = st.path ∨ JoinStep cfg P st.path st'.path) := by
  obtain ⟨hi, hbi, hbl⟩ := hinv
  rcases Rewrite.nstep_cases h with h | ⟨node, hn, h | h⟩
  · cases h
  · -- a candidate joins the run (or starts it) if it is accepted
    cases h
    refine ⟨fun h0 => ?_, .inl (nfeed_path ..)⟩
    rcases nfeed_cases v P st node with ⟨hok, e1, e2, -⟩ | ⟨-, e2, -⟩
    · rw [nfeed_acc, nfeed_path, e1, e2]
      refine ⟨?_, hok⟩
      unfold feedAcc runStart
      by_cases hneg : st.beginIdx < 0
      · rw [if_pos hneg, if_pos hneg, block_single _ _ node hn]
        simp [accOf]
      · rw [if_neg hneg, if_neg hneg]
        obtain ⟨hacc1, _⟩ := hacc (by omega)
        have e3 : (st.i + 1).toNat = st.i.toNat + 1 := by omega
        rw [e3] at hn ⊢
        rw [block_snoc _ _ _ node (by omega) hn, accOf_append, ← hacc1]
        simp [accOf]
    · omega
  · obtain ⟨r, hc, hr⟩ := Outcome.bind_eq_ok h.symm
    cases hr
    refine ⟨fun h0 => absurd h0 (show ¬ (0 : Int) ≤ -1 by decide), ?_⟩
    rw [show st.i + 1 = (((st.i + 1).toNat : Nat) : Int) by omega] at hc
    refine nclose_trace hc (by omega) (fun h0 => ?_)
    rw [show (st.i + 1).toNat = st.i.toNat + 1 by omega]
    exact hacc h0

theorem ntail_trace (cfg : NCfg) (P : List Char → POut) (st : NState) (q : List Node)
    (h : ntail cfg P st = .ok q) (hinv : NInv2 st) (hacc : AccInv P st)
    (hg : ¬ st.i < (st.path.length : Int) - 1) :
    q = st.path ∨ JoinStep cfg P st.path q := by
  obtain ⟨hi, hbi, hbl⟩ := hinv
  rw [ntail_eq] at h
  obtain ⟨r, hc, hr⟩ := Outcome.bind_eq_ok h
  cases hr
  refine nclose_trace hc (by omega) (fun h0 => ?_)
  rw [← block_past _ _ _ (show st.path.length ≤ st.i.toNat + 1 by omega)]
  exact hacc h0

theorem nloop_trace (v : NVariant) (cfg : NCfg) (cat : List Nat) (P : List Char → POut) (fuel : Nat) (st : NState)
    (q : List Node) (hinv : NInv2 st) (hacc : AccInv P st) (h : nloop v cfg cat P fuel st = .ok q) :
    JoinTrace cfg P st.path q := by
  fun_induction nloop v cfg cat P fuel st with
  | case2 _ st hg st' hs ih =>
    obtain ⟨ha', hp⟩ := nstep_trace v cfg cat P st st' hs hinv hacc
    have ht := ih (nstep_inv2 hs hinv.inv (by omega)) ha' h
    rcases hp with hp | hp
    · rw [← hp]; exact ht
    · exact .step hp ht
  | case6 _ st hg =>
    rcases ntail_trace cfg P st q h hinv hacc hg with rfl | hp
    · exact .refl _
    · exact .step hp (.refl _)
  | case1 | case3 | case4 | case5 => cases h

theorem joinNumeric_trace (v : NVariant) (cfg : NCfg) (cat : List Nat) (P : List Char → POut)
    (path q : List Node) (h : joinNumeric v cfg cat P path = .ok q) : JoinTrace cfg P path q := by
  unfold joinNumeric at h
  exact nloop_trace v cfg cat P _ (nInit path) q (nInit_inv2 path)
    (fun h0 => by simp [nInit] at h0) h

end RewriteNumeric
