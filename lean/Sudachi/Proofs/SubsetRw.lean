import Sudachi.Model.SubsetRw
import Sudachi.Proofs.SubsetTok
import Sudachi.Proofs.RewriteStep
import Sudachi.Proofs.RewriteKatakana
/-!
# Proofs for subset loading in front of the path-rewrite plugins (C11, second clause)

`er k m` erases from a plugin node every word-info field that neither the plugin stack nor `split_path` reads
in mode `m` and keeps the rest: ranges, word id, head-word length, the split list of the mode and, for
`k = true`, POS id, surface and normalised form (what `JoinNumericPlugin` reads).  Every function of the plugin
model gives, on two paths that are equal after erasure, outcomes that are equal after erasure: the tests
read kept fields only, and a merged node is built from kept fields in its kept fields.  The two loops and the
stack are walked once, for any relation on paths that the merge functions keep; equality under `er k m` is
one instance, and for stacks of `JoinKatakanaOovPlugin` only, equality under `er0 m` (which also erases the
head-word length, merely summed there) together with "the sum fits a `u16`" is the other.  Two requests whose
loads differ in erased fields only therefore give the same word ids and byte boundaries.

The working relation is `ORel r` (same outcome class, `r`-related values), at `r = MapEq (er k m)` for the first instance:
every proof on the way to `Props/C11.lean` states and uses it (`rewriteAll_er`, `tokenizeRw_rel`, `tokenizeRw_agree`).  `OSim k m`
is the same relation at that `r`, written out as an inductive of its own.  No proof uses it: `rewriteAll_sim`,
`concatNodes_sim` (from the `ORel` statements by `OSim.of_rel`) and `OSim.refl` are the form in which the result is quoted in
prose outside the Lean files; to build on the result use `rewriteAll_er`.  (`RecycleTotal.rewriteAll_sim` in
`Proofs/RecycleBridge.lean` is another theorem.)  Names: `_self` = a function on the erased path against the same function on the path; `_rel` = for any
relation; `_er` / `_fit0` = on two paths related by the first / second instance (and, for plain functions, an equation under
`er`); `_sim` = the `OSim` form.
-/
namespace Subset
open Rewrite (Node Outcome)

/-! ## Relations on outcomes -/

def omap {α β : Type} (f : α → β) : Outcome α → Outcome β
  | .ok a => .ok (f a)
  | .err => .err
  | .panic => .panic
  | .fuel => .fuel

/-- same outcome class, and `r`-related values -/
inductive ORel {α β : Type} (r : α → β → Prop) : Outcome α → Outcome β → Prop
  | ok {a : α} {b : β} : r a b → ORel r (.ok a) (.ok b)
  | err : ORel r .err .err
  | panic : ORel r .panic .panic
  | fuel : ORel r .fuel .fuel

/-- `?` on two related outcomes.  The discriminants are `Outcome (List Node)` on purpose: the `match` below must
elaborate to the matcher of the model's loops to unify with them, and a `match` on `Outcome α` is another one. -/
theorem ORel.bind {γ δ : Type} {r : List Node → List Node → Prop} {s : γ → δ → Prop} {o1 o2 : Outcome (List Node)}
    (h : ORel r o1 o2) {F : List Node → Outcome γ} {G : List Node → Outcome δ}
    (hFG : ∀ p q, r p q → ORel s (F p) (G q)) :
    ORel s (match (generalizing := false) o1 with | .ok p => F p | .err => .err | .panic => .panic | .fuel => .fuel)
      (match (generalizing := false) o2 with | .ok q => G q | .err => .err | .panic => .panic | .fuel => .fuel) := by
  cases h with
  | ok h => exact hFG _ _ h
  | err => exact .err
  | panic => exact .panic
  | fuel => exact .fuel

/-- `?` written with the function `Outcome.bind`, for any types -/
theorem ORel.bindF {α β γ δ : Type} {r : α → β → Prop} {s : γ → δ → Prop} {o1 : Outcome α} {o2 : Outcome β}
    (h : ORel r o1 o2) {F : α → Outcome γ} {G : β → Outcome δ} (hFG : ∀ a b, r a b → ORel s (F a) (G b)) :
    ORel s (o1.bind F) (o2.bind G) := by
  cases h with
  | ok h => exact hFG _ _ h
  | err => exact .err
  | panic => exact .panic
  | fuel => exact .fuel

theorem ORel.refl {α : Type} (o : Outcome α) : ORel Eq o o := by
  cases o with
  | ok a => exact .ok (Eq.refl a)
  | err => exact .err
  | panic => exact .panic
  | fuel => exact .fuel

/-- a function that gives related outcomes on `g p` and `p`, for a relation of the form "equal under `e`", gives
related outcomes on any two arguments that `g` identifies -/
theorem ORel.of_self {α β γ : Type} {e : β → γ} {F : α → Outcome β} {g : α → α}
    (hself : ∀ p, ORel (fun a b => e a = e b) (F (g p)) (F p)) {p q : α} (h : g p = g q) :
    ORel (fun a b => e a = e b) (F p) (F q) := by
  have h1 := hself p
  have h2 := hself q
  rw [h] at h1
  revert h1 h2
  generalize F (g q) = o
  generalize F p = a
  generalize F q = b
  intro h1 h2
  cases h1 with
  | ok h1 => cases h2 with | ok h2 => exact .ok (h1.symm.trans h2)
  | err => cases h2; exact .err
  | panic => cases h2; exact .panic
  | fuel => cases h2; exact .fuel

abbrev MapEq {α β : Type} (f : α → β) (p q : List α) : Prop := p.map f = q.map f

/-- both sides make the same test -/
theorem rel_ite {α β : Type} {R : α → β → Prop} {c : Prop} [Decidable c] {a a' : α} {b b' : β}
    (h1 : c → R a b) (h2 : ¬ c → R a' b') : R (if c then a else a') (if c then b else b') := by
  by_cases hc : c
  · rw [if_pos hc, if_pos hc]; exact h1 hc
  · rw [if_neg hc, if_neg hc]; exact h2 hc

theorem getElem?_of_map_eq {α β : Type} {f : α → β} {p q : List α} (h : p.map f = q.map f) (i : Nat) :
    (p[i]? = none ∧ q[i]? = none) ∨ ∃ a b, p[i]? = some a ∧ q[i]? = some b ∧ f a = f b := by
  have hg : (p[i]?).map f = (q[i]?).map f := by rw [← List.getElem?_map, ← List.getElem?_map, h]
  cases hp : p[i]? with
  | none => cases hq : q[i]? with
    | none => exact Or.inl ⟨rfl, rfl⟩
    | some b => rw [hp, hq] at hg; cases hg
  | some a => cases hq : q[i]? with
    | none => rw [hp, hq] at hg; cases hg
    | some b => rw [hp, hq] at hg; exact Or.inr ⟨a, b, rfl, rfl, Option.some.inj hg⟩

theorem length_of_map_eq {α β : Type} {f : α → β} {p q : List α} (h : p.map f = q.map f) : p.length = q.length := by
  rw [← List.length_map (f := f), h, List.length_map]

/-! ## The plugin stack reads the kept fields only -/

/-- erase from a plugin node the word-info fields that neither the plugin stack nor `split_path` reads in mode `m`; `k` keeps
POS id, surface and normalised form, which `JoinNumericPlugin` reads -/
def er (k : Bool) (m : Mode) (n : Node) : Node :=
  { n with dfw := 0, wStruct := [], syn := [], reading := [], dform := [],
           aSplit := if m = .A then n.aSplit else [], bSplit := if m = .B then n.bSplit else [],
           pos := if k then n.pos else 0, surface := if k then n.surface else [],
           norm := if k then n.norm else [] }

theorem block_map (f : Node → Node) (p : List Node) (b e : Nat) :
    Rewrite.block (p.map f) b e = (Rewrite.block p b e).map f := by
  simp [Rewrite.block, List.map_take, List.map_drop]

theorem sumHwl_er (k : Bool) (m : Mode) (blk : List Node) : Rewrite.sumHwl (blk.map (er k m)) = Rewrite.sumHwl blk := by
  simp [Rewrite.sumHwl, List.foldl_map, er]

theorem catSurface_er (m : Mode) (blk : List Node) : Rewrite.catSurface (blk.map (er true m)) = Rewrite.catSurface blk := by
  simp [Rewrite.catSurface, List.flatMap_map, er]

theorem maxWid_er (k : Bool) (m : Mode) (blk : List Node) : Rewrite.maxWid (blk.map (er k m)) = Rewrite.maxWid blk := by
  simp [Rewrite.maxWid, List.foldl_map, er]
  rfl

theorem flatMap_norm_er (m : Mode) (blk : List Node) :
    (blk.map (er true m)).flatMap (·.norm) = blk.flatMap (·.norm) := by
  simp [List.flatMap_map, er]

theorem er_er (k : Bool) (m : Mode) (n : Node) : er k m (er k m n) = er k m n := by
  cases m <;> cases k <;> rfl

theorem map_er_er (k : Bool) (m : Mode) (p : List Node) : (p.map (er k m)).map (er k m) = p.map (er k m) := by
  simp [List.map_map, Function.comp_def, er_er]

theorem mergedNode_er (k : Bool) (m : Mode) (f l : Node) (blk : List Node) (nf : Option (List Char)) :
    er k m (Rewrite.mergedNode (er k m f) (er k m l) (blk.map (er k m)) nf) = er k m (Rewrite.mergedNode f l blk nf) := by
  cases k with
  | false => simp [Rewrite.mergedNode, sumHwl_er, er]
  | true =>
    simp only [Rewrite.mergedNode, sumHwl_er, catSurface_er, flatMap_norm_er]
    cases nf <;> simp [er]

theorem mergedOovNode_er (k : Bool) (m : Mode) (f l : Node) (blk : List Node) (pos : Nat) :
    er k m (Rewrite.mergedOovNode (er k m f) (er k m l) (blk.map (er k m)) pos) = er k m (Rewrite.mergedOovNode f l blk pos) := by
  cases k with
  | false => simp [Rewrite.mergedOovNode, sumHwl_er, maxWid_er, er]
  | true =>
    simp only [Rewrite.mergedOovNode, sumHwl_er, catSurface_er, maxWid_er]
    simp [er]

/-- same outcome class, and equal paths after erasure: `ORel (MapEq (er k m))` as an inductive of its own, the form of
`rewriteAll_sim`; proofs work with `ORel` and convert at the end (`OSim.of_rel`) -/
inductive OSim (k : Bool) (m : Mode) : Outcome (List Node) → Outcome (List Node) → Prop
  | ok {p q : List Node} : p.map (er k m) = q.map (er k m) → OSim k m (.ok p) (.ok q)
  | err : OSim k m .err .err
  | panic : OSim k m .panic .panic
  | fuel : OSim k m .fuel .fuel

theorem OSim.refl (k : Bool) (m : Mode) (o : Outcome (List Node)) : OSim k m o o := by
  cases o <;> constructor; rfl

theorem OSim.of_rel {k : Bool} {m : Mode} {a b : Outcome (List Node)} (h : ORel (MapEq (er k m)) a b) : OSim k m a b := by
  cases h with
  | ok h => exact .ok h
  | err => exact .err
  | panic => exact .panic
  | fuel => exact .fuel

/-- `concat_nodes` and `concat_oov_nodes` (`Rewrite.concatWith`) on the erased path: the tests read byte ranges and head-word
lengths, and the merged node is built from kept fields in its kept fields (`hmk`) -/
theorem concatWith_self (k : Bool) (m : Mode) {mk : Node → Node → List Node → Node}
    (hmk : ∀ f l blk, er k m (mk (er k m f) (er k m l) (blk.map (er k m))) = er k m (mk f l blk)) (p : List Node) (b e : Nat) :
    ORel (MapEq (er k m)) (Rewrite.concatWith mk (p.map (er k m)) b e) (Rewrite.concatWith mk p b e) := by
  unfold Rewrite.concatWith
  simp only [List.getElem?_map, block_map, sumHwl_er]
  refine rel_ite (fun _ => .err) fun _ => ?_
  cases p[e - 1]? with
  | none => exact .panic
  | some l =>
    cases p[b]? with
    | none => exact .panic
    | some f =>
      exact rel_ite (fun _ => .panic) fun _ => rel_ite (fun _ => .panic) fun _ => .ok (by
        simp only [MapEq, List.map_append, List.map_cons, List.map_take, List.map_drop, map_er_er, hmk])

theorem concatNodes_self (k : Bool) (m : Mode) (p : List Node) (b e : Nat) (nf : Option (List Char)) :
    ORel (MapEq (er k m)) (Rewrite.concatNodes (p.map (er k m)) b e nf) (Rewrite.concatNodes p b e nf) :=
  concatWith_self k m (mk := (Rewrite.mergedNode · · · nf)) (mergedNode_er k m · · · nf) p b e

theorem concatNodes_sim (k : Bool) (m : Mode) {p q : List Node} (h : p.map (er k m) = q.map (er k m)) (b e : Nat) (nf : Option (List Char)) :
    OSim k m (Rewrite.concatNodes p b e nf) (Rewrite.concatNodes q b e nf) :=
  .of_rel (ORel.of_self (F := fun p => Rewrite.concatNodes p b e nf) (concatNodes_self k m · b e nf) h)

theorem concatOov_er (k : Bool) (m : Mode) {p q : List Node} (b e pos : Nat) (h : MapEq (er k m) p q) :
    ORel (MapEq (er k m)) (Rewrite.concatOovNodes p b e pos) (Rewrite.concatOovNodes q b e pos) :=
  ORel.of_self (F := fun p => Rewrite.concatOovNodes p b e pos) (concatWith_self k m (mk := (Rewrite.mergedOovNode · · · pos)) (mergedOovNode_er k m · · · pos) · b e) h

/-! ### `JoinKatakanaOovPlugin` -/

/-- the three scans of the plugin are `Rewrite.countWhile` of a test on one node (`Rewrite.krun`): a node map that keeps
the test keeps the count -/
theorem countWhile_map {t : Node → Outcome Bool} {f : Node → Node} (ht : ∀ n, t (f n) = t n) (l : List Node) :
    Rewrite.countWhile t (l.map f) = Rewrite.countWhile t l := by
  induction l with
  | nil => rfl
  | cons n r ih => simp only [List.map_cons, Rewrite.countWhile, ht, ih]

section
variable (f : Node → Node) (hf : ∀ n, (f n).b = n.b ∧ (f n).e = n.e ∧ (f n).wid = n.wid) (cat : List Nat)
include hf

theorem isKatakana_map (n : Node) : Rewrite.isKatakana cat (f n) = Rewrite.isKatakana cat n := by
  unfold Rewrite.isKatakana; rw [(hf n).1, (hf n).2.1]

/-- the run around index `i` is three counts of tests that read the character range only -/
theorem krun_map (p : List Node) (i : Nat) : Rewrite.krun cat (p.map f) i = Rewrite.krun cat p i := by
  have hb : ∀ n, Rewrite.noBow cat (f n) = Rewrite.noBow cat n := fun n => by
    unfold Rewrite.noBow Rewrite.canOovBow; rw [(hf n).1]
  simp only [Rewrite.krun, ← List.map_take, ← List.map_reverse, ← List.map_drop, block_map,
    countWhile_map (isKatakana_map f hf cat), countWhile_map hb]

/-- `JoinKatakanaOovPlugin` decides from character ranges and word ids only -/
theorem kstep_map (cfg : Rewrite.KCfg) (p : List Node) (i : Nat) (n : Node) (hi : i ≤ p.length) :
    Rewrite.kstep cfg cat (p.map f) i (f n) = Rewrite.kstep cfg cat p i n := by
  rw [Rewrite.kstep_eq cfg cat p i n hi, Rewrite.kstep_eq cfg cat _ i _ (by rw [List.length_map]; exact hi),
    krun_map f hf cat, isKatakana_map f hf cat]
  unfold Rewrite.isOov Rewrite.isShorter
  rw [(hf n).1, (hf n).2.1, (hf n).2.2]

theorem kstep_congr (cfg : Rewrite.KCfg) {p q : List Node} (h : p.map f = q.map f) (i : Nat) {n1 n2 : Node}
    (hn : f n1 = f n2) (hi : i ≤ q.length) : Rewrite.kstep cfg cat p i n1 = Rewrite.kstep cfg cat q i n2 := by
  rw [← kstep_map f hf cat cfg p i n1 (length_of_map_eq h ▸ hi), ← kstep_map f hf cat cfg q i n2 hi, h, hn]

/-- the loop of `JoinKatakanaOovPlugin` keeps any relation `r` on paths that implies equality under a node map
`f` as above and that `concat_oov_nodes` keeps -/
theorem kloop_rel {r : List Node → List Node → Prop} (hr : ∀ {p q}, r p q → p.map f = q.map f)
    (hcat : ∀ {p q} (b e pos), r p q → ORel r (Rewrite.concatOovNodes p b e pos) (Rewrite.concatOovNodes q b e pos))
    (cfg : Rewrite.KCfg) :
    ∀ (fuel : Nat) (p q : List Node) (i : Nat), r p q →
      ORel r (Rewrite.kloop cfg cat fuel p i) (Rewrite.kloop cfg cat fuel q i) := by
  intro fuel
  induction fuel with
  | zero => intro p q i _; exact .fuel
  | succ fuel ih =>
    intro p q i h
    unfold Rewrite.kloop
    rw [length_of_map_eq (hr h)]
    refine rel_ite (fun _ => .ok h) fun hi => ?_
    rcases getElem?_of_map_eq (hr h) i with ⟨h1, h2⟩ | ⟨n1, n2, h1, h2, hn⟩
    · rw [h1, h2]; exact .panic
    · rw [h1, h2]
      dsimp only
      rw [kstep_congr f hf cat cfg (hr h) i hn (Nat.le_of_not_le hi)]
      cases Rewrite.kstep cfg cat q i n2 with
      | err => exact .err
      | panic => exact .panic
      | fuel => exact .fuel
      | ok st =>
        cases st with
        | next => exact ih p q (i + 1) h
        | join b e => exact (hcat b e cfg.oovPos h).bind fun _ _ h' => ih _ _ (b + 2) h'

theorem joinKatakana_rel {r : List Node → List Node → Prop} (hr : ∀ {p q}, r p q → p.map f = q.map f)
    (hcat : ∀ {p q} (b e pos), r p q → ORel r (Rewrite.concatOovNodes p b e pos) (Rewrite.concatOovNodes q b e pos))
    (cfg : Rewrite.KCfg) {p q : List Node} (h : r p q) :
    ORel r (Rewrite.joinKatakana cfg cat p) (Rewrite.joinKatakana cfg cat q) := by
  unfold Rewrite.joinKatakana Rewrite.kFuel
  rw [length_of_map_eq (hr h)]
  exact kloop_rel f hf cat hr hcat cfg _ p q 0 h

end

/-! ### the stack of plugins -/

theorem rewriteAll_rel {r : List Node → List Node → Prop} (v : Rewrite.NVariant) (cat : List Nat)
    (P : List Char → Rewrite.POut) :
    ∀ (pls : List Rewrite.Plugin),
      (∀ pl ∈ pls, ∀ p q, r p q → ORel r (Rewrite.applyPlugin v cat P pl p) (Rewrite.applyPlugin v cat P pl q)) →
      ∀ p q, r p q → ORel r (Rewrite.rewriteAll v cat P pls p) (Rewrite.rewriteAll v cat P pls q) := by
  intro pls
  induction pls with
  | nil => intro _ p q h; exact .ok h
  | cons pl rest ih =>
    intro hpl p q h
    unfold Rewrite.rewriteAll
    exact (hpl pl (List.mem_cons_self ..) p q h).bind fun _ _ h' =>
      ih (fun pl' hm => hpl pl' (List.mem_cons_of_mem _ hm)) _ _ h'

/-! ### `JoinNumericPlugin` -/

theorem normForm_er (m : Mode) (n : Node) : Rewrite.normForm (er true m n) = Rewrite.normForm n := rfl

/-- `JoinNumericPlugin::concat` on the erased path: one `rel_ite` per test of `Rewrite.nconcat`, in its order (POS of the
first node, `end < begin`, `enableNormalize`, length / changed normalised form); every test reads kept fields, the leaves
are "path unchanged" or `concat_nodes` -/
theorem nconcat_self (m : Mode) (cfg : Rewrite.NCfg) (P : List Char → Rewrite.POut) (p : List Node) (b e : Nat)
    (acc : List Char) :
    ORel (MapEq (er true m)) (Rewrite.nconcat cfg P (p.map (er true m)) b e acc) (Rewrite.nconcat cfg P p b e acc) := by
  unfold Rewrite.nconcat
  simp only [List.getElem?_map]
  cases p[b]? with
  | none => exact .panic
  | some f =>
    have keep : ORel (MapEq (er true m)) (.ok (p.map (er true m))) (.ok p) := .ok (map_er_er true m p)
    exact rel_ite (fun _ => keep) fun _ => rel_ite (fun _ => .panic) fun _ =>
      rel_ite (fun _ => rel_ite (fun _ => concatNodes_self true m p b e _) fun _ => keep) fun _ =>
        rel_ite (fun _ => concatNodes_self true m p b e _) fun _ => keep

def erS (m : Mode) (st : Rewrite.NState) : Rewrite.NState := { st with path := st.path.map (er true m) }

theorem erS_erS (m : Mode) (st : Rewrite.NState) : erS m (erS m st) = erS m st := by
  cases st; simp only [erS, map_er_er]

abbrev NSim (m : Mode) : Outcome Rewrite.NState → Outcome Rewrite.NState → Prop :=
  ORel fun s t => erS m s = erS m t

/-- closing a run reads the node before the index through `normalized_form()` only and changes the path through `concat`
only: on the erased path it returns the same index and a path that is equal after erasure -/
theorem nclose_self (m : Mode) (cfg : Rewrite.NCfg) (P : List Char → Rewrite.POut) (st : Rewrite.NState) (i : Int) :
    ORel (fun a b => MapEq (er true m) a.1 b.1 ∧ a.2 = b.2) (Rewrite.nclose cfg P (erS m st) i) (Rewrite.nclose cfg P st i) := by
  obtain ⟨path, i0, bi, comma, period, acc⟩ := st
  show ORel _ (Rewrite.nclose cfg P ⟨path.map (er true m), i0, bi, comma, period, acc⟩ i) _
  unfold Rewrite.nclose Rewrite.sepErr
  simp only [List.getElem?_map]
  have keep : ∀ j : Int, ORel (fun a b : List Node × Int => MapEq (er true m) a.1 b.1 ∧ a.2 = b.2)
      (.ok (path.map (er true m), j)) (.ok (path, j)) := fun j => .ok ⟨map_er_er true m path, rfl⟩
  refine rel_ite (fun _ => ?_) fun _ => keep i
  refine rel_ite (fun _ => (nconcat_self m cfg P path _ _ acc).bindF fun _ _ h => .ok ⟨h, rfl⟩) fun _ => ?_
  refine rel_ite (fun _ => .panic) fun _ => ?_
  cases path[i.toNat - 1]? with
  | none => exact .panic
  | some prev =>
    dsimp only [Option.map_some, normForm_er]
    exact rel_ite (fun _ => (nconcat_self m cfg P path _ _ acc).bindF fun _ _ h => .ok ⟨h, rfl⟩) fun _ => keep i

/-- the two runs of an iteration look at the same node up to erasure and make the same tests (a node is read through its
character range and `normalized_form()` only, which `er true` keeps); a candidate is fed without touching the path, any
other node closes the open run -/
theorem nstep_self (m : Mode) (v : Rewrite.NVariant) (cfg : Rewrite.NCfg) (cat : List Nat) (P : List Char → Rewrite.POut)
    (st : Rewrite.NState) :
    NSim m (Rewrite.nstep v cfg cat P (erS m st)) (Rewrite.nstep v cfg cat P st) := by
  rw [Rewrite.nstep_eq, Rewrite.nstep_eq, show Rewrite.nodeAt (erS m st) = _ from Rewrite.nodeAt_map (er true m) st,
    Rewrite.Outcome.bind_assoc]
  refine (ORel.refl (Rewrite.nodeAt st)).bindF fun node _ hn => ?_
  subst hn
  refine (ORel.refl (Rewrite.catOf cat node)).bindF fun ct _ hc => ?_
  subst hc
  refine rel_ite (fun _ => .ok ?_) fun _ => (nclose_self m cfg P st _).bindF fun a b h => .ok ?_
  · rw [show Rewrite.nfeed v P (erS m st) (er true m node) = _ from Rewrite.nfeed_with_path v P st node _]
    simp only [erS, map_er_er, Rewrite.nfeed_path]
  · show erS m (Rewrite.finState st _ a.1 a.2) = erS m (Rewrite.finState st _ b.1 b.2)
    rw [h.2]
    exact congrArg (fun p => (⟨p, _, _, _, _, _⟩ : Rewrite.NState)) h.1

theorem ntail_self (m : Mode) (cfg : Rewrite.NCfg) (P : List Char → Rewrite.POut) (st : Rewrite.NState) :
    ORel (MapEq (er true m)) (Rewrite.ntail cfg P (erS m st)) (Rewrite.ntail cfg P st) := by
  rw [Rewrite.ntail_eq, Rewrite.ntail_eq, show (erS m st).path.length = st.path.length from List.length_map _]
  exact (nclose_self m cfg P st _).bindF fun _ _ h => .ok h.1

theorem nloop_er (m : Mode) (v : Rewrite.NVariant) (cfg : Rewrite.NCfg) (cat : List Nat) (P : List Char → Rewrite.POut) :
    ∀ (fuel : Nat) (s t : Rewrite.NState), erS m s = erS m t →
      ORel (MapEq (er true m)) (Rewrite.nloop v cfg cat P fuel s) (Rewrite.nloop v cfg cat P fuel t) := by
  intro fuel
  induction fuel with
  | zero => intro s t _; exact .fuel
  | succ fuel ih =>
    intro s t h
    unfold Rewrite.nloop
    have hi : s.i = t.i := show (erS m s).i = (erS m t).i from congrArg _ h
    have hl : s.path.length = t.path.length := length_of_map_eq (show (erS m s).path = (erS m t).path from congrArg _ h)
    rw [hi, hl]
    refine rel_ite (fun _ => ?_) fun _ => ORel.of_self (ntail_self m cfg P) h
    have hs : NSim m _ _ := ORel.of_self (nstep_self m v cfg cat P) h
    revert hs
    generalize Rewrite.nstep v cfg cat P s = o1
    generalize Rewrite.nstep v cfg cat P t = o2
    intro hs
    cases hs with
    | ok h' => exact ih _ _ h'
    | err => exact .err
    | panic => exact .panic
    | fuel => exact .fuel

theorem joinNumeric_er (m : Mode) (v : Rewrite.NVariant) (cfg : Rewrite.NCfg) (cat : List Nat) (P : List Char → Rewrite.POut)
    {p q : List Node} (h : MapEq (er true m) p q) :
    ORel (MapEq (er true m)) (Rewrite.joinNumeric v cfg cat P p) (Rewrite.joinNumeric v cfg cat P q) := by
  unfold Rewrite.joinNumeric Rewrite.nFuel
  rw [length_of_map_eq h]
  exact nloop_er m v cfg cat P _ _ _ (by simp only [erS, Rewrite.nInit, h])

def HasNumeric (pls : List Rewrite.Plugin) : Prop := ∃ cfg, Rewrite.Plugin.numeric cfg ∈ pls

theorem reqOfStack_numeric (pls : List Rewrite.Plugin) (h : HasNumeric pls) :
    (reqOfStack pls).testBit POS_ID = true ∧ (reqOfStack pls).testBit NORMALIZED_FORM = true := by
  have key : ∀ (pls : List Rewrite.Plugin) (a j : Nat), (pls.foldl (fun a p => a ||| reqOf p) a).testBit j =
      (a.testBit j || pls.any fun p => (reqOf p).testBit j) := by
    intro pls
    induction pls with
    | nil => intro a j; simp
    | cons pl rest ih => intro a j; rw [List.foldl_cons, ih, Nat.testBit_or, List.any_cons, Bool.or_assoc]
  obtain ⟨cfg, hc⟩ := h
  unfold reqOfStack
  rw [key, key]
  exact ⟨List.any_eq_true.mpr ⟨_, hc, (by decide : (2 ^ POS_ID ||| 2 ^ NORMALIZED_FORM).testBit POS_ID = true)⟩,
    List.any_eq_true.mpr ⟨_, hc, (by decide : (2 ^ POS_ID ||| 2 ^ NORMALIZED_FORM).testBit NORMALIZED_FORM = true)⟩⟩

/-- the plugin stack on two paths that are equal after erasure, in the working relation: the statement the analysis
theorems (`tokenizeRw_agree`) go through; `rewriteAll_sim` is the same in the `OSim` form -/
theorem rewriteAll_er (k : Bool) (m : Mode) (v : Rewrite.NVariant) (cat : List Nat) (P : List Char → Rewrite.POut)
    (pls : List Rewrite.Plugin) (hk : HasNumeric pls → k = true) {p q : List Node} (h : MapEq (er k m) p q) :
    ORel (MapEq (er k m)) (Rewrite.rewriteAll v cat P pls p) (Rewrite.rewriteAll v cat P pls q) := by
  refine rewriteAll_rel v cat P pls (fun pl hpl p q h => ?_) p q h
  cases pl with
  | numeric cfg =>
    obtain rfl : k = true := hk ⟨cfg, hpl⟩
    exact joinNumeric_er m v cfg cat P h
  | katakana cfg =>
    exact joinKatakana_rel (er k m) (fun _ => ⟨rfl, rfl, rfl⟩) cat (fun h => h) (concatOov_er k m) cfg h

/-- `rewriteAll_er` in the `OSim` form: the plugin stack reads the kept fields only (`k = true` as soon as a
`JoinNumericPlugin` is configured; `JoinKatakanaOovPlugin` reads no word-info string) -/
theorem rewriteAll_sim (k : Bool) (m : Mode) (v : Rewrite.NVariant) (cat : List Nat) (P : List Char → Rewrite.POut) :
    ∀ (pls : List Rewrite.Plugin), (HasNumeric pls → k = true) → ∀ (p q : List Node), p.map (er k m) = q.map (er k m) →
      OSim k m (Rewrite.rewriteAll v cat P pls p) (Rewrite.rewriteAll v cat P pls q) :=
  fun pls hk _ _ h => .of_rel (rewriteAll_er k m v cat P pls hk h)

/-! ## The analysis from the best path on, under two requests -/

/-- what the plugin stack and `split_path` read: head-word length and the split list of the mode; with a
`JoinNumericPlugin` (`k = true`) also surface, POS id, normalised form -/
def GwisAgreeRW (ls : LexSet) (k : Bool) (m : Mode) (S1 S2 : Nat) : Prop := GwisRel ls (Agree k true m) S1 S2

theorem GwisAgreeRW.weaken {ls : LexSet} {k : Bool} {m : Mode} {S1 S2 : Nat} (H : GwisAgreeRW ls k m S1 S2) :
    GwisAgree ls m S1 S2 :=
  GwisRel.mono H fun _ _ a => a.mono (fun e => nomatch e) fun _ => rfl

theorem toRw_er (k : Bool) (m : Mode) (x : XNode) (w b e : Nat) {i1 i2 : WordInfoData} (ha : Agree k true m i1 i2) :
    er k m (toRw x ⟨w, b, e, i1⟩) = er k m (toRw x ⟨w, b, e, i2⟩) := by
  -- every field `er k m` keeps is one that `Agree k true m` equates
  obtain ⟨h1, h4, h5⟩ := ha
  have h4 := h4 rfl
  cases k with
  | false => cases m <;> simp_all [er, toRw, splitsOf]
  | true =>
    obtain ⟨h1, h2, h3⟩ := h1 rfl
    cases m <;> simp_all [er, toRw, splitsOf]

theorem resolvePathX_agree {ls : LexSet} {R : WordInfoData → WordInfoData → Prop} {S1 S2 : Nat}
    (H : GwisRel ls R S1 S2) (hR : ∀ i, R i i) (f : Node → Node)
    (hf : ∀ x w b e i1 i2, R i1 i2 → f (toRw x ⟨w, b, e, i1⟩) = f (toRw x ⟨w, b, e, i2⟩)) :
    ∀ (path : List XNode),
      (resolvePathX ls S1 path = .panic ∧ resolvePathX ls S2 path = .panic) ∨
      ∃ ns1 ns2, resolvePathX ls S1 path = .ok ns1 ∧ resolvePathX ls S2 path = .ok ns2 ∧
        ns1.map f = ns2.map f := by
  intro path
  induction path with
  | nil => exact Or.inr ⟨[], [], rfl, rfl, rfl⟩
  | cons x xs ih =>
    unfold resolvePathX
    rcases resolveNode_rel H hR x.toP with ⟨p1, p2⟩ | ⟨i1, i2, e1, e2, hr⟩
    · rw [p1, p2]; exact Or.inl ⟨rfl, rfl⟩
    · rw [e1, e2]
      rcases ih with ⟨q1, q2⟩ | ⟨ns1, ns2, f1, f2, hp⟩
      · rw [q1, q2]; exact Or.inl ⟨rfl, rfl⟩
      · rw [f1, f2]
        exact Or.inr ⟨_, _, rfl, rfl, by rw [List.map_cons, List.map_cons, hf _ _ _ _ _ _ hr, hp]⟩

theorem splitView_of_erased {m : Mode} (f : Node → Node) (hf : ∀ n, splitView m (ofRw (f n)) = splitView m (ofRw n))
    {q1 q2 : List Node} (h : q1.map f = q2.map f) :
    (q1.map ofRw).map (splitView m) = (q2.map ofRw).map (splitView m) := by
  have key : ∀ q : List Node, (q.map ofRw).map (splitView m) = (q.map f).map fun n => splitView m (ofRw n) := by
    intro q
    rw [List.map_map, List.map_map]
    exact List.map_congr_left fun n _ => (hf n).symm
  rw [key, key, h]

theorem splitView_ofRw_er (k : Bool) (m : Mode) (n : Node) : splitView m (ofRw (er k m n)) = splitView m (ofRw n) := by
  cases m <;> rfl

/-- what the property observes of an analysis: outcome class, word ids and byte boundaries -/
def shapeOut : Outcome (List RNode) → Outcome (List (Nat × Nat × Nat))
  | .ok rs => .ok (rs.map shape)
  | .err => .err
  | .panic => .panic
  | .fuel => .fuel

theorem shapeOut_ofRes {t1 t2 : Res (List RNode)} (h : shapeRes t1 = shapeRes t2) :
    shapeOut (match (generalizing := false) t1 with | .ok rs => .ok rs | .err => .err | .panic => .panic) =
      shapeOut (match (generalizing := false) t2 with | .ok rs => .ok rs | .err => .err | .panic => .panic) := by
  cases t1 <;> cases t2 <;> simp_all [shapeRes, shapeOut]

/-- the analysis from the best path on under two requests whose plugin nodes are `r`-related, for a relation that
the plugin stack keeps and that implies equality of what `split_path` reads -/
theorem tokenizeRw_rel {nv : Rewrite.NVariant} {ls : LexSet} {m : Mode} {S1 S2 : Nat} (H : GwisAgree ls m S1 S2)
    {text : Bytes} {cat : List Nat} {P : List Char → Rewrite.POut} {pls : List Rewrite.Plugin} {path : List XNode}
    (r : List Node → List Node → Prop)
    (hres : (resolvePathX ls S1 path = .panic ∧ resolvePathX ls S2 path = .panic) ∨
      ∃ ns1 ns2, resolvePathX ls S1 path = .ok ns1 ∧ resolvePathX ls S2 path = .ok ns2 ∧ r ns1 ns2)
    (hrw : ∀ p q, r p q → ORel r (Rewrite.rewriteAll nv cat P pls p) (Rewrite.rewriteAll nv cat P pls q))
    (hview : ∀ p q, r p q → (p.map ofRw).map (splitView m) = (q.map ofRw).map (splitView m)) :
    shapeOut (tokenizeRw nv ls ⟨m, S1⟩ text cat P pls path) = shapeOut (tokenizeRw nv ls ⟨m, S2⟩ text cat P pls path) := by
  unfold tokenizeRw
  rcases hres with ⟨p1, p2⟩ | ⟨ns1, ns2, e1, e2, hp⟩
  · simp only [p1, p2]
  · simp only [e1, e2]
    have hs := hrw ns1 ns2 hp
    revert hs
    generalize Rewrite.rewriteAll nv cat P pls ns1 = o1
    generalize Rewrite.rewriteAll nv cat P pls ns2 = o2
    intro hs
    cases hs with
    | err => rfl
    | panic => rfl
    | fuel => rfl
    | ok hq => exact shapeOut_ofRes (splitPath_agree ls m S1 S2 H text _ _ (hview _ _ hq))

/-- with path-rewrite plugins the analysis after the lattice search reads word infos only through the head-word length, the
split list of the mode and — as soon as a `JoinNumericPlugin` is configured — surface, POS id and normalised form -/
theorem tokenizeRw_agree (nv : Rewrite.NVariant) (ls : LexSet) (k : Bool) (m : Mode) (S1 S2 : Nat)
    (H : GwisAgreeRW ls k m S1 S2) (text : Bytes) (cat : List Nat) (P : List Char → Rewrite.POut)
    (pls : List Rewrite.Plugin) (hk : HasNumeric pls → k = true) (path : List XNode) :
    shapeOut (tokenizeRw nv ls ⟨m, S1⟩ text cat P pls path) = shapeOut (tokenizeRw nv ls ⟨m, S2⟩ text cat P pls path) :=
  tokenizeRw_rel H.weaken (MapEq (er k m))
    (resolvePathX_agree H (Agree.refl k true m) (er k m)
      (fun x w b e _ _ h => toRw_er k m x w b e h) path)
    (fun _ _ => rewriteAll_er k m nv cat P pls hk)
    (fun _ _ => splitView_of_erased (er k m) (splitView_ofRw_er k m))

theorem gwisAgreeRW_all (src : Src) (po : List Nat) (nsys : Nat) (hok : LexSetOk src po) (k : Bool) (m : Mode) (S : Nat)
    (hf : k = true → S.testBit SURFACE = true ∧ S.testBit POS_ID = true ∧ S.testBit NORMALIZED_FORM = true)
    (hh : HwlLoaded S)
    (hS : ∀ j, (modeSubset m).testBit j = true → S.testBit j = true) :
    GwisAgreeRW (lexSetOf src po nsys) k m S ALL :=
  gwisRel_agree_all src po nsys hok k true m S hf (fun _ => hh) hS

/-! ## Stacks of `JoinKatakanaOovPlugin` only: not even the head-word length is read, it is only summed -/

/-- erase every word-info field but the split list of the mode -/
def er0 (m : Mode) (n : Node) : Node := { er false m n with hwl := 0 }

theorem er0_er0 (m : Mode) (n : Node) : er0 m (er0 m n) = er0 m n := by
  cases m <;> rfl

theorem map_er0_er0 (m : Mode) (p : List Node) : (p.map (er0 m)).map (er0 m) = p.map (er0 m) := by
  simp [List.map_map, Function.comp_def, er0_er0]

theorem maxWid_er0 (m : Mode) (blk : List Node) : Rewrite.maxWid (blk.map (er0 m)) = Rewrite.maxWid blk := by
  simp [Rewrite.maxWid, List.foldl_map, er0, er]

theorem mergedOovNode_er0 (m : Mode) (f l : Node) (blk : List Node) (pos : Nat) :
    er0 m (Rewrite.mergedOovNode (er0 m f) (er0 m l) (blk.map (er0 m)) pos) = er0 m (Rewrite.mergedOovNode f l blk pos) := by
  simp [Rewrite.mergedOovNode, maxWid_er0, er0, er]

/-- equal paths after `er0`, and the head-word lengths of each fit a `u16` -/
def Fit0 (m : Mode) (p q : List Node) : Prop :=
  p.map (er0 m) = q.map (er0 m) ∧ Rewrite.sumHwl p < 65536 ∧ Rewrite.sumHwl q < 65536

/-- `concat_oov_nodes` when the head-word lengths of the whole path fit a `u16`: the addition cannot overflow,
and the merged path has the same total -/
theorem concatOov_fit0 (m : Mode) {p q : List Node} (b e pos : Nat) (h : Fit0 m p q) :
    ORel (Fit0 m) (Rewrite.concatOovNodes p b e pos) (Rewrite.concatOovNodes q b e pos) := by
  obtain ⟨h, hp, hq⟩ := h
  unfold Rewrite.concatOovNodes
  refine rel_ite (fun _ => .err) fun hbe => ?_
  have hle : b ≤ e := Nat.le_of_not_le hbe
  rcases getElem?_of_map_eq h (e - 1) with ⟨hl1, hl2⟩ | ⟨l1, l2, hl1, hl2, g1⟩
  · rw [hl1, hl2]; exact .panic
  · rcases getElem?_of_map_eq h b with ⟨hf1, hf2⟩ | ⟨f1, f2, hf1, hf2, g2⟩
    · rw [hl1, hl2, hf1, hf2]; exact .panic
    · rw [hl1, hl2, hf1, hf2]
      dsimp only
      rw [show l1.eb = l2.eb from (congrArg Node.eb g1 : (er0 m l1).eb = _),
        show f1.bb = f2.bb from (congrArg Node.bb g2 : (er0 m f1).bb = _),
        if_neg (Nat.not_le.mpr (Nat.lt_of_le_of_lt (Rewrite.sumHwl_block_le p hle) hp)),
        if_neg (Nat.not_le.mpr (Nat.lt_of_le_of_lt (Rewrite.sumHwl_block_le q hle) hq))]
      refine rel_ite (fun _ => .panic) fun _ => .ok ⟨?_, ?_, ?_⟩
      · have hblk : (Rewrite.block p b e).map (er0 m) = (Rewrite.block q b e).map (er0 m) := by
          rw [← block_map, ← block_map, h]
        have hm : er0 m (Rewrite.mergedOovNode f1 l1 (Rewrite.block p b e) pos) =
            er0 m (Rewrite.mergedOovNode f2 l2 (Rewrite.block q b e) pos) := by
          rw [← mergedOovNode_er0 m f1 l1, ← mergedOovNode_er0 m f2 l2, g1, g2, hblk]
        simp only [List.map_append, List.map_cons, List.map_take, List.map_drop, h, hm]
      · rw [Rewrite.sumHwl_splice p hle rfl]; exact hp
      · rw [Rewrite.sumHwl_splice q hle rfl]; exact hq

theorem rewriteAll_fit0 (m : Mode) (v : Rewrite.NVariant) (cat : List Nat) (P : List Char → Rewrite.POut)
    (pls : List Rewrite.Plugin) (hk : ¬ HasNumeric pls) {p q : List Node} (h : Fit0 m p q) :
    ORel (Fit0 m) (Rewrite.rewriteAll v cat P pls p) (Rewrite.rewriteAll v cat P pls q) := by
  refine rewriteAll_rel v cat P pls (fun pl hpl p q h => ?_) p q h
  cases pl with
  | numeric cfg => exact absurd ⟨cfg, hpl⟩ hk
  | katakana cfg =>
    exact joinKatakana_rel (er0 m) (fun _ => ⟨rfl, rfl, rfl⟩) cat (fun h => h.1) (concatOov_fit0 m) cfg h

theorem toRw_er0 (m : Mode) (x : XNode) (w b e : Nat) {i1 i2 : WordInfoData} (hs : splitsOf m i1 = splitsOf m i2) :
    er0 m (toRw x ⟨w, b, e, i1⟩) = er0 m (toRw x ⟨w, b, e, i2⟩) := by
  cases m <;> simp_all [er0, er, toRw, splitsOf]

theorem splitView_ofRw_er0 (m : Mode) (n : Node) : splitView m (ofRw (er0 m n)) = splitView m (ofRw n) := by
  cases m <;> rfl

/-- stacks of `JoinKatakanaOovPlugin` only read NO word-info field; the head-word lengths are summed in a `u16`, hence the two
hypotheses that the sum overflows under neither request -/
theorem tokenizeRw_agree0 (nv : Rewrite.NVariant) (ls : LexSet) (m : Mode) (S1 S2 : Nat) (H : GwisAgree ls m S1 S2)
    (text : Bytes) (cat : List Nat) (P : List Char → Rewrite.POut) (pls : List Rewrite.Plugin) (hk : ¬ HasNumeric pls)
    (path : List XNode)
    (hfit1 : ∀ ns, resolvePathX ls S1 path = .ok ns → Rewrite.sumHwl ns < 65536)
    (hfit2 : ∀ ns, resolvePathX ls S2 path = .ok ns → Rewrite.sumHwl ns < 65536) :
    shapeOut (tokenizeRw nv ls ⟨m, S1⟩ text cat P pls path) = shapeOut (tokenizeRw nv ls ⟨m, S2⟩ text cat P pls path) :=
  tokenizeRw_rel H (Fit0 m)
    ((resolvePathX_agree H (Agree.refl _ _ m) (er0 m)
      (fun x w b e _ _ a => toRw_er0 m x w b e a.splits) path).imp id
      fun ⟨ns1, ns2, e1, e2, hp⟩ => ⟨ns1, ns2, e1, e2, hp, hfit1 _ e1, hfit2 _ e2⟩)
    (fun _ _ => rewriteAll_fit0 m nv cat P pls hk)
    (fun _ _ h => splitView_of_erased (er0 m) (splitView_ofRw_er0 m) h.1)

end Subset
