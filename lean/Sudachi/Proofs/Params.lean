import Sudachi.Proofs.ParamsPos
import Sudachi.Proofs.ParamsMatrix
/-!
# C20: the reader of unk.def, the providers' set-up, the inhibit set-up and the whole load

Model/Params.lean writes Rust's `?` as a four-armed `match` (the two later model files write `.bind`).  Each
function of the set-up gets ONE lemma `f_post : (f …).Post …`, proved by a walk over its text as it stands with
the rules of `Post` (`Outcome.Post`, Proofs/ParamsOutcome.lean; `Post.elim` is the rule for such a `match`, `Post.bind`
the one for `.bind`): it does not panic, and what it returns satisfies a record
of facts — ids and costs accepted by the range checks (Proofs/ParamsCheck.lean), the POS list grown at
its end only, POS ids that index it (Proofs/ParamsPos.lean): `LineFacts`, `ReadFacts`, `ProvFacts`,
`ProvsFacts`.  Only `load` is restated as a chain of `Outcome.bind` (`load_eq`), since a load that succeeded is
taken apart with `bind_eq_ok` (`load_steps`); `load_facts` (`LoadFacts`), `load_pos`
and `load_safe` read the records off for a whole load; the matrix, the inhibit edits and the lattice are in
Proofs/ParamsMatrix.lean, whose `lattice_ok` the last section reads for a loaded square matrix.
-/
namespace Params
open Outcome

/-! ## accepted entries

`EOk`: an entry as a Simple/Regex provider stores it (`u16` ids, as `Nat`).  `RawOk`: a record of unk.def as the MeCab
provider stores it — `RawOov` keeps the `i16` ids as `Int`, hence `0 ≤ d.l` and `d.l.toNat`.  `AccOk P`: every record of
the table satisfies `P`. -/

def EOk (ge : Bool) (m : Matrix) (e : OovE) : Prop :=
  IdOk ge m.nl e.l ∧ IdOk ge m.nr e.r ∧ -32768 ≤ e.c ∧ e.c ≤ 32767

def RawOk (ge : Bool) (m : Matrix) (d : RawOov) : Prop :=
  0 ≤ d.l ∧ IdOk ge m.nl d.l.toNat ∧ 0 ≤ d.r ∧ IdOk ge m.nr d.r.toNat ∧ -32768 ≤ d.c ∧ d.c ≤ 32767

def AccOk (P : RawOov → Prop) (acc : List (Nat × List RawOov)) : Prop := ∀ kv ∈ acc, ∀ d ∈ kv.2, P d

section
variable {ge : Bool} {m : Matrix} {d : RawOov} {P : RawOov → Prop}

theorem RawOk.le (h : RawOk ge m d) :
    0 ≤ d.l ∧ d.l ≤ m.nl ∧ 0 ≤ d.r ∧ d.r ≤ m.nr ∧ -32768 ≤ d.c ∧ d.c ≤ 32767 :=
  ⟨h.1, Int.toNat_le.mp h.2.1.le, h.2.2.1, Int.toNat_le.mp h.2.2.2.1.le, h.2.2.2.2⟩

theorem RawOk.lt (h : RawOk true m d) :
    0 ≤ d.l ∧ d.l < m.nl ∧ 0 ≤ d.r ∧ d.r < m.nr ∧ -32768 ≤ d.c ∧ d.c ≤ 32767 :=
  ⟨h.1, (Int.toNat_lt h.1).mp h.2.1.lt, h.2.2.1, (Int.toNat_lt h.2.2.1).mp h.2.2.2.1.lt, h.2.2.2.2⟩

theorem pushRaw_accOk {k : Nat} (hd : P d) : ∀ {acc : List (Nat × List RawOov)}, AccOk P acc → AccOk P (pushRaw k d acc)
  | [], _ => List.forall_mem_singleton.mpr (List.forall_mem_singleton.mpr hd)
  | (k', ds) :: rest, h => by
    obtain ⟨h1, h2⟩ := List.forall_mem_cons.mp h
    unfold pushRaw
    split
    · exact List.forall_mem_cons.mpr ⟨List.forall_mem_append.mpr ⟨h1, List.forall_mem_singleton.mpr hd⟩, h2⟩
    · exact List.forall_mem_cons.mpr ⟨h1, pushRaw_accOk hd h2⟩

theorem AccOk.rawNode {es : List (Nat × List RawOov)} (h : AccOk P es) :
    ∀ e ∈ provNodes (.mecab es), ∃ d, P d ∧ e = rawNode d := by
  intro e he
  simp only [provNodes, List.mem_flatten, List.mem_map] at he
  obtain ⟨_, ⟨kv, hkv, rfl⟩, hed⟩ := he
  obtain ⟨d, hd, rfl⟩ := List.mem_map.mp hed
  exact ⟨d, h kv hkv d hd, rfl⟩

end

/-! ## the MeCab provider: one line of `unk.def`, then all of them -/

theorem _root_.Oov.parseI16_range {s : List Char} {x : Int} (h : Oov.parseI16 s = some x) : -32768 ≤ x ∧ x ≤ 32767 := by
  unfold Oov.parseI16 at h
  dsimp only at h
  split at h
  · split at h
    · cases h; assumption
    · cases h
  · cases h

/-- What an accepted line of unk.def guarantees.  In this record and the three after it the bounds on the
matrix (`nl, nr ≤ 65535`) and on the POS list (`PosWF`, `length ≤ 65536`) are premises of the FIELDS that need
them: the `_post` lemma that yields the record also says that the call does not panic, which holds without
them.  `LoadFacts`, which no `_post` lemma yields, is stated under the bounds (`load_facts`). -/
structure LineFacts (v : Variant) (conn : Matrix) (mode : Mode) (pl : List Pos) (r : List Pos × Nat × RawOov) : Prop where
  raw : conn.nl ≤ 65535 → conn.nr ≤ 65535 → RawOk v.unkGe conn r.2.2
  step : PosStep mode.allows pl r.1
  pid : PosWF pl → pl.length ≤ 65536 → r.2.2.p < r.1.length

/-- what the table read so far guarantees, relative to the POS list `pl0` the reading started from -/
structure ReadFacts (v : Variant) (conn : Matrix) (mode : Mode) (pl0 pl : List Pos) (acc : List (Nat × List RawOov)) : Prop where
  step : PosStep mode.allows pl0 pl
  raw : conn.nl ≤ 65535 → conn.nr ≤ 65535 → AccOk (RawOk v.unkGe conn) acc
  pid : PosWF pl0 → pl0.length ≤ 65536 → AccOk (fun d => d.p < pl.length) acc

section
variable {v : Variant} {cats : List (Nat × Oov.CatInfo)} {conn : Matrix} {mode : Mode} {line : List Char}
  {pl pl' : List Pos} {acc acc' : List (Nat × List RawOov)}

theorem readOovLine_post :
    (readOovLine v cats conn mode line pl).Post fun o => ∀ r, o = some r → LineFacts v conn mode pl r := by
  unfold readOovLine
  dsimp only
  refine Post.ite (fun _ => Post.ok nofun) fun _ => Post.ite (fun _ => Post.err) fun _ => ?_
  generalize Wire.splitOn ',' (Oov.trim line) = cols
  rcases cols with _ | ⟨c0, _ | ⟨c1, _ | ⟨c2, _ | ⟨c3, more⟩⟩⟩⟩
  iterate 4 exact Post.err
  dsimp only
  cases Oov.parseCatType c0 with
  | none => exact Post.err
  | some ct =>
  dsimp only
  refine Post.ite (fun _ => Post.err) fun _ => ?_
  cases hl : Oov.parseI16 c1 with
  | none => exact Post.err
  | some l =>
  cases hr : Oov.parseI16 c2 with
  | none => exact Post.err
  | some r =>
  cases hcst : Oov.parseI16 c3 with
  | none => exact Post.err
  | some c =>
  dsimp only
  refine handleUserPos_post.elim (fun q ⟨hstep, hres, _⟩ => ?_) fun _ => Post.err
  refine Post.ite (fun _ => Post.err) fun hbl => Post.ite (fun _ => Post.err) fun hbr => Post.ok fun _ e => ?_
  cases e
  refine ⟨fun hnl hnr => ?_, hstep, fun hwf hsz => (List.getElem?_eq_some_iff.mp (hres hwf hsz)).1⟩
  have rl := Oov.parseI16_range hl
  have rr := Oov.parseI16_range hr
  have a := unkIdBad_false (Bool.eq_false_iff.mpr hbl) rl.1 rl.2 (Nat.lt_of_le_of_lt hnl (by decide))
  have b := unkIdBad_false (Bool.eq_false_iff.mpr hbr) rr.1 rr.2 (Nat.lt_of_le_of_lt hnr (by decide))
  exact ⟨a.1, a.2, b.1, b.2, Oov.parseI16_range hcst⟩

theorem ReadFacts.push {pl0 : List Pos} (f : ReadFacts v conn mode pl0 pl acc) {r : List Pos × Nat × RawOov}
    (l : LineFacts v conn mode pl r) : ReadFacts v conn mode pl0 r.1 (pushRaw r.2.1 r.2.2 acc) := by
  refine ⟨by have := f.step.trans l.step; rwa [Bool.or_self] at this,
    fun hnl hnr => pushRaw_accOk (l.raw hnl hnr) (f.raw hnl hnr), fun hwf hsz => ?_⟩
  -- ids below the old length stay below the new one
  refine pushRaw_accOk (P := fun d => d.p < r.1.length) (l.pid (f.step.wf hwf) (f.step.sz hsz)) ?_
  exact fun kv hkv d' hd' => Nat.lt_of_lt_of_le (f.pid hwf hsz kv hkv d' hd') l.step.pre.length_le

theorem readOov_post {pl0 : List Pos} (lines : List (List Char)) (f : ReadFacts v conn mode pl0 pl acc) :
    (readOov v cats conn mode lines pl acc).Post fun r => ReadFacts v conn mode pl0 r.1 r.2 := by
  induction lines generalizing pl acc with
  | nil => exact Post.ok f
  | cons line rest ih =>
    rw [readOov]
    refine readOovLine_post.elim (fun a ha => ?_) fun _ => Post.err
    match a with
    | none => exact ih f
    | some r => exact ih (f.push (ha r rfl))

theorem ReadFacts.init (pl : List Pos) : ReadFacts v conn mode pl pl [] :=
  ⟨PosStep.refl _ _, fun _ _ _ hkv => (nomatch hkv), fun _ _ _ hkv => (nomatch hkv)⟩

end

/-! ## the three providers -/

def ProvOk (v : Variant) (m : Matrix) : Prov → Prop
  | .simple e => EOk v.jsonGe m e
  | .regex e => EOk v.jsonGe m e
  | .mecab es => AccOk (RawOk v.unkGe m) es

structure ProvFacts (v : Variant) (g : Grammar) (c : ProvCfg) (gp : Grammar × Prov) : Prop where
  conn : gp.1.conn = g.conn
  ids : g.conn.nl ≤ 65535 → g.conn.nr ≤ 65535 → ProvOk v g.conn gp.2
  step : PosStep c.allows g.pos gp.1.pos
  pos : PosWF g.pos → g.pos.length ≤ 65536 → ProvPos gp.1.pos c gp.2
  arity : ∀ {pos l r k m}, c = .simple pos l r k m ∨ c = .regex pos l r k m → pos.length = 6

section
variable {v : Variant} {cdef : List (List Char)} {g g' : Grammar} {c : ProvCfg} {p : Prov} {ps : List Prov}

/-- The two providers run the same four checks in different orders, so they share this lemma: `hc` is the disjunction of
the two, and `hq`, `hl`, `hr`, `hk` have exactly the shape of the posts of `handleUserPos_post`, `checkId_post`, `checkCost_post`. -/
theorem entry_facts {pos : Pos} {l r k : Int} {mode : Mode} {q : List Pos × Nat} {l' r' : Nat} {k' : Int}
    (hc : c = .simple pos l r k mode ∧ p = .simple ⟨l', r', k', q.2⟩ ∨ c = .regex pos l r k mode ∧ p = .regex ⟨l', r', k', q.2⟩)
    (hq : PosStep mode.allows g.pos q.1 ∧ (PosWF g.pos → g.pos.length ≤ 65536 → q.1[q.2]? = some pos) ∧ pos.length = 6)
    (hl : g.conn.nl ≤ 65535 → IdOk v.jsonGe g.conn.nl l') (hr : g.conn.nr ≤ 65535 → IdOk v.jsonGe g.conn.nr r')
    (hk : -32768 ≤ k' ∧ k' ≤ 32767) : ProvFacts v g c ({ g with pos := q.1 }, p) := by
  rcases hc with ⟨rfl, rfl⟩ | ⟨rfl, rfl⟩ <;>
    exact ⟨rfl, fun hnl hnr => ⟨hl hnl, hr hnr, hk⟩, hq.1, fun hwf hsz =>
      ⟨List.forall_mem_singleton.mpr (List.getElem?_eq_some_iff.mp (hq.2.1 hwf hsz)).1, hq.2.1 hwf hsz⟩,
      fun h => by rcases h with h | h <;> cases h <;> exact hq.2.2⟩

theorem setUpProv_post : (setUpProv v cdef g c).Post (ProvFacts v g c) := by
  cases c with
  | simple pos l r k mode =>
    rw [setUpProv, setUpSimple, checkLeftId, checkRightId]
    refine handleUserPos_post.elim (fun q hq => ?_) fun _ => Post.err
    refine checkId_post.elim (fun l' hl => ?_) fun _ => Post.err
    refine checkId_post.elim (fun r' hr => ?_) fun _ => Post.err
    refine checkCost_post.elim (fun k' hk => ?_) fun _ => Post.err
    exact Post.ok (entry_facts (Or.inl ⟨rfl, rfl⟩) hq hl hr hk)
  | regex pos l r k mode =>
    rw [setUpProv, setUpRegex, checkLeftId, checkRightId]
    refine checkId_post.elim (fun l' hl => ?_) fun _ => Post.err
    refine checkId_post.elim (fun r' hr => ?_) fun _ => Post.err
    refine checkCost_post.elim (fun k' hk => ?_) fun _ => Post.err
    refine handleUserPos_post.elim (fun q hq => ?_) fun _ => Post.err
    exact Post.ok (entry_facts (Or.inr ⟨rfl, rfl⟩) hq hl hr hk)
  | mecab unk mode =>
    rw [setUpProv, setUpMecab]
    cases Oov.readCharProp cdef [] with
    | none => exact Post.err
    | some cats =>
      dsimp only
      refine (readOov_post unk (ReadFacts.init g.pos)).elim (fun q f => Post.ok ?_) fun _ => Post.err
      refine ⟨rfl, f.raw, f.step, fun hwf hsz => ⟨fun e he => ?_, trivial⟩, fun h => by rcases h with h | h <;> cases h⟩
      obtain ⟨d, hd, rfl⟩ := (f.pid hwf hsz).rawNode e he
      exact hd

structure ProvsFacts (v : Variant) (g : Grammar) (cs : List ProvCfg) (r : Grammar × List Prov) : Prop where
  conn : r.1.conn = g.conn
  ids : g.conn.nl ≤ 65535 → g.conn.nr ≤ 65535 → ∀ p ∈ r.2, ProvOk v g.conn p
  step : PosStep (cs.any ProvCfg.allows) g.pos r.1.pos
  len : r.2.length = cs.length
  pos : PosWF g.pos → g.pos.length ≤ 65536 → ∀ cp ∈ cs.zip r.2, ProvPos r.1.pos cp.1 cp.2

theorem setUpProvs_post (cs : List ProvCfg) : (setUpProvs v cdef g cs).Post (ProvsFacts v g cs) := by
  induction cs generalizing g with
  | nil => exact Post.ok ⟨rfl, fun _ _ _ hp => (nomatch hp), PosStep.refl _ _, rfl, fun _ _ _ hcp => (nomatch hcp)⟩
  | cons c rest ih =>
    rw [setUpProvs]
    refine setUpProv_post.elim (fun (g1, p) f1 => ?_) fun _ => Post.err
    dsimp only
    refine ih.elim (fun gps f2 => Post.ok ?_) fun _ => Post.err
    refine ⟨f2.conn.trans f1.conn, fun hnl hnr => ?_, f1.step.trans f2.step, congrArg (· + 1) f2.len, fun hwf hsz => ?_⟩
    · exact List.forall_mem_cons.mpr ⟨f1.ids hnl hnr, fun p hp => f1.conn ▸ f2.ids (f1.conn ▸ hnl) (f1.conn ▸ hnr) p hp⟩
    · exact List.forall_mem_cons.mpr ⟨(f1.pos hwf hsz).mono f2.step.pre, f2.pos (f1.step.wf hwf) (f1.step.sz hsz)⟩

/-- the ids a provider attaches to its nodes are the accepted ones: by `check_params` for Simple and
Regex, by the range test of `read_oov` (and `as u16` of a non-negative `i16`) for MeCab -/
theorem provNodes_eOk {m : Matrix} (hp : ProvOk v m p) :
    ∃ ge, (ge = v.jsonGe ∨ ge = v.unkGe) ∧ ∀ e ∈ provNodes p, EOk ge m e := by
  cases p with
  | simple e0 => exact ⟨_, Or.inl rfl, List.forall_mem_singleton.mpr hp⟩
  | regex e0 => exact ⟨_, Or.inl rfl, List.forall_mem_singleton.mpr hp⟩
  | mecab es =>
    refine ⟨_, Or.inr rfl, fun e he => ?_⟩
    obtain ⟨d, ⟨h1, h2, h3, h4, h56⟩, rfl⟩ := AccOk.rawNode hp e he
    exact ⟨h2.mono (asU16_le h1), h4.mono (asU16_le h3), h56⟩

end

theorem setUpProv_arity {v : Variant} {cdef : List (List Char)} {g g' : Grammar} {c : ProvCfg} {p : Prov}
    (h : setUpProv v cdef g c = ok (g', p)) :
    match c with
    | .simple pos _ _ _ _ => pos.length = 6
    | .regex pos _ _ _ _ => pos.length = 6
    | .mecab _ _ => True := by
  have f := setUpProv_post.post _ h
  cases c with
  | simple pos l r k mode => exact f.arity (Or.inl rfl)
  | regex pos l r k mode => exact f.arity (Or.inr rfl)
  | mecab unk mode => trivial

/-! ## inhibit set-up and the whole load -/

section
variable {v : Variant} {cdef : List (List Char)} {g : Grammar} {cfg : Cfg} {ld : Loaded}

theorem inhSetUp_post {pairs : List (Int × Int)} : (inhSetUp v g pairs).Post fun ps =>
    ps = pairs ∧ (v.inhChecked = true → ∀ p ∈ pairs, PairOk g.conn p) := by
  unfold inhSetUp
  refine Post.ite (fun hfit => Post.ite (fun _ => Post.ite (fun hall => Post.ok ⟨rfl, fun _ p hp => ?_⟩) fun _ => Post.err)
    fun hc => Post.ok ⟨rfl, fun hc' => absurd hc' hc⟩) fun _ => Post.err
  have hf := Bool.and_eq_true_iff.mp (List.all_eq_true.mp hfit p hp)
  exact pairInRange_pairOk hf.1 hf.2 (List.all_eq_true.mp hall p hp)

theorem inhSetUps_post (pss : List (List (Int × Int))) : (inhSetUps v g pss).Post fun as =>
    as = pss ∧ (v.inhChecked = true → ∀ ps ∈ pss, ∀ p ∈ ps, PairOk g.conn p) := by
  induction pss with
  | nil => exact Post.ok ⟨rfl, fun _ _ hps => nomatch hps⟩
  | cons ps rest ih =>
    rw [inhSetUps]
    refine inhSetUp_post.elim (fun a ha => ?_) fun _ => Post.err
    refine ih.elim (fun as has => Post.ok ?_) fun _ => Post.err
    obtain ⟨rfl, h1⟩ := ha
    obtain ⟨rfl, h2⟩ := has
    exact ⟨rfl, fun hc => List.forall_mem_cons.mpr ⟨h1 hc, h2 hc⟩⟩

theorem load_eq (v : Variant) (cdef : List (List Char)) (g : Grammar) (cfg : Cfg) :
    load v cdef g cfg =
      (inhSetUps v g cfg.inh).bind fun inh => (setUpProvs v cdef g cfg.oov).bind fun gp =>
        if gp.2.isEmpty then err .noOov
        else (inhEdits v.debug gp.1.conn inh).bind fun conn =>
          ok ⟨{ pos := gp.1.pos ++ cfg.userPos.flatten, conn := conn }, gp.2⟩ := by
  unfold load
  cases inhSetUps v g cfg.inh <;> try rfl
  cases setUpProvs v cdef g cfg.oov <;> try rfl
  dsimp only [Outcome.bind]
  split
  · rfl
  · cases inhEdits v.debug _ _ <;> rfl

theorem load_steps (h : load v cdef g cfg = ok ld) :
    ∃ g1 conn, inhSetUps v g cfg.inh = ok cfg.inh ∧ setUpProvs v cdef g cfg.oov = ok (g1, ld.provs) ∧
      ld.provs ≠ [] ∧ inhEdit v.debug g1.conn cfg.inh.flatten = ok conn ∧
      ld.g = { pos := g1.pos ++ cfg.userPos.flatten, conn := conn } := by
  rw [load_eq] at h
  obtain ⟨inh, hinh, h⟩ := bind_eq_ok.mp h
  obtain ⟨⟨g1, provs⟩, hprov, h⟩ := bind_eq_ok.mp h
  obtain ⟨hne, h⟩ := of_ite_eq_ok h nofun
  obtain ⟨conn, hconn, h⟩ := bind_eq_ok.mp h
  cases h
  obtain rfl := ((inhSetUps_post _).post _ hinh).1
  rw [inhEdits_eq] at hconn
  exact ⟨g1, conn, hinh, hprov, fun hnil => hne (congrArg List.isEmpty hnil), hconn, rfl⟩

end

theorem load_pos {v : Variant} {cdef : List (List Char)} {g : Grammar} {cfg : Cfg} {ld : Loaded}
    (h : load v cdef g cfg = ok ld) :
    ∃ reg, ld.g.pos = g.pos ++ reg ++ cfg.userPos.flatten ∧ (∀ q ∈ reg, q.length = 6) ∧
      PosStep (cfg.oov.any ProvCfg.allows) g.pos (g.pos ++ reg) ∧ ld.provs.length = cfg.oov.length ∧
      (PosWF g.pos → g.pos.length ≤ 65536 → ∀ cp ∈ cfg.oov.zip ld.provs, ProvPos (g.pos ++ reg) cp.1 cp.2) := by
  obtain ⟨g1, conn, _, hprov, _, _, hg⟩ := load_steps h
  have f := (setUpProvs_post cfg.oov).post _ hprov
  have s : PosStep _ g.pos g1.pos := f.step
  have r : PosWF g.pos → g.pos.length ≤ 65536 → ∀ cp ∈ cfg.oov.zip ld.provs, ProvPos g1.pos cp.1 cp.2 := f.pos
  obtain ⟨reg, hreg, hw⟩ := s.ext
  exact ⟨reg, by rw [hg, hreg], hw, hreg ▸ s, f.len, hreg ▸ r⟩

/-- what a successful load guarantees about ids, costs and the matrix, for a dictionary matrix with `nl, nr ≤ 65535`
(hypotheses of `load_facts`, not of the fields) -/
structure LoadFacts (v : Variant) (g : Grammar) (cfg : Cfg) (ld : Loaded) : Prop where
  provs_ne : ld.provs ≠ []
  provs_ok : ∀ p ∈ ld.provs, ProvOk v g.conn p
  nl_eq : ld.g.conn.nl = g.conn.nl
  nr_eq : ld.g.conn.nr = g.conn.nr
  len_eq : ld.g.conn.cells.length = g.conn.cells.length
  checked : v.inhChecked = true → g.conn.WF →
    (∀ ps ∈ cfg.inh, ∀ p ∈ ps, PairOk g.conn p) ∧
    ld.g.conn.cells = inhSpec g.conn.cells g.conn.nl cfg.inh.flatten

section
variable {v : Variant} {cdef : List (List Char)} {g : Grammar} {cfg : Cfg} {ld : Loaded}

/-- pairs that passed the repaired `set_up` are inside the matrix, so the edits write exactly their cells -/
theorem inhEdits_of_checked (hv : v.inhChecked = true) (hnl : g.conn.nl ≤ 65535) (hnr : g.conn.nr ≤ 65535)
    (hwf : g.conn.WF) {pss inh : List (List (Int × Int))} (h : inhSetUps v g pss = ok inh) (dbg : Bool) :
    inhEdits dbg g.conn inh = ok { g.conn with cells := inhSpec g.conn.cells g.conn.nl pss.flatten } := by
  obtain ⟨rfl, hpairs⟩ := (inhSetUps_post _).post _ h
  rw [inhEdits_eq]
  exact inhEdit_ok dbg _ hwf (by omega) (by omega) (List.forall_mem_flatten.mpr (hpairs hv))

theorem load_facts (hnl : g.conn.nl ≤ 65535) (hnr : g.conn.nr ≤ 65535) (h : load v cdef g cfg = ok ld) :
    LoadFacts v g cfg ld := by
  obtain ⟨g1, conn, hinh, hprov, hne, hconn, hg⟩ := load_steps h
  have fp := (setUpProvs_post cfg.oov).post _ hprov
  obtain ⟨e1, hp⟩ : g1.conn = g.conn ∧ _ := ⟨fp.conn, fp.ids hnl hnr⟩
  rw [e1] at hconn
  have hd := inhEdit_dims _ _ hconn
  obtain ⟨lg, provs⟩ := ld
  obtain rfl : lg = _ := hg
  refine ⟨hne, hp, hd.1, hd.2.1, hd.2.2, fun hc hwf => ⟨((inhSetUps_post _).post _ hinh).2 hc, ?_⟩⟩
  rw [← inhEdits_eq, inhEdits_of_checked hc hnl hnr hwf hinh] at hconn
  cases hconn; rfl

theorem LoadFacts.wf (f : LoadFacts v g cfg ld) (hwf : g.conn.WF) : ld.g.conn.WF := by
  unfold Matrix.WF at hwf ⊢
  rw [f.len_eq, f.nl_eq, f.nr_eq, hwf]

theorem LoadFacts.node_le (f : LoadFacts v g cfg ld) {p : Prov} (hp : p ∈ ld.provs) {e : OovE} (he : e ∈ provNodes p) :
    e.l ≤ g.conn.nl ∧ e.r ≤ g.conn.nr ∧ -32768 ≤ e.c ∧ e.c ≤ 32767 := by
  obtain ⟨ge, _, h⟩ := provNodes_eOk (f.provs_ok p hp)
  obtain ⟨a, b, c⟩ := h e he
  exact ⟨a.le, b.le, c⟩

theorem LoadFacts.node_lt (f : LoadFacts v g cfg ld) (hv1 : v.jsonGe = true) (hv2 : v.unkGe = true) {p : Prov}
    (hp : p ∈ ld.provs) {e : OovE} (he : e ∈ provNodes p) : e.l < g.conn.nl ∧ e.r < g.conn.nr ∧ -32768 ≤ e.c ∧ e.c ≤ 32767 := by
  obtain ⟨ge, hge, h⟩ := provNodes_eOk (f.provs_ok p hp)
  obtain rfl : ge = true := by rcases hge with rfl | rfl <;> assumption
  exact h e he

theorem load_safe (hv : v.inhChecked = true) (cdef : List (List Char)) (g : Grammar) (cfg : Cfg)
    (hnl : g.conn.nl ≤ 65535) (hnr : g.conn.nr ≤ 65535) (hwf : g.conn.WF) :
    (load v cdef g cfg).isSafe = true := by
  rw [load_eq]
  refine bind_safe (inhSetUps_post cfg.inh).safe fun inh hinh => ?_
  refine bind_safe (setUpProvs_post cfg.oov).safe fun gp hprov => ite_safe rfl ?_
  -- the edits cannot panic: every pair was checked against the matrix, which the providers leave alone
  rw [((setUpProvs_post cfg.oov).post _ hprov).conn, inhEdits_of_checked hv hnl hnr hwf hinh]
  rfl

end

/-! ## the lattice over a loaded dictionary with a square matrix -/

/-- `lattice_ok` for the matrix a load returns, when the dictionary's matrix is `n × n`: the crossing of left and
right ids disappears, every id is just below `n` (the form the consequence clause of C20 is stated in) -/
theorem LoadFacts.square_lattice_ok {v : Variant} {g : Grammar} {cfg : Cfg} {ld : Loaded} (f : LoadFacts v g cfg ld)
    (hwf : g.conn.WF) {n : Nat} (hnl : g.conn.nl = n) (hnr : g.conn.nr = n) (hn : 0 < n) (len : Nat)
    (nodes : List LNode) (hnodes : ∀ nd ∈ nodes, nd.b ≤ len ∧ nd.e ≤ len ∧ nd.left < n ∧ nd.right < n)
    (dbg : Bool) : ∃ c, buildLattice dbg ld.g.conn len nodes (bosEnds len) = ok c := by
  have hnl' : ld.g.conn.nl = n := f.nl_eq.trans hnl
  have hnr' : ld.g.conn.nr = n := f.nr_eq.trans hnr
  refine lattice_ok dbg (f.wf hwf) len (hnl'.symm ▸ hn) (hnr'.symm ▸ hn) nodes fun nd hnd => ?_
  obtain ⟨h1, h2, h3, h4⟩ := hnodes nd hnd
  exact ⟨hnr'.symm ▸ h3, hnl'.symm ▸ h4, h1, h2⟩

end Params
