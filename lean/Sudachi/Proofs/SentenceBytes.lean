import Sudachi.Proofs.SentenceIter
/-!
# The byte-offset functions equal the character-index functions (property C16)

`strSlice` answers `none` exactly when a Rust `&s[a..b]` panics.  `examineB`, `scanB`, `getEosB`,
`splitFuelB` mirror the byte arithmetic of `get_eos` / `SentenceIter::next` and answer `panic` when a
slice does.  They are proved equal to `examine`, `scan`, `getEos`, `splitFuel` (with offsets converted
by `blen (· .take ·)`), for every input: **no slice the code takes is ever off a character boundary or
outside the string**.
-/
namespace Sentence

/-! ## `strSlice` -/

theorem strSlice_head (s : Text) (e : Nat) : strSlice s 0 (blen (s.take e)) = some (s.take e) :=
  strSlice_iff.mpr ⟨[], s.drop e, (List.take_append_drop e s).symm, rfl, Nat.zero_add _⟩

theorem strSlice_tail (s : Text) (e : Nat) : strSlice s (blen (s.take e)) (blen s) = some (s.drop e) :=
  strSlice_iff.mpr ⟨s.take e, [], by rw [List.append_nil, List.take_append_drop], rfl,
    by rw [← blen_append, List.take_append_drop]⟩

theorem blen_take_add (s : Text) (k n : Nat) :
    blen (s.take k) + blen ((s.drop k).take n) = blen (s.take (k + n)) := by
  rw [← blen_append, List.take_add]

theorem blen_take_lt_iff {s : Text} {e : Nat} (h : e ≤ s.length) : blen (s.take e) < blen s ↔ e < s.length := by
  constructor
  · intro hlt
    apply Classical.byContradiction
    intro hn
    have : e = s.length := by omega
    rw [this, List.take_length] at hlt
    omega
  · exact blen_take_lt

theorem isContinuousPhraseB_eq (s : Text) (eos : Nat) (h : eos ≤ s.length) :
    isContinuousPhraseB s (blen (s.take eos)) = isContinuousPhrase s eos := by
  unfold isContinuousPhraseB isContinuousPhrase
  rw [strSlice_head]
  simp only
  cases eos with
  | zero => simp
  | succ k =>
    have hk : k < s.length := by omega
    have htk : s.take (k + 1) = s.take k ++ [s[k]] := by
      rw [List.take_succ_eq_append_getElem hk]
    have hlast : (s.take (k + 1)).getLast? = some s[k] := by
      rw [htk, List.getLast?_append]; rfl
    rw [hlast]
    simp only
    have hb : blen (s.take (k + 1)) = blen (s.take k) + width s[k] := by
      rw [htk, blen_append]; simp [blen]
    have h1 : ¬ (blen (s.take (k + 1)) < width s[k]) := by omega
    have h2 : blen (s.take (k + 1)) - width s[k] = blen (s.take k) := by omega
    have h3 : ¬ (k + 1 = 0) := by omega
    simp only [h1, if_false, h2, h3, strSlice_tail, Nat.add_sub_cancel]
    split
    · rfl
    · cases s.drop (k + 1) <;> rfl

/-! ## the loop body -/

/-- an outcome of the character-index loop body read in bytes of the window `s` -/
def Cand.toB (s : Text) : Cand → Cand
  | .accept e => .accept (blen (s.take e))
  | r => r

theorem examineB_eq (v : CkVariant) (ck : Option (List (List (List Nat)))) (input s : Text) (e0 : Nat)
    (h0 : e0 ≤ s.length) :
    examineB v ck input s (blen (s.take e0)) = (examine v ck input s e0).toB s := by
  have hle := extEnd_le h0
  -- `eos += prohibited_bos(&s[eos..])` in bytes is the extended end
  have hext : (if blen (s.take e0) < blen s then
        (strSlice s (blen (s.take e0)) (blen s)).map (fun t => blen (s.take e0) + prohibitedBosB t)
      else some (blen (s.take e0))) = some (blen (s.take (extEnd s e0))) := by
    by_cases hlt : e0 < s.length
    · rw [if_pos (blen_take_lt hlt), strSlice_tail, Option.map_some, prohibitedBosB, blen_take_add, extEnd_eq]
    · rw [if_neg (fun h => hlt ((blen_take_lt_iff h0).mp h)), extEnd, if_neg hlt]
  have hc : (if blen (s.take (extEnd s e0)) < blen s then isContinuousPhraseB s (blen (s.take (extEnd s e0)))
        else some false) =
      (if extEnd s e0 < s.length then isContinuousPhrase s (extEnd s e0) else some false) := by
    by_cases hlt : extEnd s e0 < s.length
    · rw [if_pos (blen_take_lt hlt), if_pos hlt, isContinuousPhraseB_eq s _ hle]
    · rw [if_neg (fun h => hlt ((blen_take_lt_iff hle).mp h)), if_neg hlt]
  rw [examine_eq]
  unfold examineB
  simp only [strSlice_head, hext, hc]
  by_cases hp : parenLevel (s.take e0) > 0
  · rw [if_pos hp, if_pos hp]; rfl
  rw [if_neg hp, if_neg hp]
  by_cases hi : isItemizeHeader s = true
  · rw [if_pos hi, if_pos hi]; rfl
  rw [if_neg hi, if_neg hi]
  generalize (if extEnd s e0 < s.length then isContinuousPhrase s (extEnd s e0) else some false) = x
  rcases x with _ | _ | _
  · rfl
  · cases ck with
    | none => rfl
    | some lexs =>
      simp only
      generalize hasNonBreakWord v lexs input (blen (s.take (extEnd s e0))) = r
      rcases r with (_ | _) | _ <;> rfl
  · rfl

theorem toB_veto {s : Text} {r : Cand} : Cand.toB s r = .veto ↔ r = .veto := by
  cases r <;> simp [Cand.toB]

theorem scanB_eq (v : CkVariant) (ck : Option (List (List (List Nat)))) (input s : Text) :
    ∀ (l : Text) (k : Nat) (prev : Option Nat) (skip : Nat), s.drop k = l →
      scanB v ck input s (blen (s.take k)) prev skip l =
        (scan v ck input s k prev skip l).map (Cand.toB s) := by
  intro l
  induction l with
  | nil => intro k prev skip _; simp [scanB, scan]
  | cons c rest ih =>
    intro k prev skip hs
    have hs' : s.drop (k + 1) = rest := by
      rw [← List.drop_drop, hs]; rfl
    have hk : blen (s.take k) + width c = blen (s.take (k + 1)) := by
      have := blen_take_add s k 1
      rw [hs] at this
      simp only [List.take_succ_cons, List.take_zero, blen] at this
      omega
    cases skip with
    | succ sk =>
      simp only [scanB, scan]
      rw [hk]
      exact ih (k + 1) (some c) sk hs'
    | zero =>
      simp only [scanB, scan]
      cases hb : breakerAt prev (c :: rest) with
      | none =>
        simp only
        rw [hk]
        exact ih (k + 1) (some c) 0 hs'
      | some n =>
        simp only
        have hbd := breakerAt_bounds hb
        have hkn : k + n ≤ s.length := by
          have := congrArg List.length hs
          simp only [List.length_drop, List.length_cons] at this
          have := hbd.2
          simp only [List.length_cons] at this
          omega
        have hbn : blen (s.take k) + blen ((c :: rest).take n) = blen (s.take (k + n)) := by
          rw [← hs]; exact blen_take_add s k n
        rw [hbn, examineB_eq v ck input s (k + n) hkn]
        cases hex : examine v ck input s (k + n) with
        | veto =>
          simp only [Cand.toB]
          rw [hk]
          exact ih (k + 1) (some c) (n - 1) hs'
        | accept e => simp [Cand.toB]
        | panic => simp [Cand.toB]

/-! ## `get_eos` -/

/-- the outcome with `f` applied to an `ok` value; a panic stays a panic -/
def Res.mapR {α β : Type} (f : α → β) : Res α → Res β
  | .ok a => .ok (f a)
  | .panic => .panic

theorem eosValue_negOf (input : Text) (e : Nat) : eosValue input (negOf e) = - Int.ofNat (blen (input.take e)) := by
  unfold negOf
  split
  · rename_i h; subst h; simp [eosValue, blen]
  · rfl

/-- **`get_eos` over byte offsets = `get_eos` over character indices**, for every input, limit and
checker: the byte version's extra `panic` outcomes (a slice off a boundary) never occur. -/
theorem getEosB_eq (v : CkVariant) (limit : Nat) (ck : Option (List (List (List Nat)))) (input : Text) :
    getEosB v limit ck input = (getEos v limit ck input).mapR (eosValue input) := by
  unfold getEosB getEos
  split
  · simp [Res.mapR, eosValue, blen]
  · simp only
    have hsc := scanB_eq v ck input (input.take limit) (input.take limit) 0 none 0 (by simp)
    simp only [List.take_zero, blen] at hsc
    rw [hsc]
    cases hscan : scan v ck input (input.take limit) 0 none 0 (input.take limit) with
    | some r =>
      cases r with
      | accept e =>
        simp only [Option.map_some, Cand.toB, Res.mapR, eosValue]
        have hle : e ≤ (input.take limit).length := by
          rcases scan_cases v ck input (input.take limit) with ⟨hn, _⟩ | ⟨a, ha, _, hs, _⟩
          · rw [hn] at hscan; cases hscan
          · have hb := matchEnds_bounds ha
            rw [examine_accept_eq hb.1 (Option.some.inj (hs.symm.trans hscan))]
            exact extEnd_le hb.2
        rw [take_take_of_le hle]
      | veto => simp [Cand.toB, Res.mapR]
      | panic => simp [Cand.toB, Res.mapR]
    | none =>
      simp only [Option.map_none]
      have hfull : blen (input.take limit) = blen (input.take (input.take limit).length) := by
        rw [← take_take_of_le (Nat.le_refl _), List.take_length]
      split
      · split
        · rename_i e hsp
          simp only [Res.mapR, eosValue_negOf]
          rw [take_take_of_le (spacesEnd_bounds _ _ hsp).2]
        · simp only [Res.mapR, eosValue_negOf]
          rw [← hfull]
      · simp only [Res.mapR, eosValue_negOf]
        rw [← hfull]

/-! ## the iterator -/

theorem toNat_ofNat' (n : Nat) : (Int.ofNat n).toNat = n := rfl

/-- **`SentenceIter::next` over byte offsets = the character-index iterator**: `data[position..]` and
`data[position..end]` are always slices at character boundaries inside `data`. -/
theorem splitFuelB_eq (v : CkVariant) (limit : Nat) (ck : Option (List (List (List Nat)))) :
    ∀ (fuel : Nat) (pre rest : Text),
      splitFuelB v limit ck (pre ++ rest) fuel (blen pre) = splitFuel v limit ck fuel (blen pre) rest := by
  intro fuel
  induction fuel with
  | zero =>
    intro pre rest
    cases rest with
    | nil => simp [splitFuelB, splitFuel]
    | cons c cs =>
      have : ¬ (blen pre = blen (pre ++ c :: cs)) := by
        rw [blen_append]
        have := blen_pos_of_ne_nil (a := c :: cs) (by simp)
        omega
      simp [splitFuelB, splitFuel, this]
  | succ fuel ih =>
    intro pre rest
    cases rest with
    | nil => simp [splitFuelB, splitFuel]
    | cons c cs =>
      have hpos := blen_pos_of_ne_nil (a := c :: cs) (by simp)
      have hne : ¬ (blen pre = blen (pre ++ c :: cs)) := by
        rw [blen_append]; omega
      have hslice : strSlice (pre ++ c :: cs) (blen pre) (blen (pre ++ c :: cs)) = some (c :: cs) :=
        strSlice_iff.mpr ⟨pre, [], (List.append_nil _).symm, rfl, (blen_append ..).symm⟩
      simp only [splitFuelB, splitFuel, hne, if_false, hslice, getEosB_eq]
      cases hg : getEos v limit ck (c :: cs) with
      | panic => simp [Res.mapR]
      | ok r =>
        cases r with
        | neg e =>
          -- `next` tests `rv < 0`, which `-0` fails: the negative answer has `e ≥ 1` (`negOf`)
          have he := getEos_neg_ge_one (List.cons_ne_nil c cs) hg
          have hbe : 1 ≤ blen ((c :: cs).take e) := by
            apply blen_pos_of_ne_nil
            cases e with
            | zero => omega
            | succ e => simp
          have hlt : - Int.ofNat (blen ((c :: cs).take e)) < 0 := by
            have : (0 : Int) < Int.ofNat (blen ((c :: cs).take e)) := by
              simp only [Int.ofNat_eq_natCast]; omega
            omega
          simp only [Res.mapR, eosValue, hlt, if_true, hslice]
          cases fuel <;> simp [splitFuelB, SplitRes.cons, blen_append]
        | pos e =>
          have hge : ¬ (Int.ofNat (blen ((c :: cs).take e)) < 0) := by
            simp only [Int.ofNat_eq_natCast]; omega
          simp only [Res.mapR, eosValue, hge, if_false, toNat_ofNat']
          have hdata : pre ++ c :: cs = pre ++ (c :: cs).take e ++ (c :: cs).drop e := by
            rw [List.append_assoc, List.take_append_drop]
          have hsl : strSlice (pre ++ c :: cs) (blen pre) (blen pre + blen ((c :: cs).take e)) =
              some ((c :: cs).take e) := strSlice_iff.mpr ⟨pre, _, hdata, rfl, rfl⟩
          rw [hsl]
          simp only
          have := ih (pre ++ (c :: cs).take e) ((c :: cs).drop e)
          rw [← hdata, blen_append] at this
          rw [this]

theorem splitB_eq (v : CkVariant) (limit : Nat) (ck : Option (List (List (List Nat)))) (text : Text) :
    splitB v limit ck text = split v limit ck text := by
  have := splitFuelB_eq v limit ck text.length [] text
  simpa [splitB, split, blen] using this

end Sentence
