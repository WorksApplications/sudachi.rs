import Sudachi.Proofs.Numeric
/-!
# `NumericParser::clear()` restores the initial state (C15)

`JoinNumericPlugin::rewrite_gen` uses ONE parser per sentence and calls `clear()` at the start of
every numeric run.  `clear_is_new`: whatever the parser went through (accepted and rejected texts,
`done()`, `get_normalized()` with its write-back into `total`), `clear()` gives the state of
`NumericParser::new()`.  `seq_is_fresh`: a sequence of texts through one parser with `clear()` in
between is observed exactly like each text through a fresh parser (`verif_parse`).
-/
namespace Numeric

variable (v : Variant)

/-- **`clear()` restores the initial state** (of a parser that did not panic: the model-only flag
`bad` marks a `usize` underflow, i.e. a run that does not reach `clear()` in the Rust) -/
theorem clear_is_new (p : Parser) (h : p.anyBad = false) : p.clear = Parser.new := by
  simp only [Parser.anyBad, Bool.or_eq_false_iff] at h
  obtain ⟨⟨h1, h2⟩, h3⟩ := h
  simp [Parser.clear, Parser.new, SN.clear, h1, h2, h3]

/-- the flag is kept by `clear()`, so a panic is not forgotten -/
theorem clear_anyBad (p : Parser) : p.clear.anyBad = p.anyBad := by
  simp [Parser.clear, Parser.anyBad, SN.clear]

theorem toStrMut_fst (s : SN) : s.toStrMut.map Prod.fst = s.toStr := by
  unfold SN.toStrMut
  by_cases hz : s.isZero = true
  · simp [hz, SN.toStr]
  · simp only [hz, Bool.false_eq_true, if_false]
    cases s.toStr <;> rfl

theorem toStrMut_bad (s t : SN) (r : List Char) (h : s.toStrMut = some (r, t)) : t.bad = s.bad := by
  unfold SN.toStrMut at h
  by_cases hz : s.isZero = true
  · simp only [hz, if_true, Option.some.injEq, Prod.mk.injEq] at h
    rw [← h.2]
  · simp only [hz, Bool.false_eq_true, if_false] at h
    cases hts : s.toStr with
    | none => rw [hts] at h; cases h
    | some r' =>
      rw [hts] at h
      simp only [Option.some.injEq, Prod.mk.injEq] at h
      rw [← h.2]
      simp only
      -- `to_string` succeeded, so the normalised number is not marked
      unfold SN.toStr at hts
      simp only [hz, Bool.false_eq_true, if_false] at hts
      by_cases hb : s.normalizeScale.bad = true
      · simp [hb] at hts
      · have hb' : s.normalizeScale.bad = false := by simpa using hb
        rw [hb']
        -- `normalize_scale` only ever sets the mark
        unfold SN.normalizeScale at hb'
        split at hb'
        · split at hb'
          · cases hb'
          · simp only at hb'
            split at hb' <;> exact hb'.symm
        · exact hb'.symm

theorem getNormalizedMut_fst (p : Parser) : (p.getNormalizedMut v).map Prod.fst = p.getNormalized v := by
  unfold Parser.getNormalizedMut Parser.getNormalized
  rw [← toStrMut_fst]
  rcases p.total.toStrMut with _ | ⟨s, t⟩ <;> rfl

theorem getNormalizedMut_bad (p p' : Parser) (s : List Char) (h : p.getNormalizedMut v = some (s, p')) :
    p'.anyBad = p.anyBad := by
  unfold Parser.getNormalizedMut at h
  rcases hm : p.total.toStrMut with _ | ⟨s0, t⟩
  · rw [hm] at h; cases h
  · rw [hm] at h
    cases h
    simp [Parser.anyBad, toStrMut_bad p.total t s0 hm]

theorem runOn_new (t : List Char) :
    (runOn v Parser.new t).2 = verifParse v t ∧
      ((runOn v Parser.new t).2.isSome → (runOn v Parser.new t).1.anyBad = false) := by
  unfold runOn verifParse
  rcases Parser.new.feed v t 0 with ⟨n, ok, q⟩
  cases ok
  · by_cases hb : q.anyBad = true <;> simp [hb]
  · rcases hd : q.done v with ⟨d, q2⟩
    by_cases hb : q2.anyBad = true
    · simp [hd, hb]
    · simp only [hd, hb, Bool.false_eq_true, if_false]
      have hf := getNormalizedMut_fst v q2
      rcases hm : q2.getNormalizedMut v with _ | ⟨s, q'⟩
      · rw [hm] at hf; simp [← hf]
      · rw [hm] at hf; simp [← hf, getNormalizedMut_bad v q2 q' s hm, hb]

/-- **a reused parser behaves like a new one**: texts sent one after the other through one parser
object, with `clear()` between them, are observed exactly as by `verif_parse` on a fresh parser
each (a panic of any of them is a panic of the sequence) -/
theorem seq_is_fresh (ts : List (List Char)) :
    verifParseSeq v ts = Wire.allSome (ts.map (verifParse v)) := by
  unfold verifParseSeq
  induction ts with
  | nil => rfl
  | cons t ts ih =>
    simp only [seqGo, List.map_cons]
    obtain ⟨h1, h2⟩ := runOn_new v t
    rcases hr : runOn v Parser.new t with ⟨p', o⟩
    rw [hr] at h1 h2
    simp only at h1
    rw [← h1]
    cases o with
    | none => rfl
    | some r =>
      simp only [Wire.allSome]
      rw [clear_is_new p' (h2 rfl), ih]

end Numeric
