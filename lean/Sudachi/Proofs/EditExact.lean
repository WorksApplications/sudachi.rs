import Sudachi.Proofs.Edit
/-!
# `Chain`; `resolve_edits` under a map of the text elements; the provenance tagging (C08)

What `Proofs/EditGhost.lean` builds on.  `Chain R l` (`R` between every two consecutive elements) is the form in which
`EditM.tagged_run` states that what follows an unreplaced byte `k` has a value `> k` (`Rel`).  `mapP f` / `mapE f` map the
text elements of a buffer / of an edit and leave offsets and map values alone;
`resolve_edits` does not look at the text elements, so every level of the run commutes with such a map.  The ghost run is
another function (`goG`): its erasure theorem uses the lemmas up to the length guards; those from `go_mapP` on say what
`resolve`, `commitV`, `commitAllV` themselves do on mapped input.  The provenance tagging at the end (`tagIdent`,
`tagBatches`, `Rel`) supplies the terms of `EditM.tagged_run` (end of `EditGhost.lean`): the run of the unchanged `commitAllV`
on tagged bytes.
-/
namespace EditM

variable {α β γ : Type}

/-- `R` holds between every two consecutive elements -/
def Chain (R : α → α → Prop) : List α → Prop
  | [] => True
  | [_] => True
  | a :: b :: r => R a b ∧ Chain R (b :: r)

theorem chain_tail {R : α → α → Prop} : ∀ (a : α) (l : List α), Chain R (a :: l) → Chain R l
  | _, [], _ => trivial
  | _, _ :: _, h => h.2

theorem chain_getElem {R : α → α → Prop} (l : List α) : Chain R l → ∀ (i : Nat) (h : i + 1 < l.length),
    R (l[i]'(Nat.lt_of_succ_lt h)) (l[i + 1]'h) := by
  induction l with
  | nil => exact fun _ _ h => absurd h (Nat.not_lt_zero _)
  | cons a l ih =>
    intro hc i h
    cases l with
    | nil => exact absurd (Nat.lt_of_succ_lt_succ h) (Nat.not_lt_zero _)
    | cons b r =>
      cases i with
      | zero => exact hc.1
      | succ i => exact ih hc.2 i (Nat.lt_of_succ_lt_succ h)

/-! ### erasing tags: `resolve_edits` does not look at the text elements -/

def mapP (f : β → γ) (l : List (P β)) : List (P γ) := l.map (fun p => (p.1.map f, p.2))
def mapE (f : β → γ) (ed : Edit β) : Edit γ := ⟨ed.s, ed.e, ed.w.map f⟩

theorem mapE_id (ed : Edit β) : mapE (fun b => b) ed = ed := by
  unfold mapE; rw [List.map_id']

theorem mapP_length (f : β → γ) (l : List (P β)) : (mapP f l).length = l.length := List.length_map _

theorem mapP_append (f : β → γ) (a b : List (P β)) : mapP f (a ++ b) = mapP f a ++ mapP f b := List.map_append

theorem snds_mapP (f : β → γ) (l : List (P β)) : snds (mapP f l) = snds l := by
  unfold snds mapP; rw [List.map_map]; rfl

theorem valAt_mapP (f : β → γ) (l : List (P β)) (i : Nat) : valAt (mapP f l) i = valAt l i := by
  unfold valAt mapP
  rw [List.getElem?_map]
  cases l[i]? <;> rfl

theorem repl_mapP (f : β → γ) (l : List (P β)) (ed : Edit β) :
    repl (mapP f l) (mapE f ed) = mapP f (repl l ed) := by
  unfold repl mapE
  cases ed.w with
  | nil => rfl
  | cons b bs =>
    show _ :: List.map _ (List.map f bs) = _ :: List.map _ (List.map _ bs)
    rw [valAt_mapP, valAt_mapP, List.map_map, List.map_map]; rfl

theorem slice_mapP (f : β → γ) (l : List (P β)) (a b : Nat) : slice (mapP f l) a b = mapP f (slice l a b) := by
  unfold slice mapP; rw [List.map_take, List.map_drop]

theorem go_mapP (f : β → γ) (l : List (P β)) (es : List (Edit β)) : ∀ (start : Nat) (acc : List (P β)),
    go (mapP f l) start (es.map (mapE f)) (mapP f acc) = mapP f (go l start es acc) := by
  induction es with
  | nil =>
    intro start acc
    show mapP f acc ++ (mapP f l).drop start = mapP f (acc ++ l.drop start)
    rw [mapP_append]; unfold mapP; rw [List.map_drop]
  | cons ed es ih =>
    intro start acc
    show go (mapP f l) ed.e (es.map (mapE f)) (mapP f acc ++ slice (mapP f l) start ed.s ++ repl (mapP f l) (mapE f ed)) = _
    rw [slice_mapP, repl_mapP, ← mapP_append, ← mapP_append]
    exact ih ed.e _

theorem force0_mapP (f : β → γ) (l : List (P β)) : force0 (mapP f l) = mapP f (force0 l) := by
  cases l with
  | nil => rfl
  | cons p r => rfl

theorem resolve_mapP (f : β → γ) (l : List (P β)) (es : List (Edit β)) :
    resolve (mapP f l) (es.map (mapE f)) = mapP f (resolve l es) := by
  unfold resolve
  rw [← force0_mapP, ← go_mapP]; rfl

theorem finalLen_mapE (f : β → γ) (es : List (Edit β)) : ∀ (c : Int), finalLen c (es.map (mapE f)) = finalLen c es := by
  induction es with
  | nil => exact fun _ => rfl
  | cons ed es ih =>
    intro c
    rw [List.map_cons]; unfold finalLen
    rw [show (mapE f ed).w.length = ed.w.length from List.length_map _]; exact ih _

theorem lenOk_mapE (f : β → γ) (max : Nat) (es : List (Edit β)) : ∀ (c : Int),
    lenOk max c (es.map (mapE f)) = lenOk max c es := by
  induction es with
  | nil => exact fun _ => rfl
  | cons ed es ih =>
    intro c
    rw [List.map_cons]; unfold lenOk
    rw [show (mapE f ed).w.length = ed.w.length from List.length_map _]
    simp only [ih]; rfl

theorem lenGuard_mapE (f : β → γ) (lv : LenV) (max : Nat) (c : Int) (es : List (Edit β)) :
    lenGuard lv max c (es.map (mapE f)) = lenGuard lv max c es := by
  cases lv with
  | running => exact lenOk_mapE f max es c
  | final => unfold lenGuard lenOkFinal; rw [finalLen_mapE]

theorem commitV_mapP (f : β → γ) (lv : LenV) (l : List (P β)) (es : List (Edit β)) :
    commitV lv (mapP f l) (es.map (mapE f)) = (commitV lv l es).map (mapP f) := by
  cases es with
  | nil => rfl
  | cons ed es =>
    rw [List.map_cons, commitV_cons, commitV_cons, ← List.map_cons, lenGuard_mapE, mapP_length, resolve_mapP]
    cases lenGuard lv REALLY_MAX_LENGTH ((l.length : Int) - 1) (ed :: es) <;> rfl

theorem commitAllV_mapP (f : β → γ) (lv : LenV) (bs : List (List (Edit β))) : ∀ (l : List (P β)),
    commitAllV lv (mapP f l) (bs.map (fun es => es.map (mapE f))) = (commitAllV lv l bs).map (mapP f) := by
  induction bs with
  | nil => exact fun _ => rfl
  | cons es rest ih =>
    intro l
    rw [List.map_cons]
    unfold commitAllV
    rw [commitV_mapP]
    cases commitV lv l es with
    | none => rfl
    | some l1 => exact ih l1

/-! ### the provenance tagging: `some k` = byte `k` of the original, never written by a replacement; `none` = written by one -/

/-- an entry NOT written by a replacement (`mk b = some k`: `b` is byte `k` of the original) is followed by an entry with value `> k` -/
def Rel (mk : β → Option Nat) (p q : P β) : Prop := ∀ b k, p.1 = some b → mk b = some k → k + 1 ≤ q.2

/-- the original text, every byte tagged with its own offset -/
def tagIdentFrom : Nat → List Nat → List (P (Nat × Option Nat))
  | k, [] => [(none, k)]
  | k, b :: bs => (some (b, some k), k) :: tagIdentFrom (k + 1) bs

def tagIdent (o : List Nat) : List (P (Nat × Option Nat)) := tagIdentFrom 0 o

/-- the batches with every replacement byte tagged `none` -/
def tagBatches (bs : List (List (Edit Nat))) : List (List (Edit (Nat × Option Nat))) :=
  bs.map (fun es => es.map (mapE (fun b => (b, none))))

end EditM
