import Sudachi.Proofs.Oov
/-!
# C13: `CategoryType::iter` in closed form

The transcription of bitflags 2.5 `Flags::iter` walks a block of pairwise different single-bit flags and then `ALL`; a
block of single-bit flags yields exactly those still present, in list order (`iterGo_singles`), which gives the closed
form: the named single classes of the character in ascending bit index, then `ALL` iff all its bits are present,
otherwise the left-over (unnamed) bits as one value iff there are any.
-/
namespace Oov

theorem testBit_clear (r g i : Nat) : (r ^^^ (r &&& g)).testBit i = (r.testBit i && !g.testBit i) := by
  rw [Nat.testBit_xor, Nat.testBit_and]
  cases r.testBit i <;> cases g.testBit i <;> rfl

theorem iterGo_zero (source : Nat) (fs : List Nat) : iterGo source fs 0 = [] := by
  cases fs <;> simp [iterGo]

theorem iterGo_single (source i : Nat) (fs : List Nat) (rem : Nat)
    (hsub : rem.testBit i = true → source.testBit i = true) :
    iterGo source (2 ^ i :: fs) rem =
      (if rem.testBit i = true then [2 ^ i] else []) ++ iterGo source fs (rem ^^^ (rem &&& 2 ^ i)) := by
  simp only [iterGo]
  split
  · rename_i h0; subst h0; simp [iterGo_zero]
  · split
    · rename_i hy
      have hb := (and_two_pow_ne_zero_iff rem i).mp hy.2
      simp [hb]
    · rename_i hn
      have hf : rem.testBit i = false := by
        cases hb : rem.testBit i with
        | false => rfl
        | true => exact absurd ⟨and_two_pow_eq_self _ _ (hsub hb), (and_two_pow_ne_zero_iff rem i).mpr hb⟩ hn
      have hz : rem &&& 2 ^ i = 0 := (and_two_pow_eq_zero_iff rem i).mpr hf
      simp [hf, hz]

/-- `remaining` after the single-bit flags `is` have been passed -/
def clearBits (rem : Nat) : List Nat → Nat
  | [] => rem
  | i :: is => clearBits (rem ^^^ (rem &&& 2 ^ i)) is

theorem testBit_clearBits (rem : Nat) (is : List Nat) (j : Nat) :
    (clearBits rem is).testBit j = (rem.testBit j && !is.contains j) := by
  induction is generalizing rem with
  | nil => simp [clearBits]
  | cons i is ih =>
    simp only [clearBits, ih, testBit_clear, Nat.testBit_two_pow, List.contains_cons]
    by_cases h : i = j
    · subst h; simp
    · have h' : (j == i) = false := by simpa using fun e => h e.symm
      simp [h, h']

theorem iterGo_singles (source : Nat) (is : List Nat) (hnd : is.Nodup) (fs : List Nat) (rem : Nat)
    (hsub : ∀ j, rem.testBit j = true → source.testBit j = true) :
    iterGo source (is.map (2 ^ ·) ++ fs) rem =
      (is.filter (fun i => rem.testBit i)).map (2 ^ ·) ++ iterGo source fs (clearBits rem is) := by
  induction is generalizing rem with
  | nil => simp [clearBits]
  | cons i is ih =>
    have hnd' := List.nodup_cons.mp hnd
    simp only [List.map_cons, List.cons_append]
    rw [iterGo_single source i _ rem (hsub i)]
    have hsub' : ∀ j, (rem ^^^ (rem &&& 2 ^ i)).testBit j = true → source.testBit j = true := by
      intro j hj
      rw [testBit_clear] at hj
      exact hsub j (by revert hj; cases rem.testBit j <;> simp)
    rw [ih hnd'.2 _ hsub']
    have hfilt : is.filter (fun k => (rem ^^^ (rem &&& 2 ^ i)).testBit k) = is.filter (fun k => rem.testBit k) := by
      apply List.filter_congr
      intro k hk
      rw [testBit_clear, Nat.testBit_two_pow]
      have : i ≠ k := fun h => hnd'.1 (h ▸ hk)
      simp [this]
    rw [hfilt]
    simp only [List.filter_cons, clearBits]
    split <;> simp

/-- bit indices of the seventeen named single flags, in declaration order = ascending -/
def namedBits : List Nat := [0, 1, 2, 3, 4, 5, 6, 7, 8, 9, 10, 11, 12, 13, 14, 30, 31]

/-- bits 15..29: covered by no single flag, only by `ALL` -/
def unnamedMask : Nat := 1073709056

theorem flagDefs_eq : flagDefs = namedBits.map (2 ^ ·) ++ [ALL] := by decide

theorem namedBits_ascending : namedBits = (List.range 32).filter (fun i => i < 15 || i == 30 || i == 31) := by decide

theorem unnamedMask_bits : ∀ j, j < 32 → unnamedMask.testBit j = !namedBits.contains j := by decide

theorem clearBits_named (cat : Nat) (h32 : cat < 2 ^ 32) : clearBits cat namedBits = cat &&& unnamedMask := by
  apply Nat.eq_of_testBit_eq
  intro j
  rw [testBit_clearBits, Nat.testBit_and]
  by_cases hj : j < 32
  · rw [unnamedMask_bits j hj]
  · have : cat.testBit j = false :=
      Nat.testBit_lt_two_pow (Nat.lt_of_lt_of_le h32 (Nat.pow_le_pow_right (by decide) (by omega)))
    simp [this]

theorem flagsIter_split (cat : Nat) :
    flagsIter cat = (namedBits.filter (fun i => cat.testBit i)).map (2 ^ ·) ++ iterGo cat [ALL] (clearBits cat namedBits) := by
  unfold flagsIter
  rw [flagDefs_eq, iterGo_singles cat namedBits (by decide) [ALL] cat (fun _ h => h)]

theorem flagsIter_eq (cat : Nat) (h32 : cat < 2 ^ 32) :
    flagsIter cat = (namedBits.filter (fun i => cat.testBit i)).map (2 ^ ·) ++
      (if cat &&& ALL = ALL then [ALL] else if cat &&& unnamedMask = 0 then [] else [cat &&& unnamedMask]) := by
  rw [flagsIter_split, clearBits_named cat h32]
  congr 1
  by_cases hall : cat &&& ALL = ALL
  · have hm : cat &&& unnamedMask = unnamedMask := by
      have h1 : ALL &&& unnamedMask = unnamedMask := by decide
      rw [← h1, ← Nat.and_assoc, hall]
    rw [hm]
    simp only [iterGo, hall, if_true]
    decide
  · simp only [iterGo, hall, false_and, if_false]
    by_cases hz : cat &&& unnamedMask = 0 <;> simp [hz]

theorem mem_iterGo_all (source r y : Nat) (h : y ∈ iterGo source [ALL] r) :
    y = ALL ∨ ∀ j, y.testBit j = true → r.testBit j = true := by
  simp only [iterGo] at h
  by_cases h0 : r = 0
  · rw [if_pos h0] at h; cases h
  · rw [if_neg h0] at h
    by_cases hc : source &&& ALL = ALL ∧ r &&& ALL ≠ 0
    · rw [if_pos hc] at h
      rcases List.mem_cons.mp h with rfl | h
      · exact .inl rfl
      · right
        intro j hj
        by_cases hr : r ^^^ (r &&& ALL) ≠ 0
        · rw [if_pos hr] at h
          obtain rfl := List.mem_singleton.mp h
          rw [testBit_clear, Bool.and_eq_true] at hj
          exact hj.1
        · rw [if_neg hr] at h; cases h
    · rw [if_neg hc, if_pos h0] at h
      obtain rfl := List.mem_singleton.mp h
      exact .inr fun _ hj => hj

theorem flagsIter_named_bit (cat i : Nat) (hi : i < 15 ∨ i = 30 ∨ i = 31) :
    2 ^ i ∈ flagsIter cat ↔ cat.testBit i = true := by
  have hmem : i ∈ namedBits := by
    rw [namedBits_ascending, List.mem_filter, List.mem_range]
    refine ⟨by omega, ?_⟩
    simp only [Bool.or_eq_true, decide_eq_true_eq, beq_iff_eq]; omega
  rw [flagsIter_split, List.mem_append, List.mem_map]
  constructor
  · rintro (⟨j, hj, he⟩ | h)
    · rw [← (Nat.pow_right_inj (Nat.lt_succ_self 1)).mp he]
      exact (List.mem_filter.mp hj).2
    · rcases mem_iterGo_all _ _ _ h with he | hb
      · -- `ALL` has bit 15, the flag `2 ^ i` does not
        have := congrArg (·.testBit 15) he
        simp only [Nat.testBit_two_pow, show ALL.testBit 15 = true by decide, decide_eq_true_eq] at this
        omega
      · have := hb i Nat.testBit_two_pow_self
        rw [testBit_clearBits, List.contains_iff_mem.mpr hmem] at this
        simp at this
  · exact fun h => .inl ⟨i, List.mem_filter.mpr ⟨hmem, h⟩, rfl⟩

end Oov
