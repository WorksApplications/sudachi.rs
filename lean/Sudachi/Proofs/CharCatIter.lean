import Sudachi.Proofs.CharCat
/-!
# `CharacterCategory::iter()` (C17)

`iterRanges` lists the compiled table as half-open ranges.  First, for every table with strictly increasing
scalar boundaries: the iterator does not panic on a non-empty table, its ranges are consecutive from 0 to
`char::MAX` (`Chain`), so every code point below `char::MAX` lies in exactly one of them (`countIn`), and the
classes of a range are what the table gives to each of its code points (`denF`).  Then, about `compile`: its
boundaries are ends of lines, its table is not empty when there is a line, and `merge` leaves no equal
neighbours, so after `finalize` two neighbouring ranges carry the same classes only when these are DEFAULT
(`AdjEqDef`).
-/
namespace CharCat

/-! ## the iterator on any table with strictly increasing scalar boundaries -/

/-- consecutive half-open ranges `(start, end, classes)` leading from `a` to `z` -/
def Chain : Nat → List (Nat × Nat × Nat) → Nat → Prop
  | a, [], z => a = z
  | a, (s, e, _) :: rest, z => s = a ∧ s ≤ e ∧ Chain e rest z

/-- number of ranges containing `x` -/
def countIn (x : Nat) (items : List (Nat × Nat × Nat)) : Nat :=
  (items.filter (fun it => decide (it.1 ≤ x) && decide (x < it.2.1))).length

/-- neighbours with equal classes are DEFAULT -/
def AdjEqDef : List Nat → Prop
  | [] => True
  | [_] => True
  | a :: b :: t => (a = b → a = DEFAULT) ∧ AdjEqDef (b :: t)

theorem Chain.bounds : ∀ {items : List (Nat × Nat × Nat)} {a z : Nat}, Chain a items z →
    a ≤ z ∧ ∀ it ∈ items, a ≤ it.1 ∧ it.2.1 ≤ z
  | [], _, _, h => ⟨Nat.le_of_eq h, nofun⟩
  | (s, e, _) :: rest, a, z, ⟨h1, h2, h3⟩ => by
    obtain ⟨hez, hr⟩ := Chain.bounds h3
    subst h1
    refine ⟨Nat.le_trans h2 hez, fun it hit => ?_⟩
    rcases List.mem_cons.mp hit with rfl | hit
    · exact ⟨Nat.le_refl _, hez⟩
    · exact ⟨Nat.le_trans h2 (hr it hit).1, (hr it hit).2⟩

theorem countIn_cons (x s e c : Nat) (rest : List (Nat × Nat × Nat)) :
    countIn x ((s, e, c) :: rest) = (if s ≤ x ∧ x < e then 1 else 0) + countIn x rest := by
  rw [countIn, List.filter_cons]
  by_cases h : s ≤ x ∧ x < e
  · rw [if_pos (by simpa using h), if_pos h, List.length_cons, Nat.add_comm]; rfl
  · rw [if_neg (by simpa using h), if_neg h, Nat.zero_add]; rfl

/-- a chain is a partition of `[a, z)` -/
theorem countIn_chain {items : List (Nat × Nat × Nat)} {a z : Nat} (h : Chain a items z) (x : Nat) :
    countIn x items = if a ≤ x ∧ x < z then 1 else 0 := by
  induction items generalizing a with
  | nil => exact (if_neg fun hx => Nat.not_lt.mpr hx.1 (h ▸ hx.2)).symm
  | cons it rest ih =>
    obtain ⟨s, e, c⟩ := it
    obtain ⟨rfl, hse, hr⟩ := h
    rw [countIn_cons, ih hr]
    by_cases hx : x < e
    · rw [if_neg fun h : e ≤ x ∧ x < z => Nat.not_lt.mpr h.1 hx, Nat.add_zero]
      by_cases hs : s ≤ x
      · rw [if_pos ⟨hs, hx⟩, if_pos ⟨hs, Nat.lt_of_lt_of_le hx hr.bounds.1⟩]
      · rw [if_neg fun h : s ≤ x ∧ x < e => hs h.1, if_neg fun h : s ≤ x ∧ x < z => hs h.1]
    · have hex := Nat.not_lt.mp hx
      rw [if_neg fun h : s ≤ x ∧ x < e => hx h.2, Nat.zero_add]
      simp only [hex, Nat.le_trans hse hex, true_and]

theorem iterGo_spec : ∀ (rest : List (Nat × Nat)) (prev : Nat), (∀ b ∈ fsts rest, prev ≤ b) → SInc (fsts rest) →
    isScalar prev = true → (∀ b ∈ fsts rest, isScalar b = true) →
    ∃ items, iterGo prev rest = some items ∧ Chain prev items charMax ∧
      (∀ it ∈ items, ∀ x, it.1 ≤ x → x < it.2.1 → it.2.2 = denF rest x) ∧
      items.map (·.2.2) = snds rest ++ [DEFAULT] := by
  intro rest
  induction rest with
  | nil =>
    intro prev _ _ hp _
    refine ⟨[(prev, charMax, DEFAULT)], if_pos hp, ⟨rfl, isScalar_le hp, rfl⟩, fun it hit x _ _ => ?_, rfl⟩
    rw [List.mem_singleton.mp hit]; rfl
  | cons p rest ih =>
    obtain ⟨b, c⟩ := p
    intro prev hle hs hp hsc
    rw [fsts_cons] at hle hs hsc
    obtain ⟨hb, hsc'⟩ := List.forall_mem_cons.mp hsc
    obtain ⟨items, h1, h2, h3, h4⟩ := ih b (fun y hy => Nat.le_of_lt (hs.head_lt y hy)) hs.tail hb hsc'
    refine ⟨(prev, b, c) :: items, ?_, ⟨rfl, hle b (List.mem_cons_self ..), h2⟩, fun it hit x hx1 hx2 => ?_, ?_⟩
    · rw [iterGo, hp, hb, h1]; rfl
    · rw [denF]
      rcases List.mem_cons.mp hit with rfl | hit'
      · exact (if_pos hx2).symm
      · rw [if_neg (Nat.not_lt.mpr (Nat.le_trans (h2.bounds.2 it hit').1 hx1))]
        exact h3 it hit' x hx1 hx2
    · rw [List.map_cons, h4]; rfl

theorem iterRanges_of_sinc (tab : List (Nat × Nat)) (hne : tab ≠ []) (hs : SInc (fsts tab))
    (hsc : ∀ b ∈ fsts tab, isScalar b = true) :
    ∃ items, iterRanges tab = some items ∧ Chain 0 items charMax ∧
      (∀ it ∈ items, ∀ x, it.1 ≤ x → x < it.2.1 → it.2.2 = denF tab x) ∧
      items.map (·.2.2) = snds tab ++ [DEFAULT] := by
  cases tab with
  | nil => exact absurd rfl hne
  | cons p rest =>
    -- `iterRanges` is `iterGo` started at 0
    exact iterGo_spec (p :: rest) 0 (fun _ _ => Nat.zero_le _) hs rfl hsc

/-! ## the table `compile` hands to the iterator -/

theorem mem_fsts_compile (rs : List CatRange) (y : Nat) (h : y ∈ fsts (compile rs)) :
    ∃ r ∈ rs, y = r.b ∨ y = r.e :=
  (mem_collect rs y).mp ((fsts_compile_sublist rs).subset h)

theorem mergeGo_head : ∀ (l : List (Nat × Nat)) (lb lc : Nat), ∃ b' t, mergeGo lb lc l = (b', lc) :: t := by
  intro l
  induction l with
  | nil => intro lb lc; exact ⟨lb, [], rfl⟩
  | cons p rest ih =>
    obtain ⟨b, x⟩ := p
    intro lb lc
    rw [mergeGo]
    split
    · exact ih b lc
    · exact ⟨lb, _, rfl⟩

theorem compile_ne_nil (rs : List CatRange) (hne : rs ≠ []) : compile rs ≠ [] := by
  cases rs with
  | nil => exact absurd rfl hne
  | cons r rs' =>
    have hmem : r.b ∈ collectBoundaries (r :: rs') := (mem_collect _ _).mpr ⟨r, List.mem_cons_self .., .inl rfl⟩
    have hf : fsts (setFirst (applyAll (r :: rs') (initCats (collectBoundaries (r :: rs'))))) =
        collectBoundaries (r :: rs') := by rw [fsts_setFirst, fsts_applyAll, fsts_initCats]
    rw [compile, finalize, Ne, List.map_eq_nil_iff]
    generalize setFirst (applyAll (r :: rs') (initCats (collectBoundaries (r :: rs')))) = l at hf
    cases l with
    | nil => rw [← hf] at hmem; cases hmem
    | cons p rest =>
      obtain ⟨b', t, ht⟩ := mergeGo_head rest p.1 p.2
      rw [merge, ht]
      exact List.cons_ne_nil _ _

/-- neighbours differ (what `merge` leaves, before the empty entries are defaulted) -/
def AdjNe : List Nat → Prop
  | [] => True
  | [_] => True
  | a :: b :: t => a ≠ b ∧ AdjNe (b :: t)

theorem adjNe_mergeGo : ∀ (l : List (Nat × Nat)) (lb lc : Nat), AdjNe (snds (mergeGo lb lc l)) := by
  intro l
  induction l with
  | nil => intro lb lc; trivial
  | cons p rest ih =>
    obtain ⟨b, x⟩ := p
    intro lb lc
    rw [mergeGo]
    split
    · exact ih b lc
    · next hne =>
      obtain ⟨b', t, ht⟩ := mergeGo_head rest b x
      have := ih b x
      rw [ht] at this ⊢
      exact ⟨fun h => hne h.symm, this⟩

theorem adjEqDef_finalize : ∀ (l : List Nat), AdjNe l →
    AdjEqDef (l.map (fun c => if c = 0 then DEFAULT else c) ++ [DEFAULT]) := by
  intro l
  induction l with
  | nil => intro _; trivial
  | cons a t ih =>
    intro h
    cases t with
    | nil => exact ⟨id, trivial⟩
    | cons b t' =>
      refine ⟨fun heq => ?_, ih h.2⟩
      -- equal after defaulting but different before: one of the two was empty
      by_cases ha : a = 0
      · exact if_pos ha
      · by_cases hb : b = 0
        · rw [heq]; exact if_pos hb
        · simp only [if_neg ha, if_neg hb] at heq; exact absurd heq h.1

theorem adjEqDef_compile (rs : List CatRange) : AdjEqDef (snds (compile rs) ++ [DEFAULT]) := by
  have hsn : ∀ l : List (Nat × Nat), snds (finalize l) = (snds l).map (fun c => if c = 0 then DEFAULT else c) := by
    intro l; simp [snds, finalize, List.map_map, Function.comp_def]
  rw [compile, hsn]
  apply adjEqDef_finalize
  generalize setFirst (applyAll rs (initCats (collectBoundaries rs))) = l
  cases l with
  | nil => trivial
  | cons p rest => exact adjNe_mergeGo rest p.1 p.2

end CharCat
