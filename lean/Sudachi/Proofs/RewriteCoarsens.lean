import Sudachi.Model.Rewrite
/-!
# C14: the relation "only neighbours are merged"

`Coarsens R p q`: the path `q` is obtained from `p` by replacing disjoint contiguous non-empty
blocks by one node each; the replacing node `m` of a block `blk` *spans* it (`Spans blk m`: begins
where the first node begins, ends where the last node ends, in characters and in bytes, and its
dictionary-side surface is the concatenation of the surfaces) and satisfies the plugin-specific
relation `R blk m` (part of speech etc.); every other node is kept identically (`keep`).

The only model functions here are `catSurface` and the fields of a node: the relation is reflexive, transitive for a relation `R` that survives
refining a block (`Compositional`), keeps begin, end, text and contiguity of the path, and is the same as a
partition of the input into one block per output token (`Aligned`).
-/
namespace Rewrite

def firstB (l : List Node) : Option (Nat × Nat) := l.head?.map (fun n => (n.b, n.bb))
def lastE (l : List Node) : Option (Nat × Nat) := l.getLast?.map (fun n => (n.e, n.eb))

structure Spans (blk : List Node) (m : Node) : Prop where
  first : firstB blk = some (m.b, m.bb)
  last : lastE blk = some (m.e, m.eb)
  surf : catSurface blk = m.surface

theorem Spans.ne_nil {blk : List Node} {m : Node} (h : Spans blk m) : blk ≠ [] := by
  intro hn
  have := h.first
  simp [hn, firstB] at this

inductive Coarsens (R : List Node → Node → Prop) : List Node → List Node → Prop
  | nil : Coarsens R [] []
  | keep (n : Node) {p q : List Node} : Coarsens R p q → Coarsens R (n :: p) (n :: q)
  | merge (blk : List Node) (m : Node) {p q : List Node} :
      Spans blk m → R blk m → Coarsens R p q → Coarsens R (blk ++ p) (m :: q)

variable {R : List Node → Node → Prop}

theorem Coarsens.refl (p : List Node) : Coarsens R p p := by
  induction p with
  | nil => exact .nil
  | cons n p ih => exact .keep n ih

theorem Coarsens.append {p q p' q' : List Node} (h : Coarsens R p q) (h' : Coarsens R p' q') :
    Coarsens R (p ++ p') (q ++ q') := by
  induction h with
  | nil => simpa using h'
  | keep n _ ih => exact .keep n ih
  | merge blk m hs hr _ ih =>
    rw [List.append_assoc]
    exact .merge blk m hs hr ih

theorem Coarsens.mono {R' : List Node → Node → Prop} (hrr : ∀ blk m, R blk m → R' blk m)
    {p q : List Node} (h : Coarsens R p q) : Coarsens R' p q := by
  induction h with
  | nil => exact .nil
  | keep n _ ih => exact .keep n ih
  | merge blk m hs hr _ ih => exact .merge blk m hs (hrr _ _ hr) ih

theorem Coarsens.nil_iff {p q : List Node} (h : Coarsens R p q) : p = [] ↔ q = [] := by
  cases h with
  | nil => simp
  | keep n _ => simp
  | merge blk m hs _ _ =>
    have := hs.ne_nil
    simp [this]

theorem Coarsens.length_le {p q : List Node} (h : Coarsens R p q) : q.length ≤ p.length := by
  induction h with
  | nil => exact Nat.le_refl _
  | keep n _ ih => simp only [List.length_cons]; omega
  | merge blk m hs _ _ ih =>
    have : blk ≠ [] := hs.ne_nil
    have : 0 < blk.length := List.length_pos_iff.mpr this
    simp only [List.length_cons, List.length_append]; omega

theorem catSurface_append (a b : List Node) : catSurface (a ++ b) = catSurface a ++ catSurface b := by
  simp [catSurface]

theorem catSurface_cons (a : Node) (b : List Node) : catSurface (a :: b) = a.surface ++ catSurface b := by
  simp [catSurface]

theorem firstB_append_of_ne_nil {a : List Node} (b : List Node) (h : a ≠ []) :
    firstB (a ++ b) = firstB a := by
  cases a with
  | nil => exact absurd rfl h
  | cons x xs => simp [firstB]

theorem lastE_append (a b : List Node) : lastE (a ++ b) = (lastE b).or (lastE a) := by
  unfold lastE
  rw [List.getLast?_append]
  cases b.getLast? <;> rfl

theorem Coarsens.summary {p q : List Node} (h : Coarsens R p q) :
    firstB p = firstB q ∧ lastE p = lastE q ∧ catSurface p = catSurface q := by
  induction h with
  | nil => simp
  | @keep n p q _ ih =>
    obtain ⟨_, h2, h3⟩ := ih
    refine ⟨by simp [firstB], ?_, by simp [catSurface_cons, h3]⟩
    show lastE ([n] ++ p) = lastE ([n] ++ q)
    rw [lastE_append, lastE_append, h2]
  | @merge blk m p q hs hr _ ih =>
    obtain ⟨_, h2, h3⟩ := ih
    refine ⟨?_, ?_, ?_⟩
    · rw [firstB_append_of_ne_nil _ hs.ne_nil, hs.first]
      simp [firstB]
    · show lastE (blk ++ p) = lastE ([m] ++ q)
      rw [lastE_append, lastE_append, h2, hs.last]
      rfl
    · rw [catSurface_append, catSurface_cons, hs.surf, h3]

theorem Coarsens.split_right {a b : List Node} : ∀ {p : List Node}, Coarsens R p (a ++ b) →
    ∃ p1 p2, p = p1 ++ p2 ∧ Coarsens R p1 a ∧ Coarsens R p2 b := by
  induction a with
  | nil =>
    intro p h
    exact ⟨[], p, rfl, .nil, by simpa using h⟩
  | cons x a ih =>
    intro p h
    rw [List.cons_append] at h
    cases h with
    | keep _ h' =>
      obtain ⟨p1, p2, e, h1, h2⟩ := ih h'
      exact ⟨x :: p1, p2, by simp [e], .keep x h1, h2⟩
    | merge blk _ hs hr h' =>
      obtain ⟨p1, p2, e, h1, h2⟩ := ih h'
      exact ⟨blk ++ p1, p2, by simp [e], .merge blk x hs hr h1, h2⟩

/-- the plugin-specific relation survives refining the block -/
def Compositional (R : List Node → Node → Prop) : Prop :=
  ∀ p blk m, Coarsens R p blk → Spans blk m → R blk m → R p m

theorem Spans.of_coarsens {p blk : List Node} {m : Node} (h : Coarsens R p blk) (hs : Spans blk m) :
    Spans p m := by
  obtain ⟨h1, h2, h3⟩ := h.summary
  exact ⟨h1.trans hs.first, h2.trans hs.last, h3.trans hs.surf⟩

theorem Coarsens.trans (hR : Compositional R) {q r : List Node} (h2 : Coarsens R q r) :
    ∀ {p : List Node}, Coarsens R p q → Coarsens R p r := by
  induction h2 with
  | nil => intro p h1; rw [h1.nil_iff.mpr rfl]; exact .nil
  | keep n _ ih =>
    intro p h1
    cases h1 with
    | keep _ h' => exact .keep n (ih h')
    | merge blk _ hs hr h' => exact .merge blk n hs hr (ih h')
  | merge blk m hs hr _ ih =>
    intro p h1
    obtain ⟨p1, p2, e, c1, c2⟩ := h1.split_right
    subst e
    exact .merge p1 m (hs.of_coarsens c1) (hR _ _ _ c1 hs hr) (ih c2)

/-! ## what a coarsening means token by token: `classify`, `boundaries` -/

theorem Coarsens.classify {p q : List Node} (h : Coarsens R p q) :
    ∀ m ∈ q, m ∈ p ∨ ∃ pre blk post, p = pre ++ blk ++ post ∧ Spans blk m ∧ R blk m := by
  induction h with
  | nil => intro m hm; cases hm
  | @keep n p q _ ih =>
    intro m hm
    rcases List.mem_cons.mp hm with rfl | hm
    · exact .inl (List.mem_cons_self ..)
    · rcases ih m hm with h | ⟨pre, blk, post, e, hs, hr⟩
      · exact .inl (List.mem_cons_of_mem _ h)
      · exact .inr ⟨n :: pre, blk, post, by simp [e], hs, hr⟩
  | @merge blk0 m0 p q hs0 hr0 _ ih =>
    intro m hm
    rcases List.mem_cons.mp hm with rfl | hm
    · exact .inr ⟨[], blk0, p, by simp, hs0, hr0⟩
    · rcases ih m hm with h | ⟨pre, blk, post, e, hs, hr⟩
      · exact .inl (List.mem_append_right _ h)
      · exact .inr ⟨blk0 ++ pre, blk, post, by simp [e], hs, hr⟩

theorem firstB_mem {blk : List Node} {x : Nat × Nat} (h : firstB blk = some x) :
    ∃ n ∈ blk, (n.b, n.bb) = x := by
  cases blk with
  | nil => simp [firstB] at h
  | cons a l =>
    simp [firstB] at h
    exact ⟨a, List.mem_cons_self .., h⟩

theorem lastE_mem {blk : List Node} {x : Nat × Nat} (h : lastE blk = some x) :
    ∃ n ∈ blk, (n.e, n.eb) = x := by
  unfold lastE at h
  cases hl : blk.getLast? with
  | none => simp [hl] at h
  | some a =>
    simp [hl] at h
    exact ⟨a, List.mem_of_getLast? hl, h⟩

theorem Coarsens.boundaries {p q : List Node} (h : Coarsens R p q) :
    ∀ m ∈ q, (∃ n ∈ p, n.b = m.b ∧ n.bb = m.bb) ∧ (∃ n ∈ p, n.e = m.e ∧ n.eb = m.eb) := by
  intro m hm
  rcases h.classify m hm with h | ⟨pre, blk, post, e, hs, _⟩
  · exact ⟨⟨m, h, rfl, rfl⟩, ⟨m, h, rfl, rfl⟩⟩
  · obtain ⟨f, hf, ef⟩ := firstB_mem hs.first
    obtain ⟨l, hl, el⟩ := lastE_mem hs.last
    have hfp : f ∈ p := by rw [e]; simp [hf]
    have hlp : l ∈ p := by rw [e]; simp [hl]
    simp only [Prod.mk.injEq] at ef el
    exact ⟨⟨f, hfp, ef.1, ef.2⟩, ⟨l, hlp, el.1, el.2⟩⟩

/-! ## a coarsening is a partition of the input into one block per output token -/

/-- `bs` lists, for every output token, the block of input tokens it stands for: either the token
itself, unchanged, or a block that it spans -/
def Aligned (R : List Node → Node → Prop) : List (List Node) → List Node → Prop
  | [], [] => True
  | blk :: bs, m :: q => (blk = [m] ∨ (Spans blk m ∧ R blk m)) ∧ Aligned R bs q
  | _, _ => False

theorem Coarsens.aligned {p q : List Node} (h : Coarsens R p q) :
    ∃ bs : List (List Node), bs.flatten = p ∧ Aligned R bs q := by
  induction h with
  | nil => exact ⟨[], rfl, trivial⟩
  | keep n _ ih =>
    obtain ⟨bs, e, ha⟩ := ih
    exact ⟨[n] :: bs, by simp [e], .inl rfl, ha⟩
  | merge blk m hs hr _ ih =>
    obtain ⟨bs, e, ha⟩ := ih
    exact ⟨blk :: bs, by simp [e], .inr ⟨hs, hr⟩, ha⟩

theorem coarsens_of_aligned (bs : List (List Node)) (q : List Node) (h : Aligned R bs q) :
    Coarsens R bs.flatten q := by
  fun_induction Aligned R bs q with
  | case1 => exact .nil
  | case2 blk bs m q ih =>
    rw [List.flatten_cons]
    rcases h.1 with rfl | ⟨hs, hr⟩
    · exact .keep m (ih h.2)
    · exact .merge blk m hs hr (ih h.2)
  | case3 => exact h.elim

/-! ## contiguity is kept -/

/-- adjacent tokens touch (characters and bytes) -/
def Contig : List Node → Prop
  | [] => True
  | [_] => True
  | a :: b :: rest => a.e = b.b ∧ a.eb = b.bb ∧ Contig (b :: rest)

theorem Contig.tail {a : Node} {l : List Node} (h : Contig (a :: l)) : Contig l := by
  cases l with
  | nil => trivial
  | cons b r => exact h.2.2

theorem contig_cons_iff (a : Node) (l : List Node) :
    Contig (a :: l) ↔ (∀ x, firstB l = some x → x = (a.e, a.eb)) ∧ Contig l := by
  cases l with
  | nil => simp [Contig, firstB]
  | cons b r =>
    simp only [Contig, firstB, List.head?_cons, Option.map_some, Option.some.injEq]
    constructor
    · rintro ⟨h1, h2, h3⟩
      exact ⟨fun x hx => by rw [← hx, h1, h2], h3⟩
    · rintro ⟨h1, h3⟩
      have := h1 _ rfl
      simp only [Prod.mk.injEq] at this
      exact ⟨this.1.symm, this.2.symm, h3⟩

theorem contig_append_iff (a : List Node) (b : List Node) :
    Contig (a ++ b) ↔ Contig a ∧ Contig b ∧
      (∀ x y, lastE a = some x → firstB b = some y → x = y) := by
  induction a with
  | nil => simp [Contig, lastE]
  | cons n a ih =>
    rw [List.cons_append, contig_cons_iff, contig_cons_iff, ih]
    by_cases ha : a = []
    · subst ha
      simp only [List.nil_append, Contig, lastE, List.getLast?_singleton, Option.map_some, firstB,
        List.head?_nil, Option.map_none, reduceCtorEq, false_implies, implies_true, true_and,
        Option.some.injEq]
      constructor
      · rintro ⟨h1, h2, _⟩
        exact ⟨h2, fun x y hx hy => by rw [← hx]; exact (h1 y hy).symm⟩
      · rintro ⟨h2, h3⟩
        exact ⟨fun x hx => (h3 _ _ rfl hx).symm, h2, by intro x y hx; cases hx⟩
    · have e1 : firstB (a ++ b) = firstB a := firstB_append_of_ne_nil b ha
      have e2 : lastE (n :: a) = lastE a := by
        cases a with
        | nil => exact absurd rfl ha
        | cons _ _ => rfl
      rw [e1, e2]
      constructor
      · rintro ⟨h1, h2, h3, h4⟩
        exact ⟨⟨h1, h2⟩, h3, h4⟩
      · rintro ⟨⟨h1, h2⟩, h3, h4⟩
        exact ⟨h1, h2, h3, h4⟩

theorem Coarsens.contig {p q : List Node} (h : Coarsens R p q) (hp : Contig p) : Contig q := by
  induction h with
  | nil => trivial
  | @keep n p q hpq ih =>
    rw [contig_cons_iff] at hp ⊢
    exact ⟨by rw [← hpq.summary.1]; exact hp.1, ih hp.2⟩
  | @merge blk m p q hs hr hpq ih =>
    rw [contig_append_iff] at hp
    rw [contig_cons_iff]
    refine ⟨?_, ih hp.2.1⟩
    intro x hx
    rw [← hpq.summary.1] at hx
    exact (hp.2.2 _ _ hs.last hx).symm

/-! ## what holds of the output and of all merged blocks holds of the input; no witness, no merge -/

theorem Coarsens.forall_left {Q : Node → Prop} (hR : ∀ blk m, R blk m → ∀ n ∈ blk, Q n)
    {p q : List Node} (h : Coarsens R p q) (hq : ∀ n ∈ q, Q n) : ∀ n ∈ p, Q n := by
  induction h with
  | nil => intro n hn; cases hn
  | keep x _ ih =>
    intro n hn
    rcases List.mem_cons.mp hn with rfl | hn
    · exact hq _ (by simp)
    · exact ih (fun n hn => hq n (List.mem_cons_of_mem _ hn)) n hn
  | merge blk m _ hr _ ih =>
    intro n hn
    rcases List.mem_append.mp hn with hn | hn
    · exact hR _ _ hr n hn
    · exact ih (fun n hn => hq n (List.mem_cons_of_mem _ hn)) n hn

theorem Coarsens.eq_of_no_witness {R : List Node → Node → Prop} {Q : Node → Prop}
    (hR : ∀ blk m, R blk m → ∃ f ∈ blk, Q f) {p q : List Node} (h : Coarsens R p q)
    (hp : ∀ n ∈ p, ¬ Q n) : q = p := by
  induction h with
  | nil => rfl
  | keep n _ ih => rw [ih (fun x hx => hp x (List.mem_cons_of_mem _ hx))]
  | merge blk m _ hr _ _ =>
    obtain ⟨f, hf, hq⟩ := hR _ _ hr
    exact absurd hq (hp f (List.mem_append_left _ hf))

end Rewrite
