import Sudachi.Proofs.Partition
import Sudachi.Proofs.Normalize
import Sudachi.Proofs.Utf8
import Sudachi.Model.Stages
/-!
# The UTF-8 invariant of the input buffer and `PluginOk` for the BUNDLED input-text plugins (C01; serves C03, C07)

`Partition.PluginOk` asks of an input-text plugin that its edits are sorted, non-overlapping, in range (`EditsOk`) and on
character starts of the current BYTE text (`EditsB`).  C07 proves the first half for the three bundled plugins in
CODE-POINT indices (`defaultEdits_ok`, `psmGo_edits_ok`, `yomiGo_edits_ok`).  What turns a code-point index into a
character start of the byte text is the invariant `Enc l`: the current text of the buffer IS the UTF-8 encoding (the
model's own `TotalIO.encode`) of a code-point list.  The model's decoder inverts that encoder, the byte offset of a
code-point index in an encoded text is a character start, and `resolve_edits` on an encoded text with edits on such
offsets and encoded replacements yields the encoding of C07's code-point result (`Normalize.applyEdits`), so the byte
text and the code-point text stay in step through every batch.  `PluginOk` is therefore stated relative to an invariant
of the buffer that the plugin's own batches keep (`PluginOkJ`), proved for `TotalIO.plugin a S c` with ANY settings,
rewrite table and Unicode facts, and carried through the plugin stack (`bundled_reach`) to the two facts the partition theorem
(`tokens_partition_core`, at the end of `Proofs/Partition.lean`) needs of the plugin stage: `hreach` and, through `enc_hutf`, `hutf`.

The file begins with the facts about the model's encoder and decoder on their own (one encoded character: `Proofs/Utf8.lean`,
whose `Sentence.utf8Enc` is `TotalIO.utf8Enc` by unfolding); the encoder block is declared in
`namespace Partition` (`Partition.nchars_encode` is cited under that name by `Props/C01.lean`), everything after it in
`namespace Utf8Inv` — as is, at the end of `Proofs/Partition.lean`, `Utf8Inv.tokens_partition_core`.  After the bundled plugins it holds
`trace_final` (the traced plugin stage the driver runs for `C01 stages` ends as `Total.rewriteInput` does) and the data of two
examples of `Props/C01.lean`: a bundled plugin that edits (`exFacts`, `exSetup`, `exPlugin_psm`) and a text that is not an
encoding, on which a bundled plugin is not `PluginOk` (`overlong`, `markA`, `plugin_overlong`).
-/
namespace Partition
open EditM

/-! ## the model's UTF-8 encoder: one character start per character -/

theorem isStart_iff_not_isCont (b : Nat) : isStart b = true ↔ ¬ Sentence.isCont b :=
  (isStart_iff b).trans ⟨fun h hc => h.elim (Nat.not_lt.2 hc.1) (Nat.not_le.2 hc.2),
    fun h => (Nat.lt_or_ge b 0x80).imp_right fun h1 => Nat.le_of_not_lt fun h2 => h ⟨h1, h2⟩⟩

/-- `TotalIO.utf8Enc` is `Sentence.utf8Enc` (the same body): `Sentence.utf8Enc_shape` in terms of `isStart` -/
theorem utf8Enc_shape (c : Nat) : ∃ b bs, TotalIO.utf8Enc c = b :: bs ∧ isStart b = true ∧ ∀ x ∈ bs, isStart x = false :=
  have ⟨b, bs, e, hb, hbs⟩ := Sentence.utf8Enc_shape c
  ⟨b, bs, e, (isStart_iff_not_isCont b).2 hb, fun x hx =>
    Bool.eq_false_iff.2 fun h => (isStart_iff_not_isCont x).1 h (hbs x hx)⟩

theorem encode_cons (c : Nat) (cs : List Nat) : TotalIO.encode (c :: cs) = TotalIO.utf8Enc c ++ TotalIO.encode cs :=
  List.flatMap_cons

theorem nchars_utf8Enc (c : Nat) : nchars (TotalIO.utf8Enc c) = 1 := by
  obtain ⟨b, bs, e, hb, hbs⟩ := utf8Enc_shape c
  rw [e, nchars_cons, if_pos hb, nchars, List.filter_eq_nil_iff.2 fun x hx => Bool.eq_false_iff.1 (hbs x hx)]
  rfl

theorem nchars_encode : ∀ (cs : List Nat), nchars (TotalIO.encode cs) = cs.length
  | [] => rfl
  | c :: cs => by
    rw [encode_cons, nchars_append, nchars_utf8Enc, nchars_encode cs, List.length_cons, Nat.add_comm]

end Partition

namespace Utf8Inv
open Oov (Outcome)
open Total EditM Partition
open TotalIO (utf8Enc encode byteOff toByteEdits)

/-! ## the model's decoder inverts the model's encoder -/

theorem encode_append (a b : List Nat) : encode (a ++ b) = encode a ++ encode b := List.flatMap_append

theorem utf8Enc_length (c : Nat) : (utf8Enc c).length = Normalize.utf8w c := Sentence.utf8Enc_length c

/-- **the model's decoder inverts the model's encoder** — for every list of scalar values (the 4-byte branch of both
functions has no upper bound, so no side condition is needed) -/
theorem decode_encode : ∀ cs : List Nat, Wire.utf8Decode (encode cs) = some cs
  | [] => by rw [Wire.utf8Decode.eq_def]; rfl
  | c :: cs => by
    rw [encode_cons]
    exact (Sentence.utf8Decode_utf8Enc_append c _).trans (congrArg (Option.map (c :: ·)) (decode_encode cs))

/-! ## byte offsets of code-point indices -/

theorem byteOff_zero (cs : List Nat) : byteOff cs 0 = 0 := by simp [byteOff]

theorem byteOff_cons_succ (c : Nat) (cs : List Nat) (k : Nat) :
    byteOff (c :: cs) (k + 1) = Normalize.utf8w c + byteOff cs k := by
  simp [byteOff, List.take_succ_cons]

theorem byteOff_eq_off (cs : List Nat) (k : Nat) : byteOff cs k = Normalize.off Normalize.utf8w cs k := rfl

theorem byteOff_mono (cs : List Nat) (i j : Nat) (h : i ≤ j) : byteOff cs i ≤ byteOff cs j :=
  Normalize.off_mono Normalize.utf8w cs i j h

theorem encode_length : ∀ cs : List Nat, (encode cs).length = (cs.map Normalize.utf8w).sum
  | [] => rfl
  | c :: cs => by rw [encode_cons, List.length_append, utf8Enc_length, encode_length cs]; rfl

/-- the byte offset of a code-point index is the length of the encoded prefix; the facts below follow from
`encode cs = encode (cs.take k) ++ encode (cs.drop k)` -/
theorem byteOff_eq (cs : List Nat) (k : Nat) : byteOff cs k = (encode (cs.take k)).length :=
  (encode_length _).symm

theorem encode_take_drop (cs : List Nat) (k : Nat) : encode cs = encode (cs.take k) ++ encode (cs.drop k) := by
  rw [← encode_append, List.take_append_drop]

theorem encode_take (cs : List Nat) (k : Nat) : (encode cs).take (byteOff cs k) = encode (cs.take k) := by
  rw [byteOff_eq, encode_take_drop cs k]
  exact List.take_left' rfl

theorem encode_drop (cs : List Nat) (k : Nat) : (encode cs).drop (byteOff cs k) = encode (cs.drop k) := by
  rw [byteOff_eq, encode_take_drop cs k]
  exact List.drop_left' rfl

theorem byteOff_le_length (cs : List Nat) (k : Nat) : byteOff cs k ≤ (encode cs).length := by
  rw [byteOff_eq, encode_take_drop cs k, List.length_append]
  exact Nat.le_add_right _ _

theorem byteOff_of_length_le (cs : List Nat) (k : Nat) (h : cs.length ≤ k) : byteOff cs k = (encode cs).length := by
  rw [byteOff_eq, List.take_of_length_le h]

theorem byteOff_add (cs : List Nat) (i d : Nat) : byteOff cs (i + d) = byteOff cs i + byteOff (cs.drop i) d := by
  rw [byteOff_eq, byteOff_eq, byteOff_eq, List.take_add, encode_append, List.length_append]

theorem encode_slice (cs : List Nat) (i j : Nat) (h : i ≤ j) :
    slice (encode cs) (byteOff cs i) (byteOff cs j) = encode (slice cs i j) := by
  unfold slice
  obtain ⟨d, rfl⟩ : ∃ d, j = i + d := ⟨j - i, (Nat.add_sub_cancel' h).symm⟩
  rw [encode_drop, byteOff_add, Nat.add_sub_cancel_left, Nat.add_sub_cancel_left, encode_take]

theorem boOf_byteOff (cs : List Nat) (k : Nat) : BoOf (encode cs) (byteOff cs k) := by
  by_cases hk : k < cs.length
  · right
    have hd := encode_drop cs k
    obtain ⟨c, rest, hc⟩ : ∃ c rest, cs.drop k = c :: rest :=
      List.exists_cons_of_ne_nil (fun h => Nat.not_le.2 hk (List.drop_eq_nil_iff.1 h))
    obtain ⟨b, bs, hb, hs, _⟩ := utf8Enc_shape c
    rw [hc, encode_cons, hb, List.cons_append] at hd
    have h0 : ((encode cs).drop (byteOff cs k))[0]? = some b := by rw [hd]; rfl
    rw [List.getElem?_drop, Nat.add_zero] at h0
    obtain ⟨hlt, heq⟩ := List.getElem?_eq_some_iff.mp h0
    exact ⟨hlt, by rw [heq]; exact hs⟩
  · exact Or.inl (byteOff_of_length_le cs k (Nat.not_lt.1 hk))

theorem boOf_encode_zero (cs : List Nat) : BoOf (encode cs) 0 :=
  byteOff_zero cs ▸ boOf_byteOff cs 0

/-! ## the text of slices and of replacements (`EditM.textOf` on a buffer whose entries all carry a byte) -/

theorem textOf_take_drop {a : List (P Nat)} (h : AllSome a) (n : Nat) :
    textOf (a.take n) = (textOf a).take n ∧ textOf (a.drop n) = (textOf a).drop n :=
  ⟨textOf_of_fsts (by rw [List.map_take, List.map_take, allSome_fsts h]),
    textOf_of_fsts (by rw [List.map_drop, List.map_drop, allSome_fsts h])⟩

theorem textOf_slice {a : List (P Nat)} (h : AllSome a) (i j : Nat) : textOf (slice a i j) = slice (textOf a) i j := by
  unfold slice
  rw [(textOf_take_drop (fun p hp => h p (List.mem_of_mem_drop hp)) (j - i)).1, (textOf_take_drop h i).2]

theorem textOf_repl (l : List (P Nat)) (ed : Edit Nat) : textOf (repl l ed) = ed.w :=
  textOf_of_fsts (by
    unfold repl
    cases ed.w with
    | nil => rfl
    | cons b bs => exact congrArg (some b :: ·) (List.map_map ..))

/-! ## encoded text, edits on code-point offsets, encoded replacements -/

theorem toByteEdits_cons (cs : List Nat) (e : Normalize.Edit) (es : List Normalize.Edit) :
    toByteEdits cs (e :: es) = ⟨byteOff cs e.s, byteOff cs e.e, encode e.rep⟩ :: toByteEdits cs es := rfl

/-- C07's code-point statement transported to the byte edits the plugin records -/
theorem editsOk_bytes (cs : List Nat) : ∀ (es : List Normalize.Edit) (start : Nat),
    Normalize.EditsOk cs.length start es →
    EditsOk (encode cs).length (byteOff cs start) (toByteEdits cs es) := by
  intro es
  induction es with
  | nil =>
    intro start h
    simp only [toByteEdits, List.map_nil, EditsOk]
    exact byteOff_le_length cs start
  | cons e es ih =>
    intro start h
    obtain ⟨h1, h2, h3, h4⟩ := h
    rw [toByteEdits_cons]
    exact ⟨byteOff_mono cs _ _ h1, byteOff_mono cs _ _ h2, byteOff_le_length cs _, ih e.e h4⟩

/-- the text half of the loop does not look at the offset map, and the bytes between two code-point offsets are the encoding of the
characters between them (`encode_slice`): the byte run writes the encoding of C07's code-point result (`Normalize.applyGo`) -/
theorem textOf_go_encode (N : Nat) (body : List (P Nat)) (hb : AllSome body) (cs : List Nat) (ht : textOf body = encode cs) :
    ∀ (es : List Normalize.Edit) (pos : Nat), Normalize.EditsOk cs.length pos es →
    ∃ t, Normalize.applyGo pos es (cs.drop pos) = some t ∧
      ∀ acc, textOf (go (body ++ [(none, N)]) (byteOff cs pos) (toByteEdits cs es) acc) = textOf acc ++ encode t := by
  have hlen : ∀ k, byteOff cs k ≤ body.length := fun k => by
    rw [← textOf_allSome_length hb, ht]; exact byteOff_le_length cs k
  intro es
  induction es with
  | nil =>
    intro pos _
    refine ⟨cs.drop pos, rfl, fun acc => ?_⟩
    simp only [toByteEdits, List.map_nil, go]
    rw [textOf_append, List.drop_append_of_le_length (hlen pos), textOf_append, (textOf_take_drop hb _).2, ht, encode_drop]
    exact congrArg _ (List.append_nil _)
  | cons e es ih =>
    intro pos h
    obtain ⟨h1, h2, h3, h4⟩ := h
    obtain ⟨t, ht', hg⟩ := ih e.e h4
    have hpe : pos ≤ e.e := Nat.le_trans h1 h2
    refine ⟨(cs.drop pos).take (e.s - pos) ++ e.rep ++ t, ?_, fun acc => ?_⟩
    · rw [Normalize.applyGo_cons_ok pos e es (cs.drop pos) h1 h2
        (by rw [List.length_drop, Nat.add_sub_cancel' (Nat.le_trans hpe h3)]; exact h3),
        List.drop_drop, Nat.add_sub_cancel' hpe, ht']
      rfl
    · rw [toByteEdits_cons]
      simp only [go]
      rw [hg, textOf_append, textOf_append, textOf_repl, slice_body (hlen e.s), textOf_slice hb, ht,
        encode_slice cs pos e.s h1, encode_append, encode_append]
      simp only [List.append_assoc]
      rfl

/-! ## the invariant and the plugin stack -/

/-- **the UTF-8 invariant of the buffer**: the current text IS the encoding (the model's own `TotalIO.encode`) of a list of
code points -/
def Enc (l : List (P Nat)) : Prop := ∃ cs, textOf l = encode cs

/-- `Partition.PluginOk` relative to an invariant `J` of the buffer: the plugin's edits are admissible on every buffer that
satisfies `J` (not on every buffer), and the batch it emits re-establishes `J` -/
structure PluginOkJ (J : List (P Nat) → Prop) (orig : List Nat) (p : List Nat → Outcome (List (Edit Nat))) : Prop where
  adm : ∀ (l : List (P Nat)) (es : List (Edit Nat)), Inv isStart (BoOf orig) orig.length l → J l → p (textOf l) = .ok es →
    EditsOk (l.length - 1) 0 es ∧ EditsB isStart l es
  keep : ∀ (l : List (P Nat)) (es : List (Edit Nat)), Inv isStart (BoOf orig) orig.length l → J l → p (textOf l) = .ok es →
    J (resolve l es)
  empty : ∀ es, p [] = .ok es → es = []

/-- `PluginOk` is the instance without invariant -/
theorem pluginOkJ_of_pluginOk (orig : List Nat) (p : List Nat → Outcome (List (Edit Nat))) (h : PluginOk orig p) :
    PluginOkJ (fun _ => True) orig p :=
  ⟨fun l es hi _ hp => h.adm l es hi hp, fun _ _ _ _ _ => trivial, h.empty⟩

/-- a rejected commit (`InputTooLong`) ends the analysis (`rewriteInput` is not `ok`), an emptied text is handed on unchanged: so
`BufInv` and `J` are all that has to be carried -/
theorem rewriteInput_invJ (J : List (P Nat) → Prop) (lv : LenV) (orig : List Nat) (h0 : BoOf orig 0) :
    ∀ (ps : List (List Nat → Outcome (List (Edit Nat)))) (l l' : List (P Nat)),
      (∀ p ∈ ps, PluginOkJ J orig p) → BufInv orig l → J l → rewriteInput lv ps l = .ok l' → BufInv orig l' ∧ J l' :=
  fun ps l l' hp hi hj => rewriteInput_induct lv (fun l => BufInv orig l ∧ J l) ps l l'
    (fun p hp' l es l1 ⟨hi, hj⟩ hpe hc => by
      obtain ⟨r1, r2⟩ := commitV_bufInv lv orig h0 l es l1 hi (fun hinv => (hp p hp').adm l es hinv hj hpe)
        (fun he => (hp p hp').empty es (he ▸ hpe)) hc
      refine ⟨r1, ?_⟩
      rcases r2 with rfl | ⟨hinv, rfl⟩
      · exact hj
      · exact (hp p hp').keep l es hinv hj hpe) ⟨hi, hj⟩

/-! ## the bundled plugins -/

/-- the code-point edit list of a bundled plugin (C07's models), exactly the `let es` of `TotalIO.plugin` -/
def cpEdits (a : Array Normalize.Fact) (S : Normalize.Setup) (p : Char) (cs : List Nat) : List Normalize.Edit :=
  let U := Normalize.uniOf a
  if p = 'D' then (match S.table with | some T => Normalize.defaultEdits U T S.earliest cs | none => [])
  else if p = 'P' then Normalize.psmEdits S.marks S.rep cs
  else
    let Y : Normalize.Yomi := ⟨fun c => match Normalize.findFact a c with | some f => f.kanji | none => false,
                               fun c => match Normalize.findFact a c with | some f => f.kana | none => false,
                               S.yl, S.yr, S.yn⟩
    Normalize.yomiEdits Y cs

/-- on an encoded text a bundled plugin is its C07 model with the offsets and the replacements turned into bytes -/
theorem plugin_encode (a : Array Normalize.Fact) (S : Normalize.Setup) (p : Char) (cs : List Nat) :
    TotalIO.plugin a S p (encode cs) =
      if !Normalize.covered a cs then .err "bad-facts" else .ok (toByteEdits cs (cpEdits a S p cs)) := by
  unfold TotalIO.plugin
  rw [decode_encode]
  rfl

theorem cpEdits_cases (Q : List Normalize.Edit → Prop) (a : Array Normalize.Fact) (S : Normalize.Setup) (p : Char)
    (cs : List Nat) (hD : ∀ T, Q (Normalize.defaultEdits (Normalize.uniOf a) T S.earliest cs)) (h0 : Q [])
    (hP : Q (Normalize.psmGo S.marks S.rep 0 cs)) (hY : ∀ Y, Q (Normalize.yomiGo Y 0 cs)) : Q (cpEdits a S p cs) := by
  unfold cpEdits
  dsimp only
  by_cases hd : p = 'D'
  · rw [if_pos hd]
    cases S.table with
    | some T => exact hD T
    | none => exact h0
  rw [if_neg hd]
  by_cases hp : p = 'P'
  · rw [if_pos hp]; exact hP
  · rw [if_neg hp]; exact hY _

/-- C07 (`defaultEdits_ok`, `psmGo_edits_ok`, `yomiGo_edits_ok`): the code-point edits of every bundled plugin are sorted,
non-overlapping and in range -/
theorem cpEdits_ok (a : Array Normalize.Fact) (S : Normalize.Setup) (p : Char) (cs : List Nat) :
    Normalize.EditsOk cs.length 0 (cpEdits a S p cs) :=
  cpEdits_cases _ a S p cs (fun T => Normalize.defaultEdits_ok _ T _ cs) (Nat.zero_le _)
    (Nat.zero_add cs.length ▸ Normalize.psmGo_edits_ok S.marks S.rep 0 cs)
    (fun Y => Nat.zero_add cs.length ▸ Normalize.yomiGo_edits_ok Y 0 cs)

theorem cpEdits_nil (a : Array Normalize.Fact) (S : Normalize.Setup) (p : Char) : cpEdits a S p [] = [] := by
  refine cpEdits_cases (· = []) a S p [] (fun T => ?_) rfl ?_ (fun Y => ?_)
  · unfold Normalize.defaultEdits Normalize.replaceSlow Normalize.replaceFast
    split
    · rfl
    · unfold Normalize.fastGo; rfl
  · unfold Normalize.psmGo; rfl
  · unfold Normalize.yomiGo; rfl

theorem plugin_encode_ok (a : Array Normalize.Fact) (S : Normalize.Setup) (c : Char) (cs : List Nat) (es : List (Edit Nat))
    (h : TotalIO.plugin a S c (encode cs) = .ok es) : es = toByteEdits cs (cpEdits a S c cs) := by
  rw [plugin_encode] at h
  by_cases hc : (!Normalize.covered a cs) = true
  · rw [if_pos hc] at h; cases h
  · rw [if_neg hc] at h; cases h; rfl

/-- the byte text after a bundled plugin's batch is the encoding of C07's code-point result: the link between the byte
model of C01/C03/C08 and the code-point model of C07 -/
theorem bundled_text_eq_applyEdits (orig : List Nat) (a : Array Normalize.Fact) (S : Normalize.Setup) (c : Char)
    (l : List (P Nat)) (cs : List Nat) (es : List (Edit Nat)) (hinv : Inv isStart (BoOf orig) orig.length l)
    (ht : textOf l = encode cs) (h : TotalIO.plugin a S c (textOf l) = .ok es) :
    ∃ t, Normalize.applyEdits (cpEdits a S c cs) cs = some t ∧ textOf (resolve l es) = encode t := by
  cases plugin_encode_ok a S c cs es (ht ▸ h)
  obtain ⟨body, rfl, hb⟩ := hinv.shape
  rw [textOf_shape] at ht
  obtain ⟨t, h1, hg⟩ := textOf_go_encode orig.length body hb cs ht (cpEdits a S c cs) 0 (cpEdits_ok a S c cs)
  refine ⟨t, h1, ?_⟩
  have := hg []
  rw [byteOff_zero] at this
  unfold resolve
  rw [textOf_force0]
  exact this

/-- **`PluginOk` (relative to the UTF-8 invariant) for every bundled input-text plugin**: `TotalIO.plugin a S c` is
`DefaultInputTextPlugin` (`c = 'D'`, any rewrite table, either `earliest` variant), `ProlongedSoundMarkPlugin` (`'P'`, any
marks, any replacement incl. the empty one) or `IgnoreYomiganaPlugin` (anything else, any brackets, any length), over ANY
shipped Unicode facts `a`.  On a buffer whose text is an encoding its byte edits are sorted, non-overlapping, in range
(C07 in code points, `editsOk_bytes`), lie on character starts (`boOf_byteOff`), and the text `resolve_edits` writes is again
an encoding — of C07's code-point result (`textOf_go_encode`). -/
theorem bundled_pluginOkJ (orig : List Nat) (a : Array Normalize.Fact) (S : Normalize.Setup) (c : Char) :
    PluginOkJ Enc orig (TotalIO.plugin a S c) := by
  constructor
  · intro l es hinv ⟨cs, ht⟩ h
    cases plugin_encode_ok a S c cs es (ht ▸ h)
    have hl : l.length - 1 = (encode cs).length := by rw [← ht, ← shape_length hinv.shape]; rfl
    have hok := editsOk_bytes cs (cpEdits a S c cs) 0 (cpEdits_ok a S c cs)
    rw [byteOff_zero, ← hl] at hok
    refine ⟨hok, fun ed hed => ?_⟩
    obtain ⟨e, _, rfl⟩ := List.mem_map.mp hed
    exact ⟨isB_of_boOf hinv.shape _ (ht ▸ boOf_byteOff cs e.s), isB_of_boOf hinv.shape _ (ht ▸ boOf_byteOff cs e.e)⟩
  · intro l es hinv ⟨cs, ht⟩ h
    obtain ⟨t, _, ht'⟩ := bundled_text_eq_applyEdits orig a S c l cs es hinv ht h
    exact ⟨t, ht'⟩
  · intro es h
    cases plugin_encode_ok a S c [] es h
    rw [cpEdits_nil]; rfl

def Bundled (p : List Nat → Outcome (List (Edit Nat))) : Prop :=
  ∃ (a : Array Normalize.Fact) (S : Normalize.Setup) (c : Char), p = TotalIO.plugin a S c

/-- **what the analysis needs of the plugin stage, for EVERY stack of bundled plugins** on an input that is an encoding
(a `&str`): after the stack the offset map satisfies the C08 invariant (or the text is empty), the text is at most 65535
bytes long, it IS an encoding, and an empty input stays empty -/
theorem bundled_reach (lv : LenV) (orig : List Nat) (horig : ∃ cs, orig = encode cs)
    (ps : List (List Nat → Outcome (List (Edit Nat)))) (hb : ∀ p ∈ ps, Bundled p)
    (l0 l : List (P Nat)) (hs : startBuild orig = some l0) (hr : rewriteInput lv ps l0 = .ok l) :
    BufInv orig l ∧ Enc l ∧ (textOf l0 = [] → textOf l = []) := by
  obtain ⟨cs, hcs⟩ := horig
  have h0 : BoOf orig 0 := hcs ▸ boOf_encode_zero cs
  have hok : ∀ p ∈ ps, PluginOkJ Enc orig p := by
    intro p hp
    obtain ⟨a, S, c, rfl⟩ := hb p hp
    exact bundled_pluginOkJ orig a S c
  have he0 : Enc l0 := ⟨cs, (startBuild_text orig l0 hs).trans hcs⟩
  obtain ⟨r1, r2⟩ := rewriteInput_invJ Enc lv orig h0 ps l0 l hok (startBuild_bufInv orig l0 hs) he0 hr
  exact ⟨r1, r2, fun he => rewriteInput_empty lv ps l0 l (fun p hp => (hok p hp).empty) he hr⟩

/-- `hutf` of `C01.tokens_partition_original` from the invariant -/
theorem enc_hutf (l : List (P Nat)) (he : Enc l) (chars : List Nat) (hd : Wire.utf8Decode (textOf l) = some chars) :
    chars.length = nchars (textOf l) := by
  obtain ⟨cs, ht⟩ := he
  rw [ht, decode_encode] at hd
  cases hd
  rw [ht, nchars_encode]

/-- `hutf` of `C03.tokenize_total` from the invariant -/
theorem enc_decodes (l : List (P Nat)) (he : Enc l) : Wire.utf8Decode (textOf l) ≠ none := by
  obtain ⟨cs, ht⟩ := he
  rw [ht, decode_encode]
  exact fun h => by cases h

/-! ## the traced plugin stage of the driver (op `C01 stages`) is `rewriteInput` -/

/-- how a trace ended, as the outcome of `rewriteInput` -/
def endOutcome : Stages.End → List (P Nat) → Outcome (List (P Nat))
  | .done, l => .ok l
  | .tooLong, _ => .err "TooLong"
  | .err k, _ => .err k
  | .panic w, _ => .panic w

/-- **the function the driver executes for a `stages` line ends exactly as `Total.rewriteInput`** (the function of
`tokens_partition_core` and of `C03.tokenize_total`): same buffer when it completes, same error otherwise -/
theorem trace_final (lv : LenV) : ∀ (ps : List (List Nat → Outcome (List (Edit Nat)))) (l : List (P Nat)) (acc : List Stages.Stage),
    rewriteInput lv ps l = endOutcome (Stages.trace lv ps l acc).2.1 (Stages.trace lv ps l acc).2.2
  | [], l, acc => rfl
  | p :: ps, l, acc => by
    unfold rewriteInput Stages.trace
    cases hp : p (textOf l) with
    | err k => rfl
    | panic w => rfl
    | ok es =>
      dsimp only
      cases hc : commitV lv l es with
      | none => rfl
      | some l1 => exact trace_final lv ps l1 _

/-! ## a concrete bundled plugin for the non-vacuity examples -/

/-- Unicode facts of `A` and `ー` -/
def exFacts : Array Normalize.Fact :=
  #[⟨0x41, true, .yes, 0, false, false, [0x61], [0x41], [0x61]⟩, ⟨0x30FC, false, .yes, 0, false, true, [0x30FC], [0x30FC], [0x30FC]⟩]

/-- no rewrite table; prolonged sound mark `ー` replaced by `ー`; brackets `(` `)`, readings of at most 2 characters -/
def exSetup : Normalize.Setup := ⟨none, false, [0x30FC], [0x30FC], [0x28], [0x29], 2⟩

/-- `ProlongedSoundMarkPlugin` on `ーーA` (7 bytes): one edit, bytes 0..6 replaced by the three bytes of `ー` -/
theorem exPlugin_psm : TotalIO.plugin exFacts exSetup 'P' (encode [0x30FC, 0x30FC, 0x41]) =
    .ok [⟨0, 6, [0xE3, 0x83, 0xBC]⟩] := by
  rw [plugin_encode]
  have h1 : Normalize.covered exFacts [0x30FC, 0x30FC, 0x41] = true := by decide
  have h2 : cpEdits exFacts exSetup 'P' [0x30FC, 0x30FC, 0x41] = [⟨0, 2, [0x30FC]⟩] := by
    simp [cpEdits, exSetup, Normalize.psmEdits, Normalize.psmGo]
  rw [h1, h2]
  have h3 : toByteEdits [0x30FC, 0x30FC, 0x41] [⟨0, 2, [0x30FC]⟩] = [⟨0, 6, [0xE3, 0x83, 0xBC]⟩] := by
    simp [toByteEdits, byteOff, encode, utf8Enc, Normalize.utf8w]
  rw [h3]; rfl

/-! ## a text that is not an encoding, and a bundled plugin on it: the data of `C01.bundled_plugin_ok_needs_utf8_counterexample` -/

/-- the overlong two-byte form of `A`, three times: the model's (lenient) decoder reads `AAA`, but the bytes are not an encoding -/
def overlong : List Nat := [0xC1, 0x81, 0xC1, 0x81, 0xC1, 0x81]

/-- `ProlongedSoundMarkPlugin` with the mark `A` -/
def markA : Normalize.Setup := ⟨none, false, [0x41], [0x41], [0x28], [0x29], 2⟩

/-- on the six overlong bytes the plugin replaces code points 0..3, i.e. BYTES 0..3 (widths of `AAA`) -/
theorem plugin_overlong : TotalIO.plugin exFacts markA 'P' overlong = .ok [⟨0, 3, [0x41]⟩] := by
  unfold TotalIO.plugin overlong
  have hd : Wire.utf8Decode [0xC1, 0x81, 0xC1, 0x81, 0xC1, 0x81] = some [0x41, 0x41, 0x41] := by
    simp [Wire.utf8Decode]
  rw [hd]
  have h1 : Normalize.covered exFacts [0x41, 0x41, 0x41] = true := by decide
  simp only [h1]
  have h2 : Normalize.psmEdits markA.marks markA.rep [0x41, 0x41, 0x41] = [⟨0, 3, [0x41]⟩] := by
    simp [markA, Normalize.psmEdits, Normalize.psmGo]
  simp [h2, TotalIO.toByteEdits, TotalIO.byteOff, TotalIO.encode, TotalIO.utf8Enc, Normalize.utf8w]

end Utf8Inv
