import Sudachi.Proofs.RewriteStep
import Sudachi.Proofs.RewriteKatakana
/-!
# C14: the plugin stack

Every run of either loop is a coarsening of its input (`nloop_coarsens`, `kloop_coarsens`), so a run of the configured
stack is one, for the relation `RS` that keeps what all plugins agree on: the merged token carries a part of speech
some plugin of the stack prescribes and is a new word.  The stack is applied in order (`rewriteAll_append`); with the
repaired numeral loop it never runs out of fuel.  Last: a stack of two plugins taken apart (`rewriteAll_two_ok`, for
`C14.plugins_commute_partial`).
-/
namespace Rewrite

/-- parts of speech a stack of plugins may give to a merged token -/
def prescribed : List Plugin → List Nat
  | [] => []
  | .numeric cfg :: rest => cfg.numPos :: prescribed rest
  | .katakana cfg :: rest => cfg.oovPos :: prescribed rest

def RS (poses : List Nat) (_blk : List Node) (m : Node) : Prop := m.pos ∈ poses ∧ NewWord m

theorem RS_compositional (poses : List Nat) : Compositional (RS poses) := fun _ _ _ _ _ h => h

theorem applyPlugin_coarsens (v : NVariant) (cat : List Nat) (P : List Char → POut) (pl : Plugin)
    (rest : List Plugin) {path q : List Node} (h : applyPlugin v cat P pl path = .ok q) :
    Coarsens (RS (prescribed (pl :: rest))) path q := by
  cases pl with
  | numeric cfg =>
    have := nloop_coarsens v cfg cat P _ _ _ h
    exact this.mono (fun blk m hr => ⟨by simp [prescribed, hr.1], hr.2.2.2.2⟩)
  | katakana cfg =>
    have := kloop_coarsens cfg cat _ _ _ _ h
    exact this.mono (fun blk m hr => ⟨by simp [prescribed, hr.1], hr.2.2.2.2⟩)

theorem rewriteAll_coarsens (v : NVariant) (cat : List Nat) (P : List Char → POut) :
    ∀ (pls : List Plugin) (path q : List Node), rewriteAll v cat P pls path = .ok q →
      Coarsens (RS (prescribed pls)) path q := by
  intro pls path q h
  fun_induction rewriteAll v cat P pls path with
  | case1 => cases h; exact Coarsens.refl _
  | case2 pl rest path p' hp ih =>
    have h2 : Coarsens (RS (prescribed (pl :: rest))) p' q :=
      (ih h).mono (fun blk m hr => ⟨by cases pl <;> simp [prescribed, hr.1], hr.2⟩)
    exact h2.trans (RS_compositional _) (applyPlugin_coarsens v cat P pl rest hp)
  | case3 | case4 | case5 => cases h

theorem rewriteAll_append (v : NVariant) (cat : List Nat) (P : List Char → POut) (p1 p2 : List Plugin)
    (path : List Node) :
    rewriteAll v cat P (p1 ++ p2) path = (rewriteAll v cat P p1 path).bind (rewriteAll v cat P p2) := by
  fun_induction rewriteAll v cat P p1 path with
  | case1 => rfl
  | case2 pl rest path p' hp ih => rw [List.cons_append, rewriteAll, hp]; exact ih
  | case3 _ _ _ hp | case4 _ _ _ hp | case5 _ _ _ hp => rw [List.cons_append, rewriteAll, hp]; rfl

theorem rewriteTrace_snd (v : NVariant) (cat : List Nat) (P : List Char → POut) (pls : List Plugin)
    (path : List Node) : (rewriteTrace v cat P pls path).2 = rewriteAll v cat P pls path := by
  fun_induction rewriteAll v cat P pls path with
  | case1 => rfl
  | case2 pl rest path p' hp ih => rw [rewriteTrace, hp]; exact ih
  | case3 _ _ _ hp | case4 _ _ _ hp | case5 _ _ _ hp => rw [rewriteTrace, hp]

theorem rewriteAll_fix_ne_fuel (cat : List Nat) (P : List Char → POut) (pls : List Plugin) (path : List Node) :
    rewriteAll .fix cat P pls path ≠ .fuel := by
  fun_induction rewriteAll .fix cat P pls path with
  | case1 | case3 | case4 => exact nofun
  | case2 _ _ _ _ _ ih => exact ih
  | case5 pl rest path hp =>
    cases pl with
    | numeric cfg => exact absurd hp (joinNumeric_fix_ne_fuel cfg cat P path)
    | katakana cfg => exact absurd hp (kloop_terminates cfg cat _ path 0 (by simp [kFuel]))

theorem rewriteAll_two_ok {v : NVariant} {cat : List Nat} {P : List Char → POut} {a b : Plugin}
    {path r : List Node} (h : rewriteAll v cat P [a, b] path = .ok r) :
    ∃ p, applyPlugin v cat P a path = .ok p ∧ applyPlugin v cat P b p = .ok r := by
  unfold rewriteAll at h
  split at h
  · rename_i p hp
    refine ⟨p, hp, ?_⟩
    unfold rewriteAll at h
    split at h
    · rename_i q hq
      unfold rewriteAll at h
      cases h
      exact hq
    all_goals cases h
  all_goals cases h

end Rewrite
