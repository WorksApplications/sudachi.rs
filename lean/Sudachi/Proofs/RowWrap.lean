import Sudachi.Proofs.TotalPathCost
/-!
# ROW-WRAP end to end: with a narrow row index the returned path is not the cheapest one

`Total.connGo` stores the row index of the best previous node as `i as u32` (`asU32`); the tree without the repair 9fb3dd8
in /repo has `i as u16`.  `connGoW W` stores `i % W` instead, and `insertW`, `buildAllW`, `connectEosW` are literal copies of
`insert`, `buildAll`, `connectEos` over it; `buildAllW_u32` shows that `W = 2^32` IS the model.  On a lattice whose row 1
holds five candidates, width `W = 4` (standing for 65536) stores the right minimum and a back-pointer into the wrong entry:
`fill_top_path` returns a path whose recomputed cost is not the stored minimum - the kernel-checked witness that
`C02.chosen_path_cost_is_stored_minimum` needs the row bound, and the small-width image of what the real tokenizer does on
16400 letters with the `u16` index.  The witness for the loop alone, on the same row of five entries, is
`C03.row_index_u16_wraps_counterexample`; `Props/C03.lean` does not import this file and has its own copy of `connGoW`.
-/
namespace Total
open Oov (Outcome)

/-- `Total.connGo` with the row index stored as `i % W` -/
def connGoW (W : Nat) (add : Int → Int → Option Int) (M : Int) (conn : Nat → Nat → Int) (n : Vit.Node) :
    List Entry → Nat → Int × Nat × Nat → Option (Int × Nat × Nat)
  | [], _, st => some st
  | l :: rest, i, st =>
    if l.total = M then connGoW W add M conn n rest (i + 1) st
    else match add l.total (conn l.node.r n.l) with
      | none => none
      | some x => match add x n.c with
        | none => none
        | some nc =>
          if nc < st.1 then connGoW W add M conn n rest (i + 1) (nc, asU16 n.b, i % W)
          else connGoW W add M conn n rest (i + 1) st

theorem connGoW_u32 (add : Int → Int → Option Int) (M : Int) (conn : Nat → Nat → Int) (n : Vit.Node) :
    ∀ (row : List Entry) (i : Nat) (st : Int × Nat × Nat),
      connGoW 4294967296 add M conn n row i st = connGo add M conn n row i st := by
  intro row
  induction row with
  | nil => intro i st; rfl
  | cons l rest ih =>
    intro i st
    simp only [connGoW, connGo, ih, asU32]
    split
    · rfl
    · cases add l.total (conn l.node.r n.l) with
      | none => rfl
      | some x =>
        cases add x n.c with
        | none => rfl
        | some nc => rfl

variable (W : Nat) (add : Int → Int → Option Int) (M : Int) (conn : Nat → Nat → Int)

def connectNodeW (row : List Entry) (n : Vit.Node) : Option (Int × Nat × Nat) :=
  connGoW W add M conn n row 0 (M, 65535, idxNone)

def insertW (rows : Rows) (n : Vit.Node) : Outcome (Rows × Entry) :=
  match rows[n.b]? with
  | none => .panic "index"
  | some row =>
    match connectNodeW W add M conn row n with
    | none => .panic "overflow"
    | some (c, pe, pi) =>
      match rows[n.e]? with
      | none => .panic "index"
      | some rowE => .ok (rows.setIfInBounds n.e (rowE ++ [⟨n, c, pe, pi⟩]), ⟨n, c, pe, pi⟩)

def buildAllW : List Vit.Node → Rows → List Entry → Outcome (Rows × List Entry)
  | [], rows, acc => .ok (rows, acc.reverse)
  | n :: ns, rows, acc =>
    match insertW W add M conn rows n with
    | .ok (rows', e) => buildAllW ns rows' (e :: acc)
    | .err k => .err k
    | .panic w => .panic w

def connectEosW (rows : Rows) (nchars : Nat) : Outcome (Int × Nat × Nat) :=
  match rows[(eosNode nchars).b]? with
  | none => .panic "index"
  | some row =>
    match connectNodeW W add M conn row (eosNode nchars) with
    | none => .panic "overflow"
    | some (c, pe, pi) => if c = M then .err "Disconnect" else .ok (c, pe, pi)

theorem connectNodeW_u32 (row : List Entry) (n : Vit.Node) :
    connectNodeW 4294967296 add M conn row n = connectNode add M conn row n := by
  unfold connectNodeW connectNode; exact connGoW_u32 add M conn n row 0 _

theorem insertW_u32 (rows : Rows) (n : Vit.Node) : insertW 4294967296 add M conn rows n = insert add M conn rows n := by
  unfold insertW insert; simp only [connectNodeW_u32]
  cases rows[n.b]? with
  | none => rfl
  | some row =>
    simp only []
    cases connectNode add M conn row n with
    | none => rfl
    | some r =>
      obtain ⟨c, pe, pi⟩ := r
      simp only []
      cases rows[n.e]? <;> rfl

theorem buildAllW_u32 : ∀ (ns : List Vit.Node) (rows : Rows) (acc : List Entry),
    buildAllW 4294967296 add M conn ns rows acc = buildAll add M conn ns rows acc
  | [], rows, acc => rfl
  | n :: ns, rows, acc => by
    unfold buildAllW buildAll
    rw [insertW_u32]
    cases insert add M conn rows n with
    | ok r => obtain ⟨rows', e⟩ := r; exact buildAllW_u32 ns rows' (e :: acc)
    | err k => rfl
    | panic w => rfl

theorem connectEosW_u32 (rows : Rows) (nchars : Nat) :
    connectEosW 4294967296 add M conn rows nchars = connectEos add M conn rows nchars := by
  unfold connectEosW connectEos; simp only [connectNodeW_u32]
  cases rows[(eosNode nchars).b]? with
  | none => rfl
  | some row =>
    simp only []
    cases connectNode add M conn row (eosNode nchars) with
    | none => rfl
    | some r => obtain ⟨c, pe, pi⟩ := r; rfl

/-- the witness lattice: a text of 2 characters; five candidates over the first character with costs 50, 40, 30, 20, 10
(the LAST is the cheapest), one candidate of cost 0 over the second; all connection costs 0 -/
def wrapNodes : List Vit.Node :=
  [⟨0, 1, 0, 0, 50⟩, ⟨0, 1, 0, 0, 40⟩, ⟨0, 1, 0, 0, 30⟩, ⟨0, 1, 0, 0, 20⟩, ⟨0, 1, 0, 0, 10⟩, ⟨1, 2, 0, 0, 0⟩]

/-- what comes out of the lattice with index width `W`: the minimum `connect_eos` stores and the cost recomputed along the
path `fill_top_path` returns (`none` when anything fails) -/
def wrapOutcome (W : Nat) : Option (Int × Int) :=
  match buildAllW W addI32 I32_MAX (fun _ _ => 0) wrapNodes (reset 2) [] with
  | .ok (rows, _) =>
    match connectEosW W addI32 I32_MAX (fun _ _ => 0) rows 2 with
    | .ok (c, pe, pi) =>
      match topPath rows 3 (pe, pi) [] with
      | .ok path => some (c, pathCostFrom (fun _ _ => 0) Vit.bos.r path)
      | _ => none
    | _ => none
  | _ => none

/-- **ROW-WRAP, end to end (small-width instance).**  Width 4: the stored minimum is 10 (the chain through the fifth
candidate), the returned path costs 50 (index `4 % 4 = 0` names the first candidate).  Width 2^32 (the model of the tree):
both are 10. -/
theorem row_wrap_returns_dearer_path :
    wrapOutcome 4 = some (10, 50) ∧ wrapOutcome 4294967296 = some (10, 10) := by
  decide

end Total
