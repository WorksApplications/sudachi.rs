import Sudachi.Proofs.SentenceBreaker
/-!
# Declarative specifications of the regular expressions of `sentence_detector.rs` (C16)

`RE` is a small regular-expression syntax (character class, sequence, alternation, `+`) with its
standard denotation `RE.Matches r u` ("the string `u` is in the language of `r`").  The patterns
ITEMIZE_HEADER, EOS_ITEMIZE_HEADER, PROHIBITED_BOS, QUOTE_MARKER and PARENTHESIS are written down as `RE`
values that follow the pattern text token by token, and the hand-written matchers of `Model/Sentence.lean`
(`isItemizeHeader`, `endsWithItemize`, `prohibitedBos`, `quoteMarkerAt0`, `parenLevel`) are proved equal to
what the regex engine is documented to compute from that language (`is_match` with `^…$` = the whole string
is in the language; `…\z` unanchored = some suffix is; `\A(…)+` `find` = the longest prefix in the language,
greedy `+` over a single class; `find(..).start() == 0` = some prefix is in the language; `captures_iter`
over a language of one-character strings = the characters in it, in text order).  What remains trusted for
these five is only the character classes and this reading of the anchors.  The other two patterns,
SENTENCE_BREAKER and SPACES, are in the second half of the file, against a backtracking semantics.
-/
namespace Sentence

inductive RE where
  | cls (p : Nat → Bool) : RE       -- `[...]`, or a literal character `c` as `(· = c)`
  | seq (a b : RE) : RE
  | alt (a b : RE) : RE
  | plus (a : RE) : RE               -- `a+`

inductive RE.Matches : RE → Text → Prop where
  | cls {p : Nat → Bool} {c : Nat} : p c = true → RE.Matches (.cls p) [c]
  | seq {a b : RE} {u w : Text} : RE.Matches a u → RE.Matches b w → RE.Matches (.seq a b) (u ++ w)
  | altL {a b : RE} {u : Text} : RE.Matches a u → RE.Matches (.alt a b) u
  | altR {a b : RE} {u : Text} : RE.Matches b u → RE.Matches (.alt a b) u
  | plusOne {a : RE} {u : Text} : RE.Matches a u → RE.Matches (.plus a) u
  | plusMore {a : RE} {u w : Text} : RE.Matches a u → RE.Matches (.plus a) w → RE.Matches (.plus a) (u ++ w)

def RE.chr (c : Nat) : RE := .cls (fun x => x == c)

theorem matches_cls {p : Nat → Bool} {u : Text} : RE.Matches (.cls p) u ↔ ∃ c, u = [c] ∧ p c = true := by
  constructor
  · intro h; cases h with | cls hp => exact ⟨_, rfl, hp⟩
  · rintro ⟨c, rfl, hp⟩; exact .cls hp

theorem matches_chr {c : Nat} {u : Text} : RE.Matches (RE.chr c) u ↔ u = [c] := by
  unfold RE.chr
  rw [matches_cls]
  constructor
  · rintro ⟨x, rfl, hx⟩; simp at hx; simp [hx]
  · rintro rfl; exact ⟨c, rfl, by simp⟩

theorem matches_seq {a b : RE} {u : Text} :
    RE.Matches (.seq a b) u ↔ ∃ x y, u = x ++ y ∧ RE.Matches a x ∧ RE.Matches b y := by
  constructor
  · intro h; cases h with | seq h1 h2 => exact ⟨_, _, rfl, h1, h2⟩
  · rintro ⟨x, y, rfl, h1, h2⟩; exact .seq h1 h2

theorem matches_alt {a b : RE} {u : Text} : RE.Matches (.alt a b) u ↔ RE.Matches a u ∨ RE.Matches b u := by
  constructor
  · intro h
    cases h with
    | altL h => exact Or.inl h
    | altR h => exact Or.inr h
  · rintro (h | h)
    · exact .altL h
    · exact .altR h

theorem matches_plus_cls {p : Nat → Bool} {u : Text} :
    RE.Matches (.plus (.cls p)) u ↔ u ≠ [] ∧ ∀ c ∈ u, p c = true := by
  constructor
  · intro h
    generalize hr : RE.plus (.cls p) = r at h
    induction h with
    | cls _ => cases hr
    | seq _ _ => cases hr
    | altL _ => cases hr
    | altR _ => cases hr
    | plusOne h1 =>
      cases hr
      obtain ⟨c, rfl, hp⟩ := matches_cls.mp h1
      exact ⟨by simp, by simpa using hp⟩
    | plusMore h1 _ _ ih2 =>
      cases hr
      obtain ⟨c, rfl, hp⟩ := matches_cls.mp h1
      obtain ⟨_, hall⟩ := ih2 rfl
      refine ⟨by simp, ?_⟩
      intro x hx
      simp only [List.cons_append, List.nil_append, List.mem_cons] at hx
      rcases hx with rfl | hx
      · exact hp
      · exact hall x hx
  · rintro ⟨hne, hall⟩
    induction u with
    | nil => exact absurd rfl hne
    | cons c cs ih =>
      have hc : p c = true := hall c (by simp)
      cases cs with
      | nil => exact .plusOne (.cls hc)
      | cons d ds =>
        have := ih (by simp) (fun x hx => hall x (List.mem_cons_of_mem _ hx))
        exact .plusMore (u := [c]) (.cls hc) this

/-! ## ITEMIZE_HEADER `^([AN])([DOT])$` and EOS_ITEMIZE_HEADER `([AN])([DOT])\z` -/

def reItemize : RE := .seq (.cls isAN) (.cls isDot)

theorem reItemize_matches {u : Text} : reItemize.Matches u ↔ ∃ a d, u = [a, d] ∧ isAN a = true ∧ isDot d = true := by
  unfold reItemize
  rw [matches_seq]
  constructor
  · rintro ⟨x, y, rfl, hx, hy⟩
    obtain ⟨a, rfl, ha⟩ := matches_cls.mp hx
    obtain ⟨d, rfl, hd⟩ := matches_cls.mp hy
    exact ⟨a, d, rfl, ha, hd⟩
  · rintro ⟨a, d, rfl, ha, hd⟩
    exact ⟨[a], [d], rfl, .cls ha, .cls hd⟩

/-- ITEMIZE_HEADER.is_match(s) with `^…$`: the whole string is in the language -/
theorem isItemizeHeader_spec (s : Text) : isItemizeHeader s = true ↔ reItemize.Matches s := by
  rw [reItemize_matches]
  constructor
  · intro h
    match s, h with
    | [a, d], h =>
      simp only [isItemizeHeader, Bool.and_eq_true] at h
      exact ⟨a, d, rfl, h.1, h.2⟩
  · rintro ⟨a, d, rfl, ha, hd⟩
    simp [isItemizeHeader, ha, hd]

/-- EOS_ITEMIZE_HEADER.is_match(s) with `…\z` (unanchored at the start): some suffix is in the language -/
theorem endsWithItemize_spec (s : Text) :
    endsWithItemize s.reverse = true ↔ ∃ pre m, s = pre ++ m ∧ reItemize.Matches m := by
  constructor
  · intro h
    unfold endsWithItemize at h
    split at h
    · rename_i d a r hrev
      simp only [Bool.and_eq_true] at h
      have hs : s = r.reverse ++ [a, d] := by
        have := congrArg List.reverse hrev
        simpa using this
      exact ⟨r.reverse, [a, d], hs, reItemize_matches.mpr ⟨a, d, rfl, h.2, h.1⟩⟩
    · cases h
  · rintro ⟨pre, m, rfl, hm⟩
    obtain ⟨a, d, rfl, ha, hd⟩ := reItemize_matches.mp hm
    simp [endsWithItemize, ha, hd]

/-! ## PROHIBITED_BOS `\A([CLOSE COMMA PERIODS])+` -/

def reProhibitedBos : RE := .plus (.cls isProhibitedBos)

/-- `prohibited_bos(s)`: `find` of `\A(class)+` returns the **longest** prefix in the language (greedy
`+` over one class never has to give a character back), and the function answers 0 when no prefix
matches.  Here: every prefix in the language is at most `prohibitedBos s` long; `prohibitedBos s` is 0
exactly when no non-empty prefix is in the language, otherwise the prefix of that length is in it. -/
theorem prohibitedBos_spec (s : Text) :
    prohibitedBos s ≤ s.length ∧
    (∀ m, m ≤ s.length → reProhibitedBos.Matches (s.take m) → m ≤ prohibitedBos s) ∧
    (prohibitedBos s = 0 → ∀ m, m ≤ s.length → ¬ reProhibitedBos.Matches (s.take m)) ∧
    (prohibitedBos s ≠ 0 → reProhibitedBos.Matches (s.take (prohibitedBos s))) := by
  have hmax : ∀ m, m ≤ s.length → reProhibitedBos.Matches (s.take m) → m ≤ prohibitedBos s ∧ 1 ≤ m := by
    intro m hm h
    obtain ⟨hne, hall⟩ := matches_plus_cls.mp h
    refine ⟨spanLen_max _ s m hm hall, ?_⟩
    cases m with
    | zero => simp at hne
    | succ m => omega
  refine ⟨spanLen_le _ _, fun m hm h => (hmax m hm h).1, ?_, ?_⟩
  · intro h0 m hm h
    have := hmax m hm h
    omega
  · intro hne
    apply matches_plus_cls.mpr
    refine ⟨?_, spanLen_all _ _⟩
    intro hnil
    have := congrArg List.length hnil
    have hle := spanLen_le isProhibitedBos s
    simp only [List.length_take, List.length_nil, prohibitedBos] at this hne
    omega

/-! ## QUOTE_MARKER `(！|？|\!|\?|[CLOSE])(と|っ|です)` -/

def reQuoteMarker : RE :=
  .seq (.alt (RE.chr 0xFF01) (.alt (RE.chr 0xFF1F) (.alt (RE.chr 0x21) (.alt (RE.chr 0x3F) (.cls isClose)))))
       (.alt (RE.chr 0x3068) (.alt (RE.chr 0x3063) (.seq (RE.chr 0x3067) (RE.chr 0x3059))))

theorem reQuoteMarker_matches {u : Text} : reQuoteMarker.Matches u ↔
    ∃ c t, u = c :: t ∧ (c = 0xFF01 || c = 0xFF1F || c = 0x21 || c = 0x3F || isClose c) = true ∧
      (t = [0x3068] ∨ t = [0x3063] ∨ t = [0x3067, 0x3059]) := by
  unfold reQuoteMarker
  simp only [matches_seq, matches_alt, matches_chr, matches_cls]
  constructor
  · rintro ⟨x, y, rfl, hx, hy⟩
    obtain ⟨c, rfl, hc⟩ : ∃ c, x = [c] ∧
        (c = 0xFF01 || c = 0xFF1F || c = 0x21 || c = 0x3F || isClose c) = true := by
      rcases hx with rfl | rfl | rfl | rfl | ⟨c, rfl, hc⟩
      · exact ⟨_, rfl, by decide⟩
      · exact ⟨_, rfl, by decide⟩
      · exact ⟨_, rfl, by decide⟩
      · exact ⟨_, rfl, by decide⟩
      · exact ⟨c, rfl, by rw [hc, Bool.or_true]⟩
    rcases hy with rfl | rfl | ⟨a, b, rfl, rfl, rfl⟩
    · exact ⟨c, _, rfl, hc, Or.inl rfl⟩
    · exact ⟨c, _, rfl, hc, Or.inr (Or.inl rfl)⟩
    · exact ⟨c, _, rfl, hc, Or.inr (Or.inr rfl)⟩
  · rintro ⟨c, t, rfl, hc, ht⟩
    refine ⟨[c], t, rfl, ?_, ?_⟩
    · simp only [Bool.or_eq_true, decide_eq_true_eq] at hc
      rcases hc with (((rfl | rfl) | rfl) | rfl) | hc <;> simp [*]
    · rcases ht with rfl | rfl | rfl
      · exact Or.inl rfl
      · exact Or.inr (Or.inl rfl)
      · exact Or.inr (Or.inr ⟨_, _, rfl, rfl, rfl⟩)

theorem startsParticle_iff {r : Text} : startsParticle r = true ↔
    ∃ t post, r = t ++ post ∧ (t = [0x3068] ∨ t = [0x3063] ∨ t = [0x3067, 0x3059]) := by
  constructor
  · intro h
    match r, h with
    | a :: rest, h =>
      simp only [startsParticle, Bool.or_eq_true, Bool.and_eq_true, decide_eq_true_eq] at h
      rcases h with (rfl | rfl) | ⟨rfl, hb⟩
      · exact ⟨[_], rest, rfl, Or.inl rfl⟩
      · exact ⟨[_], rest, rfl, Or.inr (Or.inl rfl)⟩
      · match rest, hb with
        | b :: r2, hb =>
          cases of_decide_eq_true hb
          exact ⟨[_, _], r2, rfl, Or.inr (Or.inr rfl)⟩
  · rintro ⟨t, post, rfl, rfl | rfl | rfl⟩ <;> rfl

/-- `QUOTE_MARKER.find(s)` is a match with `start() == 0` iff some prefix of `s` is in the language
(`find` returns the leftmost match; a match at 0 exists iff the leftmost one starts at 0) -/
theorem quoteMarkerAt0_spec (s : Text) :
    quoteMarkerAt0 s = true ↔ ∃ m post, s = m ++ post ∧ reQuoteMarker.Matches m := by
  simp only [reQuoteMarker_matches]
  constructor
  · intro h
    match s, h with
    | c :: rest, h =>
      obtain ⟨hc, hp⟩ := Bool.and_eq_true_iff.mp h
      obtain ⟨t, post, rfl, ht⟩ := startsParticle_iff.mp hp
      exact ⟨c :: t, post, rfl, c, t, rfl, hc, ht⟩
  · rintro ⟨m, post, rfl, c, t, rfl, hc, ht⟩
    exact Bool.and_eq_true_iff.mpr ⟨hc, startsParticle_iff.mpr ⟨t, post, rfl, ht⟩⟩

/-! ## PARENTHESIS `([OPEN])|([CLOSE])` with `captures_iter` -/

def reParenthesis : RE := .alt (.cls isOpen) (.cls isClose)

/-- the language has one-character strings only, so the successive non-overlapping matches of
`captures_iter` are exactly the characters of the classes, in text order; group 1 is set iff the
character is an opening bracket (first alternative first) -/
theorem reParenthesis_matches {u : Text} :
    reParenthesis.Matches u ↔ ∃ c, u = [c] ∧ (isOpen c = true ∨ isClose c = true) := by
  unfold reParenthesis
  rw [matches_alt, matches_cls, matches_cls]
  constructor
  · rintro (⟨c, rfl, h⟩ | ⟨c, rfl, h⟩)
    · exact ⟨c, rfl, Or.inl h⟩
    · exact ⟨c, rfl, Or.inr h⟩
  · rintro ⟨c, rfl, h | h⟩
    · exact Or.inl ⟨c, rfl, h⟩
    · exact Or.inr ⟨c, rfl, h⟩

/-- the loop body of `parenthesis_level` for one match `c`: `caps.get(1)` is `Some` iff `c` is an
opening bracket -/
def parenBody (level : Nat) (c : Nat) : Nat :=
  if isOpen c then level + 1 else if level > 0 then level - 1 else level

theorem parenLevel_spec (s : Text) :
    parenLevel s = (s.filter (fun c => isOpen c || isClose c)).foldl parenBody 0 := by
  unfold parenLevel
  generalize (0 : Nat) = init
  induction s generalizing init with
  | nil => rfl
  | cons c cs ih =>
    simp only [List.foldl_cons, List.filter_cons]
    by_cases ho : isOpen c = true
    · simp only [ho, Bool.true_or, if_true, List.foldl_cons]
      rw [ih]
      simp [parenStep, parenBody, ho]
    · by_cases hc : isClose c = true
      · simp only [ho, hc, Bool.or_true, if_true, List.foldl_cons]
        rw [ih]
        simp [parenStep, parenBody, ho, hc]
      · simp only [ho, hc, Bool.or_self, Bool.false_eq_true, if_false]
        rw [ih]
        simp [parenStep, ho, hc]

/-! ## backtracking (leftmost-first) semantics: SENTENCE_BREAKER with `find_iter`, SPACES with `find`

The two remaining patterns use what the `RE` language above cannot express: greedy `*`/`+`/`{n,}`, a
possessive repetition (`・{3,}+` is `(?>・{3,})` in `fancy_regex`), a negative look-behind and a negative
look-ahead, and what matters for them is not only the language but WHICH match the engine reports.
`RX` is that syntax; `RX.run r prev rest` is its backtracking semantics: the list of lengths the pattern
can consume at this position (`prev` = the character before it, for the look-behind), in the order a
backtracking engine tries them (alternatives left to right, greedy repetition longest first).  Both
engines are LEFTMOST-FIRST: `fancy_regex` runs a backtracking VM, the `regex` crate documents
leftmost-first ("as a backtracking engine would") semantics.  So `find` from a position reports the
leftmost start at which `run` is non-empty together with the HEAD of that list (`RX.findFrom`), and
`find_iter` repeats `find` from the end of the previous match (`RX.findIter`).

Proved: `breakerAt` is that head for `reBreaker` (`breakerAt_spec`), `matchEnds` (the traversal of `scan`)
are the ends `findIter reBreaker` yields (`matchEnds_findIter`), `spacesEnd` is the end `findFrom reSpaces`
yields (`spacesEnd_spec`).  For both patterns the head of `run` is also its MAXIMUM (`breakerAt_spec`,
`reSpaces_longest`): leftmost-longest (POSIX) semantics would report the same matches — the patterns do not
depend on the difference, the code does not either.  Trusted for these two is only the transcription
of the pattern text into the `RX` value and this standard semantics of the constructs. -/

inductive RX where
  | eps : RX                              -- the empty pattern
  | cls (p : Nat → Bool) : RX             -- `[...]`, `.`, `\s`, or a literal character
  | seq (a b : RX) : RX                   -- `ab`
  | alt (a b : RX) : RX                   -- `a|b`, `a` tried first
  | star (a : RX) : RX                    -- greedy `a*`
  | atomic (a : RX) : RX                  -- `(?>a)`: only the first way `a` matches, no backtracking into it
  | notBehind (p : Nat → Bool) : RX       -- `(?<![p])`
  | notAhead (p : Nat → Bool) : RX        -- `(?![p])`

/-- greedy `a*` given the semantics `ra` of `a`: one more (non-empty) iteration first, then stop;
`fuel` = length of the rest (every iteration consumes at least one character) -/
def RX.starRun (ra : Option Nat → Text → List Nat) : Nat → Option Nat → Text → List Nat
  | 0, _, _ => [0]
  | f + 1, prev, rest =>
    ((ra prev rest).filter (fun n => 0 < n)).flatMap
        (fun n => (RX.starRun ra f (advPrev prev rest n) (rest.drop n)).map (n + ·)) ++ [0]

/-- the lengths `r` can consume at the head of `rest` (`prev` = the character before it), in the order a
backtracking engine tries them -/
def RX.run : RX → Option Nat → Text → List Nat
  | .eps, _, _ => [0]
  | .cls p, _, c :: _ => if p c then [1] else []
  | .cls _, _, [] => []
  | .seq a b, prev, rest =>
    (RX.run a prev rest).flatMap (fun n => (RX.run b (advPrev prev rest n) (rest.drop n)).map (n + ·))
  | .alt a b, prev, rest => RX.run a prev rest ++ RX.run b prev rest
  | .star a, prev, rest => RX.starRun (RX.run a) rest.length prev rest
  | .atomic a, prev, rest => (RX.run a prev rest).take 1
  | .notBehind p, prev, _ => match prev with | some c => if p c then [] else [0] | none => [0]
  | .notAhead p, _, rest => match rest with | c :: _ => if p c then [] else [0] | [] => [0]

/-- greedy `a{n,}` = `a … a a*` -/
def RX.atLeast : Nat → RX → RX
  | 0, a => .star a
  | n + 1, a => .seq a (RX.atLeast n a)

def RX.plus (a : RX) : RX := .seq a (.star a)

def RX.chr (c : Nat) : RX := .cls (fun x => x == c)

def desc : Nat → List Nat
  | 0 => [0]
  | k + 1 => (k + 1) :: desc k

theorem desc_self_mem (k : Nat) : k ∈ desc k := by cases k <;> exact List.mem_cons_self

theorem desc_eq : ∀ k, desc k = (List.range (k + 1)).reverse
  | 0 => rfl
  | k + 1 => by rw [desc, desc_eq k, List.range_succ (n := k + 1), List.reverse_append]; rfl

theorem desc_le (k m : Nat) (h : m ∈ desc k) : m ≤ k := by
  rw [desc_eq, List.mem_reverse, List.mem_range] at h; omega

/-- `o` is the first element of `L` and bounds all of them (`none` for the empty list): the first length
in backtracking order is the largest -/
def FirstMax (L : List Nat) (o : Option Nat) : Prop :=
  L.head? = o ∧ ∀ m ∈ L, ∃ n, o = some n ∧ m ≤ n

theorem firstMax_nil : FirstMax [] none := ⟨rfl, fun _ h => nomatch h⟩

theorem firstMax_desc_map (f : Nat → Nat) (hf : ∀ i j, i ≤ j → f i ≤ f j) (k : Nat) :
    FirstMax ((desc k).map f) (some (f k)) := by
  refine ⟨by cases k <;> rfl, fun m hm => ?_⟩
  obtain ⟨j, hj, rfl⟩ := List.mem_map.mp hm
  exact ⟨_, rfl, hf _ _ (desc_le _ _ hj)⟩

theorem desc_shift (k : Nat) : (desc k).map (1 + ·) ++ [0] = desc (k + 1) := by
  rw [desc_eq, desc_eq, List.range_succ_eq_map (n := k + 1), List.reverse_cons, ← List.map_reverse]
  exact congrArg (· ++ [0]) (List.map_congr_left fun x _ => Nat.add_comm 1 x)

theorem run_alt (a b : RX) (prev : Option Nat) (l : Text) :
    RX.run (.alt a b) prev l = RX.run a prev l ++ RX.run b prev l := by rw [RX.run]

theorem run_seq (a b : RX) (prev : Option Nat) (l : Text) :
    RX.run (.seq a b) prev l =
      (RX.run a prev l).flatMap (fun n => (RX.run b (advPrev prev l n) (l.drop n)).map (n + ·)) := by
  rw [RX.run]

theorem run_cls_seq (p : Nat → Bool) (b : RX) (prev : Option Nat) (l : Text) :
    RX.run (.seq (.cls p) b) prev l =
      match l with
      | [] => []
      | c :: cs => if p c = true then (RX.run b (some c) cs).map (1 + ·) else [] := by
  rw [run_seq]
  cases l with
  | nil => rfl
  | cons c cs =>
    show (if p c = true then [1] else []).flatMap _ = if p c = true then _ else []
    by_cases h : p c = true
    · rw [if_pos h, if_pos h, List.flatMap_singleton]; rfl
    · rw [if_neg h, if_neg h]; rfl

theorem run_star (a : RX) (prev : Option Nat) (l : Text) :
    RX.run (.star a) prev l = RX.starRun (RX.run a) l.length prev l := by rw [RX.run]

theorem drop_one_add (c : Nat) (cs : Text) (n : Nat) : (c :: cs).drop (1 + n) = cs.drop n := by
  rw [Nat.add_comm]
  rfl

/-! ### greedy repetition of a unit pattern -/

/-- `a` takes exactly `w ≥ 1` characters where the test `t` holds and does not match elsewhere (a class:
`w = 1`; the line-break tag: `w = 4`); `cnt` is the number of leading units -/
structure UnitPat (a : RX) (w : Nat) (t : Text → Bool) (cnt : Text → Nat) : Prop where
  run : ∀ prev l, RX.run a prev l = if t l = true then [w] else []
  pos : 1 ≤ w
  fits : ∀ l, t l = true → w ≤ l.length
  step : ∀ l, t l = true → cnt l = cnt (l.drop w) + 1
  stop : ∀ l, ¬ t l = true → cnt l = 0

/-- greedy `a*`: the possible lengths in backtracking order are `cnt, cnt-1, …, 0` units -/
theorem UnitPat.starRun {a : RX} {w : Nat} {t : Text → Bool} {cnt : Text → Nat} (h : UnitPat a w t cnt) :
    ∀ (f : Nat) (prev : Option Nat) (l : Text), l.length ≤ f →
      RX.starRun (RX.run a) f prev l = (desc (cnt l)).map (w * ·) := by
  intro f
  induction f with
  | zero =>
    intro prev l hl
    cases List.length_eq_zero_iff.mp (Nat.le_zero.mp hl)
    have ht : ¬ t [] = true := fun ht => Nat.not_succ_le_zero _ (Nat.le_trans h.pos (h.fits [] ht))
    rw [RX.starRun, h.stop [] ht]
    rfl
  | succ f ih =>
    intro prev l hl
    rw [RX.starRun, h.run]
    by_cases ht : t l = true
    · have hw := h.pos
      have hfit := h.fits l ht
      have hf : List.filter (fun n => decide (0 < n)) [w] = [w] := List.filter_cons_of_pos (decide_eq_true hw)
      rw [if_pos ht, h.step l ht, ← desc_shift, hf, List.flatMap_singleton,
        ih _ _ (by rw [List.length_drop]; omega), List.map_append, List.map_map, List.map_map]
      exact congrArg (· ++ [0]) (List.map_congr_left fun j _ => by
        show w + w * j = w * (1 + j)
        rw [Nat.mul_add, Nat.mul_one])
    · rw [if_neg ht, h.stop l ht]
      rfl

theorem UnitPat.run_atLeast {a : RX} {w : Nat} {t : Text → Bool} {cnt : Text → Nat} (h : UnitPat a w t cnt) :
    ∀ (n : Nat) (prev : Option Nat) (l : Text),
      RX.run (RX.atLeast n a) prev l = if n ≤ cnt l then (desc (cnt l - n)).map (fun j => w * (n + j)) else [] := by
  intro n
  induction n with
  | zero =>
    intro prev l
    rw [RX.atLeast, run_star, h.starRun _ _ _ (Nat.le_refl _), if_pos (Nat.zero_le _), Nat.sub_zero]
    exact List.map_congr_left fun j _ => by rw [Nat.zero_add]
  | succ n ih =>
    intro prev l
    rw [RX.atLeast, run_seq, h.run]
    by_cases ht : t l = true
    · rw [if_pos ht, List.flatMap_singleton, ih, h.step l ht]
      by_cases hn : n ≤ cnt (l.drop w)
      · rw [if_pos hn, if_pos (Nat.succ_le_succ hn), Nat.add_sub_add_right, List.map_map]
        exact List.map_congr_left fun j _ => by
          show w + w * (n + j) = w * (n + 1 + j)
          rw [Nat.add_right_comm n 1 j, Nat.mul_add _ _ 1, Nat.mul_one, Nat.add_comm]
      · rw [if_neg hn, if_neg (fun h' => hn (Nat.le_of_succ_le_succ h'))]
        rfl
    · rw [if_neg ht, h.stop l ht, if_neg (Nat.not_succ_le_zero n)]
      rfl

theorem UnitPat.firstMax_atLeast {a : RX} {w : Nat} {t : Text → Bool} {cnt : Text → Nat} (h : UnitPat a w t cnt)
    (n : Nat) (prev : Option Nat) (l : Text) :
    FirstMax (RX.run (RX.atLeast n a) prev l) (if n ≤ cnt l then some (w * cnt l) else none) := by
  rw [h.run_atLeast]
  by_cases hn : n ≤ cnt l
  · have := firstMax_desc_map (fun j => w * (n + j))
      (fun _ _ hij => Nat.mul_le_mul_left w (Nat.add_le_add_left hij n)) (cnt l - n)
    rw [if_pos hn, if_pos hn]
    rwa [Nat.add_sub_of_le hn] at this
  · rw [if_neg hn, if_neg hn]
    exact firstMax_nil

theorem unitPat_cls (p : Nat → Bool) : UnitPat (.cls p) 1 (fun l => l.head?.any p) (spanLen p) where
  run := fun prev l => by cases l <;> rfl
  pos := Nat.le_refl 1
  fits := fun l h => by
    cases l with
    | nil => cases h
    | cons c cs => exact Nat.succ_le_succ (Nat.zero_le _)
  step := fun l h => by
    cases l with
    | nil => cases h
    | cons c cs => exact if_pos h
  stop := fun l h => by
    cases l with
    | nil => rfl
    | cons c cs => exact if_neg h

theorem run_star_cls (p : Nat → Bool) (prev : Option Nat) (rest : Text) :
    RX.run (.star (.cls p)) prev rest = desc (spanLen p rest) := by
  rw [run_star, (unitPat_cls p).starRun _ _ _ (Nat.le_refl _)]
  simp only [Nat.one_mul, List.map_id']

theorem run_atLeast_cls_take1 (p : Nat → Bool) (n : Nat) (prev : Option Nat) (l : Text) :
    (RX.run (RX.atLeast n (.cls p)) prev l).take 1 = if n ≤ spanLen p l then [spanLen p l] else [] := by
  rw [List.take_one, ((unitPat_cls p).firstMax_atLeast n prev l).1, Nat.one_mul]
  by_cases hn : n ≤ spanLen p l
  · rw [if_pos hn, if_pos hn]; rfl
  · rw [if_neg hn, if_neg hn]; rfl

theorem run_atLeast_cls_le (p : Nat → Bool) : ∀ (n : Nat) (prev : Option Nat) (l : Text),
    ∀ m ∈ RX.run (RX.atLeast n (.cls p)) prev l, m ≤ spanLen p l := by
  intro n prev l m hm
  obtain ⟨k, hk, hle⟩ := ((unitPat_cls p).firstMax_atLeast n prev l).2 m hm
  by_cases hn : n ≤ spanLen p l
  · rw [if_pos hn, Nat.one_mul] at hk
    cases hk
    exact hle
  · rw [if_neg hn] at hk
    cases hk

/-! ### the line-break tag `(<br>|<BR>)` -/

def reBrLower : RX := .seq (RX.chr 0x3C) (.seq (RX.chr 0x62) (.seq (RX.chr 0x72) (RX.chr 0x3E)))
def reBrUpper : RX := .seq (RX.chr 0x3C) (.seq (RX.chr 0x42) (.seq (RX.chr 0x52) (RX.chr 0x3E)))
def reTag : RX := .alt reBrLower reBrUpper

/-- the text starts with `<br>` or `<BR>` -/
def tagHead : Text → Bool
  | a :: b :: c :: d :: _ => isBrTag a b c d
  | _ => false

theorem run_chr_cons (x c : Nat) (prev : Option Nat) (cs : Text) :
    RX.run (RX.chr x) prev (c :: cs) = if c = x then [1] else [] := by
  simp [RX.chr, RX.run]

theorem run_chr_nil (x : Nat) (prev : Option Nat) : RX.run (RX.chr x) prev [] = [] := by
  simp [RX.chr, RX.run]

theorem run_chr_seq (x : Nat) (b : RX) (prev : Option Nat) (l : Text) :
    RX.run (.seq (RX.chr x) b) prev l =
      match l with
      | [] => []
      | c :: cs => if c = x then (RX.run b (some c) cs).map (1 + ·) else [] := by
  rw [RX.chr, run_cls_seq]
  cases l with
  | nil => rfl
  | cons c cs => simp only [beq_iff_eq]

theorem run_lit4 (w x y z : Nat) (prev : Option Nat) (a b c d : Nat) (r : Text) :
    RX.run (.seq (RX.chr w) (.seq (RX.chr x) (.seq (RX.chr y) (RX.chr z)))) prev (a :: b :: c :: d :: r) =
      if a = w ∧ b = x ∧ c = y ∧ d = z then [4] else [] := by
  simp only [run_chr_seq, run_chr_cons]
  by_cases h1 : a = w
  · by_cases h2 : b = x
    · by_cases h3 : c = y
      · by_cases h4 : d = z
        · rw [if_pos h1, if_pos h2, if_pos h3, if_pos h4, if_pos ⟨h1, h2, h3, h4⟩]; rfl
        · rw [if_pos h1, if_pos h2, if_pos h3, if_neg h4, if_neg (fun h => h4 h.2.2.2)]; rfl
      · rw [if_pos h1, if_pos h2, if_neg h3, if_neg (fun h => h3 h.2.2.1)]; rfl
    · rw [if_pos h1, if_neg h2, if_neg (fun h => h2 h.2.1)]; rfl
  · rw [if_neg h1, if_neg (fun h => h1 h.1)]

theorem run_reTag (prev : Option Nat) (l : Text) :
    RX.run reTag prev l = if tagHead l = true then [4] else [] := by
  unfold reTag reBrLower reBrUpper
  rw [run_alt]
  match l with
  | a :: b :: c :: d :: r =>
    rw [run_lit4, run_lit4]
    show _ = if isBrTag a b c d = true then [4] else []
    by_cases hL : a = 0x3C ∧ b = 0x62 ∧ c = 0x72 ∧ d = 0x3E
    · obtain ⟨rfl, rfl, rfl, rfl⟩ := hL; rfl
    · by_cases hU : a = 0x3C ∧ b = 0x42 ∧ c = 0x52 ∧ d = 0x3E
      · obtain ⟨rfl, rfl, rfl, rfl⟩ := hU; rfl
      · have : ¬ isBrTag a b c d = true := by
          simp only [isBrTag, Bool.and_eq_true, Bool.or_eq_true, decide_eq_true_eq]
          rintro ⟨⟨h1, h4⟩, ⟨h2, h3⟩ | ⟨h2, h3⟩⟩
          · exact hL ⟨h1, h2, h3, h4⟩
          · exact hU ⟨h1, h2, h3, h4⟩
        rw [if_neg hL, if_neg hU, if_neg this]; rfl
  | [] | [a] | [a, b] | [a, b, c] =>
    simp only [run_chr_seq, run_chr_nil, List.map_nil, ite_self, List.append_nil]; rfl

theorem brUnits_of_tagHead {l : Text} (h : tagHead l = true) : brUnits l = brUnits (l.drop 4) + 1 := by
  match l, h with
  | a :: b :: c :: d :: r, h =>
    simp only [tagHead] at h
    simp [brUnits, h]

theorem brUnits_of_not_tagHead {l : Text} (h : ¬ tagHead l = true) : brUnits l = 0 := by
  match l with
  | [] => rfl
  | [a] => rfl
  | [a, b] => rfl
  | [a, b, c] => rfl
  | a :: b :: c :: d :: r =>
    simp only [tagHead] at h
    simp [brUnits, h]

theorem tagHead_length {l : Text} (h : tagHead l = true) : 4 ≤ l.length := by
  match l, h with
  | a :: b :: c :: d :: r, _ => simp

theorem unitPat_tag : UnitPat reTag 4 tagHead brUnits :=
  ⟨run_reTag, by decide, fun _ => tagHead_length, fun _ => brUnits_of_tagHead, fun _ => brUnits_of_not_tagHead⟩

/-! ### SENTENCE_BREAKER -/

/-- `(?<![AN])[DOT](?![AN COMMA])` -/
def reDotAlt : RX :=
  .seq (.notBehind isAN) (.seq (.cls isDot) (.notAhead (fun c => isAN c || isComma c)))

/-- `[PERIODS]|・{3,}+|(?<![AN])[DOT](?![AN COMMA])` — `x{3,}+` is possessive in `fancy_regex`: `(?>x{3,})` -/
def reBreakerHead : RX :=
  .alt (.cls isPeriod) (.alt (.atomic (RX.atLeast 3 (.cls isCdot))) reDotAlt)

/-- SENTENCE_BREAKER: `([PERIODS]|・{3,}+|(?<![AN])[DOT](?![AN COMMA]))[DOT PERIODS]*|(<br>|<BR>){2,}` -/
def reBreaker : RX :=
  .alt (.seq reBreakerHead (.star (.cls isDotOrPeriod))) (RX.atLeast 2 reTag)

theorem run_atomic (a : RX) (prev : Option Nat) (l : Text) :
    RX.run (.atomic a) prev l = (RX.run a prev l).take 1 := by simp [RX.run]

theorem run_reDotAlt (prev : Option Nat) (c : Nat) (rest : Text) :
    RX.run reDotAlt prev (c :: rest) =
      if (isDot c && (notAfterAN prev && notBeforeANComma rest)) = true then [1] else [] := by
  unfold reDotAlt
  rw [run_seq]
  have hnb : RX.run (.notBehind isAN) prev (c :: rest) = if notAfterAN prev = true then [0] else [] := by
    cases prev with
    | none => simp [RX.run, notAfterAN]
    | some p => by_cases h : isAN p = true <;> simp [RX.run, notAfterAN, h]
  rw [hnb]
  by_cases h1 : notAfterAN prev = true
  · simp only [h1, if_true, List.flatMap_cons, List.flatMap_nil, List.append_nil, advPrev, if_true,
      List.drop_zero, Bool.true_and]
    rw [run_seq]
    by_cases h2 : isDot c = true
    · have hc : RX.run (.cls isDot) prev (c :: rest) = [1] := by simp [RX.run, h2]
      rw [hc]
      simp only [List.flatMap_cons, List.flatMap_nil, List.append_nil, List.drop_succ_cons, List.drop_zero, h2,
        Bool.true_and]
      cases rest with
      | nil => simp [RX.run, notBeforeANComma]
      | cons d ds =>
        by_cases h3 : (isAN d || isComma d) = true
        · simp [RX.run, notBeforeANComma, h3]
        · simp [RX.run, notBeforeANComma, h3]
    · have hc : RX.run (.cls isDot) prev (c :: rest) = [] := by simp [RX.run, h2]
      rw [hc]
      simp [h2]
  · simp [h1]

theorem run_reDotAlt_nil (prev : Option Nat) : RX.run reDotAlt prev [] = [] := by
  unfold reDotAlt
  rw [run_seq]
  have : ∀ pv : Option Nat, RX.run (.seq (.cls isDot) (.notAhead (fun c => isAN c || isComma c))) pv [] = [] := by
    intro pv; rw [run_seq]; simp [RX.run]
  simp [this]

/-- the alternatives of the head group have disjoint first characters: at most one length -/
theorem run_reBreakerHead (prev : Option Nat) (c : Nat) (rest : Text) :
    RX.run reBreakerHead prev (c :: rest) =
      if isPeriod c = true then [1]
      else if isCdot c = true then (if 3 ≤ 1 + spanLen isCdot rest then [1 + spanLen isCdot rest] else [])
      else if isDot c = true then (if (notAfterAN prev && notBeforeANComma rest) = true then [1] else [])
      else [] := by
  unfold reBreakerHead
  rw [run_alt, run_alt, run_atomic, run_atLeast_cls_take1, run_reDotAlt, spanLen_cons]
  have hP : RX.run (.cls isPeriod) prev (c :: rest) = if isPeriod c = true then [1] else [] := by simp [RX.run]
  rw [hP]
  by_cases h1 : isPeriod c = true
  · have h2 : isCdot c = false := dotOrPeriod_not_cdot (by rw [isDotOrPeriod, h1, Bool.or_true])
    have h3 : isDot c = false := by
      simp only [isPeriod, Bool.or_eq_true, decide_eq_true_eq] at h1
      simp only [isDot, Bool.or_eq_false_iff, decide_eq_false_iff_not]; omega
    simp [h1, h2, h3]
  · by_cases h2 : isCdot c = true
    · have h3 : isDot c = false := cdot_not_dot h2
      have e : spanLen isCdot rest + 1 = 1 + spanLen isCdot rest := by omega
      simp [h1, h2, h3, e]
    · by_cases h3 : isDot c = true
      · simp [h1, h2, h3]
      · simp [h1, h2, h3]

theorem run_reBreakerHead_nil (prev : Option Nat) : RX.run reBreakerHead prev [] = [] := by
  unfold reBreakerHead
  rw [run_alt, run_alt, run_atomic, run_atLeast_cls_take1, run_reDotAlt_nil]
  simp [RX.run, spanLen]

theorem firstMax_head_then_star {prev : Option Nat} {l : Text} {g : Nat} (h : RX.run reBreakerHead prev l = [g]) :
    FirstMax (RX.run (.seq reBreakerHead (.star (.cls isDotOrPeriod))) prev l)
      (some (g + spanLen isDotOrPeriod (l.drop g))) := by
  rw [run_seq, h, List.flatMap_singleton, run_star_cls]
  exact firstMax_desc_map (g + ·) (fun _ _ hij => Nat.add_le_add_left hij g) _

theorem run_head_then_star_nil {prev : Option Nat} {l : Text} (h : RX.run reBreakerHead prev l = []) :
    RX.run (.seq reBreakerHead (.star (.cls isDotOrPeriod))) prev l = [] := by
  rw [run_seq, h]
  rfl

/-- **SENTENCE_BREAKER anchored at a position** (look-behind character `prev`): the hand-written matcher
`breakerAt` answers the FIRST length in backtracking order of the pattern (what the leftmost-first
engines of `fancy_regex` / `regex` report for a match starting here), and that length is also the
LARGEST one the pattern can take here — so leftmost-longest semantics would give the same match. -/
theorem breakerAt_spec (prev : Option Nat) (l : Text) : FirstMax (RX.run reBreaker prev l) (breakerAt prev l) := by
  unfold reBreaker
  rw [run_alt]
  cases l with
  | nil =>
    rw [run_head_then_star_nil (run_reBreakerHead_nil prev)]
    exact unitPat_tag.firstMax_atLeast 2 prev []
  | cons c rest =>
    have hH := run_reBreakerHead prev c rest
    by_cases hc : c = 0x3C
    · -- `<` is in none of the three classes of the head group: the tag alternative alone
      subst hc
      rw [run_head_then_star_nil hH]
      exact unitPat_tag.firstMax_atLeast 2 prev _
    · -- the head group alone, by the class of `c` (the three are disjoint)
      -- (the tag alternative needs `<` first)
      rw [unitPat_tag.run_atLeast, Nat.eq_zero_of_not_pos fun h => hc (head_of_brUnits_pos h), if_neg (by decide),
        List.append_nil]
      by_cases h1 : isPeriod c = true
      · rw [if_pos h1] at hH
        simp only [breakerAt, h1, if_true]
        exact firstMax_head_then_star hH
      · rw [if_neg h1] at hH
        by_cases h2 : isCdot c = true
        · rw [if_pos h2] at hH
          simp only [breakerAt, h1, h2, if_true, if_false, Bool.false_eq_true]
          by_cases h3 : 3 ≤ 1 + spanLen isCdot rest
          · rw [if_pos h3] at hH ⊢
            rw [Nat.add_sub_cancel_left, ← drop_one_add c]
            exact firstMax_head_then_star hH
          · rw [if_neg h3] at hH ⊢
            rw [run_head_then_star_nil hH]
            exact firstMax_nil
        · rw [if_neg h2] at hH
          simp only [breakerAt, h1, h2, hc, if_false, Bool.false_eq_true]
          by_cases h3 : isDot c = true
          · rw [if_pos h3] at hH ⊢
            by_cases h4 : (notAfterAN prev && notBeforeANComma rest) = true
            · rw [if_pos h4] at hH ⊢
              exact firstMax_head_then_star hH
            · rw [if_neg h4] at hH ⊢
              rw [run_head_then_star_nil hH]
              exact firstMax_nil
          · rw [if_neg h3] at hH ⊢
            rw [run_head_then_star_nil hH]
            exact firstMax_nil

/-! ### `find` and `find_iter` -/

/-- `Regex::find` on the haystack from position `k` (look-behind character `prev`, the rest of the
haystack `l`): the LEFTMOST position at which the pattern can match, with the FIRST length in
backtracking order there (leftmost-first) — `(start, end)` in characters -/
def RX.findFrom (r : RX) : Nat → Option Nat → Text → Option (Nat × Nat)
  | k, prev, [] => (RX.run r prev []).head?.map (fun n => (k, k + n))
  | k, prev, c :: cs =>
    match (RX.run r prev (c :: cs)).head? with
    | some n => some (k, k + n)
    | none => RX.findFrom r (k + 1) (some c) cs

/-- `Regex::find_iter` for a pattern without empty matches: successive non-overlapping matches, each
search starting where the previous match ended, look-behind seeing the whole haystack.
`fuel` = number of matches asked for. -/
def RX.findIter (r : RX) : Nat → Nat → Option Nat → Text → List (Nat × Nat)
  | 0, _, _, _ => []
  | fuel + 1, k, prev, l =>
    match RX.findFrom r k prev l with
    | none => []
    | some (j, e) => (j, e) :: RX.findIter r fuel e (advPrev prev l (e - k)) (l.drop (e - k))

/-- the `skip` counter of `matchEnds` (= of `scan`) is "continue behind the previous match" -/
theorem matchEnds_skip : ∀ (l : Text) (k : Nat) (prev : Option Nat) (skip : Nat),
    matchEnds k prev skip l = matchEnds (k + skip) (advPrev prev l skip) 0 (l.drop skip) := by
  intro l
  induction l with
  | nil => intro k prev skip; simp [matchEnds]
  | cons c cs ih =>
    intro k prev skip
    cases skip with
    | zero => simp [advPrev]
    | succ sk =>
      simp only [matchEnds, List.drop_succ_cons]
      rw [ih, advPrev_cons]
      congr 1
      omega

/-- one step of `find_iter` on SENTENCE_BREAKER = one reported end of `matchEnds` -/
theorem matchEnds_find : ∀ (l : Text) (k : Nat) (prev : Option Nat),
    match RX.findFrom reBreaker k prev l with
    | none => matchEnds k prev 0 l = []
    | some (j, e) => k ≤ j ∧ j < e ∧ e - k ≤ l.length ∧
        matchEnds k prev 0 l = e :: matchEnds e (advPrev prev l (e - k)) 0 (l.drop (e - k)) := by
  intro l
  induction l with
  | nil =>
    intro k prev
    have h := (breakerAt_spec prev []).1
    simp only [RX.findFrom, h, breakerAt, Option.map_none]
    simp [matchEnds]
  | cons c cs ih =>
    intro k prev
    have h := (breakerAt_spec prev (c :: cs)).1
    cases hb : breakerAt prev (c :: cs) with
    | none =>
      rw [hb] at h
      simp only [RX.findFrom, h, matchEnds, hb]
      have := ih (k + 1) (some c)
      cases hf : RX.findFrom reBreaker (k + 1) (some c) cs with
      | none => rw [hf] at this; exact this
      | some je =>
        obtain ⟨j, e⟩ := je
        rw [hf] at this
        obtain ⟨h1, h2, h3, h4⟩ := this
        refine ⟨by omega, h2, by simp only [List.length_cons]; omega, ?_⟩
        have he : e - k = (e - (k + 1)) + 1 := by omega
        rw [h4, he, advPrev_cons, List.drop_succ_cons]
    | some n =>
      rw [hb] at h
      have hn := breakerAt_bounds hb
      simp only [RX.findFrom, h, matchEnds, hb]
      refine ⟨Nat.le_refl _, by omega, by omega, ?_⟩
      rw [matchEnds_skip]
      have he : k + n - k = (n - 1) + 1 := by omega
      rw [he, advPrev_cons, List.drop_succ_cons]
      congr 2
      omega

theorem matchEnds_findIter : ∀ (fuel : Nat) (l : Text) (k : Nat) (prev : Option Nat), l.length < fuel →
    (RX.findIter reBreaker fuel k prev l).map (·.2) = matchEnds k prev 0 l := by
  intro fuel
  induction fuel with
  | zero => intro l k prev h; omega
  | succ fuel ih =>
    intro l k prev hl
    have := matchEnds_find l k prev
    simp only [RX.findIter]
    cases hf : RX.findFrom reBreaker k prev l with
    | none => rw [hf] at this; simp [this]
    | some je =>
      obtain ⟨j, e⟩ := je
      rw [hf] at this
      obtain ⟨h1, h2, h3, h4⟩ := this
      simp only [List.map_cons]
      rw [h4, ih _ _ _ (by simp only [List.length_drop]; omega)]

/-! ### SPACES `.+\s+` -/

/-- `.` of the `regex` crate without the `s` flag: any character except `\n` -/
def isDotChar (c : Nat) : Bool := c != 0x0A

/-- SPACES: `.+\s+`, with `x+` read as `x x*` (both quantifiers greedy) -/
def reSpaces : RX := .seq (RX.plus (.cls isDotChar)) (RX.plus (.cls isSpace))

/-- sequencing is associative: consuming `n` and then `m` characters moves the look-behind character and the rest as
consuming `n + m` does (`hadv`, `List.drop_drop`) -/
theorem run_seq_assoc (a b c : RX) (prev : Option Nat) (l : Text) :
    RX.run (.seq (.seq a b) c) prev l = RX.run (.seq a (.seq b c)) prev l := by
  have hadv : ∀ n m, advPrev (advPrev prev l n) (l.drop n) m = advPrev prev l (n + m) := by
    intro n m
    unfold advPrev
    by_cases hm : m = 0
    · subst hm; simp
    · have hnm : ¬ (n + m = 0) := by omega
      simp only [hm, hnm, if_false, List.getElem?_drop]
      congr 1; omega
  rw [run_seq, run_seq, run_seq]
  simp only [List.flatMap_assoc, List.flatMap_map, run_seq, List.map_flatMap, List.map_map]
  congr 1
  funext n
  congr 1
  funext m
  rw [hadv, List.drop_drop]
  congr 1
  funext x
  simp only [Function.comp]
  omega

theorem run_plus_cls (p : Nat → Bool) (prev : Option Nat) (l : Text) :
    RX.run (RX.plus (.cls p)) prev l =
      match l with
      | [] => []
      | c :: cs => if p c = true then (desc (spanLen p cs)).map (1 + ·) else [] := by
  rw [RX.plus, run_cls_seq]
  cases l with
  | nil => rfl
  | cons c cs => simp only [run_star_cls]

/-- `.*\s+` from a position (the part of SPACES after its first character) -/
def reSpacesTail : RX := .seq (.star (.cls isDotChar)) (RX.plus (.cls isSpace))

theorem run_reSpaces_cons (prev : Option Nat) (c : Nat) (cs : Text) :
    RX.run reSpaces prev (c :: cs) =
      if isDotChar c = true then (RX.run reSpacesTail (some c) cs).map (1 + ·) else [] := by
  rw [reSpaces, RX.plus, run_seq_assoc, run_cls_seq]
  rfl

theorem run_reSpaces_nil (prev : Option Nat) : RX.run reSpaces prev [] = [] := by
  rw [reSpaces, RX.plus, run_seq_assoc, run_cls_seq]

/-- one step of the greedy `.*`: either `.` takes the next character, or `\s+` starts here -/
theorem run_reSpacesTail_cons (prev : Option Nat) (d : Nat) (ds : Text) :
    RX.run reSpacesTail prev (d :: ds) =
      (if isDotChar d = true then (RX.run reSpacesTail (some d) ds).map (1 + ·) else []) ++
        (if isSpace d = true then (desc (spanLen isSpace ds)).map (1 + ·) else []) := by
  refine Eq.trans ?_ (congrArg (_ ++ ·) (run_plus_cls isSpace prev (d :: ds)))
  unfold reSpacesTail
  rw [run_seq, run_star_cls, spanLen_cons]
  by_cases hp : isDotChar d = true
  · simp only [hp, if_true]
    rw [← desc_shift, List.flatMap_append, List.flatMap_map]
    simp only [List.flatMap_cons, List.flatMap_nil, List.append_nil, advPrev_zero, List.drop_zero,
      Nat.zero_add, List.map_id']
    congr 1
    rw [run_seq, run_star_cls, List.map_flatMap]
    congr 1
    funext n
    have h2 : advPrev prev (d :: ds) (1 + n) = advPrev (some d) ds n := by
      rw [Nat.add_comm]; exact advPrev_cons _ _ _ _
    rw [drop_one_add, h2, List.map_map]
    congr 1
    funext x
    simp only [Function.comp]
    omega
  · simp [hp, desc, advPrev]

theorem run_reSpacesTail_nil (prev : Option Nat) : RX.run reSpacesTail prev [] = [] := by
  unfold reSpacesTail
  rw [run_seq, run_star_cls]
  simp [spanLen, desc, run_plus_cls]

/-- `.*` empty and `\s+` all the leading white space is one of the ways `.*\s+` matches -/
theorem spanLen_mem_reSpacesTail (l : Text) (prev : Option Nat) (h : 1 ≤ spanLen isSpace l) :
    spanLen isSpace l ∈ RX.run reSpacesTail prev l := by
  cases l with
  | nil => exact absurd h (Nat.not_succ_le_zero 0)
  | cons d ds =>
    rw [spanLen_cons] at h ⊢
    rw [run_reSpacesTail_cons]
    by_cases hs : isSpace d = true
    · rw [if_pos hs, if_pos hs]
      exact List.mem_append_right _ (List.mem_map.mpr ⟨_, desc_self_mem _, Nat.add_comm _ _⟩)
    · rw [if_neg hs] at h
      exact absurd h (Nat.not_succ_le_zero 0)

/-- after `.` has taken `d`: if `.*\s+` matches behind `d`, the answer is that match and `d`, one longer (also when `\s+`
could start at `d` itself: all the white space behind `d` is one of the ways to go on after `d`); if it does not match
behind `d`, no white space follows `d`, and `d` itself being white space is the only chance -/
theorem firstMax_reSpacesTail_cons {d : Nat} {ds : Text} {o : Option Nat} (prev : Option Nat)
    (hd : isDotChar d = true) (ih : FirstMax (RX.run reSpacesTail (some d) ds) o) :
    FirstMax (RX.run reSpacesTail prev (d :: ds))
      (match (generalizing := false) o with
       | some e => some (e + 1)
       | none => if isSpace d = true then some 1 else none) := by
  rw [run_reSpacesTail_cons, if_pos hd]
  cases o with
  | some e =>
    refine ⟨by rw [List.head?_append, List.head?_map, ih.1]; exact congrArg some (Nat.add_comm 1 e),
      fun m hm => ⟨e + 1, rfl, ?_⟩⟩
    rcases List.mem_append.mp hm with hm | hm
    · obtain ⟨m', hm', rfl⟩ := List.mem_map.mp hm
      obtain ⟨n, hn, hle⟩ := ih.2 m' hm'
      cases hn
      omega
    · -- `\s+` starts at `d`: all the white space behind `d` is also one way to go on after `.` took `d`
      by_cases hs : isSpace d = true
      · rw [if_pos hs] at hm
        obtain ⟨j, hj, rfl⟩ := List.mem_map.mp hm
        have hj := desc_le _ _ hj
        by_cases hk : 1 ≤ spanLen isSpace ds
        · obtain ⟨n, hn, hle⟩ := ih.2 _ (spanLen_mem_reSpacesTail ds (some d) hk)
          cases hn
          omega
        · omega
      · rw [if_neg hs] at hm
        cases hm
  | none =>
    have hz : spanLen isSpace ds = 0 := by
      by_cases hk : 1 ≤ spanLen isSpace ds
      · obtain ⟨n, hn, _⟩ := ih.2 _ (spanLen_mem_reSpacesTail ds (some d) hk)
        cases hn
      · omega
    rw [List.head?_eq_none_iff.mp ih.1, hz]
    by_cases hs : isSpace d = true
    · rw [if_pos hs, if_pos hs]
      exact firstMax_desc_map (1 + ·) (fun _ _ h => Nat.add_le_add_left h 1) 0
    · rw [if_neg hs, if_neg hs]
      exact firstMax_nil

/-- **`.*\s+` from a position**: on a line that ends with `\n`, `.*` takes the whole line and `\s+` the `\n` and all
white space behind it; on a final line `.*` backtracks to the LAST white-space character.  Either way the first end in
backtracking order is also the largest. -/
theorem firstMax_reSpacesTail : ∀ (l : Text) (prev : Option Nat),
    FirstMax (RX.run reSpacesTail prev l)
      (if spanLen isDotChar l < l.length then
        some (spanLen isDotChar l + spanLen isSpace (l.drop (spanLen isDotChar l)))
      else lastSpaceEnd l) := by
  intro l
  induction l with
  | nil => intro prev; rw [run_reSpacesTail_nil]; exact firstMax_nil
  | cons d ds ih =>
    intro prev
    by_cases hd : isDotChar d = true
    · have h := firstMax_reSpacesTail_cons prev hd (ih (some d))
      rw [spanLen_cons, if_pos hd, List.length_cons, List.drop_succ_cons]
      by_cases hlt : spanLen isDotChar ds < ds.length
      · rw [if_pos hlt] at h
        rw [if_pos (Nat.succ_lt_succ hlt), Nat.add_right_comm]
        exact h
      · rw [if_neg hlt] at h
        rw [if_neg (fun h' => hlt (Nat.lt_of_succ_lt_succ h'))]
        exact h
    · have hs : isSpace d = true := by
        have hnl : d = 0x0A := by simpa [isDotChar] using hd
        subst hnl; decide
      rw [run_reSpacesTail_cons, if_neg hd, if_pos hs, spanLen_cons, if_neg hd, List.length_cons,
        if_pos (Nat.zero_lt_succ _),
        List.drop_zero, spanLen_cons, if_pos hs, Nat.zero_add, List.nil_append, Nat.add_comm]
      exact firstMax_desc_map (1 + ·) (fun _ _ h => Nat.add_le_add_left h 1) _

theorem findFrom_reSpaces_none : ∀ (l : Text) (k : Nat) (prev : Option Nat),
    (∀ x ∈ l, isSpace x = false) → RX.findFrom reSpaces k prev l = none := by
  have htail : ∀ (l : Text) (prev : Option Nat), (∀ x ∈ l, isSpace x = false) → RX.run reSpacesTail prev l = [] := by
    intro l
    induction l with
    | nil => intro prev _; exact run_reSpacesTail_nil prev
    | cons d ds ih =>
      intro prev h
      rw [run_reSpacesTail_cons, ih (some d) (fun x hx => h x (by simp [hx]))]
      simp [h d (by simp)]
  intro l
  induction l with
  | nil => intro k prev _; simp [RX.findFrom, run_reSpaces_nil]
  | cons c cs ih =>
    intro k prev h
    have hcs : ∀ x ∈ cs, isSpace x = false := fun x hx => h x (by simp [hx])
    simp only [RX.findFrom, run_reSpaces_cons, htail cs (some c) hcs]
    simp [ih (k + 1) (some c) hcs]

theorem spacesEnd_spec : ∀ (s : Text) (k : Nat) (prev : Option Nat),
    (RX.findFrom reSpaces k prev s).map (·.2) = (spacesEnd s).map (k + ·) := by
  intro s
  induction s with
  | nil => intro k prev; simp [RX.findFrom, run_reSpaces_nil, spacesEnd]
  | cons c cs ih =>
    intro k prev
    by_cases hc : c = 0x0A
    · subst hc
      have hd : isDotChar 0x0A = false := by decide
      simp only [RX.findFrom, run_reSpaces_cons, hd, spacesEnd, if_true, Bool.false_eq_true, if_false,
        List.head?_nil]
      rw [ih (k + 1) (some 0x0A)]
      cases spacesEnd cs with
      | none => rfl
      | some e => simp; omega
    · have hd : isDotChar c = true := by simp [isDotChar, hc]
      simp only [RX.findFrom, run_reSpaces_cons, hd, if_true, spacesEnd, hc, if_false, List.head?_map]
      have hline : spanLen (fun x => x != 0x0A) (c :: cs) = 1 + spanLen isDotChar cs := by
        have : (fun x : Nat => x != 0x0A) = isDotChar := rfl
        rw [this, spanLen_cons, hd]; simp; omega
      simp only [spacesFrom, hline]
      by_cases hlt : 1 + spanLen isDotChar cs < (c :: cs).length
      · have hlt' : spanLen isDotChar cs < cs.length := by simp only [List.length_cons] at hlt; omega
        rw [(firstMax_reSpacesTail cs (some c)).1, if_pos hlt']
        simp only [hlt, if_true, drop_one_add, Option.map_some]
        congr 1
        omega
      · have hlt' : ¬ spanLen isDotChar cs < cs.length := by simp only [List.length_cons] at hlt; omega
        rw [(firstMax_reSpacesTail cs (some c)).1, if_neg hlt']
        simp only [hlt, if_false]
        cases hl : lastSpaceEnd cs with
        | some e => simp; omega
        | none =>
          simp only [Option.map_none]
          rw [findFrom_reSpaces_none cs (k + 1) (some c) (lastSpaceEnd_none cs hl)]
          rfl

theorem reSpaces_longest (l : Text) (prev : Option Nat) : ∀ m ∈ RX.run reSpaces prev l,
    ∃ n, (RX.run reSpaces prev l).head? = some n ∧ m ≤ n := by
  intro m hm
  cases l with
  | nil => simp [run_reSpaces_nil] at hm
  | cons c cs =>
    rw [run_reSpaces_cons] at hm ⊢
    by_cases hd : isDotChar c = true
    · simp only [hd, if_true, List.mem_map, List.head?_map] at hm ⊢
      obtain ⟨m', hm', rfl⟩ := hm
      obtain ⟨hhead, hmax⟩ := firstMax_reSpacesTail cs (some c)
      obtain ⟨n, hn, hle⟩ := hmax m' hm'
      exact ⟨1 + n, by rw [hhead, hn]; rfl, Nat.add_le_add_left hle 1⟩
    · simp [hd] at hm

end Sentence
