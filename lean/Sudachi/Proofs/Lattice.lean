import Sudachi.Model.Lattice
/-!
# The Viterbi lattice stores minimum chain costs (C02)

`Reach F n v` is "a chain of candidates BOS → … → `n` costs `v`".  The invariant `Inv` of the partially built
lattice says every stored total is the optimum `Opt` over such chains and every node inserted so far is stored;
`insert` keeps it because, in the builder's order, every candidate ending at `n.b` is stored when `n` arrives
(`connect_min` is the one place where the minimum is taken; "this `Option Int` is the least element of that set, `none` iff it
is empty" is `IsMin`: `Opt` is `IsMin` over `Reach` by unfolding, `connect_isMin`, `connect_min`, `eos_min` are stated with it).  The back-pointer half (`argmin`, the walk
`pathFrom`) is then read off the finished rows: stored totals are `connect` over the final rows, so every step
of the walk goes to an entry offering the current total.
-/
namespace Vit

variable (conn : Nat → Nat → Int)

/-! ## what the statements speak of

Chains of candidates from BOS and their costs, in two forms: the relation `Reach` (and `Opt`, the optimum over it), which the
invariant uses, and lists `ws` with `IsChain F bos ws`, which the C02 statements use (`chain_reach`, `reach_chain`: the
same thing).  `lastEnd prev p` is `(lastNode prev p).e` (`lastNode_e`); the statements say `lastEnd`, the snoc lemmas
`lastNode`.  `chainCost` (`Model/Lattice.lean`) is `prefixCost` plus the connection to EOS (`chainCost_prefix`).  The
insertion order is `Ordered` in the lemmas; the C02 statements ask for candidates sorted by begin,
`F.Pairwise (fun a b => a.b ≤ b.b)`, which implies it for non-empty candidates (`ordered_of_sorted`). -/

/-- `Reach F n v`: there is a chain BOS → … → n of candidate nodes from `F` whose accumulated cost is `v` -/
inductive Reach (F : List Node) : Node → Int → Prop
  | bos : Reach F bos 0
  | step {m n : Node} {v : Int} : Reach F m v → n ∈ F → n.b = m.e → Reach F n (v + conn m.r n.l + n.c)

/-- what a stored total must be -/
def Opt (F : List Node) (n : Node) (t : Option Int) : Prop :=
  match t with
  | none => ∀ v, ¬ Reach conn F n v
  | some v => Reach conn F n v ∧ ∀ w, Reach conn F n w → v ≤ w

/-- `t` is the least element of `S`, `none` when `S` is empty: the shape of `Opt` (over `Reach`), of what `connect` returns
for a row (over the offers of its entries) and of what `connect_eos` reports (over the costs of the covering sequences) -/
def IsMin (S : Int → Prop) (t : Option Int) : Prop :=
  match t with
  | none => ∀ v, ¬ S v
  | some v => S v ∧ ∀ w, S w → v ≤ w

theorem IsMin.transfer {S S' : Int → Prop} {t : Option Int} (h : IsMin S t) (hsub : ∀ v, S v → S' v)
    (hdom : ∀ w, S' w → ∃ v, S v ∧ v ≤ w) : IsMin S' t := by
  cases t with
  | none => exact fun w hw => let ⟨v, hv, _⟩ := hdom w hw; h v hv
  | some v => exact ⟨hsub v h.1, fun w hw => let ⟨u, hu, hle⟩ := hdom w hw; Int.le_trans (h.2 u hu) hle⟩

theorem IsMin.congr {S S' : Int → Prop} {t : Option Int} (h : IsMin S t) (hiff : ∀ v, S v ↔ S' v) : IsMin S' t :=
  h.transfer (fun v => (hiff v).mp) fun w hw => ⟨w, (hiff w).mpr hw, Int.le_refl w⟩

theorem IsMin.le {S : Int → Prop} {t : Option Int} (h : IsMin S t) {w : Int} (hw : S w) : ∃ v, t = some v ∧ v ≤ w := by
  cases t with
  | none => exact absurd hw (h w)
  | some v => exact ⟨v, rfl, h.2 w hw⟩

/-- core's characterisation of `List.min?`, in this shape -/
theorem isMin_min? (l : List Int) : IsMin (· ∈ l) l.min? := by
  cases h : l.min? with
  | none => rw [List.min?_eq_none_iff.mp h]; exact fun _ => List.not_mem_nil
  | some v => exact List.min?_eq_some_iff.mp h

def WF (F : List Node) : Prop := ∀ n ∈ F, n.b < n.e

/-- insertion order of `LatticeBuilder::build_lattice`: when a node is inserted, no later node ends at its begin -/
def Ordered : List Node → Prop
  | [] => True
  | n :: ns => (∀ m ∈ ns, m.e ≠ n.b) ∧ Ordered ns

/-- `ws` continues a chain whose last node is `prev`: every word is a candidate and begins where
the previous one ended -/
def IsChain (F : List Node) : Node → List Node → Prop
  | _, [] => True
  | prev, n :: rest => n ∈ F ∧ n.b = prev.e ∧ IsChain F n rest

def lastEnd : Node → List Node → Nat
  | prev, [] => prev.e
  | _, n :: rest => lastEnd n rest

def lastNode : Node → List Node → Node
  | prev, [] => prev
  | _, n :: rest => lastNode n rest

/-- word costs and connection costs along a chain continuing `prev`, WITHOUT the connection to EOS
(what `VNode.total_cost` of the last node holds) -/
def prefixCost : Node → List Node → Int
  | _, [] => 0
  | prev, n :: rest => conn prev.r n.l + n.c + prefixCost n rest

theorem ordered_of_sorted : ∀ (F : List Node), WF F → F.Pairwise (fun a b => a.b ≤ b.b) → Ordered F := by
  intro F
  induction F with
  | nil => intro _ _; trivial
  | cons n ns ih =>
    intro hwf hs
    have hs' := List.pairwise_cons.mp hs
    refine ⟨?_, ih (fun m hm => hwf m (List.mem_cons_of_mem _ hm)) hs'.2⟩
    intro m hm he
    have h1 := hs'.1 m hm
    have h2 := hwf m (List.mem_cons_of_mem _ hm)
    omega

/-! ## one row: the `connect_node` loop takes the minimum (`List.min?`) of what the connected entries offer -/

/-- `ent` is connected and offers `n` the total `v` -/
def cand (n : Node) (ent : Entry) (v : Int) : Prop :=
  ∃ t, ent.2 = some t ∧ v = t + conn ent.1.r n.l + n.c

/-- `cand` as a function: what the entry offers `n` (its total plus the step into `n`), `none` when it is not connected -/
def offer (n : Node) (ent : Entry) : Option Int := ent.2.map fun t => t + conn ent.1.r n.l + n.c

theorem offer_eq_some {n : Node} {ent : Entry} {v : Int} : offer conn n ent = some v ↔ cand conn n ent v := by
  rw [offer, Option.map_eq_some_iff]
  exact ⟨fun ⟨t, h, e⟩ => ⟨t, h, e.symm⟩, fun ⟨t, h, e⟩ => ⟨t, h, e.symm⟩⟩

/-- **What the `connect_node` loop computes**: the minimum of what it started with and what the connected entries of the
row offer (the strict `<` of the loop keeps the earlier of two equal values, which is the same number). -/
theorem foldl_stepMin_eq (n : Node) : ∀ (row : List Entry) (acc : Option Int),
    row.foldl (stepMin conn n) acc = (acc.toList ++ row.filterMap (offer conn n)).min? := by
  intro row
  induction row with
  | nil => intro acc; cases acc <;> rfl
  | cons ent rest ih =>
    intro acc
    rw [List.foldl_cons, ih]
    obtain ⟨m, _ | t⟩ := ent
    · rfl
    · cases acc with
      | none => rfl
      | some a =>
        show ((stepMin conn n (some a) (m, some t)).toList ++ _).min? =
          (a :: (t + conn m.r n.l + n.c) :: rest.filterMap (offer conn n)).min?
        rw [List.min?_cons', List.foldl_cons]
        by_cases hlt : t + conn m.r n.l + n.c < a
        · rw [show stepMin conn n (some a) (m, some t) = some (t + conn m.r n.l + n.c) from if_pos hlt,
            Int.min_eq_right (Int.le_of_lt hlt)]; rfl
        · rw [show stepMin conn n (some a) (m, some t) = some a from if_neg hlt,
            Int.min_eq_left (Int.not_lt.mp hlt)]; rfl

theorem foldl_stepMin (n : Node) : ∀ (row : List Entry) (acc : Option Int),
    (match row.foldl (stepMin conn n) acc with
     | none => acc = none ∧ ∀ ent ∈ row, ent.2 = none
     | some v => (acc = some v ∨ ∃ ent ∈ row, cand conn n ent v) ∧
                 (∀ a, acc = some a → v ≤ a) ∧ (∀ ent ∈ row, ∀ w, cand conn n ent w → v ≤ w)) := by
  intro row acc
  rw [foldl_stepMin_eq]
  generalize hres : (acc.toList ++ row.filterMap (offer conn n)).min? = res
  cases res with
  | none =>
    obtain ⟨h1, h2⟩ := List.append_eq_nil_iff.mp (List.min?_eq_none_iff.mp hres)
    refine ⟨?_, fun ent he => Option.map_eq_none_iff.mp (List.filterMap_eq_nil_iff.mp h2 ent he)⟩
    cases acc with
    | none => rfl
    | some a => cases h1
  | some v =>
    obtain ⟨hm, hle⟩ := List.min?_eq_some_iff.mp hres
    refine ⟨?_, fun a ha => hle a (List.mem_append_left _ (ha ▸ List.mem_singleton_self a)),
      fun ent he w hw => hle w (List.mem_append_right _ (List.mem_filterMap.mpr ⟨ent, he, (offer_eq_some conn).mpr hw⟩))⟩
    rcases List.mem_append.mp hm with h | h
    · exact Or.inl (Option.mem_toList.mp h)
    · obtain ⟨ent, he, ho⟩ := List.mem_filterMap.mp h
      exact Or.inr ⟨ent, he, (offer_eq_some conn).mp ho⟩

theorem connect_isMin (row : List Entry) (n : Node) :
    IsMin (fun v => ∃ ent ∈ row, cand conn n ent v) (connect conn row n) :=
  (foldl_stepMin_eq conn n row none ▸ isMin_min? (row.filterMap (offer conn n))).congr fun _ =>
    List.mem_filterMap.trans (exists_congr fun _ => and_congr_right fun _ => offer_eq_some conn)

/-! ## chains from BOS; `connect` over a complete row is the optimum -/

theorem reach_node (F : List Node) {n : Node} {v : Int} (h : Reach conn F n v) : n = bos ∨ n ∈ F := by
  cases h with
  | bos => exact Or.inl rfl
  | step _ hn _ => exact Or.inr hn

theorem not_bos_mem {F : List Node} (hwf : WF F) : bos ∉ F := fun h => Nat.lt_irrefl 0 (hwf bos h)

theorem WF.inside {F : List Node} (hwf : WF F) {len : Nat} (h : ∀ n ∈ F, n.e ≤ len) :
    ∀ n ∈ F, n.b ≤ len ∧ n.e ≤ len :=
  fun n hn => ⟨Nat.le_trans (Nat.le_of_lt (hwf n hn)) (h n hn), h n hn⟩

theorem reach_bos (F : List Node) (hwf : WF F) {v : Int} (h : Reach conn F bos v) : v = 0 := by
  generalize hb : bos = x at h
  cases h with
  | bos => rfl
  | step _ hn _ => exact absurd (hb ▸ hn) (not_bos_mem hwf)

theorem reach_inv (F : List Node) (hwf : WF F) {n : Node} (hn : n ∈ F) {w : Int}
    (h : Reach conn F n w) : ∃ m v, Reach conn F m v ∧ n.b = m.e ∧ w = v + conn m.r n.l + n.c := by
  cases h with
  | bos => exact absurd hn (not_bos_mem hwf)
  | step hm _ hbe => exact ⟨_, _, hm, hbe, rfl⟩

/-- `connect` over a row that holds, with its optimal total, every reachable node ending at `b`: the minimum
over all chains BOS → … → m with `m.e = b` of the chain's cost plus the step from `m` to `n` -/
theorem connect_min (F : List Node) (row : List Entry) (b : Nat) (n : Node)
    (hs : ∀ ent ∈ row, ent.1.e = b ∧ (ent.1 = bos ∨ ent.1 ∈ F) ∧ Opt conn F ent.1 ent.2)
    (hc : ∀ m t, Reach conn F m t → m.e = b → ∃ o, (m, o) ∈ row) :
    IsMin (fun v => ∃ m t, Reach conn F m t ∧ m.e = b ∧ v = t + conn m.r n.l + n.c) (connect conn row n) := by
  refine (connect_isMin conn row n).transfer ?_ ?_
  -- an offer of the row is the step from an optimal chain
  · rintro v ⟨ent, hent, t, ht, hv⟩
    obtain ⟨he, _, hopt⟩ := hs ent hent
    rw [ht] at hopt
    exact ⟨ent.1, t, hopt.1, he, hv⟩
  -- the step from any chain is bounded by the offer of the entry stored for its last node
  · rintro _ ⟨m, t, hm, he, rfl⟩
    obtain ⟨o, ho⟩ := hc m t hm he
    have hopt := (hs _ ho).2.2
    cases o with
    | none => exact absurd hm (hopt t)
    | some t' => exact ⟨_, ⟨_, ho, t', rfl, rfl⟩, Int.add_le_add_right (Int.add_le_add_right (hopt.2 t hm) _) _⟩

/-! ## the invariant of the partially built lattice -/

/-- `done` = the nodes inserted so far -/
structure Inv (F : List Node) (rows : Rows) (done : List Node) : Prop where
  sound : ∀ e, ∀ ent ∈ rows e, ent.1.e = e ∧ (ent.1 = bos ∨ ent.1 ∈ F) ∧ Opt conn F ent.1 ent.2
  complete : ∀ m, (m = bos ∨ m ∈ done) → ∃ t, (m, t) ∈ rows m.e

theorem mem_init {e : Nat} {ent : Entry} (h : ent ∈ init e) : e = 0 ∧ ent = (bos, some 0) := by
  unfold init at h
  by_cases he : e = 0
  · rw [if_pos he] at h; exact ⟨he, List.mem_singleton.mp h⟩
  · rw [if_neg he] at h; cases h

theorem inv_init (F : List Node) (hwf : WF F) : Inv conn F init [] := by
  constructor
  · intro e ent hent
    obtain ⟨rfl, rfl⟩ := mem_init hent
    exact ⟨rfl, Or.inl rfl, Reach.bos, fun w hw => Int.le_of_eq (reach_bos conn F hwf hw).symm⟩
  · intro m hm
    rcases hm with rfl | hm
    · exact ⟨some 0, List.mem_singleton.mpr rfl⟩
    · cases hm

theorem insert_other (rows : Rows) (n : Node) (e : Nat) (h : e ≠ n.e) : insert conn rows n e = rows e :=
  if_neg h

theorem mem_insert {rows : Rows} {n : Node} {e : Nat} {ent : Entry} :
    ent ∈ insert conn rows n e ↔ ent ∈ rows e ∨ (e = n.e ∧ ent = (n, connect conn (rows n.b) n)) := by
  unfold insert
  by_cases he : e = n.e
  · rw [if_pos he, List.mem_append, List.mem_singleton]; exact or_congr_right (and_iff_right he).symm
  · rw [if_neg he]; exact ⟨Or.inl, fun h => h.resolve_right (fun h => he h.1)⟩

/-- the key step: inserting `n` once every candidate ending at `n.b` is already in the lattice -/
theorem inv_insert (F : List Node) (hwf : WF F) (rows : Rows) (done : List Node) (n : Node)
    (hn : n ∈ F) (hinv : Inv conn F rows done)
    (hready : ∀ m ∈ F, m.e = n.b → m ∈ done) :
    Inv conn F (insert conn rows n) (n :: done) := by
  -- optimality of the new entry: `connect_min` on the row at `n.b`, every chain to `n` ends with a step into `n`
  have hopt : IsMin (Reach conn F n) (connect conn (rows n.b) n) := by
    refine (connect_min conn F (rows n.b) n.b n (hinv.sound _)
      (fun m t hm he => he ▸ hinv.complete m ((reach_node conn F hm).imp id (fun h => hready m h he)))).congr
      fun v => ⟨?_, fun hv => ?_⟩
    · rintro ⟨_, _, hm, he, rfl⟩
      exact Reach.step hm hn he.symm
    · obtain ⟨m, t, hm, hb, hv⟩ := reach_inv conn F hwf hn hv
      exact ⟨m, t, hm, hb.symm, hv⟩
  constructor
  · intro e ent hent
    rcases (mem_insert conn).mp hent with h | ⟨rfl, rfl⟩
    · exact hinv.sound e ent h
    · exact ⟨rfl, Or.inr hn, hopt⟩
  · intro m hm
    have hold : (m = bos ∨ m ∈ done) → ∃ t, (m, t) ∈ insert conn rows n m.e := fun h =>
      (hinv.complete m h).imp fun t ht => (mem_insert conn).mpr (Or.inl ht)
    rcases hm with h | h
    · exact hold (Or.inl h)
    · rcases List.mem_cons.mp h with rfl | h
      · exact ⟨_, (mem_insert conn).mpr (Or.inr ⟨rfl, rfl⟩)⟩
      · exact hold (Or.inr h)

theorem inv_build (F : List Node) (hwf : WF F) : ∀ (ns done : List Node) (rows : Rows),
    (∀ n ∈ ns, n ∈ F) → (∀ m ∈ F, m ∈ done ∨ m ∈ ns) → Ordered ns → Inv conn F rows done →
    ∃ done', Inv conn F (build conn ns rows) done' ∧ ∀ m ∈ F, m ∈ done' := by
  intro ns
  induction ns with
  | nil =>
    intro done rows _ hall _ hinv
    exact ⟨done, hinv, fun m hm => (hall m hm).resolve_right (List.not_mem_nil)⟩
  | cons n ns ih =>
    intro done rows hsub hall hord hinv
    have hn : n ∈ F := hsub n (List.mem_cons_self ..)
    have hready : ∀ m ∈ F, m.e = n.b → m ∈ done := by
      intro m hm he
      rcases hall m hm with h | h
      · exact h
      · rcases List.mem_cons.mp h with rfl | h
        · have := hwf m hm; omega
        · exact absurd he (hord.1 m h)
    refine ih (n :: done) _ (fun x hx => hsub x (List.mem_cons_of_mem _ hx)) ?_ hord.2
      (inv_insert conn F hwf rows done n hn hinv hready)
    intro m hm
    rcases hall m hm with h | h
    · exact Or.inl (List.mem_cons_of_mem _ h)
    · rcases List.mem_cons.mp h with rfl | h
      · exact Or.inl (List.mem_cons_self ..)
      · exact Or.inr h

theorem inv_build_init (F : List Node) (hwf : WF F) (hord : Ordered F) : Inv conn F (build conn F init) F := by
  obtain ⟨done', hinv, hall⟩ :=
    inv_build conn F hwf F [] init (fun _ h => h) (fun _ hm => Or.inr hm) hord (inv_init conn F hwf)
  exact ⟨hinv.sound, fun m hm => hinv.complete m (hm.imp id (hall m))⟩

/-- `inv_build_init` with the invariant spelt out; `C02.viterbi_min` is this with `Pairwise` for `Ordered` -/
theorem viterbi_min (F : List Node) (hwf : WF F) (hord : Ordered F) :
    let rows := build conn F init
    (∀ e, ∀ ent ∈ rows e, Opt conn F ent.1 ent.2) ∧ (∀ m ∈ F, ∃ t, (m, t) ∈ rows m.e) := by
  have hinv := inv_build_init conn F hwf hord
  exact ⟨fun e ent h => (hinv.sound e ent h).2.2, fun m hm => hinv.complete m (Or.inr hm)⟩

/-! ## chains as lists; `connect_eos` -/

theorem lastNode_e (p : List Node) (prev : Node) : (lastNode prev p).e = lastEnd prev p := by
  induction p generalizing prev with
  | nil => rfl
  | cons n rest ih => exact ih n

theorem chainCost_prefix (p : List Node) (prev : Node) :
    chainCost conn prev p = prefixCost conn prev p + conn (lastNode prev p).r 0 := by
  induction p generalizing prev with
  | nil => exact (Int.zero_add _).symm
  | cons n rest ih => rw [chainCost, prefixCost, lastNode, ih n, Int.add_assoc (conn _ _ + n.c)]

theorem isChain_snoc (F : List Node) (n : Node) (ws : List Node) (prev : Node) :
    IsChain F prev (ws ++ [n]) ↔ IsChain F prev ws ∧ n ∈ F ∧ n.b = (lastNode prev ws).e := by
  induction ws generalizing prev with
  | nil => exact ⟨fun h => ⟨trivial, h.1, h.2.1⟩, fun h => ⟨h.2.1, h.2.2, trivial⟩⟩
  | cons w rest ih =>
    show _ ∧ _ ∧ IsChain F w (rest ++ [n]) ↔ (_ ∧ _ ∧ IsChain F w rest) ∧ _ ∧ _
    rw [ih w]; exact ⟨fun h => ⟨⟨h.1, h.2.1, h.2.2.1⟩, h.2.2.2⟩, fun h => ⟨h.1.1, h.1.2.1, h.1.2.2, h.2⟩⟩

theorem lastNode_snoc (n : Node) (ws : List Node) (prev : Node) : lastNode prev (ws ++ [n]) = n := by
  induction ws generalizing prev with
  | nil => rfl
  | cons w rest ih => exact ih w

theorem prefixCost_snoc (n : Node) (ws : List Node) (prev : Node) :
    prefixCost conn prev (ws ++ [n]) = prefixCost conn prev ws + conn (lastNode prev ws).r n.l + n.c := by
  induction ws generalizing prev with
  | nil => show _ + _ + 0 = 0 + _ + _; rw [Int.add_zero, Int.zero_add]; rfl
  | cons w rest ih =>
    show _ + prefixCost conn w (rest ++ [n]) = _ + prefixCost conn w rest + _ + _
    rw [ih w, ← Int.add_assoc, ← Int.add_assoc]; rfl

/-- chains from BOS and `Reach` are the same thing: the cost `Reach` accumulates is `prefixCost` -/
theorem chain_reach (F : List Node) (ws : List Node) (prev : Node) (t : Int) (hr : Reach conn F prev t)
    (hc : IsChain F prev ws) : Reach conn F (lastNode prev ws) (t + prefixCost conn prev ws) := by
  induction ws generalizing prev t with
  | nil => exact (Int.add_zero t).symm ▸ hr
  | cons n rest ih =>
    have := ih n _ (Reach.step hr hc.1 hc.2.1) hc.2.2
    rwa [Int.add_assoc, Int.add_assoc, ← Int.add_assoc (conn _ _)] at this

theorem reach_chain (F : List Node) {m : Node} {t : Int} (h : Reach conn F m t) :
    ∃ ws, IsChain F bos ws ∧ lastNode bos ws = m ∧ prefixCost conn bos ws = t := by
  induction h with
  | bos => exact ⟨[], trivial, rfl, rfl⟩
  | @step m n v _ hn hb ih =>
    obtain ⟨ws, h1, rfl, rfl⟩ := ih
    exact ⟨ws ++ [n], (isChain_snoc F n ws bos).mpr ⟨h1, hn, hb⟩, lastNode_snoc n ws bos, prefixCost_snoc conn n ws bos⟩

theorem isChain_mem (F : List Node) : ∀ (p : List Node) (prev : Node), IsChain F prev p → ∀ x ∈ p, x ∈ F := by
  intro p
  induction p with
  | nil => intro _ _ x hx; cases hx
  | cons n rest ih =>
    intro prev h x hx
    rcases List.mem_cons.mp hx with rfl | hx
    · exact h.1
    · exact ih n h.2.2 x hx

theorem isChain_ne_bos {F : List Node} (hwf : WF F) {p : List Node} {prev x : Node} (hc : IsChain F prev p)
    (hx : x ∈ p) : x ≠ bos :=
  fun hb => not_bos_mem hwf (hb ▸ isChain_mem F p prev hc x hx)

/-- `connect_eos` on the finished lattice reports the minimum of `chainCost` over all covering sequences of
candidates (`none` iff there is none) -/
theorem eos_min (F : List Node) (hwf : WF F) (hord : Ordered F) (len : Nat) :
    IsMin (fun v => ∃ ws, IsChain F bos ws ∧ lastEnd bos ws = len ∧ chainCost conn bos ws = v)
      (eosCost conn (build conn F init) len) := by
  have hinv := inv_build_init conn F hwf hord
  -- a covering sequence is a chain to its last node, which ends at `len`; its cost adds the connection to EOS
  have hcost : ∀ ws, chainCost conn bos ws =
      prefixCost conn bos ws + conn (lastNode bos ws).r (eosNode len).l + (eosNode len).c :=
    fun ws => (chainCost_prefix conn ws bos).trans (Int.add_zero _).symm
  refine (connect_min conn F (build conn F init len) len (eosNode len) (hinv.sound _)
    (fun m t hm he => he ▸ hinv.complete m (reach_node conn F hm))).congr fun v => ⟨?_, ?_⟩
  · rintro ⟨m, t, hm, he, rfl⟩
    obtain ⟨ws, h1, rfl, rfl⟩ := reach_chain conn F hm
    exact ⟨ws, h1, (lastNode_e ws bos).symm.trans he, hcost ws⟩
  · rintro ⟨ws, hc, hl, rfl⟩
    exact ⟨_, _, Int.zero_add (prefixCost conn bos ws) ▸ chain_reach conn F ws bos 0 Reach.bos hc,
      (lastNode_e ws bos).trans hl, hcost ws⟩

/-! ## back-pointers: `argmin` (the index half of `connect_node`) -/

theorem argminGo_snd (n : Node) (row : List Entry) (k : Nat) (best : Option (Nat × Int)) :
    (argminGo conn n row k best).map (·.2) = row.foldl (stepMin conn n) (best.map (·.2)) := by
  fun_induction argminGo conn n row k best with
  | case1 => rfl
  | case2 ent rest i best h ih => simp only [List.foldl_cons, stepMin, h]; exact ih
  | case3 ent rest i t h nc ih => simp only [List.foldl_cons, stepMin, h]; exact ih
  | case4 ent rest i t h nc j m hlt ih => simp only [List.foldl_cons, stepMin, h, Option.map_some]; rw [if_pos hlt]; exact ih
  | case5 ent rest i t h nc j m hge ih => simp only [List.foldl_cons, stepMin, h, Option.map_some]; rw [if_neg hge]; exact ih

theorem argmin_connect (row : List Entry) (n : Node) :
    (argmin conn row n).map (·.2) = connect conn row n :=
  argminGo_snd conn n row 0 none

theorem connect_argmin (row : List Entry) (n : Node) (v : Int) (h : connect conn row n = some v) :
    ∃ i, argmin conn row n = some (i, v) :=
  let ⟨(i, _), ha, hv⟩ := Option.map_eq_some_iff.mp ((argmin_connect conn row n).trans h)
  ⟨i, hv ▸ ha⟩

/-- position `i = k + j` holds a connected entry offering `v`, which beats `best` and every earlier offer of
the row (strict `<`, as in the Rust loop) -/
def FirstMin (n : Node) (row : List Entry) (best : Option (Nat × Int)) (k i : Nat) (v : Int) : Prop :=
  ∃ j m t, i = k + j ∧ row[j]? = some (m, some t) ∧ v = t + conn m.r n.l + n.c ∧
    (∀ a, best = some a → v < a.2) ∧
    ∀ j' m' t', j' < j → row[j']? = some (m', some t') → v < t' + conn m'.r n.l + n.c

variable {conn} in
theorem FirstMin.lt {n : Node} {row : List Entry} {best : Option (Nat × Int)} {k i : Nat} {v : Int}
    (h : FirstMin conn n row best k i v) : ∀ a, best = some a → v < a.2 := by
  obtain ⟨_, _, _, _, _, _, hb, _⟩ := h
  exact hb

theorem firstMin_here {n m : Node} {t : Int} {rest : List Entry} {best : Option (Nat × Int)} {k : Nat}
    (hb : ∀ a, best = some a → t + conn m.r n.l + n.c < a.2) :
    FirstMin conn n ((m, some t) :: rest) best k k (t + conn m.r n.l + n.c) :=
  ⟨0, m, t, rfl, rfl, rfl, hb, fun _ _ _ h => absurd h (Nat.not_lt_zero _)⟩

theorem firstMin_cons {n m : Node} {o : Option Int} {rest : List Entry} {best best' : Option (Nat × Int)} {k i : Nat}
    {v : Int} (h : FirstMin conn n rest best' (k + 1) i v) (hhead : ∀ t, o = some t → v < t + conn m.r n.l + n.c)
    (hb : ∀ a, best = some a → v < a.2) : FirstMin conn n ((m, o) :: rest) best k i v := by
  obtain ⟨j, m1, t1, hi, hg, hv, _, hfirst⟩ := h
  refine ⟨j + 1, m1, t1, by rw [hi, Nat.add_right_comm, Nat.add_assoc], hg, hv, hb, ?_⟩
  intro j' m' t' hj' hg'
  cases j' with
  | zero => cases hg'; exact hhead t' rfl
  | succ j'' => exact hfirst j'' m' t' (Nat.lt_of_succ_lt_succ hj') hg'

/-- the index component: either the incoming best survives, or the result is the first position of
the row that beats the incoming best and is not beaten later -/
theorem argminGo_idx (n : Node) (row : List Entry) (k : Nat) (best : Option (Nat × Int)) (i : Nat) (v : Int)
    (h : argminGo conn n row k best = some (i, v)) : best = some (i, v) ∨ FirstMin conn n row best k i v := by
  fun_induction argminGo conn n row k best with
  | case1 => exact Or.inl h
  | case2 ent rest k best he ih =>
    obtain ⟨m, o⟩ := ent; cases he
    exact (ih h).imp id fun hr => firstMin_cons conn hr nofun hr.lt
  | case3 ent rest k t he nc ih =>
    obtain ⟨m, o⟩ := ent; cases he
    rcases ih h with hb | hr
    · obtain ⟨rfl, rfl⟩ := Prod.mk.inj (Option.some.inj hb); exact Or.inr (firstMin_here conn nofun)
    · exact Or.inr (firstMin_cons conn hr (fun _ h => by cases h; exact hr.lt _ rfl) nofun)
  | case4 ent rest k t he nc j m' hlt ih =>
    obtain ⟨m, o⟩ := ent; cases he
    rcases ih h with hb | hr
    · obtain ⟨rfl, rfl⟩ := Prod.mk.inj (Option.some.inj hb); exact Or.inr (firstMin_here conn fun a ha => by cases ha; exact hlt)
    · exact Or.inr (firstMin_cons conn hr (fun _ h => by cases h; exact hr.lt _ rfl)
        (fun a ha => by cases ha; exact Int.lt_trans (hr.lt _ rfl) hlt))
  | case5 ent rest k t he nc j m' hge ih =>
    obtain ⟨m, o⟩ := ent; cases he
    rcases ih h with hb | hr
    · exact Or.inl hb
    · exact Or.inr (firstMin_cons conn hr
        (fun _ h => by cases h; exact Int.lt_of_lt_of_le (hr.lt _ rfl) (Int.not_lt.mp hge)) hr.lt)

theorem argmin_some (row : List Entry) (n : Node) (i : Nat) (v : Int) (h : argmin conn row n = some (i, v)) :
    ∃ m t, row[i]? = some (m, some t) ∧ v = t + conn m.r n.l + n.c ∧
      (∀ (j : Nat) (m' : Node) (t' : Int), row[j]? = some (m', some t') → v ≤ t' + conn m'.r n.l + n.c) ∧
      (∀ (j : Nat) (m' : Node) (t' : Int), j < i → row[j]? = some (m', some t') → v < t' + conn m'.r n.l + n.c) := by
  have hc : connect conn row n = some v := by rw [← argmin_connect, h]; rfl
  rcases argminGo_idx conn n row 0 none i v h with hb | ⟨j, m, t, hi, hg, hv, _, hfirst⟩
  · cases hb
  · rw [Nat.zero_add] at hi
    subst hi
    exact ⟨m, t, hg, hv, fun j m' t' hj => (hc ▸ connect_isMin conn row n).2 _ ⟨_, List.mem_of_getElem? hj, t', rfl, rfl⟩, hfirst⟩

/-! ## stored totals are `connect` over the FINAL rows -/

/-- rows at `n.b` do not change after `n` was inserted: by the insertion order no later node ends there -/
theorem stored_build : ∀ (ns : List Node) (rows : Rows), (∀ n ∈ ns, n.b < n.e) → Ordered ns →
    (∀ e, ∀ ent ∈ rows e, ent.1 ≠ bos →
      ent.2 = connect conn (rows ent.1.b) ent.1 ∧ ∀ n ∈ ns, n.e ≠ ent.1.b) →
    ∀ e, ∀ ent ∈ build conn ns rows e, ent.1 ≠ bos →
      ent.2 = connect conn (build conn ns rows ent.1.b) ent.1 := by
  intro ns
  induction ns with
  | nil => intro rows _ _ h e ent hent hne; exact (h e ent hent hne).1
  | cons n ns ih =>
    intro rows hwf hord h
    refine ih (insert conn rows n) (fun x hx => hwf x (List.mem_cons_of_mem _ hx)) hord.2 ?_
    intro e ent hent hne
    rcases (mem_insert conn).mp hent with ho | ⟨rfl, rfl⟩
    · obtain ⟨h1, h2⟩ := h e ent ho hne
      rw [insert_other conn rows n _ (fun hc => h2 n (List.mem_cons_self ..) hc.symm)]
      exact ⟨h1, fun n' hn' => h2 n' (List.mem_cons_of_mem _ hn')⟩
    · rw [insert_other conn rows n _ (Nat.ne_of_lt (hwf n (List.mem_cons_self ..)))]
      exact ⟨rfl, hord.1⟩

theorem stored_total (F : List Node) (hwf : WF F) (hord : Ordered F) :
    ∀ e, ∀ ent ∈ build conn F init e, ent.1 ≠ bos →
      ent.2 = connect conn (build conn F init ent.1.b) ent.1 := by
  refine stored_build conn F init hwf hord fun e ent hent hne => ?_
  obtain ⟨_, rfl⟩ := mem_init hent
  exact absurd rfl hne

/-! ## following the back-pointers (`fill_top_path`) -/

theorem bos_total (F : List Node) (hwf : WF F) {rows : Rows} {done : List Node} (hinv : Inv conn F rows done)
    {e : Nat} {t : Option Int} (h : (bos, t) ∈ rows e) : t = some 0 := by
  have hopt := (hinv.sound e (bos, t) h).2.2
  cases t with
  | none => exact absurd Reach.bos (hopt 0)
  | some v => rw [reach_bos conn F hwf hopt.1]

theorem back_step (F : List Node) (rows : Rows)
    (hs : ∀ e, ∀ ent ∈ rows e, ent.1.e = e ∧ (ent.1 = bos ∨ ent.1 ∈ F)) {n : Node} {tn : Int}
    (h : connect conn (rows n.b) n = some tn) :
    ∃ j m t, argmin conn (rows n.b) n = some (j, tn) ∧ (rows n.b)[j]? = some (m, some t) ∧
      tn = t + conn m.r n.l + n.c ∧ m.e = n.b ∧ (m = bos ∨ m ∈ F) := by
  obtain ⟨j, hj⟩ := connect_argmin conn _ n tn h
  obtain ⟨m, t, hg, hv, _⟩ := argmin_some conn _ n j tn hj
  obtain ⟨he, hF⟩ := hs _ _ (List.mem_of_getElem? hg)
  exact ⟨j, m, t, hj, hg, hv, he, hF⟩

theorem pathFrom_step {rows : Rows} {n m : Node} {j : Nat} {tn : Int} {o : Option Int}
    (hj : argmin conn (rows n.b) n = some (j, tn)) (hg : (rows n.b)[j]? = some (m, o)) {fuel : Nat}
    (hf : n.b < fuel) (acc : List Node) :
    pathFrom conn rows fuel n acc = if m.e = 0 then acc else pathFrom conn rows (fuel - 1) m (m :: acc) := by
  obtain ⟨f, rfl⟩ := Nat.exists_eq_succ_of_ne_zero (Nat.ne_of_gt (Nat.zero_lt_of_lt hf))
  rw [pathFrom]; simp only [hj, hg, Nat.succ_sub_one]

/-- the walk from a connected node `n` down to BOS returns, in front of `acc`, a chain `P` of candidates from BOS
to the begin of `n`, the same for every sufficient fuel (every step goes to a node ending where the current one
begins, and candidates are non-empty); the total offered to `n` is the cost of `P` plus the step into `n`, and
every node of `P` is stored with the cost of the chain up to and including it -/
theorem pathFrom_spec (F : List Node) (hwf : WF F) (rows : Rows) (done : List Node)
    (hinv : Inv conn F rows done)
    (hst : ∀ e, ∀ ent ∈ rows e, ent.1 ≠ bos → ent.2 = connect conn (rows ent.1.b) ent.1) :
    ∀ (k : Nat) (n : Node) (tn : Int), n.b < k → connect conn (rows n.b) n = some tn →
      ∃ P, (∀ fuel acc, n.b < fuel → pathFrom conn rows fuel n acc = P ++ acc) ∧
        IsChain F bos P ∧ (lastNode bos P).e = n.b ∧
        tn = prefixCost conn bos P + conn (lastNode bos P).r n.l + n.c ∧
        ∀ p₁ x p₂, P = p₁ ++ x :: p₂ → (x, some (prefixCost conn bos (p₁ ++ [x]))) ∈ rows x.e := by
  intro k
  induction k with
  | zero => intro n tn h; exact absurd h (Nat.not_lt_zero _)
  | succ k ih =>
    intro n tn hk hc
    obtain ⟨j, m, t, hj, hg, hv, hme, hmF⟩ := back_step conn F rows
      (fun e ent h => ⟨(hinv.sound e ent h).1, (hinv.sound e ent h).2.1⟩) hc
    have hmem : (m, some t) ∈ rows n.b := List.mem_of_getElem? hg
    rcases hmF with rfl | hmF
    · cases bos_total conn F hwf hinv hmem
      refine ⟨[], fun fuel acc hf => (pathFrom_step conn hj hg hf acc).trans (if_pos rfl), trivial, hme, hv, ?_⟩
      intro p₁ x p₂ h
      cases p₁ <;> cases h
    · have hmbe := hwf m hmF
      have hm0 : m.e ≠ 0 := Nat.ne_of_gt (Nat.zero_lt_of_lt hmbe)
      have hmb : m.b < n.b := hme ▸ hmbe
      obtain ⟨P, hP, h1, h2, h3, h4⟩ := ih m t (Nat.lt_of_lt_of_le hmb (Nat.le_of_lt_succ hk)) (hst _ _ hmem (fun h : m = bos => hm0 (congrArg Node.e h))).symm
      have hcost : prefixCost conn bos (P ++ [m]) = t := (prefixCost_snoc conn m P bos).trans h3.symm
      refine ⟨P ++ [m], ?_, (isChain_snoc F m P bos).mpr ⟨h1, hmF, h2.symm⟩, (congrArg Node.e (lastNode_snoc m P bos)).trans hme, ?_, ?_⟩
      · intro fuel acc hf
        rw [pathFrom_step conn hj hg hf acc, if_neg hm0, hP _ _ (Nat.lt_of_lt_of_le hmb (Nat.le_sub_one_of_lt hf)), List.append_assoc]; rfl
      · rw [hcost, lastNode_snoc]; exact hv
      · intro p₁ x p₂ h
        rcases List.eq_nil_or_concat p₂ with rfl | ⟨q, y, rfl⟩
        · obtain ⟨rfl, hx⟩ := List.append_inj' h rfl
          cases hx
          rw [hcost]; exact hme ▸ hmem
        · rw [List.concat_eq_append, ← List.cons_append, ← List.append_assoc] at h
          exact h4 p₁ x q (List.append_inj' h rfl).1

/-- `pathFrom_spec` at the EOS node, in the words of the C02 statements -/
theorem bestPath_spec (F : List Node) (hwf : WF F) (rows : Rows) (done : List Node)
    (hinv : Inv conn F rows done)
    (hst : ∀ e, ∀ ent ∈ rows e, ent.1 ≠ bos → ent.2 = connect conn (rows ent.1.b) ent.1)
    (len : Nat) (v : Int) (h : eosCost conn rows len = some v) :
    IsChain F bos (bestPath conn rows len) ∧ lastEnd bos (bestPath conn rows len) = len ∧
    chainCost conn bos (bestPath conn rows len) = v ∧
    (∀ fuel, len + 1 ≤ fuel → pathFrom conn rows fuel (eosNode len) [] = bestPath conn rows len) ∧
    ∀ p₁ x p₂, bestPath conn rows len = p₁ ++ x :: p₂ →
      (x, some (prefixCost conn bos (p₁ ++ [x]))) ∈ rows x.e := by
  obtain ⟨P, hP, h1, h2, h3, h4⟩ := pathFrom_spec conn F hwf rows done hinv hst (len + 1) (eosNode len) v
    (Nat.lt_succ_self len) h
  have hfuel : ∀ fuel, len + 1 ≤ fuel → pathFrom conn rows fuel (eosNode len) [] = P :=
    fun fuel hf => (hP fuel [] hf).trans (List.append_nil P)
  rw [show bestPath conn rows len = P from hfuel _ (Nat.le_refl _)]
  exact ⟨h1, (lastNode_e P bos).symm.trans h2, (chainCost_prefix conn P bos).trans ((Int.add_zero _).symm.trans h3.symm),
    hfuel, h4⟩

/-! ## contiguity of a chain, in the form C01 consumes -/

theorem chain_ends (F : List Node) (hwf : WF F) : ∀ (p : List Node) (prev : Node), IsChain F prev p →
    (∀ x ∈ p, prev.e < x.e) ∧ (p.Pairwise (fun a b => a.e < b.e)) ∧ prev.e ≤ lastEnd prev p ∧
    ∀ x ∈ p, x.e ≤ lastEnd prev p := by
  intro p
  induction p with
  | nil => intro prev _; exact ⟨nofun, List.Pairwise.nil, Nat.le_refl _, nofun⟩
  | cons n rest ih =>
    intro prev h
    obtain ⟨hn, hb, hc⟩ := h
    obtain ⟨i1, i2, i3, i4⟩ := ih n hc
    have hlt : prev.e < n.e := hb ▸ hwf n hn
    refine ⟨List.forall_mem_cons.mpr ⟨hlt, fun x hx => Nat.lt_trans hlt (i1 x hx)⟩,
      List.pairwise_cons.mpr ⟨i1, i2⟩, Nat.le_trans (Nat.le_of_lt hlt) i3, List.forall_mem_cons.mpr ⟨i3, i4⟩⟩

theorem getLast_cons_eq_lastNode : ∀ (q : List Node) (prev : Node),
    (prev :: q).getLast (List.cons_ne_nil _ _) = lastNode prev q := by
  intro q
  induction q with
  | nil => intro _; rfl
  | cons y ys ih => intro prev; exact (List.getLast_cons (List.cons_ne_nil _ _)).trans (ih y)

/-- byte ends of the tokens of a chain from BOS, read off a non-decreasing table `tab` (the
character→byte table): a non-decreasing list that starts at `tab[0]` and ends at `tab[len]`, every
index in range -/
theorem chain_cuts (F : List Node) (hwf : WF F) (tab : List Nat) (htab : tab.Pairwise (· ≤ ·))
    (p : List Node) (hc : IsChain F bos p) (hlen : lastEnd bos p < tab.length) :
    (((tab[0]?).getD 0) :: p.map (fun n => (tab[n.e]?).getD 0)).Pairwise (· ≤ ·) ∧
    (((tab[0]?).getD 0) :: p.map (fun n => (tab[n.e]?).getD 0)).getLast (List.cons_ne_nil _ _) =
      (tab[lastEnd bos p]?).getD 0 ∧
    ∀ x ∈ p, x.e < tab.length := by
  obtain ⟨h1, h2, _, h4⟩ := chain_ends F hwf p bos hc
  have hin : ∀ x ∈ p, x.e < tab.length := fun x hx => Nat.lt_of_le_of_lt (h4 x hx) hlen
  have hmono : ∀ a b : Nat, a ≤ b → b < tab.length → (tab[a]?).getD 0 ≤ (tab[b]?).getD 0 := by
    intro a b hab hb
    rcases Nat.lt_or_eq_of_le hab with hlt | rfl
    · have ha : a < tab.length := Nat.lt_trans hlt hb
      rw [List.getElem?_eq_getElem ha, List.getElem?_eq_getElem hb]
      exact List.pairwise_iff_getElem.mp htab a b ha hb hlt
    · exact Nat.le_refl _
  -- the list is the image of `bos :: p` (`bos.e = 0`)
  refine ⟨?_, ?_, hin⟩
  · have hp : (bos :: p).Pairwise (fun a b => a.e ≤ b.e ∧ b.e < tab.length) :=
      List.pairwise_cons.mpr ⟨fun x hx => ⟨Nat.le_of_lt (h1 x hx), hin x hx⟩,
        h2.imp_of_mem (fun {a b} _ hb hab => ⟨Nat.le_of_lt hab, hin b hb⟩)⟩
    exact List.Pairwise.map (fun n => (tab[n.e]?).getD 0) (fun a b ⟨hab, hb⟩ => hmono a.e b.e hab hb) hp
  · exact (List.getLast_map (f := fun n : Node => (tab[n.e]?).getD 0) (l := bos :: p) (List.cons_ne_nil _ _)).trans
      (congrArg (fun e => (tab[e]?).getD 0)
        ((congrArg Node.e (getLast_cons_eq_lastNode p bos)).trans (lastNode_e p bos)))

/-! ## the vector-of-rows implementation refines the functional lattice -/

theorem rowAt_setRow (rs : List (List Entry)) (k : Nat) (r : List Entry) (e : Nat) :
    rowAt (setRow rs k r) e = if e = k then r else rowAt rs e := by
  have hs : ∀ {e k : Nat} {r s : List Entry}, (if e = k then r else s) = if e + 1 = k + 1 then r else s := by
    intro e k r s; simp only [Nat.add_right_cancel_iff]
  fun_induction setRow rs k r generalizing e with
  | case1 r => cases e <;> rfl
  | case2 k r ih => cases e with | zero => rfl | succ e => exact (ih e).trans hs
  | case3 x xs r => cases e <;> rfl
  | case4 x xs k r ih => cases e with | zero => rfl | succ e => exact (ih e).trans hs

theorem rowAt_insertL (rs : List (List Entry)) (n : Node) :
    rowAt (insertL conn rs n) = insert conn (rowAt rs) n := by
  funext e
  rw [insertL, rowAt_setRow, insert]
  by_cases h : e = n.e
  · rw [if_pos h, if_pos h, h]
  · rw [if_neg h, if_neg h]

theorem rowAt_initL : rowAt initL = init := by
  funext e
  cases e <;> rfl

theorem rowAt_buildL : ∀ (ns : List Node) (rs : List (List Entry)),
    rowAt (buildL conn ns rs) = build conn ns (rowAt rs) := by
  intro ns
  induction ns with
  | nil => intro rs; rfl
  | cons n ns ih => intro rs; simp only [buildL, build, ih, rowAt_insertL]

theorem buildT_fst : ∀ (ns : List Node) (rs : List (List Entry)) (acc : List (Option Int)),
    (buildT conn ns rs acc).1 = buildL conn ns rs := by
  intro ns
  induction ns with
  | nil => intro rs acc; rfl
  | cons n ns ih => intro rs acc; simp only [buildT, buildL, ih]

end Vit
