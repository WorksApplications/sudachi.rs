import Sudachi.Proofs.NumericSim
/-!
# The forward simulation and the normal form (C15)

A written number leaves the parser in a state given in closed form (`pushInt_eq`, `pushRun_props`: the
number stands `Closed` in `tmp`).  A well-formed numeral whose terms fit is followed through the parser
term by term on the refinement `Acc` of `NumericSim` (`run_smalls`, `run_group`, `run_larges`), one
step lemma per unit: every character is accepted, `done()` holds and `total` ends up holding
`numeralPN a` (`run_numeral`), whose rendering is the normal form `canon` (`parse_render_pn`).
-/
namespace Numeric

/-! ## a written number from the start state, in closed form -/

variable (v : Variant)

def Parser.pushInt (p : Parser) (i : IntPart) : Parser := (p.pushDigits i.g1).pushGroups i.gs

theorem pushInt_eq (p : Parser) (hs : AtStart p) (i : IntPart) (hwf : i.WF) : p.pushInt i =
    { p with tmp := { p.tmp with sig := canonInt i, allZero := allZeroDigits (i.g1 ++ i.gs.flatten) },
             isFirstDigit := false, hasComma := !i.gs.isEmpty,
             digitLength := if i.gs.isEmpty then i.g1.length else 3, hasHangingPoint := false } := by
  obtain ⟨h1, h2, h3⟩ := hwf
  have hg1 : i.g1.isEmpty = false := List.isEmpty_eq_false_iff.2 h1
  unfold Parser.pushInt
  cases hgs : i.gs with
  | nil => simp [Parser.pushGroups, pushDigits_eq, canonInt, hgs, hg1, hs.comma, hs.hanging, hs.digitLength, hs.sig, hs.allZero]
  | cons g gs =>
    rw [pushGroups_eq _ (hgs ▸ h3) (List.cons_ne_nil _ _), pushDigits_eq]
    simp [canonInt, canonDigits, allZeroDigits, hs.sig, hs.allZero, hgs]

theorem run_int (p : Parser) (hs : AtStart p) (i : IntPart) (hwf : i.WF) :
    p.run v (renderInt i) = some (p.pushInt i) := by
  obtain ⟨h1, h2, h3⟩ := hwf
  have hg1 : i.g1.isEmpty = false := List.isEmpty_eq_false_iff.2 h1
  rw [renderInt, run_append, run_digits, Parser.pushInt]
  cases hgs : i.gs with
  | nil => rfl
  | cons g gs =>
    obtain ⟨hl, hz⟩ := h2 (by rw [hgs]; simp)
    exact run_groups v (g :: gs) (hgs ▸ h3) (p.pushDigits i.g1)
      (by rw [pushDigits_eq]; simp [Parser.checkComma, SN.isZero, hg1, hs.comma, hs.digitLength, hs.sig, hs.point, hs.allZero, hz, hl,
        canonDigits_ne i.g1 h1])
      (by rw [pushDigits_eq]; exact hs.point)

theorem append_point_int (p : Parser) (hs : AtStart p) (i : IntPart) (hwf : i.WF) :
    (p.pushInt i).append v '.' = (true, (p.pushInt i).pushPoint) := by
  rw [pushInt_eq p hs i hwf]
  refine (append_point_iff v _ _).2 ⟨rfl, rfl, ?_, hs.scale, hs.point⟩
  cases i.gs with
  | nil => exact nofun
  | cons g gs => exact fun _ => by simp [Parser.checkComma, hs.point]

def Parser.pushRun (p : Parser) (r : Run) : Parser :=
  if r.frac.isEmpty then p.pushInt r.int else ((p.pushInt r.int).pushPoint).pushDigits r.frac

theorem run_number (p : Parser) (hs : AtStart p) (r : Run) (hwf : r.WF) :
    p.run v (renderRun r) = some (p.pushRun r) := by
  unfold renderRun Parser.pushRun
  cases hfr : r.frac with
  | nil => simpa using run_int v p hs r.int hwf
  | cons f fs =>
    simp only [List.isEmpty_cons, Bool.false_eq_true, if_false]
    rw [run_append, run_int v p hs r.int hwf]
    exact (run_cons v _ _ _ _ (append_point_int v p hs r.int hwf)).trans (run_digits v _ _)

theorem pushRun_props (p : Parser) (hs : AtStart p) (r : Run) (hwf : r.WF) :
    Frame p (p.pushRun r) ∧ Closed (p.pushRun r) (some r) := by
  have hne : canonInt r.int ≠ [] := canonDigits_ne _ (by simp [hwf.1])
  unfold Parser.pushRun
  cases hfr : r.frac with
  | nil =>
    rw [List.isEmpty_nil, if_pos rfl, pushInt_eq p hs r.int hwf]
    refine ⟨⟨rfl, rfl, rfl, rfl⟩, rfl, ?_, hwf, ⟨hne, by simp [hs.point]⟩, hs.bad, ?_, ?_⟩
    · cases r.int.gs <;> simp
    · simp [runPN, hfr, canonDigits]
    · simp [runPN, hfr, SN.avail, SN.fracLen, hs.point, hs.scale]
  | cons f fs =>
    rw [List.isEmpty_cons, if_neg Bool.false_ne_true, pushDigits_eq, pushInt_eq p hs r.int hwf]
    have hpos : 0 < (canonInt r.int).length := List.length_pos_iff.mpr hne
    refine ⟨⟨rfl, rfl, rfl, rfl⟩, rfl, fun hc => Bool.noConfusion hc, hwf, ⟨?_, ?_⟩, hs.bad, ?_, ?_⟩
    · simp [Parser.pushPoint, hne]
    · intro q hq
      simp only [Parser.pushPoint, Option.some.injEq] at hq
      simp only [Parser.pushPoint, List.length_append]
      omega
    · simp [Parser.pushPoint, runPN, hfr]
    · simp [SN.avail, SN.fracLen, Parser.pushPoint, hs.scale, runPN, hfr, canonDigits]

def Parser.pushCoef (p : Parser) : Option Run → Parser
  | none => p
  | some r => p.pushRun r

theorem run_coef (p : Parser) (hs : AtStart p) (c : Option Run) (hwf : coefWF c) :
    p.run v (renderCoef c) = some (p.pushCoef c) := by
  cases c with
  | none => rfl
  | some r => exact run_number v p hs r hwf

theorem pushCoef_props (p : Parser) (hs : AtStart p) (c : Option Run) (hwf : coefWF c) :
    Frame p (p.pushCoef c) ∧ Closed (p.pushCoef c) c := by
  cases c with
  | none =>
    refine ⟨⟨rfl, rfl, rfl, rfl⟩, hs.hanging, ?_, trivial, hs.sig, hs.point, hs.scale, hs.bad⟩
    intro hc; simp only [Parser.pushCoef] at hc; rw [hs.comma] at hc; cases hc
  | some r => exact pushRun_props p hs r hwf

/-! ## the terms of a group, the groups of a numeral -/

theorem run_smalls (S : List (Option Run × SmallU)) (hw : ∀ t ∈ S, coefWF t.1) {p : Parser}
    {L : List (Group × LargeU)} {S0 : List (Option Run × SmallU)} (hs : AtStart p) (h : Acc v p L S0)
    (hfit : FitL (joinList none (smallsPN S0)) (smallsPN S)) :
    ∃ p', p.run v (renderSmalls S) = some p' ∧ AtStart p' ∧ Acc v p' L (S0 ++ S) := by
  induction S generalizing p S0 with
  | nil => exact ⟨p, rfl, hs, by simpa using h⟩
  | cons t S ih =>
    obtain ⟨c, u⟩ := t
    have hwc : coefWF c := hw (c, u) (by simp)
    obtain ⟨hfr, hcl⟩ := pushCoef_props p hs c hwc
    simp only [smallsPN, List.map_cons, FitL] at hfit
    obtain ⟨ha, hacc, hs'⟩ := (h.frame hfr).small u hcl hfit.1
    obtain ⟨p', g1, g2, g3⟩ := ih (fun t ht => hw t (by simp [ht])) hs' hacc
      (by simpa [smallsPN, joinList_append, joinList] using hfit.2)
    refine ⟨p', ?_, g2, by simpa using g3⟩
    rw [show renderSmalls ((c, u) :: S) = renderCoef c ++ u.char :: renderSmalls S by simp [renderSmalls],
      run_append, run_coef v p hs c hwc]
    exact (run_cons v _ _ _ _ ha).trans g1

/-- a whole group up to (not including) what closes it: the small-unit terms are in `subtotal`, the
plain number stands complete in `tmp` -/
theorem run_group (g : Group) (hw : g.WF) {p : Parser} {L : List (Group × LargeU)} (hs : AtStart p)
    (h : Acc v p L []) (hfit : FitL none (groupList g)) :
    ∃ q, p.run v (renderGroup g) = some q ∧ Acc v q L g.smalls ∧
      Closed q g.last ∧ FitL (joinList none (smallsPN g.smalls)) (g.last.map runPN).toList := by
  obtain ⟨hf1, hf2⟩ := (fitL_append none _ _).1 hfit
  obtain ⟨p1, g1, g2, g3⟩ := run_smalls v g.smalls hw.1 hs h hf1
  obtain ⟨hfr, hcl⟩ := pushCoef_props p1 g2 g.last hw.2
  refine ⟨_, ?_, by simpa using g3.frame hfr, hcl, hf2⟩
  rw [renderGroup, run_append, g1]
  exact run_coef v p1 g2 g.last hw.2

theorem run_larges (L : List (Group × LargeU)) (hw : ∀ t ∈ L, t.1.WF ∧ t.1.Nonempty) {p : Parser}
    {L0 : List (Group × LargeU)} (hord : ((L0 ++ L).map (fun t => t.2.exp)).Pairwise (· > ·))
    (hfg : ∀ t ∈ L, FitL none (groupList t.1)) (hs : AtStart p) (h : Acc v p L0 [])
    (hfit : FitL (joinList none (largesPN L0)) (largesPN L)) :
    ∃ p', p.run v (renderLarges L) = some p' ∧ AtStart p' ∧ Acc v p' (L0 ++ L) [] := by
  induction L generalizing p L0 with
  | nil => exact ⟨p, rfl, hs, by simpa using h⟩
  | cons t L ih =>
    obtain ⟨g, U⟩ := t
    obtain ⟨hgw, hgn⟩ := hw (g, U) (by simp)
    obtain ⟨q, e1, hacc, hcl, hf2⟩ := run_group v g hgw hs h (hfg (g, U) (by simp))
    obtain ⟨x, hx⟩ := groupPN_some g hgn
    rw [show largesPN ((g, U) :: L) = x.shift U.exp :: largesPN L by simp [largesPN, hx]] at hfit
    have hlt : ∀ t ∈ L0, t.2.exp > U.exp := fun t ht => by
      rw [List.map_append, List.pairwise_append] at hord
      exact hord.2.2 _ (List.mem_map.2 ⟨t, ht, rfl⟩) _ (by simp)
    obtain ⟨ha, hacc', hs'⟩ := hacc.large U hcl hf2 x hx hfit.1 hlt
    obtain ⟨p', k1, k2, k3⟩ := ih (fun t ht => hw t (by simp [ht])) (L0 := L0 ++ [(g, U)]) (by simpa using hord)
      (fun t ht => hfg t (by simp [ht])) hs' hacc'
      (by simpa [largesPN_snoc L0 g U x hx, joinList_append, joinList] using hfit.2)
    refine ⟨p', ?_, k2, by simpa using k3⟩
    rw [show renderLarges ((g, U) :: L) = renderGroup g ++ U.char :: renderLarges L by simp [renderLarges],
      run_append, e1]
    exact (run_cons v _ _ _ _ ha).trans k1

/-! ## the whole numeral and its normal form -/

/-- the normal form the code computes for the numeral `a`: `to_string` of the positional number;
with repair F5 the leading zeros are stripped when a unit was written -/
def canon (v : Variant) (a : Numeral) : List Char :=
  if v.f5 && a.hasUnit then Parser.stripLeadingZeros (PN.renderO (numeralPN a)) else PN.renderO (numeralPN a)

theorem bool_unit4 (a b c : Bool) : (a && ((a && !b) || ((a && !c) || false))) = (a && (!c || !b)) := by
  cases a <;> cases b <;> cases c <;> rfl

/-- **forward simulation, the state at the end of the text**: every character of a well-formed
numeral whose terms fit is accepted, `done()` holds, and the total then holds exactly the positional
number of the numeral -/
theorem run_numeral (a : Numeral) (hw : a.WF) (hf : a.FitsPN) :
    ∃ q : Parser, Parser.new.run v (render a) = some q ∧ (q.done v).1 = true ∧
      (q.done v).2.total.RepO (numeralPN a) ∧ (q.done v).2.anyBad = false ∧
      (q.done v).2.hasUnit = (v.f5 && a.hasUnit) := by
  obtain ⟨w1, w2, w3⟩ := hw
  obtain ⟨f1, f2⟩ := (fitL_append none _ _).1 hf.chain
  obtain ⟨p1, g1, g2, g3⟩ := run_larges v a.larges w1 (L0 := []) w2 hf.larges atStart_new acc_new f1
  obtain ⟨q, e1, hacc, hcl, hf2⟩ := run_group v a.rest w3 g2 g3 hf.rest
  obtain ⟨d1, d2, d3, d4⟩ := hacc.done hcl hf2 f2
  refine ⟨q, ?_, d1, d2, d3, d4.trans hacc.unit⟩
  rw [render, run_append, g1]
  exact e1

theorem parse_render_pn (a : Numeral) (hw : a.WF) (hf : a.FitsPN)
    (hd : ∀ x, numeralPN a = some x → ∀ c ∈ x.ds, c ≠ '.') : parse v (render a) = some (canon v a) := by
  obtain ⟨q, hrun, d1, d2, d3, d4⟩ := run_numeral v a hw hf
  refine (parse_iff v _ _ q hrun).2 ⟨d1, d3, ?_⟩
  unfold Parser.getNormalized
  rw [repO_toStr _ _ d2 hd, d4]
  simp only [canon, Bool.and_self_left]

theorem numeralPN_hi (a : Numeral) (hw : a.WF) (hf : a.FitsPN) : ∀ x, numeralPN a = some x → 1 ≤ x.hi := by
  intro x hx
  -- read off the parser: its `total` holds `x` at the end of the text, and a number held is `Good`
  obtain ⟨q, _, _, d2, _, _⟩ := run_numeral Variant.pinned a hw hf
  rw [hx] at d2
  rw [← rep_hi _ x d2]
  exact good_hi_pos _ d2.1

end Numeric
