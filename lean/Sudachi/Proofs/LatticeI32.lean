import Sudachi.Proofs.Lattice
import Sudachi.Proofs.Total
/-!
# The `i32` lattice of C03 (`Total.buildAll addI32 I32_MAX`) equals the unbounded lattice of C02
under C03's no-overflow side condition

C02's model keeps costs in `Int` and writes `none` for the sentinel `i32::MAX`; C03's model
(`Model/Total.lean`) performs the two checked `i32` additions of `connect_node` and compares with the
sentinel.  Under the hypotheses of `C03.cost_no_overflow_partial` (connection costs and word costs in `i16`,
at most 32767 characters) the two coincide: every row of the model lattice is `decRow` of the `i32` row (the sentinel read as
"not connected", so same nodes and totals `enc` of the model's: `decRow_enc`), same back-pointers, same EOS result.  What has
to be shown when an entry is pushed is that a connected total is never the sentinel; the bound gives that.

"No overflow inside the bound" is a projection of this: `connectNode_ok` and `buildAll_connectEos_ok` (what C03 states of the
`i32` lattice alone) are read off `connectNode_eq`, `buildAll_rep`, `connectEos_rep`.
-/
namespace Vit
open Total (addI32 I32_MAX I16Conn RowBound RowsInv NodeOk asU16)

variable (conn : Nat → Nat → Int)

/-- the `i32` image of a model total -/
def enc : Option Int → Int
  | none => I32_MAX
  | some v => v

/-- the model row an `i32` row stands for: the sentinel reads "not connected" -/
def decRow (row : List Total.Entry) : List Entry :=
  row.map fun x => (x.node, if x.total = I32_MAX then none else some x.total)

/-- same nodes, and the totals are the `i32` images of the model's -/
theorem decRow_enc (row : List Total.Entry) :
    row.map (fun x => (x.node, x.total)) = (decRow row).map (fun ent => (ent.1, enc ent.2)) := by
  rw [decRow, List.map_map]
  refine List.map_congr_left fun x _ => ?_
  show (x.node, x.total) = (x.node, enc (if x.total = I32_MAX then none else some x.total))
  by_cases h : x.total = I32_MAX
  · rw [if_pos h, h]; rfl
  · rw [if_neg h]; rfl

/-- the `(min_cost, prev_idx.end, prev_idx.index)` state of the `i32` loop for an `argminGo` accumulator -/
def encSt (b : Nat) : Option (Nat × Int) → Int × Nat × Nat
  | none => (I32_MAX, 65535, Total.idxNone)
  | some (j, m) => (m, asU16 b, Total.asU32 j)

/-- the loop of `connect_node` on an `i32` row and on the model row it stands for: an entry at the sentinel is skipped by the one
and is `none` for the other; for a connected one both additions are exact (`Total.addI32_step`) and, the bound being below the
sentinel, `<` compares the same numbers whether the minimum so far is a cost or still the sentinel -/
theorem connGo_eq (hconn : I16Conn conn) (n : Node) (B D : Int) (hc : -D ≤ n.c ∧ n.c ≤ D)
    (hB : B + 32768 + D < 2147483647) :
    ∀ (row : List Total.Entry) (i : Nat) (best : Option (Nat × Int)), RowBound B row →
      (∀ j m, best = some (j, m) → -(B + 32768 + D) ≤ m ∧ m ≤ B + 32768 + D) →
      Total.connGo addI32 I32_MAX conn n row i (encSt n.b best) = some (encSt n.b (argminGo conn n (decRow row) i best)) ∧
      ∀ j m, argminGo conn n (decRow row) i best = some (j, m) → -(B + 32768 + D) ≤ m ∧ m ≤ B + 32768 + D := by
  intro row
  induction row with
  | nil => intro i best _ hb; exact ⟨rfl, hb⟩
  | cons l rest ih =>
    intro i best hrow hb
    have ih' := fun best' => ih (i + 1) best' (fun x hx => hrow x (List.mem_cons_of_mem _ hx))
    rw [Total.connGo, decRow, List.map_cons, argminGo]; dsimp only
    by_cases hm : l.total = I32_MAX
    · rw [if_pos hm, if_pos hm]; exact ih' best hb
    · have hbd : -B ≤ l.total ∧ l.total ≤ B := (hrow _ (List.mem_cons_self ..)).resolve_left hm
      obtain ⟨e1, e2, a3⟩ := Total.addI32_step l.total (conn l.node.r n.l) n.c B D hbd (hconn l.node.r n.l) hc (Int.le_of_lt hB)
      have hb' : ∀ j m, some (i, l.total + conn l.node.r n.l + n.c) = some (j, m) →
          -(B + 32768 + D) ≤ m ∧ m ≤ B + 32768 + D := by
        intro j m h; cases h; exact a3
      rw [if_neg hm, if_neg hm]
      simp only [e1, e2]
      cases best with
      | none =>
        rw [if_pos (show l.total + conn l.node.r n.l + n.c < (encSt n.b none).1 from Int.lt_of_le_of_lt a3.2 hB)]
        exact ih' (some (i, l.total + conn l.node.r n.l + n.c)) hb'
      | some jm =>
        obtain ⟨j, m⟩ := jm
        simp only [encSt]
        by_cases hlt : l.total + conn l.node.r n.l + n.c < m
        · simp only [hlt, if_true]
          exact ih' (some (i, l.total + conn l.node.r n.l + n.c)) hb'
        · simp only [hlt, if_false]
          exact ih' (some (j, m)) hb

/-- **`connect_node` does not overflow** when the left neighbours are within `±B`, the node cost within `±D` and
`B + 32768 + D < 2^31 - 1`: it returns the image of the model's `argmin` on the row the `i32` row stands for, which is within
`±(B + 32768 + D)` -/
theorem connectNode_eq (hconn : I16Conn conn) (n : Node) (B D : Int) (hc : -D ≤ n.c ∧ n.c ≤ D)
    (hB : B + 32768 + D < 2147483647) (row : List Total.Entry) (hrow : RowBound B row) :
    Total.connectNode addI32 I32_MAX conn row n = some (encSt n.b (argmin conn (decRow row) n)) ∧
    ∀ j m, argmin conn (decRow row) n = some (j, m) → -(B + 32768 + D) ≤ m ∧ m ≤ B + 32768 + D :=
  connGo_eq conn hconn n B D hc hB row 0 none hrow (fun _ _ h => by cases h)

theorem connectNode_ok (hconn : I16Conn conn) (n : Node) (B D : Int) (hc : -D ≤ n.c ∧ n.c ≤ D)
    (hB : B + 32768 + D < 2147483647) (row : List Total.Entry) (hrow : RowBound B row) :
    ∃ r, Total.connectNode addI32 I32_MAX conn row n = some r ∧
      (r.1 = I32_MAX ∨ (-(B + 32768 + D) ≤ r.1 ∧ r.1 ≤ B + 32768 + D)) := by
  obtain ⟨h, hb⟩ := connectNode_eq conn hconn n B D hc hB row hrow
  refine ⟨_, h, ?_⟩
  cases ha : argmin conn (decRow row) n with
  | none => exact Or.inl rfl
  | some jm => exact Or.inr (hb jm.1 jm.2 ha)

def RowsRep (len : Nat) (rows : Total.Rows) (frows : Rows) : Prop :=
  ∀ e, e ≤ len → ∃ row, rows[e]? = some row ∧ frows e = decRow row

theorem reset_rep (len : Nat) : RowsRep len (Total.reset len) init := by
  intro e he
  by_cases h0 : e = 0
  · subst h0
    exact ⟨[Total.bosEntry], Total.reset_zero len, rfl⟩
  · have hlt : e < (Total.reset len).size := by rw [Total.reset_size]; omega
    rcases Total.reset_getElem? len e _ (Array.getElem?_eq_getElem hlt) with ⟨h, _⟩ | ⟨_, _, hrow⟩
    · exact absurd h h0
    · exact ⟨[], by rw [Array.getElem?_eq_getElem hlt, hrow], if_neg h0⟩

/-- one `insert` on both sides: the rows it reads exist, `connect_node` returns the image of the model's `argmin`
(`connectNode_eq`); a connected total is within `± 65536 · begin + 65536`, which the bound of the row it is pushed on allows and
which is below the sentinel, so the entry pushed stands for the model's -/
theorem insert_rep (hconn : I16Conn conn) (len : Nat) (hlen : len ≤ 32767)
    (rows : Total.Rows) (frows : Rows) (hinv : RowsInv len rows) (hrep : RowsRep len rows frows)
    (n : Node) (hn : NodeOk len n) :
    ∃ rows' ent, Total.insert addI32 I32_MAX conn rows n = .ok (rows', ent) ∧ RowsInv len rows' ∧
      RowsRep len rows' (insert conn frows n) := by
  obtain ⟨h1, h2, h3, h4⟩ := hn
  obtain ⟨rowB, gB, repB⟩ := hrep n.b (Nat.le_trans (Nat.le_of_lt h1) h2)
  obtain ⟨rowE, gE, repE⟩ := hrep n.e h2
  have hroom : (n.b : Int) * 65536 + 32768 + 32768 < 2147483647 := by omega
  have k1 : (n.b : Int) * 65536 + 32768 + 32768 ≤ (n.e : Int) * 65536 := by omega
  obtain ⟨hcn, hcb⟩ := connectNode_eq conn hconn n ((n.b : Int) * 65536) 32768 ⟨h3, Int.le_trans h4 (by decide)⟩ hroom
    rowB (hinv.2 n.b rowB gB)
  rw [← repB] at hcn hcb
  have hfst : (encSt n.b (argmin conn (frows n.b) n)).1 = enc (connect conn (frows n.b) n) := by
    rw [← argmin_connect]; cases argmin conn (frows n.b) n <;> rfl
  have hreal : ∀ v, connect conn (frows n.b) n = some v →
      (-((n.e : Int) * 65536) ≤ v ∧ v ≤ (n.e : Int) * 65536) ∧ v ≠ I32_MAX := by
    intro v hv
    obtain ⟨j, hj⟩ := connect_argmin conn (frows n.b) n v hv
    obtain ⟨a, b⟩ := hcb j v hj
    exact ⟨⟨Int.le_trans (Int.neg_le_neg k1) a, Int.le_trans b k1⟩, Int.ne_of_lt (Int.lt_of_le_of_lt b hroom)⟩
  generalize encSt n.b (argmin conn (frows n.b) n) = st at hcn hfst
  refine ⟨_, _, Total.insert_of gB hcn gE, ⟨by rw [Array.size_setIfInBounds]; exact hinv.1, ?_⟩, fun e he => ?_⟩
  · refine Total.forall_rows_push
      (fun e y => y.total = I32_MAX ∨ (-((e : Int) * 65536) ≤ y.total ∧ y.total ≤ (e : Int) * 65536)) rows n.e _ _ gE hinv.2 ?_
    show st.1 = I32_MAX ∨ _
    rw [hfst]
    cases hc : connect conn (frows n.b) n with
    | none => exact Or.inl rfl
    | some v => exact Or.inr (hreal v hc).1
  · rw [Total.getElem?_push rows n.e rowE _ gE]
    by_cases hq : n.e = e
    · subst hq
      rw [if_pos rfl]
      refine ⟨_, rfl, ?_⟩
      simp only [insert, if_true, decRow, List.map_append, List.map_cons, List.map_nil, hfst]
      rw [repE, decRow]
      cases hc : connect conn (frows n.b) n with
      | none => rw [if_pos (show enc none = I32_MAX from rfl)]
      | some v => rw [if_neg (show enc (some v) ≠ I32_MAX from (hreal v hc).2)]; rfl
    · rw [if_neg hq]
      obtain ⟨row, g, rep⟩ := hrep e he
      exact ⟨row, g, by rw [insert_other conn frows n e fun h => hq h.symm]; exact rep⟩

theorem buildAll_rep (hconn : I16Conn conn) (len : Nat) (hlen : len ≤ 32767) :
    ∀ (F : List Node) (rows : Total.Rows) (frows : Rows) (acc : List Total.Entry), RowsInv len rows →
      RowsRep len rows frows → (∀ n ∈ F, NodeOk len n) →
      ∃ rows' ents, Total.buildAll addI32 I32_MAX conn F rows acc = .ok (rows', ents) ∧ RowsInv len rows' ∧
        RowsRep len rows' (build conn F frows) := by
  intro F
  induction F with
  | nil => intro rows frows acc hinv hrep _; exact ⟨rows, acc.reverse, rfl, hinv, hrep⟩
  | cons n ns ih =>
    intro rows frows acc hinv hrep hF
    obtain ⟨rows', ent, h1, h2, h3⟩ := insert_rep conn hconn len hlen rows frows hinv hrep n (hF n (by simp))
    unfold Total.buildAll
    rw [h1]
    exact ih rows' _ (ent :: acc) h2 h3 (fun m hm => hF m (by simp [hm]))

/-- `connect_eos` on both sides: the minimum over the last row is the model's `argmin`, `Disconnect` exactly when there is none -/
theorem connectEos_rep (hconn : I16Conn conn) (len : Nat) (hlen : len ≤ 32767)
    (rows : Total.Rows) (frows : Rows) (hinv : RowsInv len rows) (hrep : RowsRep len rows frows) :
    Total.connectEos addI32 I32_MAX conn rows len =
      match argmin conn (frows len) (eosNode len) with
      | none => .err "Disconnect"
      | some (j, v) => .ok (v, len, Total.asU32 j) := by
  have hid : asU16 len = len := Total.asU16_id len (by omega)
  obtain ⟨row, g, rep⟩ := hrep len (Nat.le_refl _)
  have hroom : (len : Int) * 65536 + 32768 + 0 < 2147483647 := by omega
  obtain ⟨hcn, hcb⟩ := connectNode_eq conn hconn ⟨len, len, 0, 0, 0⟩ ((len : Int) * 65536) 0
    ⟨Int.le_refl _, Int.le_refl _⟩ hroom row (hinv.2 len row g)
  rw [← rep] at hcn hcb
  unfold Total.connectEos Total.eosNode
  simp only [hid, g, hcn, eosNode]
  cases ha : argmin conn (frows len) ⟨len, len, 0, 0, 0⟩ with
  | none => simp [encSt]
  | some jv =>
    obtain ⟨j, v⟩ := jv
    have hne : ¬ v = I32_MAX := Int.ne_of_lt (Int.lt_of_le_of_lt (hcb j v ha).2 hroom)
    simp only [encSt, hne, if_false, hid]

/-- **inside the bound the `i32` lattice builds and `connect_eos` returns a cost or `EosBosDisconnect`**: every `insert`
succeeds, every stored total is the sentinel or within `± 65536 · end` (`RowsInv`) -/
theorem buildAll_connectEos_ok (hconn : I16Conn conn) (len : Nat) (hlen : len ≤ 32767) (F : List Node)
    (hF : ∀ n ∈ F, NodeOk len n) :
    ∃ rows ents, Total.buildAll addI32 I32_MAX conn F (Total.reset len) [] = .ok (rows, ents) ∧ RowsInv len rows ∧
      ((∃ r, Total.connectEos addI32 I32_MAX conn rows len = .ok r) ∨
        Total.connectEos addI32 I32_MAX conn rows len = .err "Disconnect") := by
  obtain ⟨rows, ents, h1, h2, h3⟩ := buildAll_rep conn hconn len hlen F (Total.reset len) init [] (Total.reset_inv len)
    (reset_rep len) hF
  refine ⟨rows, ents, h1, h2, ?_⟩
  rw [connectEos_rep conn hconn len hlen rows _ h2 h3]
  cases argmin conn (build conn F init len) (eosNode len) with
  | none => exact Or.inr rfl
  | some jv => exact Or.inl ⟨_, rfl⟩

end Vit
