import Sudachi.Proofs.RewriteKatakana
/-!
# C14: locality of the katakana loop (a building block for "the plugins commute")

The katakana joiner can be cut at a node that is not katakana (`joinKatakana_split`): right of such a node the loop
does not see what is left of it (`krun_shift`, `kloop_shift`), and left of it the loop never looks past it (`knext_left`,
`kloop_left`).
-/
namespace Rewrite

def KNext.map (f : List Node → List Node) (g : Nat → Nat) : KNext → KNext
  | .done p => .done (f p)
  | .cont p j => .cont (f p) (g j)

/-! ## more fuel does not change a result that is not "out of fuel" -/

theorem kloop_fuel_mono (cfg : KCfg) (cat : List Nat) :
    ∀ (fuel : Nat) (path : List Node) (i : Nat), kloop cfg cat fuel path i ≠ .fuel →
      ∀ k, kloop cfg cat (fuel + k) path i = kloop cfg cat fuel path i := by
  intro fuel
  induction fuel with
  | zero => intro path i h; exact absurd rfl h
  | succ fuel ih =>
    intro path i h k
    have e1 : fuel + 1 + k = (fuel + k) + 1 := by omega
    rw [e1, kloop_succ_eq, kloop_succ_eq]
    rw [kloop_succ_eq] at h
    cases hk : knext cfg cat path i with
    | ok r =>
      cases r with
      | done p => rfl
      | cont p j =>
        rw [hk] at h
        exact ih p j h k
    | err => rfl
    | panic => rfl
    | fuel => rfl

theorem kloop_fuel_indep_of_lt (cfg : KCfg) (cat : List Nat) (path : List Node) (i f1 f2 : Nat)
    (h1 : path.length - i < f1) (h2 : path.length - i < f2) :
    kloop cfg cat f1 path i = kloop cfg cat f2 path i := by
  have key : ∀ f, path.length - i < f →
      kloop cfg cat f path i = kloop cfg cat (path.length - i + 1) path i := by
    intro f hf
    have := kloop_fuel_mono cfg cat (path.length - i + 1) path i
      (kloop_terminates cfg cat _ path i (by omega)) (f - (path.length - i + 1))
    rw [← this]
    congr 1
    omega
  rw [key f1 h1, key f2 h2]

/-! ## one iteration under a shift of the path by a prefix that ends in a non-katakana node -/

def KStep.shift (c : Nat) : KStep → KStep
  | .next => .next
  | .join b e => .join (c + b) (c + e)

theorem krun_shift (cat : List Nat) (pre q : List Node) (i : Nat)
    (hpre : ∀ y, pre.getLast? = some y → isKatakana cat y = .ok false) :
    krun cat (pre ++ q) (pre.length + i) = (krun cat q i).bind fun s => .ok (s.shift pre.length) := by
  unfold krun
  rw [List.take_length_add_append, List.reverse_append,
    countWhile_stop (fun y hy => hpre y (List.head?_reverse ▸ hy)), Nat.add_assoc, List.drop_length_add_append]
  simp only [Outcome.bind_assoc]
  refine Outcome.bind_congr fun nl hnl => Outcome.bind_congr fun nr _ => ?_
  have := countWhile_le hnl
  simp only [List.length_reverse, List.length_take] at this
  rw [show pre.length + i - nl = pre.length + (i - nl) by omega, Nat.add_assoc, block_shift]
  refine Outcome.bind_congr fun ns _ => ?_
  simp only [Nat.add_assoc, Nat.add_sub_add_left, Outcome.ite_bind, Outcome.ok_bind, KStep.shift]

theorem kstep_shift (cfg : KCfg) (cat : List Nat) (pre q : List Node) (i : Nat) (node : Node)
    (hpre : ∀ y, pre.getLast? = some y → isKatakana cat y = .ok false) (hi : i ≤ q.length) :
    kstep cfg cat (pre ++ q) (pre.length + i) node =
      (kstep cfg cat q i node).bind fun s => .ok (s.shift pre.length) := by
  rw [kstep_eq cfg cat (pre ++ q) _ node (by simp only [List.length_append]; omega), kstep_eq cfg cat q i node hi,
    krun_shift cat pre q i hpre]
  simp only [Outcome.bind_assoc, Outcome.ite_bind, Outcome.ok_bind, KStep.shift]

theorem knext_shift (cfg : KCfg) (cat : List Nat) (pre q : List Node) (i : Nat)
    (hpre : ∀ y, pre.getLast? = some y → isKatakana cat y = .ok false) :
    knext cfg cat (pre ++ q) (pre.length + i) =
      (knext cfg cat q i).bind fun r => .ok (r.map (pre ++ ·) (pre.length + ·)) := by
  unfold knext
  by_cases hi : i ≥ q.length
  · rw [if_pos (by simp only [List.length_append]; omega), if_pos hi]; rfl
  · rw [if_neg (by simp only [List.length_append]; omega), if_neg hi,
      List.getElem?_append_right (Nat.le_add_right _ _), Nat.add_sub_cancel_left]
    cases q[i]? with
    | none => rfl
    | some node =>
      simp only []
      rw [kstep_shift cfg cat pre q i node hpre (by omega)]
      cases hk : kstep cfg cat q i node with
      | ok s =>
        cases s with
        | next => rfl
        | join b e =>
          have := concatOovNodes_emb pre q [] b e cfg.oovPos
            (krun_join_bounds (by omega) (kstep_join_parts (by omega) hk).2.2).2.1
          simp only [List.append_nil] at this
          simp only [Outcome.bind, KStep.shift]
          rw [this]
          cases concatOovNodes q b e cfg.oovPos with
          | ok p' => simp only [Outcome.bind, KNext.map, Nat.add_assoc]
          | err => rfl
          | panic => rfl
          | fuel => rfl
      | err => rfl
      | panic => rfl
      | fuel => rfl

theorem kloop_shift (cfg : KCfg) (cat : List Nat) (pre : List Node)
    (hpre : ∀ y, pre.getLast? = some y → isKatakana cat y = .ok false) :
    ∀ (fuel : Nat) (q : List Node) (i : Nat),
      kloop cfg cat fuel (pre ++ q) (pre.length + i) =
        (kloop cfg cat fuel q i).bind fun b => .ok (pre ++ b) := by
  intro fuel
  induction fuel with
  | zero => intro q i; rfl
  | succ fuel ih =>
    intro q i
    rw [kloop_succ_eq, kloop_succ_eq, knext_shift cfg cat pre q i hpre]
    cases knext cfg cat q i with
    | ok r =>
      cases r with
      | done p => rfl
      | cont p j => exact ih p j
    | err => rfl
    | panic => rfl
    | fuel => rfl

/-! ## left of a non-katakana node the loop does not see what follows it -/

theorem knext_left (cfg : KCfg) (cat : List Nat) (a r : List Node) (x : Node) (i : Nat)
    (hx : isKatakana cat x = .ok false) (hi : i < a.length) :
    knext cfg cat (a ++ x :: r) i =
      (knext cfg cat a i).bind fun n => .ok (n.map (· ++ x :: r) id) := by
  unfold knext
  rw [if_neg (by simp only [List.length_append]; omega), if_neg (by omega),
    List.getElem?_append_left hi, List.getElem?_eq_getElem hi]
  simp only []
  rw [kstep_left cfg cat a r x i _ hx hi]
  cases hk : kstep cfg cat a i a[i] with
  | ok s =>
    cases s with
    | next => rfl
    | join b e =>
      have := concatOovNodes_emb [] a (x :: r) b e cfg.oovPos
        (krun_join_bounds hi (kstep_join_parts (Nat.le_of_lt hi) hk).2.2).2.1
      simp only [List.nil_append, List.length_nil, Nat.zero_add] at this
      simp only [Outcome.bind]
      rw [this]
      cases concatOovNodes a b e cfg.oovPos <;> rfl
  | err => rfl
  | panic => rfl
  | fuel => rfl

theorem knext_not_katakana (cfg : KCfg) (cat : List Nat) (a r : List Node) (x : Node)
    (hx : isKatakana cat x = .ok false) (hxe : x.b ≤ x.e) :
    knext cfg cat (a ++ x :: r) a.length = .ok (.cont (a ++ x :: r) (a.length + 1)) := by
  unfold knext
  rw [if_neg (by simp only [List.length_append, List.length_cons]; omega),
    List.getElem?_append_right (Nat.le_refl _)]
  simp only [Nat.sub_self, List.getElem?_cons_zero]
  rw [kstep_not_katakana cfg cat _ _ x hx hxe]
  rfl

theorem kloop_after (cfg : KCfg) (cat : List Nat) (a r : List Node) (x : Node)
    (hx : isKatakana cat x = .ok false) (fuel : Nat) (hf : r.length < fuel) :
    kloop cfg cat fuel (a ++ x :: r) (a.length + 1) =
      (joinKatakana cfg cat r).bind fun b => .ok (a ++ x :: b) := by
  have e1 : a ++ x :: r = (a ++ [x]) ++ r := by simp
  have e2 : a.length + 1 = (a ++ [x]).length + 0 := by simp
  rw [e1, e2, kloop_shift cfg cat (a ++ [x]) (by
    intro y hy
    simp only [List.getLast?_append, List.getLast?_singleton, Option.some_or, Option.some.injEq] at hy
    rw [← hy]; exact hx)]
  unfold joinKatakana
  rw [kloop_fuel_indep_of_lt cfg cat r 0 fuel (kFuel r) (by omega) (by unfold kFuel; omega)]
  congr 1
  funext b
  simp

/-- LEFT: up to `x` the loop on `a ++ x :: r` is the loop on `a`, then the loop on `r` -/
theorem kloop_left (cfg : KCfg) (cat : List Nat) (r : List Node) (x : Node)
    (hx : isKatakana cat x = .ok false) (hxe : x.b ≤ x.e) :
    ∀ (fuel : Nat) (a : List Node) (i : Nat), i ≤ a.length + 1 → a.length - i < fuel →
      kloop cfg cat (fuel + (r.length + 1)) (a ++ x :: r) i =
        (kloop cfg cat fuel a i).bind fun a' =>
          (joinKatakana cfg cat r).bind fun b => .ok (a' ++ x :: b) := by
  intro fuel
  induction fuel with
  | zero => intro a i _ h; omega
  | succ fuel ih =>
    intro a i hi hf
    have hdone : i ≥ a.length → kloop cfg cat (fuel + 1) a i = .ok a := by
      intro h
      simp only [kloop, h, if_true]
    by_cases h1 : i = a.length + 1
    · subst h1
      rw [kloop_after cfg cat a r x hx _ (by omega), hdone (by omega)]
      rfl
    · by_cases h2 : i = a.length
      · subst h2
        have e1 : fuel + 1 + (r.length + 1) = (fuel + r.length + 1) + 1 := by omega
        rw [e1, kloop_succ_eq, knext_not_katakana cfg cat a r x hx hxe, hdone (by omega)]
        simp only [kcont]
        rw [kloop_after cfg cat a r x hx _ (by omega)]
        rfl
      · have hlt : i < a.length := by omega
        have e1 : fuel + 1 + (r.length + 1) = (fuel + (r.length + 1)) + 1 := by omega
        rw [e1, kloop_succ_eq, kloop_succ_eq, knext_left cfg cat a r x i hx hlt]
        cases hk : knext cfg cat a i with
        | ok n =>
          cases n with
          | done p =>
            rcases knext_cases hk with ⟨hle, -⟩ | ⟨_, -, ⟨-, hr⟩ | ⟨_, _, _, -, -, hr⟩⟩
            · omega
            · cases hr
            · cases hr
          | cont p j =>
            simp only [Outcome.bind, KNext.map, kcont, id]
            have hb := knext_cont_bounds hk
            exact ih p j hb.1 (by omega)
        | err => rfl
        | panic => rfl
        | fuel => rfl

theorem joinKatakana_split (cfg : KCfg) (cat : List Nat) (A B : List Node) (x : Node)
    (hx : isKatakana cat x = .ok false) (hxe : x.b ≤ x.e) :
    joinKatakana cfg cat (A ++ x :: B) =
      (joinKatakana cfg cat A).bind fun a => (joinKatakana cfg cat B).bind fun b => .ok (a ++ x :: b) := by
  have h := kloop_left cfg cat B x hx hxe (kFuel A) A 0 (by omega) (by unfold kFuel; omega)
  have e : joinKatakana cfg cat (A ++ x :: B) =
      kloop cfg cat (kFuel A + (B.length + 1)) (A ++ x :: B) 0 := by
    unfold joinKatakana
    congr 1
    simp only [kFuel, List.length_append, List.length_cons]
    omega
  rw [e, h]
  rfl

theorem joinKatakana_split_ok (cfg : KCfg) (cat : List Nat) (A B : List Node) (x : Node)
    (hx : isKatakana cat x = .ok false) (hxe : x.b ≤ x.e) (a b : List Node)
    (ha : joinKatakana cfg cat A = .ok a) (hb : joinKatakana cfg cat B = .ok b) :
    joinKatakana cfg cat (A ++ x :: B) = .ok (a ++ x :: b) := by
  rw [joinKatakana_split cfg cat A B x hx hxe, ha, hb]
  rfl

end Rewrite
