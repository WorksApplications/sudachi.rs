import Sudachi.Proofs.Build
/-!
# Format limits of an accepted dictionary (C06 `compile_valid`, limits clause)

A successful run of the writer script contains no `abort` step, so every length check of
`write_word_info`, `write_len`, `write_u32_array` and `build_word_id_table` passed, and those of the header and of the
POS strings (which the bridge to C05's file needs).
-/
namespace Build

/-- a successful `compile`: the four parts of its script whose refusals are format limits consist of writes (the matrix
part, `connSteps`, can refuse too — a negative size — and is not needed) -/
theorem compile_ok_writes {v : Variant} {b : Builder} {dl tl n : Nat} {limit : Option Nat} {d : Dict}
    (h : compile v b dl tl limit = .ok (n, d)) :
    Writes (headerSteps dl) ∧ Writes (posSteps b.lex.pos b.base.pos0.length) ∧
    Writes (indexSteps v b.lex.entries tl) ∧ Writes (offsetSteps b.lex.entries 0) := by
  have hw := (exec_ok_iff.1 ((compile_ok_iff ..).1 h).2.2.1).1
  simp only [compileSteps, lexSteps, writes_append, writes_cons] at hw
  exact ⟨hw.1.1.1.1, hw.1.1.1.2, hw.1.2, hw.2.1.2⟩

theorem offsetSteps_writes {es : List Entry} {line : Nat} (h : Writes (offsetSteps es line)) :
    ∀ e ∈ es, ∃ n, wordInfoSize e = .ok n := by
  induction es generalizing line with
  | nil => simp
  | cons e es ih =>
    unfold offsetSteps at h
    split at h
    · rename_i k hk
      exact nomatch h (.abort k line) (by simp)
    · rename_i n hn
      exact List.forall_mem_cons.2 ⟨⟨n, hn⟩, ih (writes_cons.1 h)⟩

theorem lenSize_ok {n p : Nat} (h : lenSize n = .ok p) : n ≤ 32767 := by
  unfold lenSize at h
  split at h
  · simp at h
  · omega

theorem u16Size_ok {s : Str} {p : Nat} (h : u16Size s = .ok p) : utf16Len s ≤ 32767 := by
  unfold u16Size at h
  split at h
  · simp at h
  · split at h
    · simp at h
    · rename_i q hq; exact lenSize_ok hq

theorem arrSize_ok {n p : Nat} (h : arrSize n = .ok p) : n ≤ 127 := by
  unfold arrSize at h
  split at h
  · simp at h
  · omega

theorem headerSteps_writes {n : Nat} (h : Writes (headerSteps n)) : n ≤ 256 := by
  unfold headerSteps at h
  split at h
  · exact nomatch h _ List.mem_cons_self
  · omega

theorem u16Steps_writes {line : Nat} {s : Str} (h : Writes (u16Steps line s)) : utf16Len s ≤ 32767 := by
  unfold u16Steps at h
  split at h
  · exact nomatch h _ List.mem_cons_self
  · split at h
    · exact nomatch h _ List.mem_cons_self
    · rename_i p hp; exact lenSize_ok hp

theorem posRowsSteps_writes {ks : List PosKey} {line : Nat} (h : Writes (posRowsSteps ks line)) :
    ∀ k ∈ ks, ∀ s ∈ k, utf16Len s ≤ 32767 := by
  induction ks generalizing line with
  | nil => simp
  | cons k ks ih =>
    obtain ⟨h1, h2⟩ := writes_append.1 h
    exact List.forall_mem_cons.2 ⟨fun s hs => u16Steps_writes (line := line)
      (fun st hst => h1 st (List.mem_flatMap.2 ⟨s, hs, hst⟩)), ih h2⟩

def EntryLimits (e : Entry) : Prop :=
  utf16Len e.headwordStr ≤ 32767 ∧ utf8Len e.surface ≤ 32767 ∧
  utf16Len e.normStr ≤ 32767 ∧ utf16Len e.readingStr ≤ 32767 ∧
  e.splitsA.length ≤ 127 ∧ e.splitsB.length ≤ 127 ∧ e.wordStructure.length ≤ 127 ∧ e.synonyms.length ≤ 127

theorem wordInfoSize_ok {e : Entry} {n : Nat} (h : wordInfoSize e = .ok n) : EntryLimits e := by
  unfold wordInfoSize at h
  obtain ⟨a, ha, h⟩ := bind_eq_ok h
  obtain ⟨b, hb, h⟩ := bind_eq_ok h
  obtain ⟨c, hc, h⟩ := bind_eq_ok h
  obtain ⟨d, hd, h⟩ := bind_eq_ok h
  obtain ⟨s1, h1, h⟩ := bind_eq_ok h
  obtain ⟨s2, h2, h⟩ := bind_eq_ok h
  obtain ⟨s3, h3, h⟩ := bind_eq_ok h
  obtain ⟨s4, h4, _⟩ := bind_eq_ok h
  have hhead := u16Size_ok ha
  refine ⟨hhead, lenSize_ok hb, ?_, ?_, arrSize_ok h1, arrSize_ok h2, arrSize_ok h3, arrSize_ok h4⟩
  · by_cases heq : e.normStr = e.headwordStr
    · rw [heq]; exact hhead
    · simp only [heq, ↓reduceIte] at hc; exact u16Size_ok hc
  · by_cases heq : e.readingStr = e.headwordStr
    · rw [heq]; exact hhead
    · simp only [heq, ↓reduceIte] at hd; exact u16Size_ok hd

theorem wordIdTableSize_ok {keys : List (Str × Nat)} {n : Nat} (h : wordIdTableSize keys = .ok n) :
    ∀ q ∈ keys, q.2 ≤ 127 := by
  induction keys generalizing n with
  | nil => simp
  | cons q keys ih =>
    obtain ⟨k, c⟩ := q
    unfold wordIdTableSize at h
    split at h
    · simp at h
    · rename_i a ha
      split at h
      · simp at h
      · rename_i b hb
        exact List.forall_mem_cons.2 ⟨arrSize_ok ha, ih hb⟩

theorem indexSteps_writes {v : Variant} {es : List Entry} {tl : Nat} (h : Writes (indexSteps v es tl)) :
    (∀ q ∈ indexKeys es, q.2 ≤ 127) ∧ indexKeys es ≠ [] ∧ ∀ q ∈ indexKeys es, hasNul q.1 = false := by
  rcases indexSteps_cases v es tl with ⟨k, l, he⟩ | ⟨he, _⟩ | ⟨he, _⟩ | ⟨n, _, hn, hne, hany⟩
  · rw [he] at h; exact nomatch h _ List.mem_cons_self
  · rw [he] at h; exact nomatch h _ List.mem_cons_self
  · rw [he] at h; exact nomatch h _ List.mem_cons_self
  · refine ⟨wordIdTableSize_ok hn, hne, fun q hq => ?_⟩
    cases hq' : hasNul q.1 with
    | false => rfl
    | true => rw [List.any_eq_true.2 ⟨q, hq, hq'⟩] at hany; cases hany

/-- strings and arrays of an accepted dictionary respect the format limits, no surface has more
than 127 entries, the index is not empty and no indexed surface contains U+0000 -/
def LimitsOk (d : Dict) : Prop :=
  (∀ e ∈ d.entries, EntryLimits e) ∧ (∀ q ∈ indexKeys d.entries, q.2 ≤ 127 ∧ hasNul q.1 = false) ∧
  indexKeys d.entries ≠ []

theorem compile_ok_limits {v : Variant} {b : Builder} {dl tl n : Nat} {limit : Option Nat} {d : Dict}
    (h : compile v b dl tl limit = .ok (n, d)) : LimitsOk d := by
  obtain ⟨_, _, hidx, hoff⟩ := compile_ok_writes h
  obtain rfl := ((compile_ok_iff ..).1 h).2.2.2
  obtain ⟨i1, i2, i3⟩ := indexSteps_writes hidx
  exact ⟨fun e he => let ⟨_, hm⟩ := offsetSteps_writes hoff e he; wordInfoSize_ok hm,
    fun q hq => ⟨i1 q hq, i3 q hq⟩, i2⟩

end Build
