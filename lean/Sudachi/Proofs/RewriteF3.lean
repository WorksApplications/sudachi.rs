import Sudachi.Proofs.RewriteStep
/-!
# Finding F3: the numeral joiner is not idempotent — the mechanism

Generic in the parser `P`, the class table `cat`, the code variant `v` and the settings `cfg`.  The loop
walks over a run of candidate nodes whose characters the parser accepts, only accumulating characters;
on the first non-candidate node after a run that ends in a separator with the matching pending error
it calls `concat` on the run without the separator: a sufficient condition for one run of the plugin to
shorten the path (`joinNumeric_shrinks`), met by the second-run input of the F3 witness.  Why the first
run left such an input: a token whose range contains a sub-range with a non-numeric class mask is itself
not numeric (the mask is the AND over the characters), so a merged token that swallowed a separator ends
a candidate run.
-/
namespace Rewrite

/-! ## walking over an accepted run -/

theorem nstep_accept (v : NVariant) (cfg : NCfg) (cat : List Nat) (P : List Char → POut) (st : NState)
    (node : Node) (ct : Nat) (hi : 0 ≤ st.i + 1) (hn : st.path[(st.i + 1).toNat]? = some node)
    (hc : catOfRange cat node.b node.e = some ct)
    (hcand : isCand st.comma st.period ct (normForm node) = true)
    (hacc : ¬ (P (feedAcc st node)).n < (feedAcc st node).length) :
    nstep v cfg cat P st = .ok { st with i := st.i + 1, beginIdx := runStart st, acc := feedAcc st node } := by
  rw [nstep_at v cfg cat P hi hn hc, if_pos hcand, nfeed_accept v hacc]

/-- state after the loop has walked over the non-empty run -/
def afterRun (st : NState) (run : List Node) : NState :=
  match run with
  | [] => st
  | _ :: _ => { st with i := st.i + run.length, beginIdx := runStart st, acc := (if st.beginIdx < 0 then [] else st.acc) ++ accOf run }

theorem afterRun_cons (st : NState) (node : Node) (run : List Node) (hi : 0 ≤ st.i + 1) :
    afterRun { st with i := st.i + 1, beginIdx := runStart st, acc := feedAcc st node } run =
      afterRun st (node :: run) := by
  have hb : ¬ runStart st < 0 := by unfold runStart; split <;> omega
  cases run with
  | nil => simp [afterRun, feedAcc, accOf_cons, accOf_nil]
  | cons n r =>
    simp only [afterRun, accOf_cons, List.length_cons, NState.mk.injEq, true_and]
    refine ⟨by omega, if_neg hb, ?_⟩
    rw [if_neg hb, feedAcc, List.append_assoc]

theorem nloop_run (v : NVariant) (cfg : NCfg) (cat : List Nat) (P : List Char → POut) :
    ∀ (run : List Node) (st : NState) (pre rest : List Node) (fuel : Nat),
    st.path = pre ++ run ++ rest → st.i + 1 = pre.length →
    (∀ n ∈ run, ∃ ct, catOfRange cat n.b n.e = some ct ∧
      isCand st.comma st.period ct (normForm n) = true) →
    (∀ k, k < run.length →
      ¬ (P ((if st.beginIdx < 0 then [] else st.acc) ++ accOf (run.take (k + 1)))).n <
        ((if st.beginIdx < 0 then [] else st.acc) ++ accOf (run.take (k + 1))).length) →
    nloop v cfg cat P (fuel + run.length) st = nloop v cfg cat P fuel (afterRun st run) := by
  intro run
  induction run with
  | nil => intro st pre rest fuel _ _ _ _; rfl
  | cons node run ih =>
    intro st pre rest fuel hp hi hcand hacc
    obtain ⟨ct, hct, hcd⟩ := hcand node (List.mem_cons_self ..)
    have hn : st.path[(st.i + 1).toNat]? = some node := by
      rw [hp, hi]
      simp
    have hg : st.i < (st.path.length : Int) - 1 := by
      rw [hp]
      simp only [List.length_append, List.length_cons]
      omega
    have ha0 := hacc 0 (by simp)
    simp only [List.take_succ_cons, List.take_zero, accOf_cons, accOf_nil, List.append_nil] at ha0
    have hstep := nstep_accept v cfg cat P st node ct (by omega) hn hct hcd ha0
    have hb : ¬ runStart st < 0 := by unfold runStart; split <;> omega
    rw [show fuel + (node :: run).length = (fuel + run.length) + 1 by simp; omega, nloop, if_pos hg, hstep,
      ← afterRun_cons st node run (by omega)]
    refine ih _ (pre ++ [node]) rest fuel (by simp [hp]) (by simp; omega)
      (fun n hn => hcand n (List.mem_cons_of_mem _ hn)) (fun k hk => ?_)
    have := hacc (k + 1) (by simp; omega)
    simpa only [if_neg hb, feedAcc, List.take_succ_cons, accOf_cons, List.append_assoc] using this

/-- the state in which the loop stands when it has walked from `nInit` over the accepted run `node :: run` at the
head of the path -/
def headRun (node : Node) (run rest : List Node) : NState :=
  { path := node :: run ++ rest, i := run.length, beginIdx := 0, comma := true, period := true, acc := accOf (node :: run) }

theorem nloop_run_init (v : NVariant) (cfg : NCfg) (cat : List Nat) (P : List Char → POut)
    (node : Node) (run rest : List Node) (fuel : Nat)
    (hcand : ∀ n ∈ node :: run, ∃ ct, catOfRange cat n.b n.e = some ct ∧
      isCand true true ct (normForm n) = true)
    (hacc : ∀ k, k < (node :: run).length →
      ¬ (P (accOf ((node :: run).take (k + 1)))).n < (accOf ((node :: run).take (k + 1))).length) :
    nloop v cfg cat P (fuel + (node :: run).length) (nInit (node :: run ++ rest)) =
      nloop v cfg cat P fuel (headRun node run rest) := by
  rw [nloop_run v cfg cat P (node :: run) (nInit (node :: run ++ rest)) [] rest fuel (by simp [nInit])
    (by simp [nInit]) hcand (by simpa [nInit] using hacc)]
  congr 1
  simp only [afterRun, runStart, nInit, headRun, NState.mk.injEq, List.length_cons, true_and]
  refine ⟨by omega, by simp, by simp⟩

/-- … and the run is followed by a node `m` that is no candidate: the run is closed in front of `m` (`nclose`), the
loop goes on where that leaves it -/
theorem nloop_run_close (v : NVariant) (cfg : NCfg) (cat : List Nat) (P : List Char → POut)
    (node : Node) (run : List Node) (m : Node) (rest : List Node) (fuel ct : Nat)
    (hcand : ∀ n ∈ node :: run, ∃ ct, catOfRange cat n.b n.e = some ct ∧
      isCand true true ct (normForm n) = true)
    (hacc : ∀ k, k < (node :: run).length →
      ¬ (P (accOf ((node :: run).take (k + 1)))).n < (accOf ((node :: run).take (k + 1))).length)
    (hm : catOfRange cat m.b m.e = some ct) (hmc : isCand true true ct (normForm m) = false) :
    nloop v cfg cat P (fuel + 1 + (node :: run).length) (nInit (node :: run ++ m :: rest)) =
      (nclose cfg P (headRun node run (m :: rest)) ((node :: run).length : Nat)).bind fun r =>
        nloop v cfg cat P fuel (finState (headRun node run (m :: rest)) (normForm m) r.1 r.2) := by
  have hn : (headRun node run (m :: rest)).path[((headRun node run (m :: rest)).i + 1).toNat]? = some m := by
    show (node :: run ++ m :: rest)[((run.length : Int) + 1).toNat]? = some m
    rw [show ((run.length : Int) + 1).toNat = (node :: run).length by rw [List.length_cons]; omega,
      List.getElem?_append_right (Nat.le_refl _), Nat.sub_self]
    rfl
  rw [nloop_run_init v cfg cat P node run (m :: rest) (fuel + 1) hcand hacc, nloop,
    if_pos (by simp [headRun]; omega), nstep_at v cfg cat P (by simp [headRun]; omega) hn hm]
  rw [show isCand (headRun node run (m :: rest)).comma (headRun node run (m :: rest)).period ct (normForm m) = false
      from hmc, if_neg (by decide),
    show (headRun node run (m :: rest)).i + 1 = ((node :: run).length : Nat) by simp [headRun]]
  cases nclose cfg P (headRun node run (m :: rest)) ((node :: run).length : Nat) <;> rfl

/-! ## a run of the plugin that shortens the path -/

theorem nFuel_ge (path : List Node) : path.length + 9 ≤ nFuel path := by
  unfold nFuel
  have h := Nat.le_mul_self (path.length + 1)
  rw [Nat.mul_assoc]
  omega

/-- sufficient condition for "this run of the numeral joiner shortens the path"
(in particular a SECOND run).  The path starts with a run `R ++ [c]` of candidates (`|R| ≥ 2`, the head
has the numeral part of speech) that the parser accepts node by node, `c` is a comma, the parser is
then not `done()` with a pending COMMA error, and the next node `m` is not a candidate. -/
theorem joinNumeric_shrinks (v : NVariant) (cfg : NCfg) (cat : List Nat) (P : List Char → POut)
    (R : List Node) (c m : Node) (rest : List Node) (ct : Nat)
    (hR : 2 ≤ R.length)
    (hpos : ∀ f, R.head? = some f → f.pos = cfg.numPos)
    (hcand : ∀ n ∈ R ++ [c], ∃ ctn, catOfRange cat n.b n.e = some ctn ∧
      isCand true true ctn (normForm n) = true)
    (hc : normForm c = [','])
    (hacc : ∀ k, k < (R ++ [c]).length →
      ¬ (P (accOf ((R ++ [c]).take (k + 1)))).n < (accOf ((R ++ [c]).take (k + 1))).length)
    (hdone : (P (accOf (R ++ [c]))).done = false)
    (herr : (P (accOf (R ++ [c]))).err = E_COMMA)
    (hm : catOfRange cat m.b m.e = some ct)
    (hmc : isCand true true ct (normForm m) = false)
    (q' : List Node)
    (h : joinNumeric v cfg cat P (R ++ c :: m :: rest) = .ok q') :
    q'.length < (R ++ c :: m :: rest).length := by
  cases R with
  | nil => simp at hR
  | cons f R' =>
    have hfpos : f.pos = cfg.numPos := hpos f rfl
    have hq : f :: R' ++ c :: m :: rest = f :: (R' ++ [c]) ++ (m :: rest) := by simp
    have hrun : f :: R' ++ [c] = f :: (R' ++ [c]) := rfl
    rw [hrun] at hcand hacc hdone herr
    have hfuel := nFuel_ge (f :: R' ++ c :: m :: rest)
    obtain ⟨fuel0, hf0⟩ : ∃ fuel0, nFuel (f :: R' ++ c :: m :: rest) =
        (fuel0 + 1) + (f :: (R' ++ [c])).length := by
      refine ⟨nFuel (f :: R' ++ c :: m :: rest) - (f :: (R' ++ [c])).length - 1, ?_⟩
      simp only [List.length_cons, List.length_append, List.length_nil] at hfuel ⊢
      omega
    unfold joinNumeric at h
    have hlen : (R' ++ [c]).length = (f :: R').length := by simp
    have hprev : (headRun f (R' ++ [c]) (m :: rest)).path[(((f :: (R' ++ [c])).length : Nat) : Int).toNat - 1]? =
        some c := by
      show (f :: (R' ++ [c]) ++ m :: rest)[_]? = some c
      rw [Int.toNat_natCast, List.length_cons, Nat.add_sub_cancel, hlen, ← hq,
        List.getElem?_append_right (Nat.le_refl _)]
      simp
    have hsep : sepErr P (headRun f (R' ++ [c]) (m :: rest)) c = true := by
      simp [sepErr, headRun, herr, hc]
    -- the run is walked over and closed in front of `m`: `concat` on the run without its last node `c`
    rw [hf0, hq, nloop_run_close v cfg cat P f (R' ++ [c]) m rest fuel0 ct hcand hacc hm hmc,
      nclose_sep (Int.le_refl 0) hdone (by simp; omega) hprev hsep] at h
    obtain ⟨r, hr, h⟩ := Outcome.bind_eq_ok h
    obtain ⟨p', hcn, hr⟩ := Outcome.bind_eq_ok hr
    cases hr
    rw [show (headRun f (R' ++ [c]) (m :: rest)).beginIdx.toNat = 0 from rfl, Int.toNat_natCast,
      nconcat_gate_open cfg P _ 0 _ _ f rfl hfpos (by simp at hR ⊢; omega)] at hcn
    have hle := (nloop_coarsens v cfg cat P fuel0 _ q' h).length_le
    obtain ⟨f1, l1, _, hel, _, _, hp'⟩ := concatNodes_ok hcn
    simp only [finState] at hle
    rw [hp'] at hle
    rw [hq]
    simp only [headRun, List.take_zero, List.nil_append, List.length_cons, List.length_drop, List.length_append,
      List.length_nil] at hle hel hR ⊢
    omega

/-! ## a token that contains a non-numeric sub-range is not numeric -/

/-- 272 = `NUMERIC ||| KANJINUMERIC` (16 ||| 256) -/
theorem isNumericCat_false_iff (c : Nat) : isNumericCat c = false ↔ c &&& 272 = 0 := by
  unfold isNumericCat
  simp [NUMERIC, KANJINUMERIC]

theorem foldl_and_left (l : List Nat) : ∀ (a x : Nat),
    l.foldl (fun a c => a &&& c) (a &&& x) = a &&& l.foldl (fun a c => a &&& c) x := by
  induction l with
  | nil => intro a x; rfl
  | cons y l ih =>
    intro a x
    simp only [List.foldl_cons]
    rw [Nat.and_assoc, ih]

theorem foldl_and_keeps_zero (k : Nat) (l : List Nat) : ∀ (a : Nat), a &&& k = 0 →
    l.foldl (fun a c => a &&& c) a &&& k = 0 := by
  induction l with
  | nil => intro a h; exact h
  | cons y l ih =>
    intro a h
    simp only [List.foldl_cons]
    apply ih
    rw [Nat.and_assoc, Nat.and_comm y k, ← Nat.and_assoc, h, Nat.zero_and]

theorem foldl_and_all (l : List Nat) :
    l.foldl (fun a c => a &&& c) CAT_ALL = l.foldl (fun a c => a &&& c) CAT_ALL &&& CAT_ALL := by
  have h := foldl_and_left l CAT_ALL CAT_ALL
  rw [Nat.and_self] at h
  rw [Nat.and_comm]
  exact h

theorem foldl_and_mid_zero (k : Nat) (l1 l2 l3 : List Nat)
    (h : l2.foldl (fun a c => a &&& c) CAT_ALL &&& k = 0) :
    (l1 ++ l2 ++ l3).foldl (fun a c => a &&& c) CAT_ALL &&& k = 0 := by
  rw [List.foldl_append, List.foldl_append]
  apply foldl_and_keeps_zero
  rw [foldl_and_all l1, foldl_and_left, Nat.and_assoc, h, Nat.and_zero]

theorem catOfRange_some_of_lt {cat : List Nat} {b e c : Nat} (hbe : b < e)
    (h : catOfRange cat b e = some c) :
    e ≤ cat.length ∧ c = ((cat.drop b).take (e - b)).foldl (fun a c => a &&& c) CAT_ALL := by
  unfold catOfRange at h
  rw [if_neg (by omega)] at h
  split at h
  · cases h
  · cases h
    exact ⟨by omega, rfl⟩

theorem range_split (cat : List Nat) (b e b' e' : Nat) (h1 : b ≤ b') (h2 : b' ≤ e') (h3 : e' ≤ e) :
    (cat.drop b).take (e - b) =
      (cat.drop b).take (b' - b) ++ (cat.drop b').take (e' - b') ++ (cat.drop e').take (e - e') := by
  have hd1 : (cat.drop b).drop (b' - b) = cat.drop b' := by
    rw [List.drop_drop]; congr 1; omega
  have hd2 : (cat.drop b').drop (e' - b') = cat.drop e' := by
    rw [List.drop_drop]; congr 1; omega
  rw [show e - b = (b' - b) + ((e' - b') + (e - e')) by omega, List.take_add, hd1, List.take_add, hd2,
    List.append_assoc]

/-- the class mask of a range is the AND over its characters: if a non-empty sub-range is not
numeric, the range is not numeric -/
theorem catOfRange_sub_not_numeric (cat : List Nat) (b e b' e' : Nat) (c c' : Nat)
    (h1 : b ≤ b') (h2 : b' < e') (h3 : e' ≤ e)
    (hc : catOfRange cat b e = some c) (hc' : catOfRange cat b' e' = some c')
    (hn : isNumericCat c' = false) : isNumericCat c = false := by
  obtain ⟨_, rfl⟩ := catOfRange_some_of_lt (by omega) hc
  obtain ⟨_, rfl⟩ := catOfRange_some_of_lt h2 hc'
  rw [isNumericCat_false_iff] at hn ⊢
  rw [range_split cat b e b' e' h1 (by omega) h3]
  exact foldl_and_mid_zero 272 _ _ _ hn

/-! ## the instance: second-run input of the F3 witness (`1|,|234|,|5.5`)

The nodes `wf3*` are the `f3*` of `Props/C14` (which cannot be imported from here;
`C14.numeric_second_run_changes_witness` states that the two paths are equal): `o` = OOV token, `c` = comma,
`d` = dictionary word, `pd` = period, `m55` = the token `5.5` made by the first run. -/

def wf3o1 : Node :=
  { b := 0, e := 1, bb := 0, eb := 1, wid := 4026531841, tc := 3232, left := 3, right := 0, cost := 3183,
    pos := 1, hwl := 0, dfw := 0, aSplit := [], bSplit := [], wStruct := [], syn := [],
    surface := ['1'], norm := [], reading := [], dform := [] }
def wf3c1 : Node :=
  { wf3o1 with b := 1, e := 2, bb := 1, eb := 2, wid := 4026531843, tc := 7531, left := 2, right := 3, cost := 4269, pos := 3, surface := [','] }
def wf3o234 : Node := { wf3o1 with b := 2, e := 5, bb := 2, eb := 5, tc := 10730, surface := ['2', '3', '4'] }
def wf3c2 : Node := { wf3c1 with b := 5, e := 6, bb := 5, eb := 6, tc := 15029 }
def wf3d5a : Node :=
  { wf3o1 with b := 6, e := 7, bb := 6, eb := 7, wid := 7, tc := 16021, left := 2, right := 3, cost := 973, hwl := 1, dfw := -1, surface := ['5'] }
def wf3pd : Node := { wf3c1 with b := 7, e := 8, bb := 7, eb := 8, tc := 20309, surface := ['.'] }
def wf3d5b : Node := { wf3d5a with b := 8, e := 9, bb := 8, eb := 9, tc := 21301 }
def wf3cat : List Nat := [16, 1, 16, 16, 16, 1, 16, 1, 16]
def wf3P : List Char → POut := fun s =>
  if s = "1".toList then { n := 1, err := 0, done := true, norm := "1".toList }
  else if s = "1,".toList then { n := 2, err := 2, done := false, norm := "1".toList }
  else if s = "1,234".toList then { n := 5, err := 0, done := true, norm := "1234".toList }
  else if s = "1,234,".toList then { n := 6, err := 2, done := false, norm := "1234".toList }
  else if s = "1,234,5".toList then { n := 7, err := 2, done := false, norm := "12345".toList }
  else if s = "1,234,5.".toList then { n := 7, err := 2, done := false, norm := [] }
  else if s = "234".toList then { n := 3, err := 0, done := true, norm := "234".toList }
  else if s = "5".toList then { n := 1, err := 0, done := true, norm := "5".toList }
  else if s = "5.".toList then { n := 2, err := 1, done := false, norm := "5".toList }
  else if s = "5.5".toList then { n := 3, err := 0, done := true, norm := "5.5".toList }
  else { n := 0, err := 99, done := false, norm := ['?'] }
def wf3m55 : Node := mergedNode wf3d5a wf3d5b [wf3d5a, wf3pd, wf3d5b] (some "5.5".toList)

theorem f3_second_run_hyps :
    (2 ≤ [wf3o1, wf3c1, wf3o234].length) ∧
    (∀ f, [wf3o1, wf3c1, wf3o234].head? = some f → f.pos = ({ numPos := 1, enableNormalize := true } : NCfg).numPos) ∧
    (∀ n ∈ [wf3o1, wf3c1, wf3o234] ++ [wf3c2], ∃ ctn, catOfRange wf3cat n.b n.e = some ctn ∧
      isCand true true ctn (normForm n) = true) ∧
    normForm wf3c2 = [','] ∧
    (∀ k, k < ([wf3o1, wf3c1, wf3o234] ++ [wf3c2]).length →
      ¬ (wf3P (accOf (([wf3o1, wf3c1, wf3o234] ++ [wf3c2]).take (k + 1)))).n <
        (accOf (([wf3o1, wf3c1, wf3o234] ++ [wf3c2]).take (k + 1))).length) ∧
    (wf3P (accOf ([wf3o1, wf3c1, wf3o234] ++ [wf3c2]))).done = false ∧
    (wf3P (accOf ([wf3o1, wf3c1, wf3o234] ++ [wf3c2]))).err = E_COMMA ∧
    catOfRange wf3cat wf3m55.b wf3m55.e = some 0 ∧
    isCand true true 0 (normForm wf3m55) = false := by
  refine ⟨by decide, ?_, ?_, by decide, ?_, by decide, by decide, by decide, by decide⟩
  · intro f hf
    cases hf
    rfl
  · intro n hn
    simp only [List.cons_append, List.nil_append, List.mem_cons, List.not_mem_nil, or_false] at hn
    rcases hn with rfl | rfl | rfl | rfl
    · exact ⟨16, by decide, by decide⟩
    · exact ⟨1, by decide, by decide⟩
    · exact ⟨16, by decide, by decide⟩
    · exact ⟨1, by decide, by decide⟩
  · intro k hk
    match k, hk with
    | 0, _ => decide
    | 1, _ => decide
    | 2, _ => decide
    | 3, _ => decide

/-- a second run of the joiner on `1|,|234|,|5.5` (the output of the first run on
`1|,|234|,|5|.|5`) cannot return the path unchanged: whatever it returns is shorter. -/
theorem f3_second_run_shrinks (v : NVariant) (q' : List Node)
    (h : joinNumeric v { numPos := 1, enableNormalize := true } wf3cat wf3P
      [wf3o1, wf3c1, wf3o234, wf3c2, wf3m55] = .ok q') : q'.length < 5 := by
  obtain ⟨h1, h2, h3, h4, h5, h6, h7, h8, h9⟩ := f3_second_run_hyps
  exact joinNumeric_shrinks v { numPos := 1, enableNormalize := true } wf3cat wf3P
    [wf3o1, wf3c1, wf3o234] wf3c2 wf3m55 [] 0 h1 h2 h3 h4 h5 h6 h7 h8 h9 q' h

end Rewrite
