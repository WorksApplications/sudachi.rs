import Sudachi.Model.RewriteNumeric
import Sudachi.Proofs.RewriteNumericRun
import Sudachi.Proofs.NumericDenote
import Sudachi.Proofs.NumericBackoff
/-!
# The numeral joiner with the parser model inside: helper lemmas for `Props/C15.lean`

What `numericP` (the parser model as the parameter of `Rewrite.joinNumeric`) answers: for a text whose characters are all
accepted (`numericP_of_run`), for a rejected one, for the prefixes of an accepted text, for a text that `Numeric.parse`
accepts, for a lone separator (`SepNotFirst`), and when the parser is `done()`.  A run of nodes that writes a well-formed
numeral (`NumeralRun`) is a run the loop joins (`RunOK` of `RewriteNumericRun`), and the token the joiner makes of it;
the trailing-separator back-off on the parser model (`numericP_backoff`).
-/
namespace RewriteNumeric
open Rewrite

theorem numericP_of_run (v : Numeric.Variant) (s : List Char) (q : Numeric.Parser)
    (h : Numeric.Parser.new.run v s = some q) :
    numericP v s = { n := s.length, err := (q.done v).2.err.code, done := (q.done v).1,
                     norm := match (q.done v).2.getNormalized v with
                       | some r => r
                       | none => [] } := by
  unfold numericP
  rw [(Numeric.feed_ok_iff v s _ 0 _ q).2 ⟨h, rfl⟩]
  simp only [Nat.zero_add]
  rcases q.done v with ⟨d, q'⟩
  rfl

theorem numericP_of_reject (v : Numeric.Variant) (s : List Char) (n : Nat) (q : Numeric.Parser)
    (h : Numeric.Parser.new.feed v s 0 = (n, false, q)) :
    numericP v s = { n := n, err := q.err.code, done := false, norm := [] } := by
  unfold numericP
  rw [h]

/-- every prefix of a text whose characters are all accepted is accepted in full -/
theorem numericP_prefix (v : Numeric.Variant) (a b : List Char) (q : Numeric.Parser)
    (h : Numeric.Parser.new.run v (a ++ b) = some q) : (numericP v a).n = a.length := by
  rw [Numeric.run_append] at h
  obtain ⟨q1, ha, -⟩ := Option.bind_eq_some_iff.1 h
  rw [numericP_of_run v a q1 ha]

/-- the parser accepts the whole text, or `numericP` reports fewer characters accepted and no `done()` -/
theorem numericP_cases (v : Numeric.Variant) (s : List Char) :
    (∃ q, Numeric.Parser.new.run v s = some q) ∨ ((numericP v s).n < s.length ∧ (numericP v s).done = false) := by
  rcases hf : Numeric.Parser.new.feed v s 0 with ⟨n, ok, q⟩
  cases ok
  · rw [numericP_of_reject v s n q hf]
    exact .inr ⟨by simpa using Numeric.feed_reject_lt v s _ 0 n q hf, rfl⟩
  · exact .inl ⟨q, ((Numeric.feed_ok_iff v _ _ _ _ _).1 hf).1⟩

theorem numericP_of_parse (v : Numeric.Variant) (s r : List Char) (h : Numeric.parse v s = some r) :
    (∃ q, Numeric.Parser.new.run v s = some q) ∧
      (numericP v s).n = s.length ∧ (numericP v s).done = true ∧ (numericP v s).norm = r := by
  obtain ⟨q, hf, hd, _, hs⟩ := Numeric.parse_some v s r h
  rw [numericP_of_run v s q hf]
  exact ⟨⟨q, hf⟩, rfl, hd, by simp only [hs]⟩

theorem numericP_sepNotFirst (v : Numeric.Variant) : SepNotFirst (numericP v) := by
  constructor <;> rfl

theorem numericP_done_inv (v : Numeric.Variant) (s : List Char) (h : (numericP v s).done = true) :
    ∃ q, Numeric.Parser.new.run v s = some q ∧ (q.done v).1 = true := by
  obtain ⟨q, hr⟩ := (numericP_cases v s).resolve_right fun h' => by rw [h'.2] at h; cases h
  rw [numericP_of_run v s q hr] at h
  exact ⟨q, hr, h⟩

/-- a run of nodes that writes a well-formed numeral: every node is a numeral candidate by class
(NUMERIC / KANJINUMERIC on all of its characters) or a separator by normalised form, the normalised
forms concatenated are the rendering of a well-formed numeral AST whose terms fit, the first node has
the numeral part of speech (the plugin's gate); `bytes` / `hwl` are the two arithmetic side conditions
under which `concat_nodes` does not panic (byte range not inverted, head-word length within `u16`) -/
structure NumeralRun (cfg : NCfg) (cat : List Nat) (f : Node) (R : List Node) (a : Numeric.Numeral) : Prop where
  cand : ∀ n ∈ f :: R, ∃ ct, catOfRange cat n.b n.e = some ct ∧
    (isNumericCat ct = true ∨ normForm n = [','] ∨ normForm n = ['.'])
  text : accOf (f :: R) = Numeric.render a
  wf : a.WF
  fits : a.Fits
  pos : f.pos = cfg.numPos
  bytes : f.bb ≤ (lastOf f R).eb
  hwl : sumHwl (f :: R) < 65536

/-- the token the joiner makes of a `NumeralRun` -/
def numeralTok (cfg : NCfg) (v : Numeric.Variant) (f : Node) (R : List Node) (a : Numeric.Numeral) : Node :=
  if cfg.enableNormalize then
    if R ≠ [] ∨ Numeric.canon v a ≠ normForm f then
      mergedNode f (lastOf f R) (f :: R) (some (Numeric.canon v a))
    else f
  else if R ≠ [] then mergedNode f (lastOf f R) (f :: R) none
  else f

theorem runOK_of_numeralRun (v : Numeric.Variant) (cfg : NCfg) (cat : List Nat) (f : Node) (R : List Node)
    (a : Numeric.Numeral) (h : NumeralRun cfg cat f R a) :
    RunOK cfg cat (numericP v) f R ∧ joinedTok cfg (numericP v) f R = numeralTok cfg v f R a := by
  have hp := Numeric.parse_render_canon v a h.wf h.fits
  rw [← h.text] at hp
  obtain ⟨⟨q, hfeed⟩, _, hdone, hnorm⟩ := numericP_of_parse v _ _ hp
  refine ⟨⟨?_, ?_, hdone, h.pos, h.bytes, h.hwl⟩, ?_⟩
  · intro m hm
    obtain ⟨ct, hct, hc⟩ := h.cand m hm
    refine ⟨ct, hct, ?_⟩
    unfold isCand
    rcases hc with hc | hc | hc <;> simp [hc]
  · intro k _
    have hsplit : accOf (f :: R) = accOf ((f :: R).take (k + 1)) ++ accOf ((f :: R).drop (k + 1)) := by
      rw [← accOf_append, List.take_append_drop]
    rw [hsplit] at hfeed
    rw [numericP_prefix v _ _ q hfeed]
    omega
  · unfold joinedTok numeralTok
    rw [hnorm]

/-- **the trailing-separator back-off, on the parameter** (repair F6): all of `t ++ [sep]` accepted and
`done()` fails with exactly the error of `sep` ⇒ `t` alone is accepted, `done()` holds, same rendering -/
theorem numericP_backoff (v : Numeric.Variant) (h6 : v.f6 = true) (t : List Char) (sep : Char) (e : Nat)
    (hs : sep = ',' ∧ e = E_COMMA ∨ sep = '.' ∧ e = E_POINT)
    (hn : ¬ (numericP v (t ++ [sep])).n < (t ++ [sep]).length)
    (he : (numericP v (t ++ [sep])).err = e) :
    ∃ q, Numeric.Parser.new.run v t = some q ∧ (q.done v).1 = true ∧
      (numericP v t).norm = (numericP v (t ++ [sep])).norm := by
  obtain ⟨p', hr⟩ := (numericP_cases v _).resolve_right fun h' => hn h'.1
  rw [numericP_of_run v _ p' hr] at he ⊢
  rw [Numeric.run_append] at hr
  obtain ⟨q, hq, hr⟩ := Option.bind_eq_some_iff.1 hr
  obtain ⟨p'', ha, hr⟩ := Numeric.run_cons_some v q p' sep [] hr
  cases Option.some.inj hr
  have hqI : Numeric.BackInv q :=
    Numeric.run_induct v (fun _ => Numeric.BackInv) t _ q hq Numeric.backInv_new
      fun _ c p1 p2 _ => Numeric.backInv_step v p1 c p2
  simp only at he
  -- `E_COMMA` / `E_POINT` are the codes of the error states
  have herr : (sep = ',' ∧ (p'.done v).2.err = .comma) ∨ (sep = '.' ∧ (p'.done v).2.err = .point) :=
    hs.imp (fun h => ⟨h.1, Numeric.Err.code_inj (he.trans h.2)⟩) (fun h => ⟨h.1, Numeric.Err.code_inj (he.trans h.2)⟩)
  obtain ⟨hd, hg⟩ := Numeric.done_without_sep v h6 q hqI sep p' ha herr
  refine ⟨q, hq, hd, ?_⟩
  rw [numericP_of_run v _ q hq]
  simp only
  rw [hg]

end RewriteNumeric
