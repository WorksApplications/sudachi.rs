import Sudachi.Model.Wire
/-!
# Facts about numbers, bits and lists that several properties need

Nothing here mentions a definition of the model but `Wire.allSome`: two-digit numbers in a variable
base (word ids `dic * 2²⁸ + word`, matrix cells `r * nl + l`), the bit-level form of a word id, the
bytes of a little-endian integer, lists made of items of one size, `allSome`.
-/
namespace Basic

/-! ## `q * P + r` with `r < P` -/

theorem pack_div_mod (P q r : Nat) (hr : r < P) : (q * P + r) / P = q ∧ (q * P + r) % P = r := by
  have hP : 0 < P := Nat.lt_of_le_of_lt (Nat.zero_le r) hr
  constructor
  · rw [Nat.add_comm, Nat.add_mul_div_right _ _ hP, Nat.div_eq_of_lt hr, Nat.zero_add]
  · rw [Nat.add_comm, Nat.add_mul_mod_self_right, Nat.mod_eq_of_lt hr]

theorem pack_inj {P q r q' r' : Nat} (hr : r < P) (hr' : r' < P) (h : q * P + r = q' * P + r') : q = q' ∧ r = r' :=
  ⟨(pack_div_mod P q r hr).1.symm.trans ((congrArg (· / P) h).trans (pack_div_mod P q' r' hr').1),
    (pack_div_mod P q r hr).2.symm.trans ((congrArg (· % P) h).trans (pack_div_mod P q' r' hr').2)⟩

theorem pack_lt {P q r n : Nat} (hq : q < n) (hr : r < P) : q * P + r < n * P :=
  Nat.lt_of_lt_of_le (Nat.add_lt_add_left hr _) (by rw [← Nat.succ_mul]; exact Nat.mul_le_mul_right P hq)

/-! ## bits -/

/-- `WordId::new(d, w)`, `((d & 0xf) << 28) | (w & 0x0fff_ffff)`, in arithmetic: the dictionary number above bit 28,
the word number below -/
theorem wid_pack (d w : Nat) :
    ((d &&& 0xf) <<< 28) ||| (w &&& 0x0fffffff) = d % 16 * 268435456 + w % 268435456 := by
  rw [Nat.and_two_pow_sub_one_eq_mod d 4, Nat.and_two_pow_sub_one_eq_mod w 28,
    ← Nat.shiftLeft_add_eq_or_of_lt (Nat.mod_lt w (by decide)), Nat.shiftLeft_eq]

theorem wid_pack_of_lt {d w : Nat} (hd : d < 16) (hw : w < 268435456) :
    ((d &&& 0xf) <<< 28) ||| (w &&& 0x0fffffff) = d * 268435456 + w := by
  rw [wid_pack, Nat.mod_eq_of_lt hd, Nat.mod_eq_of_lt hw]

/-! ## little-endian bytes -/

/-- the four bytes of `le32 n` are the base-256 digits of `n % 2³²` (`Nat.mod_mul` three times) -/
theorem le32_sum (n : Nat) :
    n % 256 + 256 * (n / 256 % 256) + 65536 * (n / 65536 % 256) + 16777216 * (n / 16777216 % 256) =
      n % 4294967296 := by
  rw [show 4294967296 = 256 * (256 * (256 * 256)) from rfl, Nat.mod_mul, Nat.mod_mul, Nat.mod_mul,
    Nat.div_div_eq_div_mul, Nat.div_div_eq_div_mul]
  simp only [Nat.mul_add, ← Nat.mul_assoc, Nat.reduceMul, Nat.add_assoc]

theorem le16_sum (n : Nat) : n % 256 + 256 * (n / 256 % 256) = n % 65536 := by
  rw [show 65536 = 256 * 256 from rfl, Nat.mod_mul]

/-! ## lists -/

theorem flatMap_length_const {α β : Type} (f : α → List β) (k : Nat) (xs : List α) (hf : ∀ x ∈ xs, (f x).length = k) :
    (xs.flatMap f).length = k * xs.length := by
  induction xs with
  | nil => rfl
  | cons x xs ih =>
    rw [List.flatMap_cons, List.length_append, hf x List.mem_cons_self, ih fun y hy => hf y (List.mem_cons_of_mem _ hy),
      List.length_cons, Nat.mul_succ, Nat.add_comm]

theorem flatMap_drop_const {α β : Type} (f : α → List β) (k : Nat) (hf : ∀ x, (f x).length = k) (xs : List α) :
    ∀ i, (xs.flatMap f).drop (k * i) = (xs.drop i).flatMap f := by
  induction xs with
  | nil => intro i; rw [List.drop_nil]; exact List.drop_nil
  | cons x xs ih =>
    intro i
    cases i with
    | zero => rfl
    | succ j =>
      rw [List.flatMap_cons, Nat.mul_succ, Nat.add_comm, ← hf x, List.drop_append, List.drop_of_length_le (Nat.le_add_right ..),
        Nat.add_sub_cancel_left, hf x]
      exact ih j

theorem flatMap_drop_get {α β : Type} (f : α → List β) (k : Nat) (hf : ∀ x, (f x).length = k) (xs : List α) (i : Nat) (x : α)
    (h : xs[i]? = some x) (rest : List β) :
    (xs.flatMap f ++ rest).drop (k * i) = f x ++ ((xs.drop (i + 1)).flatMap f ++ rest) := by
  obtain ⟨hi, rfl⟩ := List.getElem?_eq_some_iff.1 h
  rw [List.drop_append_of_le_length (by
      rw [flatMap_length_const f k xs fun y _ => hf y]; exact Nat.mul_le_mul_left k (Nat.le_of_lt hi)),
    flatMap_drop_const f k hf, List.drop_eq_getElem_cons hi, List.flatMap_cons, List.append_assoc]

theorem getElem?_snoc {α : Type} {l : List α} {a x : α} {i : Nat} :
    (l ++ [a])[i]? = some x ↔ l[i]? = some x ∨ (i = l.length ∧ a = x) := by
  rcases Nat.lt_trichotomy i l.length with h | rfl | h
  · rw [List.getElem?_append_left h]
    exact ⟨Or.inl, fun h' => h'.resolve_right fun h'' => absurd h''.1 (Nat.ne_of_lt h)⟩
  · rw [List.getElem?_concat_length, List.getElem?_eq_none (Nat.le_refl _)]
    exact ⟨fun h => Or.inr ⟨rfl, Option.some.inj h⟩, fun h => congrArg some (h.resolve_left nofun).2⟩
  · rw [List.getElem?_eq_none (Nat.le_of_lt h),
      List.getElem?_eq_none (by rw [List.length_append]; exact h)]
    exact ⟨nofun, fun h' => h'.elim nofun fun h'' => absurd h''.1 (Nat.ne_of_gt h)⟩

end Basic

namespace Wire

/-! ## `allSome` (the `?` inside a loop) -/

theorem allSome_eq_some_iff {α : Type} (l : List (Option α)) (r : List α) :
    Wire.allSome l = some r ↔ l = r.map some := by
  induction l generalizing r with
  | nil => cases r <;> simp [Wire.allSome]
  | cons a t ih =>
    cases a with
    | none => cases r <;> simp [Wire.allSome]
    | some a =>
      cases r with
      | nil => simp [Wire.allSome]
      | cons b r' =>
        simp only [Wire.allSome, Option.map_eq_some_iff, List.map_cons, List.cons.injEq, Option.some.injEq]
        constructor
        · rintro ⟨x, hx, rfl, rfl⟩; exact ⟨rfl, (ih _).1 hx⟩
        · rintro ⟨rfl, h⟩; exact ⟨r', (ih _).2 h, rfl, rfl⟩

theorem allSome_map_some {α β : Type} (f : α → Option β) (g : α → β) (l : List α) (h : ∀ x ∈ l, f x = some (g x)) :
    Wire.allSome (l.map f) = some (l.map g) := by
  rw [allSome_eq_some_iff, List.map_map]
  exact List.map_congr_left (fun x hx => h x hx)

theorem allSome_eq_none_iff {α : Type} (l : List (Option α)) : Wire.allSome l = none ↔ none ∈ l := by
  induction l with
  | nil => simp [Wire.allSome]
  | cons a t ih =>
    cases a with
    | none => simp [Wire.allSome]
    | some a => simp [Wire.allSome, ih]

theorem allSome_length {α : Type} (l : List (Option α)) (r : List α) (h : Wire.allSome l = some r) : r.length = l.length := by
  rw [(allSome_eq_some_iff l r).1 h, List.length_map]

end Wire
