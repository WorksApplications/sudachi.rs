import Sudachi.Model.Params
/-!
# C20: reading a chain of `Outcome.bind`, or of `match`es on an outcome

What a successful run went through is `Outcome.bind_eq_ok` (stated next to `Outcome.bind` in Model/Params.lean; `of_ite_eq_ok` for a guard); that no step panics is
`bind_safe` / `ite_safe`.  `x.Post P` says both at once: one walk over a function yields its safety and its facts.
-/
namespace Params
open Outcome

def Outcome.isSafe {α : Type} : Outcome α → Bool
  | .ok _ => true
  | .err _ => true
  | .crash => false
  | .ub => false

theorem isSafe_iff {α : Type} {x : Outcome α} : x.isSafe = true ↔ (∃ a, x = ok a) ∨ ∃ k, x = err k := by
  cases x <;> simp [Outcome.isSafe]

theorem bind_safe {α β : Type} {x : Outcome α} {f : α → Outcome β} (hx : x.isSafe = true)
    (hf : ∀ a, x = ok a → (f a).isSafe = true) : (x.bind f).isSafe = true := by
  cases x with
  | ok a => exact hf a rfl
  | err k => rfl
  | crash => cases hx
  | ub => cases hx

theorem of_ite_eq_ok {α : Type} {c : Prop} [Decidable c] {x y : Outcome α} {a : α}
    (h : (if c then x else y) = ok a) (hx : x ≠ ok a) : ¬ c ∧ y = ok a := by
  by_cases hc : c
  · rw [if_pos hc] at h; exact absurd h hx
  · rw [if_neg hc] at h; exact ⟨hc, h⟩

theorem ite_safe {α : Type} {c : Prop} [Decidable c] {x y : Outcome α} (hx : x.isSafe = true)
    (hy : y.isSafe = true) : (if c then x else y).isSafe = true := by
  split <;> assumption

structure Outcome.Post {α : Type} (x : Outcome α) (P : α → Prop) : Prop where
  safe : x.isSafe = true
  post : ∀ a, x = ok a → P a

theorem Outcome.Post.ok {α : Type} {a : α} {P : α → Prop} (h : P a) : (Outcome.ok a).Post P :=
  ⟨rfl, fun _ e => Outcome.ok.inj e ▸ h⟩

theorem Outcome.Post.err {α : Type} {k : Kind} {P : α → Prop} : (Outcome.err k : Outcome α).Post P :=
  ⟨rfl, nofun⟩

theorem Outcome.Post.bind {α β : Type} {x : Outcome α} {f : α → Outcome β} {P : α → Prop} {Q : β → Prop}
    (hx : x.Post P) (hf : ∀ a, x = .ok a → P a → (f a).Post Q) : (x.bind f).Post Q :=
  ⟨bind_safe hx.safe fun a e => (hf a e (hx.post a e)).safe, fun b e => by
    obtain ⟨a, ea, eb⟩ := bind_eq_ok.mp e
    exact (hf a ea (hx.post a ea)).post b eb⟩

/-- `Post` read at a `match` on the outcome, as Model/Params.lean writes Rust's `?` (`| ok a => … | err k => err k | crash => crash
| ub => ub`): the scrutinee returned a value with `P`, or an error value.  `Post.bind` is the same rule for `.bind`. -/
@[elab_as_elim]
theorem Outcome.Post.elim {α : Type} {x : Outcome α} {P : α → Prop} {motive : Outcome α → Prop} (hx : x.Post P)
    (ok : ∀ a, P a → motive (.ok a)) (err : ∀ k, motive (.err k)) : motive x := by
  cases x with
  | ok a => exact ok a (hx.post a rfl)
  | err k => exact err k
  | crash => exact nomatch hx.safe
  | ub => exact nomatch hx.safe

theorem Outcome.Post.ite {α : Type} {c : Prop} [Decidable c] {x y : Outcome α} {P : α → Prop}
    (hx : c → x.Post P) (hy : ¬ c → y.Post P) : (if c then x else y).Post P := by
  split
  · exact hx ‹_›
  · exact hy ‹_›

theorem Outcome.Post.mono {α : Type} {x : Outcome α} {P Q : α → Prop} (hx : x.Post P) (h : ∀ a, P a → Q a) : x.Post Q :=
  ⟨hx.safe, fun a e => h a (hx.post a e)⟩

end Params
