import Sudachi.Proofs.BuildKept
/-!
# Which panics exist (C06 `compile_total`)

Invariants carried through `read_lexicon` and `resolve` that make the `panic!` branch of
`validate_wid` unreachable and leave `validate_entries` its `panic!` only when the `resolved` flag
cannot be trusted; the panics of the matrix reader (D1, D2) and of the index step (D4, D5); hence
`build_panic_kind`, of which `compile_total` is the case where every repair is in.
-/
namespace Build

/-! ## word ids that come out of the parsers and the resolver name dictionary 0 or 1 -/

def WidOk (w : Nat) : Prop := widDic w ≤ 1

theorem widNew_widOk (d i : Nat) (hd : d ≤ 1) : WidOk (widNew d i) := by
  unfold WidOk widDic widNew DIC_UNIT; omega

theorem parseWordIdRaw_le {s : Str} {w : Nat} (h : parseWordIdRaw s = .ok w) : w ≤ WORD_MASK := by
  revert h
  fun_cases parseWordIdRaw s with
  | case1 => rename_i hv; exact fun h => Except.ok.inj h ▸ hv
  | _ => nofun

theorem parseWordId_widOk {s : Str} {w : Nat} (h : parseWordId s = .ok w) : WidOk w := by
  revert h
  fun_cases parseWordId s with
  | case1 => exact fun h => Except.ok.inj h ▸ widNew_widOk 1 _ (Nat.le_refl 1)
  | case2 => nofun
  | case3 =>
    intro h
    have := parseWordIdRaw_le h
    unfold WidOk widDic DIC_UNIT; unfold WORD_MASK at this; omega

theorem parseWordIdList_widOk {s : Str} {l : List Nat} (h : parseWordIdList s = .ok l) :
    ∀ w ∈ l, WidOk w := by
  unfold parseWordIdList at h
  split at h
  · injection h with h; subst h; nofun
  · exact fun w hw => let ⟨a, ha⟩ := (slashList_mem h).1 w hw; parseWordId_widOk ha

theorem parseDicForm_widOk {s : Str} {w : Nat} (h : parseDicForm s = .ok w) : w = WID_INVALID ∨ WidOk w := by
  unfold parseDicForm at h
  split at h
  · injection h with h; exact Or.inl h.symm
  · exact Or.inr (parseWordId_widOk h)

def UnitWf : SplitUnit → Prop
  | .ref w => WidOk w
  | .inline .. => True

theorem parseSplit_unitWf {x : Ext} {tab tab' : List PosKey} {s : Str} {u : SplitUnit}
    (h : parseSplit x tab s = .ok (u, tab')) : UnitWf u := by
  rcases parseSplit_cases h with ⟨w, hw, rfl, _⟩ | ⟨_, _, _, _, _, _, rfl⟩
  · exact parseWordId_widOk hw
  · trivial

theorem parseSplitList_unitWf {x : Ext} {tab tab' : List PosKey} {ss : List Str} {us : List SplitUnit}
    (h : parseSplitList x tab ss = .ok (us, tab')) : ∀ u ∈ us, UnitWf u := by
  revert h
  fun_induction parseSplitList x tab ss generalizing us tab' with
  | case1 => exact fun h => (Prod.mk.inj (Except.ok.inj h)).1 ▸ nofun
  | case4 =>
    rename_i hu _ _ hus ih
    exact fun h => (Prod.mk.inj (Except.ok.inj h)).1 ▸ List.forall_mem_cons.2 ⟨parseSplit_unitWf hu, ih hus⟩
  | _ => nofun

theorem parseSplits_unitWf {x : Ext} {tab tab' : List PosKey} {s : Str} {us : List SplitUnit}
    (h : parseSplits x tab s = .ok (us, tab')) : ∀ u ∈ us, UnitWf u := by
  rcases parseSplits_cases h with ⟨rfl, _⟩ | ⟨hl, _⟩
  · nofun
  · exact parseSplitList_unitWf hl

/-! ## what the reader maintains: well-formed ids, and the counter bounds the number of inline units -/

def EntryWf (e : Entry) : Prop :=
  (e.dicForm = WID_INVALID ∨ WidOk e.dicForm) ∧ (∀ w ∈ e.wordStructure, WidOk w) ∧
  (∀ u ∈ e.splitsA, UnitWf u) ∧ (∀ u ∈ e.splitsB, UnitWf u)

def entryInline (e : Entry) : Nat := inlineCount e.splitsA + inlineCount e.splitsB

def NoInline (e : Entry) : Prop := entryInline e = 0

/-- what `read_lexicon` maintains: the counter is at least the number of inline units (it is
exact until `resolve` replaces inline units without touching the counter) -/
def LexInv (v : Variant) (st : LexState) : Prop :=
  (∀ e ∈ st.entries, EntryWf e ∧ (v.d5 = true → hasNul e.surface = false)) ∧
  (st.entries.map entryInline).sum ≤ st.unresolved

theorem parseRecord_inv {v : Variant} {x : Ext} {st st' : LexState} {fs : List Str}
    (hi : LexInv v st) (h : parseRecord v x st fs = .ok st') : LexInv v st' := by
  obtain ⟨e, tab, rfl, hr⟩ := parseRecord_ok h
  obtain ⟨t0, t1, pk, ha, hb, _⟩ := hr.tables
  obtain ⟨_, _, ha'⟩ := fld_ok ha
  obtain ⟨_, _, hb'⟩ := fld_ok hb
  obtain ⟨_, _, hd'⟩ := fld_ok hr.dicForm
  obtain ⟨_, _, hw'⟩ := fld_ok hr.wordStructure
  have hs := hr.surfaceOk
  have hwf : EntryWf e := ⟨parseDicForm_widOk hd', parseWordIdList_widOk hw', parseSplits_unitWf ha', parseSplits_unitWf hb'⟩
  have hnul : v.d5 = true → hasNul e.surface = false := by
    intro h5
    simp only [h5, Bool.true_and, Bool.or_eq_true, not_or] at hs
    simpa [hasNul] using hs.2
  constructor
  · exact List.forall_mem_append.2 ⟨hi.1, List.forall_mem_singleton.2 ⟨hwf, hnul⟩⟩
  · simp only [List.map_append, List.sum_append, List.map_cons, List.map_nil, List.sum_cons, List.sum_nil,
      entryInline]
    have := hi.2
    omega

theorem readLexB_lexInv {v : Variant} {x : Ext} {b : Builder} (recs : List (Nat × List Str)) (ce : Option Nat)
    (hi : LexInv v b.lex) : LexInv v (readLexB v x b recs ce).1.lex := by
  refine readLexB_preserves (fun _ _ _ => parseRecord_inv) (fun st fs hst => ?_) recs ce hi
  obtain ⟨tab, u, he, _, hu, _⟩ := parseRecordLeft_kept v x st fs
  rw [he]; exact ⟨hst.1, Nat.le_trans hst.2 hu⟩

/-! ## the resolver: resolved units are well-formed references, and it does not panic -/

theorem resolveInline_widOk {dicId : Nat} {own : List Entry} {sys : List SysWord} {s : Str} {p : Nat}
    {r : Option Str} {w : Nat} (hd : dicId ≤ 1) (h : resolveInline dicId own sys s p r = some w) : WidOk w := by
  revert h
  fun_cases resolveInline dicId own sys s p r with
  | case1 => exact fun h => Option.some.inj h ▸ widNew_widOk _ _ hd
  | case2 => exact fun h => Option.some.inj h ▸ widNew_widOk _ _ (Nat.zero_le 1)
  | case3 => nofun

theorem inlineCount_cons_ref (w : Nat) (us : List SplitUnit) : inlineCount (.ref w :: us) = inlineCount us := by
  simp [inlineCount, List.filter, SplitUnit.isInline]

theorem resolveUnits_unitWf {f : Str → Nat → Option Str → Option Nat} (hf : ∀ s p r w, f s p r = some w → WidOk w)
    {us rs : List SplitUnit} {n : Nat} (h : resolveUnits f us = some (rs, n)) (hus : ∀ u ∈ us, UnitWf u) :
    (∀ u ∈ rs, UnitWf u) ∧ inlineCount rs = 0 := by
  induction us generalizing rs n with
  | nil => cases h; exact ⟨nofun, rfl⟩
  | cons u us ih =>
    -- whichever unit comes first, it becomes a reference `w` with `WidOk w` in front of the resolved rest
    obtain ⟨w, rs', m, hw, hr, rfl⟩ : ∃ w rs' m, WidOk w ∧ resolveUnits f us = some (rs', m) ∧ rs = .ref w :: rs' := by
      cases u with
      | ref w =>
        unfold resolveUnits at h
        split at h
        · rename_i r m hr
          cases h
          exact ⟨w, r, _, hus _ List.mem_cons_self, hr, rfl⟩
        · cases h
      | inline s p r =>
        unfold resolveUnits at h
        split at h
        · cases h
        · rename_i w hw
          split at h
          · rename_i rs' m hr
            cases h
            exact ⟨w, _, _, hf s p r w hw, hr, rfl⟩
          · cases h
    obtain ⟨i1, i2⟩ := ih hr (fun u' hu' => hus u' (List.mem_cons_of_mem _ hu'))
    exact ⟨List.forall_mem_cons.2 ⟨hw, i1⟩, by rw [inlineCount_cons_ref]; exact i2⟩

theorem not_panic_of_isPanic {α : Type} {r : Res α} {w : PanicWhy} (h : r.isPanic = false) : r ≠ .panic w := by
  intro he; rw [he] at h; cases h

theorem resolveEntries_no_panic (f : Str → Nat → Option Str → Option Nat) (es : List Entry) (line : Nat) :
    (resolveEntries f es line).isPanic = false := by
  fun_induction resolveEntries f es line with
  | case6 => rename_i hw ih; rw [hw] at ih; exact ih
  | _ => rfl

theorem resolve_no_panic (b : Builder) : (resolve b).isPanic = false := by
  fun_cases resolve b with
  | case4 => rename_i hw; exact absurd hw (not_panic_of_isPanic (resolveEntries_no_panic ..))
  | _ => rfl

theorem noInline_of_unresolved_zero {v : Variant} {st : LexState} (hi : LexInv v st) (h0 : st.unresolved = 0) :
    ∀ e ∈ st.entries, NoInline e := by
  intro e he
  have := hi.2
  rw [h0] at this
  exact List.sum_eq_zero_iff_forall_eq_nat.1 (Nat.le_zero.1 this) _ (List.mem_map.2 ⟨e, he, rfl⟩)

/-! ## the invariant of the builder over any sequence of calls -/

/-- what `compile` may rely on after any sequence of calls.  The last clause needs `v.rf` (`read_lexicon` clears the
flag: `Variant.repaired` and later, not `Variant.current` / `staleFlag`, the trees before that repair): a set flag then
means that no inline unit is left. -/
def BuilderInv (v : Variant) (b : Builder) : Prop :=
  LexInv v b.lex ∧ (v.rf = true → b.resolved = true → ∀ e ∈ b.lex.entries, NoInline e)

theorem init_inv (v : Variant) (base : Base) : BuilderInv v (Builder.init v base) :=
  ⟨⟨by simp [Builder.init], by simp [Builder.init]⟩, fun _ h => by simp [Builder.init] at h⟩

/-- what `compile` may rely on also holds in the state a FAILED `read_lexicon` leaves: the rows it
kept went through `parse_record` like any other, and the flag was cleared -/
theorem readLexB_inv {v : Variant} {x : Ext} {b : Builder} {recs : List (Nat × List Str)} {ce : Option Nat}
    (hi : BuilderInv v b) : BuilderInv v (readLexB v x b recs ce).1 := by
  refine ⟨readLexB_lexInv recs ce hi.1, fun hrf hres => ?_⟩
  obtain ⟨_, e⟩ := readLexB_frame v x b recs ce
  rw [e, hrf] at hres
  cases hres

theorem resolve_inv {v : Variant} {b b' : Builder} {n : Nat} (hi : BuilderInv v b) (h : resolve b = .ok (b', n)) :
    BuilderInv v b' := by
  rcases resolve_cases h with ⟨h0, rfl⟩ | ⟨es, hr, rfl⟩
  · exact ⟨hi.1, fun _ _ => noInline_of_unresolved_zero hi.1 h0⟩
  · have hf : ∀ s p r w, resolveInline (if b.base.isUser then 1 else 0) b.lex.entries b.base.sysWords s p r = some w →
        WidOk w := fun s p r w hw => resolveInline_widOk (by split <;> omega) hw
    -- every resolved entry is an entry that was there, with both split lists resolved
    have hall : ∀ r ∈ es, (EntryWf r ∧ (v.d5 = true → hasNul r.surface = false)) ∧ NoInline r := by
      intro r hr'
      obtain ⟨e, he, sa, na, sb, nb, ha, hb, rfl⟩ := (resolveEntries_ok hr).2 r hr'
      obtain ⟨hwf, hp⟩ := hi.1.1 e he
      obtain ⟨a1, a2⟩ := resolveUnits_unitWf hf ha hwf.2.2.1
      obtain ⟨b1, b2⟩ := resolveUnits_unitWf hf hb hwf.2.2.2
      exact ⟨⟨⟨hwf.1, hwf.2.1, a1, b1⟩, hp⟩, by simp [NoInline, entryInline, a2, b2]⟩
    refine ⟨⟨fun e he => (hall e he).1, ?_⟩, fun _ _ e he => (hall e he).2⟩
    have hz : (es.map entryInline).sum = 0 :=
      List.sum_eq_zero_iff_forall_eq_nat.2 (fun x hx => by
        obtain ⟨e, he, rfl⟩ := List.mem_map.1 hx
        exact (hall e he).2)
    simp only [hz]; exact Nat.zero_le _

theorem prepare_inv {v : Variant} {x : Ext} {inp : Input} {b : Builder} {cnt : Nat}
    (h : prepare v x inp = .ok (b, cnt)) : BuilderInv v b :=
  runOps_preserves (P := BuilderInv v)
    (fun b lines hi => by obtain ⟨_, _, e⟩ := readConnB_frame v b lines; rw [e]; exact hi)
    (fun _ _ _ => readLexB_inv) (fun _ _ _ => resolve_inv) h (init_inv v inp.base)

/-! ## on well-formed entries the only panic of the validation is the one about an inline unit -/

theorem andThen_panic {r n : Res Unit} {w : PanicWhy} (h : r.andThen n = .panic w) :
    r = .panic w ∨ (r = .ok () ∧ n = .panic w) := by
  cases r with
  | ok u => exact Or.inr ⟨rfl, h⟩
  | err k l => cases h
  | panic w' => exact Or.inl h

theorem validateWid_not_panic {w max0 max1 : Nat} {p : PanicWhy} (h : WidOk w) : validateWid w max0 max1 ≠ .panic p := by
  unfold WidOk at h
  fun_cases validateWid w max0 max1 with
  | case5 => rename_i h0 h1; exact fun _ => (Nat.le_one_iff_eq_zero_or_eq_one.1 h).elim h0 h1
  | _ => nofun

theorem validateWids_not_panic {max0 max1 : Nat} {ws : List Nat} {p : PanicWhy} (h : ∀ w ∈ ws, WidOk w) :
    validateWids max0 max1 ws ≠ .panic p := by
  induction ws with
  | nil => nofun
  | cons w ws ih =>
    intro hp
    rcases andThen_panic hp with h1 | ⟨_, h2⟩
    · exact validateWid_not_panic (h w List.mem_cons_self) h1
    · exact ih (fun w' hw' => h w' (List.mem_cons_of_mem _ hw')) h2

theorem validateUnits_panic {max0 max1 : Nat} {us : List SplitUnit} {w : PanicWhy} (h : ∀ u ∈ us, UnitWf u)
    (hp : validateUnits max0 max1 us = .panic w) : w = .unresolvedSplit ∧ inlineCount us ≠ 0 := by
  revert hp
  fun_induction validateUnits max0 max1 us with
  | case1 => nofun
  | case2 =>
    rename_i ih
    intro hp
    rcases andThen_panic hp with h1 | ⟨_, h2⟩
    · exact absurd h1 (validateWid_not_panic (h _ List.mem_cons_self))
    · rw [inlineCount_cons_ref]
      exact ih (fun u' hu' => h u' (List.mem_cons_of_mem _ hu')) h2
  | case3 => exact fun hp => ⟨(Res.panic.inj hp).symm, by simp [inlineCount, List.filter, SplitUnit.isInline]⟩

theorem validateEntry_panic {v : Variant} {ml mr : Int} {max0 max1 : Nat} {e : Entry} {w : PanicWhy}
    (hw : EntryWf e) (hp : validateEntry v ml mr max0 max1 e = .panic w) :
    w = .unresolvedSplit ∧ ¬ NoInline e := by
  revert hp
  fun_cases validateEntry v ml mr max0 max1 e with
  | case3 =>
    intro hp
    rcases andThen_panic hp with h1 | ⟨_, h2⟩
    · exfalso
      split at h1
      · rename_i hne
        exact validateWid_not_panic (hw.1.resolve_left hne) h1
      · cases h1
    · rcases andThen_panic h2 with h3 | ⟨_, h4⟩
      · obtain ⟨k1, k2⟩ := validateUnits_panic hw.2.2.1 h3
        exact ⟨k1, by unfold NoInline entryInline; omega⟩
      · rcases andThen_panic h4 with h5 | ⟨_, h6⟩
        · obtain ⟨k1, k2⟩ := validateUnits_panic hw.2.2.2 h5
          exact ⟨k1, by unfold NoInline entryInline; omega⟩
        · exact absurd h6 (validateWids_not_panic hw.2.1)
  | _ => nofun

theorem atLine_panic {α : Type} {r : Res α} {n : Nat} {w : PanicWhy} (h : r.atLine n = .panic w) : r = .panic w := by
  cases r with
  | ok a => exact h
  | err k l => cases h
  | panic w' => exact h

theorem validateFrom_panic {v : Variant} {ml mr : Int} {max0 max1 : Nat} {es : List Entry} {line : Nat} {w : PanicWhy}
    (h : ∀ e ∈ es, EntryWf e) (hp : validateFrom v ml mr max0 max1 es line = .panic w) :
    w = .unresolvedSplit ∧ ∃ e ∈ es, ¬ NoInline e := by
  induction es generalizing line with
  | nil => cases hp
  | cons e es ih =>
    rcases andThen_panic hp with h1 | ⟨_, h2⟩
    · obtain ⟨k1, k2⟩ := validateEntry_panic (h e List.mem_cons_self) (atLine_panic h1)
      exact ⟨k1, e, List.mem_cons_self, k2⟩
    · obtain ⟨k1, e', he', k2⟩ := ih (fun e' he' => h e' (List.mem_cons_of_mem _ he')) h2
      exact ⟨k1, e', List.mem_cons_of_mem _ he', k2⟩

/-- the `panic!` of `validate_wid` is unreachable, the one of `validate_entries` needs an entry
that still has an inline unit -/
theorem validateEntries_panic {v : Variant} {ml mr : Int} {ns : Option Nat} {es : List Entry} {w : PanicWhy}
    (h : ∀ e ∈ es, EntryWf e) (hp : validateEntries v ml mr ns es = .panic w) :
    w = .unresolvedSplit ∧ ∃ e ∈ es, ¬ NoInline e := by
  unfold validateEntries at hp
  split at hp <;> exact validateFrom_panic h hp

/-! ## the script: only the index step has panic steps -/

def Step.isPanic : Step → Bool
  | .panic _ => true
  | _ => false

def NoPanicSteps (l : List Step) : Prop := ∀ s ∈ l, s.isPanic = false

theorem noPanic_append {a b : List Step} (ha : NoPanicSteps a) (hb : NoPanicSteps b) : NoPanicSteps (a ++ b) :=
  List.forall_mem_append.2 ⟨ha, hb⟩

theorem noPanic_cons {s : Step} {l : List Step} (hs : s.isPanic = false) (hl : NoPanicSteps l) :
    NoPanicSteps (s :: l) :=
  List.forall_mem_cons.2 ⟨hs, hl⟩

theorem noPanic_nil : NoPanicSteps [] := by intro s hs; cases hs

theorem headerSteps_noPanic (n : Nat) : NoPanicSteps (headerSteps n) := by
  unfold headerSteps
  split
  · exact noPanic_cons rfl noPanic_nil
  · refine noPanic_append (noPanic_cons rfl (noPanic_cons rfl (noPanic_cons rfl noPanic_nil))) ?_
    intro s hs
    rw [List.eq_of_mem_replicate hs]; rfl

theorem u16Steps_noPanic (line : Nat) (s : Str) : NoPanicSteps (u16Steps line s) := by
  fun_cases u16Steps line s with
  | case3 => exact noPanic_cons rfl (noPanic_cons rfl noPanic_nil)
  | _ => exact noPanic_cons rfl noPanic_nil

theorem posRowsSteps_noPanic (ks : List PosKey) (line : Nat) : NoPanicSteps (posRowsSteps ks line) := by
  induction ks generalizing line with
  | nil => exact noPanic_nil
  | cons k ks ih =>
    unfold posRowsSteps
    refine noPanic_append ?_ (ih _)
    intro s hs
    obtain ⟨f, _, hf⟩ := List.mem_flatMap.1 hs
    exact u16Steps_noPanic line f s hf

theorem posSteps_noPanic (tab : List PosKey) (start : Nat) : NoPanicSteps (posSteps tab start) :=
  noPanic_cons rfl (posRowsSteps_noPanic _ _)

theorem connSteps_noPanic (c : Conn) : NoPanicSteps (connSteps c) := by
  fun_cases connSteps c with
  | case3 => exact noPanic_cons rfl (noPanic_cons rfl (noPanic_cons rfl noPanic_nil))
  | _ => exact noPanic_cons rfl noPanic_nil

theorem paramSteps_noPanic (es : List Entry) : NoPanicSteps (paramSteps es) := by
  induction es with
  | nil => exact noPanic_nil
  | cons e es ih => exact noPanic_cons rfl (noPanic_cons rfl (noPanic_cons rfl ih))

theorem offsetSteps_noPanic (es : List Entry) (line : Nat) : NoPanicSteps (offsetSteps es line) := by
  fun_induction offsetSteps es line with
  | case1 => exact noPanic_nil
  | case2 => exact noPanic_cons rfl (noPanic_cons rfl noPanic_nil)
  | case3 => rename_i ih; exact noPanic_cons rfl ih

theorem lexSteps_noPanic (es : List Entry) : NoPanicSteps (lexSteps es) :=
  noPanic_cons rfl (noPanic_append (noPanic_append (paramSteps_noPanic _) (offsetSteps_noPanic _ _))
    (noPanic_cons rfl noPanic_nil))

/-! ## `indexKeys`: every key is the surface of an indexed entry; no keys only without indexed entries -/

theorem addKey_fst {k : Str} {acc : List (Str × Nat)} :
    ∀ q ∈ addKey k acc, q.1 = k ∨ ∃ q' ∈ acc, q'.1 = q.1 := by
  induction acc with
  | nil => intro q hq; simp [addKey] at hq; left; rw [hq]
  | cons a acc ih =>
    obtain ⟨k', n⟩ := a
    intro q hq
    unfold addKey at hq
    split at hq
    · rcases List.mem_cons.1 hq with rfl | hm
      · right; exact ⟨(k', n), List.mem_cons_self, rfl⟩
      · right; exact ⟨q, List.mem_cons_of_mem _ hm, rfl⟩
    · rcases List.mem_cons.1 hq with rfl | hm
      · right; exact ⟨(k', n), List.mem_cons_self, rfl⟩
      · rcases ih q hm with h | ⟨q', hq', he⟩
        · exact Or.inl h
        · right; exact ⟨q', List.mem_cons_of_mem _ hq', he⟩

theorem foldl_addKey_fst (l : List Entry) (acc : List (Str × Nat)) :
    ∀ q ∈ l.foldl (fun acc e => addKey e.surface acc) acc,
      (∃ e ∈ l, e.surface = q.1) ∨ ∃ q' ∈ acc, q'.1 = q.1 := by
  induction l generalizing acc with
  | nil => intro q hq; right; exact ⟨q, hq, rfl⟩
  | cons e l ih =>
    intro q hq
    simp only [List.foldl_cons] at hq
    rcases ih _ q hq with ⟨e', he', hs⟩ | ⟨q', hq', he⟩
    · left; exact ⟨e', List.mem_cons_of_mem _ he', hs⟩
    · rcases addKey_fst q' hq' with h | ⟨q'', hq'', he'⟩
      · left; exact ⟨e, List.mem_cons_self, by rw [← he, h]⟩
      · right; exact ⟨q'', hq'', by rw [he', he]⟩

theorem addKey_ne_nil (k : Str) (acc : List (Str × Nat)) : addKey k acc ≠ [] := by
  cases acc with
  | nil => simp [addKey]
  | cons a acc => obtain ⟨k', n⟩ := a; unfold addKey; split <;> simp

theorem indexKeys_eq_nil {es : List Entry} (h : indexKeys es = []) : es.filter Entry.shouldIndex = [] := by
  have hne : ∀ (l : List Entry) (acc : List (Str × Nat)), acc ≠ [] →
      l.foldl (fun acc e => addKey e.surface acc) acc ≠ [] := by
    intro l
    induction l with
    | nil => exact fun _ h => h
    | cons e l ih => exact fun acc _ => ih _ (addKey_ne_nil _ _)
  unfold indexKeys at h
  cases hf : es.filter Entry.shouldIndex with
  | nil => rfl
  | cons e rest => rw [hf] at h; exact absurd h (hne rest _ (addKey_ne_nil _ _))

theorem indexSteps_panics {v : Variant} {es : List Entry} {tl : Nat} {w : PanicWhy}
    (h : Step.panic w ∈ indexSteps v es tl) :
    (w = .emptyKeys ∧ v.d4 = false ∧ (es.filter Entry.shouldIndex) = []) ∨
    (w = .nulKey ∧ ∃ e ∈ es, e.shouldIndex = true ∧ hasNul e.surface = true) := by
  rcases indexSteps_cases v es tl with ⟨k, l, he⟩ | ⟨he, h4, hemp⟩ | ⟨he, hany⟩ | ⟨n, he, _⟩ <;> rw [he] at h
  · simp at h
  · simp only [List.mem_singleton, Step.panic.injEq] at h
    exact Or.inl ⟨h, h4, indexKeys_eq_nil hemp⟩
  · simp only [List.mem_singleton, Step.panic.injEq] at h
    obtain ⟨q, hq, hn⟩ := List.any_eq_true.1 hany
    rcases foldl_addKey_fst _ [] q hq with ⟨e, he, hs⟩ | ⟨q', hq', _⟩
    · exact Or.inr ⟨h, e, (List.mem_filter.1 he).1, (List.mem_filter.1 he).2, by rw [hs]; exact hn⟩
    · cases hq'
  · simp at h

/-! ## `compile`: which panics -/

/-- `check_if_resolved` passed and an inline unit is left: the flag is set, and nothing clears it -/
theorem checked_inline {v : Variant} {b : Builder} (hi : BuilderInv v b)
    (hc : ¬ (b.lex.unresolved > 0 ∧ (!b.resolved) = true)) {e : Entry} (he : e ∈ b.lex.entries) (hn : ¬ NoInline e) :
    v.rf = false ∧ b.resolved = true := by
  have h0 : b.lex.unresolved ≠ 0 := fun h0 => hn (noInline_of_unresolved_zero hi.1 h0 e he)
  have hr : b.resolved = true := by
    cases hr : b.resolved with
    | true => rfl
    | false => exact absurd ⟨Nat.pos_of_ne_zero h0, by rw [hr]; rfl⟩ hc
  refine ⟨?_, hr⟩
  cases hrf : v.rf with
  | false => rfl
  | true => exact absurd (hi.2 hrf hr e he) hn

/-- a panic of `compile` is one of the two panics of the index step, or — when `read_lexicon` does not clear the flag
(`v.rf = false`: `Variant.current`, `staleFlag`) — the `panic!` of `validate_entries` about an inline unit -/
theorem compile_panic_kind {v : Variant} {b : Builder} {dl tl : Nat} {limit : Option Nat} {w : PanicWhy}
    (hi : BuilderInv v b) (h : compile v b dl tl limit = .panic w) :
    (w = .emptyKeys ∧ v.d4 = false ∧ (b.lex.entries.filter Entry.shouldIndex) = []) ∨
    (w = .nulKey ∧ ∃ e ∈ b.lex.entries, e.shouldIndex = true ∧ hasNul e.surface = true) ∨
    (w = .unresolvedSplit ∧ v.rf = false ∧ b.resolved = true ∧ ∃ e ∈ b.lex.entries, ¬ NoInline e) := by
  revert h
  -- `compile` panics where `validate_entries` does (case 3) or where the script does (case 6)
  fun_cases compile v b dl tl limit with
  | case3 =>
    rename_i hc _ hv
    intro h; cases h
    obtain ⟨k1, e, he, k2⟩ := validateEntries_panic (fun e he => (hi.1.1 e he).1) hv
    obtain ⟨hrf, hr⟩ := checked_inline hi hc he k2
    exact Or.inr (Or.inr ⟨k1, hrf, hr, e, he, k2⟩)
  | case6 =>
    rename_i hx
    intro h; cases h
    have hm := exec_panic_mem hx
    simp only [compileSteps, List.mem_append] at hm
    rcases hm with (((hm | hm) | hm) | hm) | hm
    · cases headerSteps_noPanic dl _ hm
    · cases posSteps_noPanic _ _ _ hm
    · cases connSteps_noPanic _ _ hm
    · exact (indexSteps_panics hm).imp id Or.inl
    · cases lexSteps_noPanic _ _ hm
  | _ => nofun

/-! ## the matrix reader: `todo!()` on an empty text (D1), the unchecked index of `write_elem` (D2) -/

theorem writeElem_panic {v : Variant} {c : Conn} {l r : Int} {w : PanicWhy} (h : writeElem v c l r = .panic w) :
    w = .connIndex ∧ v.d2 = false := by
  revert h
  fun_cases writeElem v c l r with
  | case4 h2 | case6 h2 => exact fun h => ⟨(Res.panic.inj h).symm, Bool.eq_false_iff.2 h2⟩
  | _ => nofun

theorem parseLine_panic {v : Variant} {c : Conn} {line : Str} {w : PanicWhy} (h : parseLine v c line = .panic w) :
    w = .connIndex ∧ v.d2 = false := by
  revert h
  -- only three items that all parse reach `write_elem`, the one panic
  fun_cases parseLine v c line with
  | case6 => rename_i hw; exact fun h => Res.panic.inj h ▸ writeElem_panic hw
  | _ => nofun

theorem readBody_panic {v : Variant} {c : Conn} {lines : List (Option Str)} {n : Nat} {cells : List (Nat × Int)}
    {w : PanicWhy} (h : (readBody v c lines n cells).2 = .panic w) : w = .connIndex ∧ v.d2 = false := by
  revert h
  fun_induction readBody v c lines n cells with
  | case3 | case4 => rename_i ih; exact ih
  | case6 => rename_i hw; exact fun h => Res.panic.inj h ▸ parseLine_panic (atLine_panic hw)
  | _ => nofun

theorem readConn_panic {v : Variant} {buf : ConnBuf} {lines : List (Option Str)} {w : PanicWhy}
    (h : (readConn v buf lines).2 = .panic w) :
    (w = .todoEmptyConn ∧ v.d1 = false) ∨ (w = .connIndex ∧ v.d2 = false) := by
  obtain ⟨c, line⟩ := buf
  rcases readConn_cases v line lines with ⟨hd, r, _, hp, hc⟩ | ⟨hd, l, r, n, rest, _, _, _, hc⟩
  · rw [hc] at h; exact Or.inl (hp w h)
  · rw [hc] at h; exact Or.inr (readBody_panic h)

theorem readConnB_panic {v : Variant} {b : Builder} {lines : List (Option Str)} {w : PanicWhy}
    (h : (readConnB v b lines).2 = .panic w) :
    (w = .todoEmptyConn ∧ v.d1 = false) ∨ (w = .connIndex ∧ v.d2 = false) :=
  readConn_panic ((readConnB_cases v b lines).1 ▸ h)

/-! ## the calls before `compile`: only the matrix reader panics -/

theorem readLexiconP_no_panic (v : Variant) (x : Ext) (st : LexState) (recs : List (Nat × List Str)) :
    (readLexiconP v x st recs).2.isPanic = false := by
  fun_induction readLexiconP v x st recs with
  | case3 => rename_i ih; exact ih
  | _ => rfl

theorem readLexB_no_panic (v : Variant) (x : Ext) (b : Builder) (recs : List (Nat × List Str)) (ce : Option Nat) :
    (readLexB v x b recs ce).2.isPanic = false := by
  obtain ⟨L, r, h, hc⟩ := readLexB_cases v x b recs ce
  rw [h]
  rcases hc with ⟨rfl, _⟩ | ⟨_, _, rfl | ⟨_, _, rfl, _⟩⟩
  · rfl
  · exact readLexiconP_no_panic ..
  · rfl

theorem readLex_no_panic (v : Variant) (x : Ext) (b : Builder) (recs : List (Nat × List Str)) (ce : Option Nat) :
    (readLex v x b recs ce).isPanic = false := by
  have hp := readLexiconP_no_panic v x b.lex recs
  unfold readLex
  rw [readLexiconP_result]
  cases hr : readLexiconP v x b.lex recs with
  | mk st r =>
    rw [hr] at hp
    cases r with
    | ok u => cases u; cases ce <;> rfl
    | err k l => rfl
    | panic w => cases hp

theorem runOp_panic {v : Variant} {x : Ext} {s : Builder × Nat} {op : Op} {st : Stage} {w : PanicWhy}
    (hf : runOp v x s op = .error (.panic st w)) :
    st = .conn ∧ ((w = .todoEmptyConn ∧ v.d1 = false) ∨ (w = .connIndex ∧ v.d2 = false)) := by
  revert hf
  -- of the eleven ways a call ends, four are a panic: `read_conn` (propagated or ignored), which has the two of the
  -- matrix reader, and `read_lexicon` and `resolve`, which have none
  fun_cases runOp v x s op with
  | case3 | case4 =>
    rename_i hc
    exact fun hf => by cases hf; exact ⟨rfl, readConnB_panic (congrArg Prod.snd hc)⟩
  | case6 =>
    rename_i hc
    exact fun hf => by
      cases hf
      cases hr : readLex v x s.1 _ _ <;> rw [hr] at hc <;> cases hc
      exact absurd hr (not_panic_of_isPanic (readLex_no_panic ..))
  | case8 =>
    rename_i hc
    exact fun _ => absurd (congrArg Prod.snd hc) (not_panic_of_isPanic (readLexB_no_panic ..))
  | case10 =>
    rename_i hc
    exact fun hf => by
      cases hf
      cases hr : resolve s.1 <;> rw [hr] at hc <;> cases hc
      exact absurd hr (not_panic_of_isPanic (resolve_no_panic _))
  | _ => nofun

theorem runOps_panic {v : Variant} {x : Ext} {s0 : Builder × Nat} {ops : List Op} {s : Stage} {w : PanicWhy}
    (hf : runOps v x s0 ops = .error (.panic s w)) :
    s = .conn ∧ ((w = .todoEmptyConn ∧ v.d1 = false) ∨ (w = .connIndex ∧ v.d2 = false)) := by
  revert hf
  fun_induction runOps v x s0 ops with
  | case1 => nofun
  | case2 => rename_i ho; exact fun hf => runOp_panic (ho.trans hf)
  | case3 => rename_i ih; exact ih

/-- **which panics exist**, for any variant and any sequence of calls: the two of the matrix reader
(D1, D2), the two of the index step (D4, D5), and — when `read_lexicon` does not clear the `resolved`
flag — the `panic!` of `validate_entries` about an unresolved split; each only while its repair is absent -/
theorem build_panic_kind {v : Variant} {x : Ext} {inp : Input} {limit : Option Nat} {s : Stage} {w : PanicWhy}
    (h : build v x inp limit = .panic s w) :
    (s = .conn ∧ ((w = .todoEmptyConn ∧ v.d1 = false) ∨ (w = .connIndex ∧ v.d2 = false))) ∨
    (s = .compile ∧ ((w = .emptyKeys ∧ v.d4 = false) ∨ (w = .nulKey ∧ v.d5 = false) ∨
      (w = .unresolvedSplit ∧ v.rf = false))) := by
  revert h
  fun_cases build v x inp limit with
  | case1 =>
    rename_i f hp
    cases f with
    | err => nofun
    | panic => exact fun h => by cases h; exact Or.inl (runOps_panic hp)
  | case2 =>
    rename_i p hp
    have hi := prepare_inv (b := p.1) (cnt := p.2) hp
    fun_cases finish v p inp.descLen inp.trieLen limit with
    | case2 =>
      rename_i hcmp
      intro h; cases h
      refine Or.inr ⟨rfl, ?_⟩
      rcases compile_panic_kind hi hcmp with ⟨h1, h2, _⟩ | ⟨h1, e, he, _, hn⟩ | ⟨h1, h2, _⟩
      · exact Or.inl ⟨h1, h2⟩
      · refine Or.inr (Or.inl ⟨h1, ?_⟩)
        cases h5 : v.d5 with
        | false => rfl
        | true => rw [(hi.1.1 e he).2 h5] at hn; cases hn
      · exact Or.inr (Or.inr ⟨h1, h2⟩)
    | _ => nofun

end Build
