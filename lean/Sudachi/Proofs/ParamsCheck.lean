import Sudachi.Proofs.ParamsOutcome
/-!
# C20: the casts and the range tests

`check_params.rs` on JSON ids and costs, the `as usize` test of `read_oov` on `unk.def` ids, the range test of
`InhibitConnectionPlugin::set_up`.  The two comparisons exist as `>` and as `>=` (flags `jsonGe`, `unkGe` of
`Variant`); accepted ids are described by `IdOk ge n`, which is `< n` for `>=` and `≤ n` for `>`, so every lemma
about accepted values is stated once for both.  `cur` and `repaired` name the two corner variants that the
counterexamples and `example`s of Props/C20.lean evaluate.
-/
namespace Params
open Outcome

/-- none of the three repairs: `>` in check_params (D15a) and in mecab_oov (D15b), no range check of inhibited pairs (D16) -/
def cur (dbg : Bool) : Variant := ⟨false, false, false, dbg⟩
/-- all three: `>=`, `>=`, range check in `set_up` -/
def repaired (dbg : Bool) : Variant := ⟨true, true, true, dbg⟩

theorem asU16_toNat {x : Int} (h0 : 0 ≤ x) (h : x < 65536) : asU16 x = x.toNat := by
  unfold asU16
  rw [Int.emod_eq_of_lt h0 h]

theorem asU16_of_lt {x : Int} (h0 : 0 ≤ x) (h : x < 65536) : ((asU16 x : Nat) : Int) = x := by
  rw [asU16_toNat h0 h, Int.toNat_of_nonneg h0]

theorem asI16_of_fits {x : Int} (h0 : -32768 ≤ x) (h : x ≤ 32767) : asI16 x = x := by
  simp only [asI16]
  split <;> omega

theorem asUsize_toNat {x : Int} (h0 : 0 ≤ x) (h : x < 18446744073709551616) : asUsize x = x.toNat := by
  unfold asUsize
  rw [Int.emod_eq_of_lt h0 h]

/-- the bound is 2^64 − 32768 -/
theorem asUsize_neg {x : Int} (h0 : x < 0) (h : -32768 ≤ x) : asUsize x ≥ 18446744073709518848 := by
  unfold asUsize
  omega

/-! ## check_params -/

def IdOk (ge : Bool) (n : Nat) (x : Nat) : Prop := if ge then x < n else x ≤ n

theorem IdOk.le {ge : Bool} {n x : Nat} (h : IdOk ge n x) : x ≤ n := by
  cases ge
  · exact h
  · exact Nat.le_of_lt h

theorem IdOk.lt {n x : Nat} (h : IdOk true n x) : x < n := h

theorem IdOk.mono {ge : Bool} {n x y : Nat} (h : IdOk ge n x) (hy : y ≤ x) : IdOk ge n y := by
  cases ge
  · exact Nat.le_trans hy h
  · exact Nat.lt_of_le_of_lt hy h

/-- `as u16` never raises a non-negative value: an id that passed a range test is in range as the node carries it, whatever the dimension -/
theorem asU16_le {x : Int} (h0 : 0 ≤ x) : asU16 x ≤ x.toNat := by
  obtain ⟨n, rfl⟩ := Int.eq_ofNat_of_zero_le h0
  exact Nat.mod_le n 65536

theorem checkId_eq_ok {ge : Bool} {n : Nat} {x : Int} {w : Nat} :
    checkId ge n x = ok w ↔ 0 ≤ x ∧ IdOk ge n x.toNat ∧ w = asU16 x := by
  unfold checkId
  by_cases hx : x < 0
  · rw [if_pos hx]
    exact ⟨nofun, fun h => absurd h.1 (Int.not_le.mpr hx)⟩
  · rw [if_neg hx]
    cases ge <;> simp only [IdOk, Bool.false_eq_true, if_false, if_true]
    all_goals
      split
      · exact ⟨nofun, fun h => by omega⟩
      · exact ⟨fun h => ⟨by omega, by omega, (ok.inj h).symm⟩, fun h => h.2.2 ▸ rfl⟩

theorem checkId_IdOk {ge : Bool} {n : Nat} {x : Int} {w : Nat} (h : checkId ge n x = ok w) (hn : n ≤ 65535) :
    IdOk ge n w ∧ (w : Int) = x := by
  obtain ⟨h0, hb, rfl⟩ := checkId_eq_ok.mp h
  have hx : x < 65536 := by have := hb.le; omega
  rw [asU16_of_lt h0 hx, asU16_toNat h0 hx]
  exact ⟨hb, rfl⟩

theorem checkCost_eq_ok {x c : Int} : checkCost x = ok c ↔ c = x ∧ -32768 ≤ x ∧ x ≤ 32767 := by
  unfold checkCost
  by_cases h1 : x < -32768
  · rw [if_pos h1]
    exact ⟨nofun, fun h => by omega⟩
  rw [if_neg h1]
  by_cases h2 : x > 32767
  · rw [if_pos h2]
    exact ⟨nofun, fun h => by omega⟩
  rw [if_neg h2, asI16_of_fits (by omega) (by omega)]
  exact ⟨fun h => ⟨(ok.inj h).symm, by omega, by omega⟩, fun h => h.1 ▸ rfl⟩

theorem checkId_post {ge : Bool} {n : Nat} {x : Int} :
    (checkId ge n x).Post fun w => n ≤ 65535 → IdOk ge n w :=
  ⟨ite_safe rfl (ite_safe rfl rfl), fun _ h hn => (checkId_IdOk h hn).1⟩

theorem checkCost_post {x : Int} : (checkCost x).Post fun c => -32768 ≤ c ∧ c ≤ 32767 :=
  ⟨ite_safe rfl (ite_safe rfl rfl), fun _ h => have hk := checkCost_eq_ok.mp h; ⟨hk.1 ▸ hk.2.1, hk.1 ▸ hk.2.2⟩⟩

/-! ## `unk.def` ids and inhibited pairs -/

section
variable {ge : Bool} {n : Nat} {x : Int}

theorem unkIdBad_eq_false_iff : unkIdBad ge n x = false ↔ IdOk ge n (asUsize x) := by
  cases ge <;> simp [unkIdBad, IdOk]

/-- The `as usize` of a negative `i16` is far above any dimension, so only non-negative ids pass.  `hn`: any bound
below 2^64 − 32768 (`asUsize_neg`) would do; 2^63 is the round number below it, and every caller has `n ≤ 65535`. -/
theorem unkIdBad_false (h : unkIdBad ge n x = false) (h1 : -32768 ≤ x) (h2 : x ≤ 32767)
    (hn : n < 9223372036854775808) : 0 ≤ x ∧ IdOk ge n x.toNat := by
  have hi := unkIdBad_eq_false_iff.mp h
  have h0 : 0 ≤ x := Int.not_lt.mp fun hx => by
    have := asUsize_neg hx h1
    have := hi.le
    omega
  exact ⟨h0, asUsize_toNat h0 (Int.lt_of_le_of_lt h2 (by decide)) ▸ hi⟩

end

def PairOk (m : Matrix) (p : Int × Int) : Prop := 0 ≤ p.1 ∧ p.1 < m.nl ∧ 0 ≤ p.2 ∧ p.2 < m.nr

theorem pairInRange_pairOk {m : Matrix} {p : Int × Int} (h1 : fitsI16 p.1 = true) (h2 : fitsI16 p.2 = true)
    (h : pairInRange m p = true) : PairOk m p := by
  simp only [fitsI16, Bool.and_eq_true, decide_eq_true_eq] at h1 h2
  simp only [pairInRange, Bool.not_eq_true', Bool.or_eq_false_iff, decide_eq_false_iff_not] at h
  obtain ⟨⟨⟨ha, hb⟩, hc⟩, hd⟩ := h
  have a0 := Int.not_lt.mp ha
  have c0 := Int.not_lt.mp hc
  rw [asUsize_toNat a0 (Int.lt_of_le_of_lt h1.2 (by decide))] at hb
  rw [asUsize_toNat c0 (Int.lt_of_le_of_lt h2.2 (by decide))] at hd
  exact ⟨a0, (Int.toNat_lt a0).mp (Nat.not_le.mp hb), c0, (Int.toNat_lt c0).mp (Nat.not_le.mp hd)⟩

end Params
