import Sudachi.Proofs.Normalize
/-!
# `read_rewrite_lists`: the reader of `rewrite.def`, line by line (C07)

`parseDef` (`Model/Normalize.lean`) is the loop of `read_rewrite_lists`: `BufRead::lines` (split at `\n`; a
trailing `\r` is white space to the `trim` that follows, the empty piece after a final `\n` is a blank
line), `trim`, skip blank lines and lines starting with `#`, `split_whitespace` (Unicode `White_Space`, so the
ideographic space U+3000, TAB, NBSP … separate columns too), one column = exempt character (must be ONE
scalar), two columns = key/value (a key defined twice is an error), anything else is an error.
`key_lengths` is filled by the real reader but never read (dead data) and is not modelled.
Here: what the reader accepts and what table it yields, declaratively.
-/
namespace Normalize

def WordOk (w : List Nat) : Prop := w ≠ [] ∧ ∀ c ∈ w, isWhite c = false

theorem wordOk_reverse {cur : List Nat} (hne : ¬ cur.isEmpty = true) (hc : ∀ c ∈ cur, isWhite c = false) :
    WordOk cur.reverse :=
  ⟨fun h => hne (List.isEmpty_iff.mpr (List.reverse_eq_nil_iff.mp h)), fun c h => hc c (List.mem_reverse.mp h)⟩

theorem wordsGo_ok (s cur : List Nat) (acc : List (List Nat)) (hc : ∀ c ∈ cur, isWhite c = false)
    (ha : ∀ w ∈ acc, WordOk w) : ∀ w ∈ wordsGo s cur acc, WordOk w := by
  fun_induction wordsGo s cur acc with
  | case1 cur acc he => exact ha
  | case2 cur acc he => exact List.forall_mem_cons.mpr ⟨wordOk_reverse he hc, ha⟩
  | case3 c cs cur acc hw he ih => exact ih nofun ha
  | case4 c cs cur acc hw he ih => exact ih nofun (List.forall_mem_cons.mpr ⟨wordOk_reverse he hc, ha⟩)
  | case5 c cs cur acc hw ih => exact ih (List.forall_mem_cons.mpr ⟨Bool.eq_false_iff.mpr hw, hc⟩) ha

theorem wordsOf_ok (s : List Nat) : ∀ w ∈ wordsOf s, WordOk w :=
  fun w hw => wordsGo_ok s [] [] nofun nofun w (List.mem_reverse.mp hw)

theorem wordsGo_flatten (s cur : List Nat) (acc : List (List Nat)) :
    (wordsGo s cur acc).reverse.flatten = acc.reverse.flatten ++ cur.reverse ++ s.filter (fun c => !isWhite c) := by
  fun_induction wordsGo s cur acc with
  | case1 cur acc he => rw [List.isEmpty_iff.mp he]; simp only [List.reverse_nil, List.filter_nil, List.append_nil]
  | case2 cur acc he =>
    simp only [List.reverse_cons, List.flatten_append, List.flatten_singleton, List.filter_nil, List.append_nil]
  | case3 c cs cur acc hw he ih =>
    rw [ih, List.isEmpty_iff.mp he, List.filter_cons_of_neg (by rw [hw]; decide)]
  | case4 c cs cur acc hw he ih =>
    rw [ih, List.filter_cons_of_neg (by rw [hw]; decide)]
    simp only [List.reverse_cons, List.flatten_append, List.flatten_singleton, List.reverse_nil, List.append_nil]
  | case5 c cs cur acc hw ih =>
    rw [ih, List.filter_cons_of_pos (by rw [Bool.eq_false_iff.mpr hw]; rfl)]
    simp only [List.reverse_cons, List.append_assoc, List.singleton_append]

theorem wordsOf_flatten (s : List Nat) : (wordsOf s).flatten = s.filter (fun c => !isWhite c) :=
  wordsGo_flatten s [] []

inductive LineKind where
  | skip                          -- blank, or a comment
  | exempt (c : Nat)              -- one column of one scalar
  | pair (k v : List Nat)         -- two columns
  | bad                           -- one column of several scalars, or three and more columns
deriving DecidableEq

def classify (line : List Nat) : LineKind :=
  match wordsOf line with
  | [] => .skip
  | (35 :: _) :: _ => .skip
  | [[c]] => .exempt c
  | [_] => .bad
  | [k, v] => .pair k v
  | _ => .bad

def pairOf (line : List Nat) : Option Pair :=
  match classify line with
  | .pair k v => some (k, v)
  | _ => none

def exemptOf (line : List Nat) : Option Nat :=
  match classify line with
  | .exempt c => some c
  | _ => none

theorem parseStep_classify (t : Table) (line : List Nat) :
    parseStep t line = (match classify line with
      | .skip => some t
      | .exempt c => some { t with ignore := c :: t.ignore }
      | .pair k v => if t.pairs.any (fun p => p.1 == k) then none else some { t with pairs := t.pairs ++ [(k, v)] }
      | .bad => none) := by
  unfold parseStep classify
  generalize wordsOf line = ws
  match ws with
  | [] => rfl
  | [[]] => rfl
  | [[], _] => rfl
  | [] :: _ :: _ :: _ => rfl
  | (c :: cs) :: rest =>
    by_cases hc : c = 35
    · subst hc; rfl
    · -- once the shape of the columns is known, `hc` refutes the `#` alternative on either side
      -- and each `match` reduces to the alternative of that shape
      match rest, cs with
      | [], [] => simp only [hc, List.cons.injEq, false_and, imp_self, implies_true]
      | [], _ :: _ => simp only [hc, List.cons.injEq, false_and, imp_self, implies_true]
      | [v], _ => simp only [hc, List.cons.injEq, false_and, imp_self, implies_true]
      | _ :: _ :: _, _ => simp only [hc, List.cons.injEq, false_and, imp_self, implies_true]

/-- the duplicate test of the reader against a table whose keys are distinct: the key is new iff the keys stay distinct -/
theorem nodup_snoc_key (ps : List Pair) (k v : List Nat) (h : (ps.map (·.1)).Nodup) :
    (ps.any (fun p => p.1 == k)) = false ↔ ((ps ++ [(k, v)]).map (·.1)).Nodup := by
  rw [List.map_append, List.nodup_append, Bool.eq_false_iff, Ne, List.any_eq_true]
  constructor
  · intro hn
    refine ⟨h, List.pairwise_singleton _ _, fun a ha b hb hab => hn ?_⟩
    obtain ⟨p, hp, hpa⟩ := List.mem_map.mp ha
    exact ⟨p, hp, beq_iff_eq.mpr (hpa.trans (hab.trans (List.mem_singleton.mp hb)))⟩
  · rintro ⟨_, _, hd⟩ ⟨p, hp, hpk⟩
    exact hd p.1 (List.mem_map.mpr ⟨p, hp, rfl⟩) k (List.mem_singleton.mpr rfl) (beq_iff_eq.mp hpk)

theorem parseLines_eq_some : ∀ (ls : List (List Nat)) (t T : Table), (t.pairs.map (·.1)).Nodup →
    (parseLines ls t = some T ↔ (∀ l ∈ ls, classify l ≠ .bad) ∧ ((t.pairs ++ ls.filterMap pairOf).map (·.1)).Nodup ∧
      T = ⟨(ls.filterMap exemptOf).reverse ++ t.ignore, t.pairs ++ ls.filterMap pairOf⟩)
  | [], t, T, ht => by
    simp only [parseLines, Option.some.injEq, List.filterMap_nil, List.append_nil, List.reverse_nil, List.nil_append, ht,
      true_and, eq_comm (a := t)]
    exact ⟨fun h => ⟨nofun, h⟩, fun h => h.2⟩
  | l :: ls, t, T, ht => by
    rw [parseLines, parseStep_classify, List.forall_mem_cons]
    cases hc : classify l with
    | skip =>
      rw [List.filterMap_cons_none (by rw [pairOf, hc]), List.filterMap_cons_none (by rw [exemptOf, hc])]
      simp only [ne_eq, reduceCtorEq, not_false_eq_true, true_and]
      exact parseLines_eq_some ls t T ht
    | exempt c =>
      rw [List.filterMap_cons_none (by rw [pairOf, hc]), List.filterMap_cons_some (by rw [exemptOf, hc]),
        List.reverse_cons, List.append_assoc]
      simp only [ne_eq, reduceCtorEq, not_false_eq_true, true_and]
      exact parseLines_eq_some ls ⟨c :: t.ignore, t.pairs⟩ T ht
    | pair k v =>
      rw [List.filterMap_cons_some (by rw [pairOf, hc]), List.filterMap_cons_none (by rw [exemptOf, hc]), List.append_cons]
      by_cases hdup : (t.pairs.any fun p => p.1 == k) = true
      · have hn := mt (nodup_snoc_key t.pairs k v ht).mpr (by rw [hdup]; nofun)
        simp only [hdup, if_true, reduceCtorEq, false_iff, not_and]
        exact fun _ hnd => absurd (by rw [List.map_append] at hnd; exact (List.nodup_append.mp hnd).1) hn
      · have ht' := (nodup_snoc_key t.pairs k v ht).mp (Bool.eq_false_iff.mpr hdup)
        simp only [hdup, if_false, ne_eq, reduceCtorEq, not_false_eq_true, true_and]
        exact parseLines_eq_some ls ⟨t.ignore, t.pairs ++ [(k, v)]⟩ T ht'
    | bad => simp only [ne_eq, not_true_eq_false, false_and, reduceCtorEq]

end Normalize
