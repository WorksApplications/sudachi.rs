import Sudachi.Model.RewriteNumericSplit
import Sudachi.Proofs.Split
/-!
# Helper lemmas about the split stage after the numeral joiner (property C15, `joined_numeral_survives_split_modes`)

A node with at most one declared unit for the mode is kept where it is by `split_path`, whatever the rest of
the path does: `Split.splitPathGo_keeps` says so for C09's nodes, `splitToks_keeps` here for the tokens C15 observes.
Both hold for every context `cx`; the contexts C15 builds (`Model/RewriteNumericSplit.lean`, `C15.cxHyakuman`, `C15.cxTen`)
use `Variant.cur`, the iterator before the present one (on well-formed declarations the two place the units alike:
`C09.units_exact`).
-/
namespace RewriteNumericSplit
open Rewrite

theorem splitToks_cons (cx : Split.Ctx) (norms : List (List Char)) (m : Split.Mode) (x : Rewrite.Node)
    (P : List Rewrite.Node) :
    splitToks cx norms m (x :: P) =
      (if m = .C then .ok [keepTok x] else expandTok cx norms m x).bind fun ts =>
        (splitToks cx norms m P).bind fun r => .ok (ts ++ r) := by
  rw [splitToks]
  cases (if m = .C then .ok [keepTok x] else expandTok cx norms m x) <;> cases splitToks cx norms m P <;> rfl

/-- `Split.splitPathGo_keeps` for the tokens C15 observes (in mode C no node declares a unit) -/
theorem splitToks_keeps (cx : Split.Ctx) (norms : List (List Char)) (m : Split.Mode) (n : Rewrite.Node)
    (hn : Split.numSplits (toSplit n) m ≤ 1) (Q : List Rewrite.Node) (tq : List Tok) (hQ : splitToks cx norms m Q = .ok tq)
    (P : List Rewrite.Node) (tp : List Tok) (hP : splitToks cx norms m P = .ok tp) :
    splitToks cx norms m (P ++ n :: Q) = .ok (tp ++ keepTok n :: tq) := by
  rw [Split.Outcome.loop_append (splitToks_cons cx norms m) rfl, hP, splitToks_cons, expandTok, if_pos hn, ite_self, hQ]
  rfl

end RewriteNumericSplit
