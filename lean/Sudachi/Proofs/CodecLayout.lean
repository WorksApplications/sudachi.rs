import Sudachi.Model.CodecBuild
import Sudachi.Proofs.Codec
/-!
# Layout of the lexicon section: the offsets table points at the records (C05 `dict_roundtrip`)

`LexiconWriter::write` emits count, parameters, a table of `u32` start offsets and the records.  `offsFrom` lists the
start offsets of consecutive blocks; `offsets_table` says that entry `i` of such a table, read back, is where block `i`
begins, for any blocks anywhere in a buffer below 4 GiB.  With it `parse_word_info(i)` on any lexicon whose bytes are
`pre ++ section` (`OverSection L pre es`: any bytes `pre` in front, the section written for well-formed entries, the whole
below 4 GiB - the one precondition of every per-entry read; `lexAt pre es` is the plain instance, the loaded lexicon of
`CodecFile` another) reaches the record of entry `i`, and `get_word_info` the headword of the entry it names;
`get_params` over the same interface is in `CodecFile` (`getParams_over`).
-/
namespace Codec
open Basic

/-- start offsets of consecutive blocks -/
def offsFrom (base : Nat) : List Bytes → List Nat
  | [] => []
  | b :: bs => base :: offsFrom (base + b.length) bs

theorem offsFrom_length (base : Nat) (bs : List Bytes) : (offsFrom base bs).length = bs.length := by
  induction bs generalizing base with
  | nil => rfl
  | cons b bs ih => simp [offsFrom, ih]

theorem foldl_offs (ob : Nat) (infos : List Bytes) : ∀ (a : Nat) (racc : List Nat),
    (infos.foldl (fun (acc : Nat × List Nat) b => (acc.1 + b.length, (ob + acc.1) % 4294967296 :: acc.2)) (a, racc)).2.reverse
      = racc.reverse ++ (offsFrom (ob + a) infos).map (· % 4294967296) := by
  induction infos with
  | nil => intro a racc; simp [offsFrom]
  | cons b bs ih =>
    intro a racc
    simp only [List.foldl_cons, offsFrom, List.map_cons]
    rw [ih]
    simp [Nat.add_assoc]

theorem flatten_at {α : Type} (bs : List (List α)) (i : Nat) (b : List α) (h : bs[i]? = some b) :
    bs.flatten = (bs.take i).flatten ++ (b ++ (bs.drop (i + 1)).flatten) := by
  obtain ⟨hi, rfl⟩ := List.getElem?_eq_some_iff.1 h
  rw [← List.flatten_cons, ← List.drop_eq_getElem_cons hi, ← List.flatten_append, List.take_append_drop]

theorem offsFrom_getElem? (bs : List Bytes) : ∀ (base i : Nat), i < bs.length →
    (offsFrom base bs)[i]? = some (base + (bs.take i).flatten.length) := by
  induction bs with
  | nil => intro base i h; cases h
  | cons x xs ih =>
    intro base i h
    cases i with
    | zero => rfl
    | succ k =>
      rw [offsFrom, List.getElem?_cons_succ, ih _ k (Nat.lt_of_succ_lt_succ h), List.take_succ_cons, List.flatten_cons,
        List.length_append, Nat.add_assoc]

theorem le32_flatMap_length (xs : List Nat) : (xs.flatMap le32).length = 4 * xs.length :=
  flatMap_length_const le32 4 xs (fun _ _ => rfl)

theorem encParams_flatMap_length (es : List Entry) : (es.flatMap encParams).length = 6 * es.length :=
  flatMap_length_const encParams 6 es (fun _ _ => rfl)

theorem offsets_table (pre : Bytes) (infos : List Bytes) (i : Nat) (b : Bytes) (hi : infos[i]? = some b) (buf : Bytes)
    (hbuf : buf = pre ++ (((offsFrom (pre.length + 4 * infos.length) infos).map (· % 4294967296)).flatMap le32 ++ infos.flatten))
    (hsize : buf.length < 4294967296) :
    ∃ o tail, (leU32 (buf.drop (pre.length + 4 * i))).map (·.1) = some o ∧ o ≤ buf.length ∧ buf.drop o = b ++ tail := by
  have hlt : i < infos.length := (List.getElem?_eq_some_iff.1 hi).1
  have ho := offsFrom_getElem? infos (pre.length + 4 * infos.length) i hlt
  have hT : (((offsFrom (pre.length + 4 * infos.length) infos).map (· % 4294967296)).flatMap le32).length = 4 * infos.length := by
    rw [le32_flatMap_length, List.length_map, offsFrom_length]
  have hcut := flatten_at infos i b hi
  obtain ⟨T, hTd⟩ : ∃ T, T = ((offsFrom (pre.length + 4 * infos.length) infos).map (· % 4294967296)).flatMap le32 := ⟨_, rfl⟩
  rw [← hTd] at hbuf hT
  have hL : buf.length = pre.length + 4 * infos.length +
      ((infos.take i).flatten.length + (b.length + (infos.drop (i + 1)).flatten.length)) := by
    rw [hbuf, hcut, List.length_append, List.length_append, hT, List.length_append, List.length_append, Nat.add_assoc]
  refine ⟨pre.length + 4 * infos.length + (infos.take i).flatten.length, (infos.drop (i + 1)).flatten, ?_, by omega, ?_⟩
  · rw [hbuf, hTd, List.drop_length_add_append, flatMap_drop_get le32 4 (fun _ => rfl) _ i _ (by rw [List.getElem?_map, ho]; rfl),
      leU32_le32 _ (Nat.mod_lt _ (by decide)), Option.map_some, Nat.mod_eq_of_lt (by omega)]
  · rw [hbuf, hcut, ← hT, Nat.add_assoc, List.drop_length_add_append, List.drop_length_add_append, List.drop_left]

theorem lexiconBytes_eq (es : List Entry) (infos : List Bytes) (off : Nat) :
    lexiconBytes es infos off = le32 es.length ++ es.flatMap encParams
      ++ ((offsFrom (off + (6 + 4) * es.length + 4) infos).map (· % 4294967296)).flatMap le32 ++ infos.flatten := by
  rw [lexiconBytes, foldl_offs, Nat.add_zero]
  rfl

/-- the lexicon section as a `Lexicon` value: what `Lexicon::parse` computes for a file `pre ++ section`
whose index part ends at `pre.length` -/
def lexAt (pre : Bytes) (es : List Entry) : Lexicon :=
  { bytes := pre ++ lexiconBytes es (es.map encWordInfo) pre.length, trieOff := 0, trieSize := 0, widTableOff := 0, widTableSize := 0,
    paramsOff := pre.length + 4, size := es.length, infosOff := pre.length + 4 + 6 * es.length, hasSynonyms := true }

/-- `L` is a loaded lexicon whose bytes are `pre ++ section`, the section written for well-formed entries `es` into a
buffer below 4 GiB: all that `get_params`, `parse_word_info` and `get_word_info` look at - the bytes, where the parameters
and the offsets table start, the number of entries, the synonym flag (`Lexicon::parse` fills the other fields for the trie
and the word-id table) - and all they need to succeed on every entry -/
structure OverSection (L : Lexicon) (pre : Bytes) (es : List Entry) : Prop where
  bytes : L.bytes = pre ++ lexiconBytes es (es.map encWordInfo) pre.length
  paramsOff : L.paramsOff = pre.length + 4
  size : L.size = es.length
  infosOff : L.infosOff = pre.length + 4 + 6 * es.length
  syn : L.hasSynonyms = true
  wf : ∀ e ∈ es, e.WF
  small : (pre ++ lexiconBytes es (es.map encWordInfo) pre.length).length < 4294967296

theorem lexAt_over (pre : Bytes) (es : List Entry) (hwf : ∀ e ∈ es, e.WF)
    (hsize : (pre ++ lexiconBytes es (es.map encWordInfo) pre.length).length < 4294967296) :
    OverSection (lexAt pre es) pre es := ⟨rfl, rfl, rfl, rfl, rfl, hwf, hsize⟩

theorem record_at {L : Lexicon} {pre : Bytes} {es : List Entry} (hL : OverSection L pre es)
    (i : Nat) (e : Entry) (hi : es[i]? = some e) :
    ∃ o tail, L.wordIdToOffset i = .ok o ∧ ¬ (o > L.bytes.length) ∧ L.bytes.drop o = encWordInfo e ++ tail := by
  have hlt : i < es.length := (List.getElem?_eq_some_iff.1 hi).1
  have hpl : (pre ++ (le32 es.length ++ es.flatMap encParams)).length = pre.length + 4 + 6 * es.length := by
    rw [List.length_append, List.length_append, encParams_flatMap_length, Nat.add_assoc]; rfl
  have hbuf : L.bytes = (pre ++ (le32 es.length ++ es.flatMap encParams)) ++
      (((offsFrom ((pre ++ (le32 es.length ++ es.flatMap encParams)).length + 4 * (es.map encWordInfo).length) (es.map encWordInfo)).map
        (· % 4294967296)).flatMap le32 ++ (es.map encWordInfo).flatten) := by
    rw [hpl, List.length_map, hL.bytes, lexiconBytes_eq,
      show pre.length + (6 + 4) * es.length + 4 = pre.length + 4 + 6 * es.length + 4 * es.length by omega]
    simp only [List.append_assoc]
  obtain ⟨o, tail, h1, h2, h3⟩ := offsets_table _ _ i _ (by rw [List.getElem?_map, hi]; rfl) _ hbuf (hL.bytes ▸ hL.small)
  rw [hpl] at h1
  refine ⟨o, tail, ?_, by omega, h3⟩
  have hlen : ¬ (L.infosOff + 4 * i > L.bytes.length) := by
    have := congrArg List.length hbuf
    rw [List.length_append, hpl] at this
    rw [hL.infosOff, this, List.length_append, le32_flatMap_length, List.length_map, offsFrom_length, List.length_map]; omega
  rw [Lexicon.wordIdToOffset, if_neg hlen, hL.infosOff]
  cases hx : leU32 (L.bytes.drop (pre.length + 4 + 6 * es.length + 4 * i)) with
  | none => rw [hx] at h1; cases h1
  | some p => rw [hx] at h1; cases h1; rfl

theorem parseWordInfo_over {L : Lexicon} {pre : Bytes} {es : List Entry} (hL : OverSection L pre es)
    (i : Nat) (e : Entry) (hi : es[i]? = some e) :
    L.parseWordInfo i = .ok (storedInfo e) := by
  obtain ⟨o, tail, h1, hnot, h2⟩ := record_at hL i e hi
  unfold Lexicon.parseWordInfo
  simp only [bind, Outcome.bind, h1]
  simp only [hnot, if_false, h2, parseWordInfo_enc e (hL.wf e (List.mem_of_getElem? hi)) tail, ofOpt]

theorem parseSurface_over {L : Lexicon} {pre : Bytes} {es : List Entry} (hL : OverSection L pre es)
    (i : Nat) (e : Entry) (hi : es[i]? = some e) :
    L.parseSurface i = .ok e.headwordS := by
  obtain ⟨o, tail, h1, hnot, h2⟩ := record_at hL i e hi
  have wf := hL.wf e (List.mem_of_getElem? hi)
  unfold Lexicon.parseSurface
  simp only [bind, Outcome.bind, h1]
  simp only [hnot, if_false, h2, Codec.parseSurface, encWordInfo, List.append_assoc,
    utf16StringParser_encStr _ wf.hw.1 wf.hw.2, Option.map_some, ofOpt]

/-- `WordInfos::get_word_info` when the STORED dictionary-form id is `*`, the entry's own index or the index of an entry
of the same lexicon (`hdf`; true of a validated system dictionary, and of a user dictionary whose ids were stored as
indices): the dictionary form is the headword of the referenced entry (`*` or a reference to itself: nothing fetched) -/
theorem getWordInfo_over {L : Lexicon} {pre : Bytes} {es : List Entry} (hL : OverSection L pre es)
    (i : Nat) (e : Entry) (hi : es[i]? = some e)
    (target : Option Entry)
    (hdf : (e.dicForm = INVALID_WID ∧ target = none) ∨ (e.dicForm = i ∧ target = none) ∨
           (e.dicForm < 2147483648 ∧ e.dicForm ≠ i ∧ ∃ t, es[e.dicForm]? = some t ∧ target = some t)) :
    ∃ wi, L.getWordInfo i = .ok wi ∧ wi.surface = e.headwordS ∧
      wi.dictionaryFormA = (match target with
        | none => e.headwordS
        | some t => if t.headwordS = [] then e.headwordS else t.headwordS) := by
  have hp := parseWordInfo_over hL i e hi
  unfold Lexicon.getWordInfo
  simp only [bind, Outcome.bind, hp, hL.syn, if_true, storedInfo]
  -- without a fetch the dictionary form stays empty and the accessor answers the headword
  have hnone : ∀ w : WordInfoData, w.dictionaryForm = [] → w.dictionaryFormA = w.surface := fun w hw => by
    rw [WordInfoData.dictionaryFormA, hw]; rfl
  rcases hdf with ⟨h1, h2⟩ | ⟨h1, h2⟩ | ⟨h1, h2, t, ht, h3⟩
  · subst h2
    rw [if_neg (by rw [h1]; exact fun h => absurd h.1 (by decide))]
    exact ⟨_, rfl, rfl, hnone _ rfl⟩
  · subst h2
    have hw := (hL.wf e (List.mem_of_getElem? hi)).df
    have : ¬ (u32ToI e.dicForm ≥ 0 ∧ u32ToI e.dicForm ≠ (i : Int)) := by
      unfold u32ToI
      by_cases hlt : e.dicForm < 2147483648
      · rw [if_pos hlt, h1]; exact fun h => h.2 rfl
      · rw [if_neg hlt]; omega
    rw [if_neg this]
    exact ⟨_, rfl, rfl, hnone _ rfl⟩
  · subst h3
    have hv : u32ToI e.dicForm = (e.dicForm : Int) := if_pos h1
    have hs := parseSurface_over hL e.dicForm t ht
    rw [if_pos (by rw [hv]; exact ⟨Int.natCast_nonneg _, fun hc => h2 (Int.ofNat.inj hc)⟩)]
    simp only [hv, Int.toNat_natCast, hs]
    refine ⟨_, rfl, rfl, ?_⟩
    simp only [WordInfoData.dictionaryFormA, List.isEmpty_iff]

end Codec
