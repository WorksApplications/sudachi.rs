import Sudachi.Proofs.Build
/-!
# The lexicon reader (C06): what `parse_record` returns, what a failing `read_lexicon` leaves

The parsers thread the POS table through and only ever append rows of six strings at its end (`TabExt`), so the id of a
registered POS never changes, also not when a row fails half-way and leaves its POS behind.  `read_bytes` and
`DictBuilder::read_lexicon` are described together with the state they leave when they return `Err`: the rows before the
malformed one are exactly what reading them alone would have pushed.  No later call drops or reorders the surfaces of
the entries a builder holds, so the rows a failed call kept are rows of the dictionary `compile` emits.
-/
namespace Build

/-! ## the field parsers: what a successful `RecordWrapper::get`, `mapE`, `parse_slash_list` returned -/

theorem fld_ok {α : Type} {fs : List Str} {i : Nat} {f : Str → Except ErrKind α} {a : α}
    (h : fld fs i f = .ok a) : ∃ s, fs[i]? = some s ∧ f s = .ok a := by
  unfold fld at h
  split at h
  · rename_i s hs; exact ⟨s, hs, h⟩
  · cases h

theorem mapE_length {α β : Type} {f : α → Except ErrKind β} {l : List α} {r : List β}
    (h : mapE f l = .ok r) : r.length = l.length := by
  revert h
  fun_induction mapE f l generalizing r with
  | case1 => exact fun h => Except.ok.inj h ▸ rfl
  | case4 => rename_i hbs ih; exact fun h => Except.ok.inj h ▸ congrArg (· + 1) (ih hbs)
  | _ => nofun

theorem mapE_mem {α β : Type} {f : α → Except ErrKind β} {l : List α} {r : List β}
    (h : mapE f l = .ok r) : ∀ b ∈ r, ∃ a ∈ l, f a = .ok b := by
  revert h
  fun_induction mapE f l generalizing r with
  | case1 => exact fun h => Except.ok.inj h ▸ nofun
  | case4 =>
    rename_i hb _ hbs ih
    exact fun h => Except.ok.inj h ▸ List.forall_mem_cons.2 ⟨⟨_, List.mem_cons_self, hb⟩,
      fun b' hm => let ⟨a', ha', hfa⟩ := ih hbs b' hm; ⟨a', List.mem_cons_of_mem _ ha', hfa⟩⟩
  | _ => nofun

theorem slashList_mem {α : Type} {f : Str → Except ErrKind α} {s : Str} {r : List α}
    (h : slashList f s = .ok r) : (∀ b ∈ r, ∃ a, f a = .ok b) ∧ r.length ≤ 127 := by
  unfold slashList at h
  split at h
  · simp at h
  · rename_i l hl
    split at h
    · simp at h
    · injection h with h; subst h
      exact ⟨fun b hb => let ⟨a, _, ha⟩ := mapE_mem hl b hb; ⟨a, ha⟩, by omega⟩

/-! ## the POS table grows at its end -/

/-- `tab'` is `tab` with rows of six strings appended; more than 32768 rows only if none was (`pos_of` refuses when
`self.pos.len() > MAX_POS_IDS = 32767`, lexicon.rs, so a row is still added to a table of 32767) -/
def TabExt (tab tab' : List PosKey) : Prop :=
  ∃ ks, tab' = tab ++ ks ∧ (∀ k ∈ ks, k.length = 6) ∧ tab'.length ≤ max tab.length 32768

theorem TabExt.refl (tab : List PosKey) : TabExt tab tab :=
  ⟨[], (List.append_nil _).symm, nofun, Nat.le_max_left ..⟩

theorem TabExt.trans {a b c : List PosKey} (h1 : TabExt a b) (h2 : TabExt b c) : TabExt a c := by
  obtain ⟨k1, rfl, s1, l1⟩ := h1
  obtain ⟨k2, rfl, s2, l2⟩ := h2
  exact ⟨k1 ++ k2, List.append_assoc .., List.forall_mem_append.2 ⟨s1, s2⟩, by omega⟩

theorem TabExt.prefix {a b : List PosKey} (h : TabExt a b) : a <+: b := by
  obtain ⟨ks, rfl, _⟩ := h; exact List.prefix_append _ _

theorem posOf_tabExt {tab tab' : List PosKey} {k : PosKey} {i : Nat} (h : posOf tab k = .ok (i, tab'))
    (hk : k.length = 6) : TabExt tab tab' ∧ i < tab'.length := by
  unfold posOf at h
  split at h
  · rename_i j hj
    cases h
    exact ⟨.refl _, (List.findIdx?_eq_some_iff_getElem.1 hj).1⟩
  · split at h
    · cases h
    · rename_i hlen
      cases h
      refine ⟨⟨[k], rfl, by simpa using hk, ?_⟩, by simp⟩
      simp only [MAX_POS_IDS, List.length_append, List.length_singleton] at hlen ⊢; omega

/-- a split unit that parsed: a word-id literal, or an inline unit whose POS tuple of six strings went through `pos_of` -/
theorem parseSplit_cases {x : Ext} {tab tab' : List PosKey} {s : Str} {u : SplitUnit}
    (h : parseSplit x tab s = .ok (u, tab')) :
    (∃ w, parseWordId s = .ok w ∧ u = .ref w ∧ tab' = tab) ∨
    (∃ sf ps p r, ps.length = 6 ∧ posOf tab ps = .ok (p, tab') ∧ u = .inline sf p r) := by
  revert h
  -- of the nine ways `parse_split` ends two are `Ok`: a word-id literal that parses (case 1), and eight comma-separated
  -- fields, each unescaped, whose POS went through `pos_of` (case 7)
  fun_cases parseSplit x tab s with
  | case1 => rename_i hw; exact fun h => by cases h; exact Or.inl ⟨_, hw, rfl, rfl⟩
  | case7 =>
    rename_i hps _ _ _ _ hp
    exact fun h => by cases h; exact Or.inr ⟨_, _, _, _, by rw [mapE_length hps]; rfl, hp, rfl⟩
  | _ => nofun

theorem parseSplit_tabExt {x : Ext} {tab tab' : List PosKey} {s : Str} {u : SplitUnit}
    (h : parseSplit x tab s = .ok (u, tab')) : TabExt tab tab' := by
  rcases parseSplit_cases h with ⟨_, _, _, rfl⟩ | ⟨_, _, _, _, hk, hp, _⟩
  · exact .refl _
  · exact (posOf_tabExt hp hk).1

theorem splitListTab_tabExt (x : Ext) (tab : List PosKey) (ss : List Str) : TabExt tab (splitListTab x tab ss) := by
  fun_induction splitListTab x tab ss with
  | case3 => rename_i hu ih; exact (parseSplit_tabExt hu).trans ih
  | _ => exact .refl _

/-- on success `splitListTab` is the table `parse_splits` returns: the two descriptions of the POS
table agree where both apply -/
theorem splitListTab_ok {x : Ext} {tab tab' : List PosKey} {ss : List Str} {us : List SplitUnit}
    (h : parseSplitList x tab ss = .ok (us, tab')) : splitListTab x tab ss = tab' := by
  revert h
  fun_induction parseSplitList x tab ss generalizing us tab' with
  | case1 => exact fun h => by cases h; rfl
  | case4 => rename_i hu _ _ hus ih; exact fun h => by cases h; rw [splitListTab, hu]; exact ih hus
  | _ => nofun

theorem splitsTab_tabExt (x : Ext) (tab : List PosKey) (s : Str) : TabExt tab (splitsTab x tab s) := by
  unfold splitsTab
  split
  · exact .refl _
  · exact splitListTab_tabExt ..

theorem parseSplits_cases {x : Ext} {tab tab' : List PosKey} {s : Str} {us : List SplitUnit}
    (h : parseSplits x tab s = .ok (us, tab')) :
    (us = [] ∧ tab' = tab) ∨ (parseSplitList x tab (Wire.splitOn '/' s) = .ok (us, tab') ∧ us.length ≤ 127) := by
  unfold parseSplits at h
  split at h
  · cases h; exact Or.inl ⟨rfl, rfl⟩
  · split at h
    · cases h
    · rename_i hl
      split at h
      · cases h
      · cases h
        exact Or.inr ⟨hl, by omega⟩

theorem parseSplits_tabExt {x : Ext} {tab tab' : List PosKey} {s : Str} {us : List SplitUnit}
    (h : parseSplits x tab s = .ok (us, tab')) : TabExt tab tab' := by
  rcases parseSplits_cases h with ⟨_, rfl⟩ | ⟨hl, _⟩
  · exact .refl _
  · exact splitListTab_ok hl ▸ splitListTab_tabExt ..

/-! ## `parse_record` and `read_bytes`: what an accepted row is, what a rejected row and a failing read leave -/

/-- `e` is the entry `parse_record` makes of the fields `fs` when the POS table is `pos`, and `tab` the table it leaves:
the parsers the fields of `e` came from -/
structure ParsedRow (v : Variant) (x : Ext) (pos : List PosKey) (fs : List Str) (e : Entry) (tab : List PosKey) : Prop where
  surface : fld fs 0 unescape = .ok e.surface
  left : fld fs 1 eI16 = .ok e.left
  right : fld fs 2 eI16 = .ok e.right
  cost : fld fs 3 eI16 = .ok e.cost
  dicForm : fld fs 13 parseDicForm = .ok e.dicForm
  wordStructure : fld fs 17 parseWordIdList = .ok e.wordStructure
  synonyms : (match fs[18]? with | some s => parseU32List s | none => .ok []) = .ok e.synonyms
  /-- the three steps that extend the POS table, in their order: fields 15 and 16, then the POS of the row itself -/
  tables : ∃ t0 t1 pk, fld fs 15 (parseSplits x pos) = .ok (e.splitsA, t0) ∧ fld fs 16 (parseSplits x t0) = .ok (e.splitsB, t1) ∧
    posOf t1 pk = .ok (e.pos, tab) ∧ pk.length = 6
  surfaceOk : ¬ ((e.surface.isEmpty || v.d5 && e.surface.contains (Char.ofNat 0)) = true)

theorem parseRecord_ok {v : Variant} {x : Ext} {st st' : LexState} {fs : List Str}
    (h : parseRecord v x st fs = .ok st') :
    ∃ e tab, st' = ⟨tab, st.entries ++ [e], st.unresolved + inlineCount e.splitsA + inlineCount e.splitsB⟩ ∧
      ParsedRow v x st.pos fs e tab := by
  unfold parseRecord at h
  obtain ⟨surface, h0, h⟩ := bind_eq_ok h
  obtain ⟨left, h1, h⟩ := bind_eq_ok h
  obtain ⟨right, h2, h⟩ := bind_eq_ok h
  obtain ⟨cost, h3, h⟩ := bind_eq_ok h
  obtain ⟨headword, -, h⟩ := bind_eq_ok h
  obtain ⟨p1, -, h⟩ := bind_eq_ok h
  obtain ⟨p2, -, h⟩ := bind_eq_ok h
  obtain ⟨p3, -, h⟩ := bind_eq_ok h
  obtain ⟨p4, -, h⟩ := bind_eq_ok h
  obtain ⟨p5, -, h⟩ := bind_eq_ok h
  obtain ⟨p6, -, h⟩ := bind_eq_ok h
  obtain ⟨reading, -, h⟩ := bind_eq_ok h
  obtain ⟨normalized, -, h⟩ := bind_eq_ok h
  obtain ⟨dicForm, h13, h⟩ := bind_eq_ok h
  obtain ⟨mode, -, h⟩ := bind_eq_ok h
  obtain ⟨⟨splitA, tab1⟩, h15, h⟩ := bind_eq_ok h
  obtain ⟨⟨splitB, tab2⟩, h16, h⟩ := bind_eq_ok h
  obtain ⟨parts, h17, h⟩ := bind_eq_ok h
  obtain ⟨synonyms, h18, h⟩ := bind_eq_ok h
  obtain ⟨⟨pos, tab3⟩, h19, h⟩ := bind_eq_ok h
  dsimp only at h
  split at h
  · cases h
  · split at h
    · cases h
    · rename_i hs
      injection h with h; subst h
      exact ⟨_, _, rfl, h0, h1, h2, h3, h13, h17, h18, ⟨_, _, _, h15, h16, h19, rfl⟩, hs⟩

theorem parseRecord_tabExt {v : Variant} {x : Ext} {st st' : LexState} {fs : List Str}
    (h : parseRecord v x st fs = .ok st') : TabExt st.pos st'.pos := by
  obtain ⟨e, tab, rfl, hr⟩ := parseRecord_ok h
  obtain ⟨t0, t1, pk, ha, hb, hp, hk⟩ := hr.tables
  obtain ⟨_, _, ha⟩ := fld_ok ha
  obtain ⟨_, _, hb⟩ := fld_ok hb
  exact ((parseSplits_tabExt ha).trans (parseSplits_tabExt hb)).trans (posOf_tabExt hp hk).1

theorem parseHead_pos {fs : List Str} {sf : Str} {pk : PosKey} {m : Mode} (h : parseHead fs = .ok (sf, pk, m)) :
    pk.length = 6 := by
  unfold parseHead at h
  iterate 15 obtain ⟨_, -, h⟩ := bind_eq_ok h
  cases h; rfl

/-- a `parse_record` that failed pushed no entry, left every registered POS where it was and can only
have raised the `unresolved` counter (not at all after the repair S7) -/
theorem parseRecordLeft_kept (v : Variant) (x : Ext) (st : LexState) (fs : List Str) :
    ∃ tab u, parseRecordLeft v x st fs = ⟨tab, st.entries, u⟩ ∧ TabExt st.pos tab ∧
      st.unresolved ≤ u ∧ (v.s7 = true → u = st.unresolved) := by
  have keep : ∀ {tab}, TabExt st.pos tab → ∃ tab' u, (⟨tab, st.entries, st.unresolved⟩ : LexState) = ⟨tab', st.entries, u⟩ ∧
      TabExt st.pos tab' ∧ st.unresolved ≤ u ∧ (v.s7 = true → u = st.unresolved) :=
    fun ht => ⟨_, _, rfl, ht, Nat.le_refl _, fun _ => rfl⟩
  unfold parseRecordLeft
  split
  · exact keep (.refl _)
  · rename_i hhead
    split
    · exact keep (.refl _)
    · split
      · exact keep (splitsTab_tabExt ..)
      · rename_i hA
        have e1 := parseSplits_tabExt hA
        split
        · exact keep e1
        · split
          · exact keep (e1.trans (splitsTab_tabExt ..))
          · rename_i hB
            have e2 := e1.trans (parseSplits_tabExt hB)
            split
            · exact keep e2
            · split
              · exact keep e2
              · rename_i hP
                have e3 := e2.trans (posOf_tabExt hP (parseHead_pos hhead)).1
                split
                · exact keep e3
                · refine ⟨_, _, rfl, e3, ?_, fun h7 => by rw [if_pos h7]⟩
                  split <;> omega

theorem readLexicon_kept {v : Variant} {x : Ext} {st st1 : LexState} {recs : List (Nat × List Str)}
    (h : readLexicon v x st recs = .ok st1) :
    (∃ es, es.length = recs.length ∧ st1.entries = st.entries ++ es) ∧ st.pos <+: st1.pos ∧
    st.unresolved ≤ st1.unresolved := by
  revert h
  fun_induction readLexicon v x st recs with
  | case1 => exact fun h => by cases h; exact ⟨⟨[], rfl, by simp⟩, List.prefix_refl _, Nat.le_refl _⟩
  | case2 => nofun
  | case3 =>
    rename_i hp ih
    intro h
    obtain ⟨⟨es, hl, he⟩, hpos, hun⟩ := ih h
    have hpp := (parseRecord_tabExt hp).prefix
    obtain ⟨e, tab, rfl, _⟩ := parseRecord_ok hp
    refine ⟨⟨e :: es, by simp [hl], by rw [he]; simp⟩, hpp.trans hpos, ?_⟩
    simp only [] at hun
    omega

/-- a property of the reader that `parse_record` maintains, whether it accepts the row or not, holds
in the state `read_bytes` leaves, whatever its result -/
theorem readLexiconP_preserves {v : Variant} {x : Ext} {P : LexState → Prop}
    (hok : ∀ st st' fs, P st → parseRecord v x st fs = .ok st' → P st')
    (hleft : ∀ st fs, P st → P (parseRecordLeft v x st fs))
    {st : LexState} (recs : List (Nat × List Str)) (hi : P st) : P (readLexiconP v x st recs).1 := by
  fun_induction readLexiconP v x st recs with
  | case1 => exact hi
  | case2 => exact hleft _ _ hi
  | case3 => rename_i h1 ih; exact ih (hok _ _ _ hi h1)

/-- a `read_bytes` that failed at `line` with `k`: the records split into those before the
malformed one — all of them parsed, giving the state `st1` — the malformed one, which
`parse_record` rejects with `k` in the state `st1`, and the rest, which is never looked at; the
state left is what that `parse_record` left -/
theorem readLexiconP_err {v : Variant} {x : Ext} {st : LexState} {recs : List (Nat × List Str)} {k : ErrKind} {line : Nat}
    (h : (readLexiconP v x st recs).2 = .err k line) :
    ∃ pre bad post st1, recs = pre ++ (line, bad) :: post ∧ readLexicon v x st pre = .ok st1 ∧
      parseRecord v x st1 bad = .error k ∧ (readLexiconP v x st recs).1 = parseRecordLeft v x st1 bad := by
  revert h
  fun_induction readLexiconP v x st recs with
  | case1 => nofun
  | case2 => rename_i hp; exact fun h => by cases h; exact ⟨[], _, _, _, rfl, rfl, hp, rfl⟩
  | case3 =>
    rename_i l fs rest st' hp ih
    intro h
    obtain ⟨pre, bad, post, st1, h1, h2, h3, h4⟩ := ih h
    exact ⟨(l, fs) :: pre, bad, post, st1, by rw [h1]; rfl, by rw [readLexicon, hp]; exact h2, h3, h4⟩

theorem readLexB_preserves {v : Variant} {x : Ext} {P : LexState → Prop}
    (hok : ∀ st st' fs, P st → parseRecord v x st fs = .ok st' → P st')
    (hleft : ∀ st fs, P st → P (parseRecordLeft v x st fs))
    {b : Builder} (recs : List (Nat × List Str)) (ce : Option Nat) (hi : P b.lex) :
    P (readLexB v x b recs ce).1.lex := by
  have hp := readLexiconP_preserves hok hleft recs hi
  obtain ⟨L, r, h, hc⟩ := readLexB_cases v x b recs ce
  rw [h]
  rcases hc with ⟨_, _, hL⟩ | ⟨_, rfl, _⟩
  · rw [hL] at hp; exact hp
  · dsimp only; split
    · exact hi
    · exact hp

/-! ## the entries of a builder are never dropped or reordered -/

def surfaces (es : List Entry) : List Str := es.map Entry.surface

theorem resolve_surfaces {b b' : Builder} {n : Nat} (h : resolve b = .ok (b', n)) :
    surfaces b'.lex.entries = surfaces b.lex.entries := by
  rcases resolve_cases h with ⟨_, rfl⟩ | ⟨es, hr, rfl⟩
  · rfl
  · exact (resolveEntries_ok hr).1

theorem surfaces_append (a b : List Entry) : surfaces a <+: surfaces (a ++ b) := by
  simp only [surfaces, List.map_append]; exact List.prefix_append _ _

theorem runOps_surfaces {v : Variant} {x : Ext} {s s' : Builder × Nat} {ops : List Op} (h : runOps v x s ops = .ok s') :
    surfaces s.1.lex.entries <+: surfaces s'.1.lex.entries := by
  refine runOps_preserves (P := fun b => surfaces s.1.lex.entries <+: surfaces b.lex.entries)
    ?_ ?_ ?_ h (List.prefix_refl _)
  · intro b lines hb
    obtain ⟨_, _, e⟩ := readConnB_frame v b lines
    rw [e]; exact hb
  · intro b recs ce hb
    refine readLexB_preserves (P := fun st => surfaces s.1.lex.entries <+: surfaces st.entries) ?_ ?_ recs ce hb
    · intro st st' fs hst hp
      obtain ⟨e, tab, rfl, _⟩ := parseRecord_ok hp
      exact hst.trans (surfaces_append _ _)
    · intro st fs hst
      obtain ⟨_, _, he, _⟩ := parseRecordLeft_kept v x st fs
      rw [he]; exact hst
  · intro b b' n hb hr
    rw [resolve_surfaces hr]; exact hb

/-- the calls split at an ignored `read_lexicon`: the builder it was made on, and the rows it left
are rows of the builder `compile` gets -/
theorem prepare_lexIgn {v : Variant} {x : Ext} {inp : Input} {b : Builder} {cnt : Nat}
    {pre post : List Op} {recs : List (Nat × List Str)} {ce : Option Nat}
    (h : prepare v x inp = .ok (b, cnt)) (hops : inp.ops = pre ++ Op.lexIgn recs ce :: post) :
    ∃ b0 c0, runOps v x (Builder.init v inp.base, 0) pre = .ok (b0, c0) ∧
      surfaces (readLexB v x b0 recs ce).1.lex.entries <+: surfaces b.lex.entries := by
  unfold prepare at h
  rw [hops] at h
  obtain ⟨s1, h1, h2⟩ := runOps_append h
  obtain ⟨s2, h3, h4⟩ := runOps_cons h2
  obtain rfl := runOp_lexIgn h3
  have hs := runOps_surfaces h4
  exact ⟨s1.1, s1.2, h1, hs⟩

end Build
