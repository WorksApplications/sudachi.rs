import Sudachi.Proofs.SentenceChecker
import Sudachi.Proofs.SentenceBreaker
/-!
# `SentenceDetector::get_eos`, function by function (property C16)

One chain of exhaustive case lemmas, none of which unfolds the function below it again: `examine_cases` (the loop body skips
exactly the match ends in the exemption set `Exempt`, otherwise it returns the extended end or the checker panics) →
`scan_cases` (the first match end that the body does not veto decides) → `getEos_spec`, the one statement of `get_eos`: at the
first match end in the window that is not exempt the body returned its extended end and that is the answer, or the checker
panicked there; when all are exempt the answer is a provisional (negative) boundary.  Everything else about `get_eos` is read
off it: `getEos_pos` and its projections, `first_unvetoed_decides` (on `examine`, without a validity hypothesis),
`getEos_no_panic`, and with valid UTF-8 keys the equivalence `getEos_pos_iff` (its negative twin is `C16.no_boundary_iff`).
`isContinuousPhrase` and `spacesEnd` only have what `get_eos` needs of them here (the one answers inside the window, bounds for
the other); what `spacesEnd` answers is `spacesEnd_spec` of `SentenceRegex`.
-/
namespace Sentence

/-! ## the loop body -/

theorem isContinuousPhrase_some {s : Text} {eos : Nat} (h1 : 1 ≤ eos) (h2 : eos < s.length) :
    ∃ b, isContinuousPhrase s eos = some b := by
  unfold isContinuousPhrase
  rw [if_neg (by omega)]
  by_cases hq : quoteMarkerAt0 (s.drop (eos - 1)) = true
  · exact ⟨true, if_pos hq⟩
  · rw [if_neg hq]
    cases hd : s.drop eos with
    | nil =>
      have := congrArg List.length hd
      rw [List.length_drop, List.length_nil] at this
      omega
    | cons c cs => exact ⟨_, rfl⟩

/-- the candidate end after `eos += prohibited_bos(&s[eos..])` (closing brackets, commas and terminators
that may not start a sentence are taken into the sentence) -/
def extEnd (s : Text) (e0 : Nat) : Nat := if e0 < s.length then e0 + prohibitedBos (s.drop e0) else e0

theorem extEnd_eq (s : Text) (e0 : Nat) : extEnd s e0 = e0 + prohibitedBos (s.drop e0) := by
  unfold extEnd
  by_cases h : e0 < s.length
  · exact if_pos h
  · rw [if_neg h, List.drop_eq_nil_of_le (by omega)]; rfl

theorem extEnd_ge (s : Text) (e0 : Nat) : e0 ≤ extEnd s e0 := by
  rw [extEnd_eq]; exact Nat.le_add_right _ _

theorem extEnd_le {s : Text} {e0 : Nat} (h : e0 ≤ s.length) : extEnd s e0 ≤ s.length := by
  have := spanLen_le isProhibitedBos (s.drop e0)
  rw [List.length_drop] at this
  rw [extEnd_eq, prohibitedBos]
  omega

theorem extEnd_mono (s : Text) {a b : Nat} (h : a ≤ b) : extEnd s a ≤ extEnd s b := by
  rw [extEnd_eq, extEnd_eq]
  by_cases hc : a + prohibitedBos (s.drop a) ≤ b
  · omega
  · have hd : b - a ≤ spanLen isProhibitedBos (s.drop a) := by unfold prohibitedBos at hc; omega
    have := spanLen_drop isProhibitedBos (s.drop a) (b - a) hd
    rw [List.drop_drop] at this
    have hab : a + (b - a) = b := by omega
    rw [hab] at this
    unfold prohibitedBos
    omega

theorem extEnd_tail (s : Text) (e0 : Nat) : ∀ c ∈ (s.drop e0).take (extEnd s e0 - e0), isProhibitedBos c = true := by
  rw [extEnd_eq, Nat.add_sub_cancel_left]
  exact spanLen_all _ _

/-- the checker (if there is one) answers `true` for the candidate -/
def Blocked (v : CkVariant) (ck : Option (List (List (List Nat)))) (input : Text) (eosB : Nat) : Prop :=
  ∃ lexs, ck = some lexs ∧ hasNonBreakWord v lexs input eosB = .ok true

/-- **The exemption set**: the match of SENTENCE_BREAKER ending at character `e0` of the window `s` does
not end a sentence because (1) it is inside an unclosed bracket pair, (2) the window is an itemisation
header `1.`, (3) the extended end is followed by a quoting particle / is an itemisation header followed
by と/や/の (`is_continuous_phrase`), or (4) the checker answers `true` for the extended end. -/
def Exempt (v : CkVariant) (ck : Option (List (List (List Nat)))) (input s : Text) (e0 : Nat) : Prop :=
  0 < parenLevel (s.take e0) ∨ isItemizeHeader s = true ∨
  (extEnd s e0 < s.length ∧ isContinuousPhrase s (extEnd s e0) = some true) ∨
  Blocked v ck input (blen (s.take (extEnd s e0)))

theorem examine_eq (v : CkVariant) (ck : Option (List (List (List Nat)))) (input s : Text) (e0 : Nat) :
    examine v ck input s e0 =
      if parenLevel (s.take e0) > 0 then .veto else
      if isItemizeHeader s then .veto else
      match (if extEnd s e0 < s.length then isContinuousPhrase s (extEnd s e0) else some false) with
      | none => .panic
      | some true => .veto
      | some false =>
        match ck with
        | none => .accept (extEnd s e0)
        | some lexs =>
          match hasNonBreakWord v lexs input (blen (s.take (extEnd s e0))) with
          | .panic => .panic
          | .ok true => .veto
          | .ok false => .accept (extEnd s e0) := by
  unfold examine extEnd
  rfl

/-- **The loop body of `get_eos`** on a match end `e0 ≥ 1`: it skips the match (`continue`) exactly when the
match is exempt, otherwise it returns the extended end — unless the checker panics -/
theorem examine_cases (v : CkVariant) (ck : Option (List (List (List Nat)))) (input s : Text) {e0 : Nat}
    (h0 : 1 ≤ e0) :
    (Exempt v ck input s e0 ∧ examine v ck input s e0 = .veto) ∨
    (¬ Exempt v ck input s e0 ∧ examine v ck input s e0 = .accept (extEnd s e0) ∧
      ∀ lexs, ck = some lexs → hasNonBreakWord v lexs input (blen (s.take (extEnd s e0))) = .ok false) ∨
    (¬ Exempt v ck input s e0 ∧ examine v ck input s e0 = .panic ∧
      ∃ lexs, ck = some lexs ∧ hasNonBreakWord v lexs input (blen (s.take (extEnd s e0))) = .panic) := by
  rw [examine_eq]
  by_cases hp : parenLevel (s.take e0) > 0
  · exact Or.inl ⟨Or.inl hp, if_pos hp⟩
  by_cases hi : isItemizeHeader s = true
  · exact Or.inl ⟨Or.inr (Or.inl hi), by rw [if_neg hp, if_pos hi]⟩
  rw [if_neg hp, if_neg hi]
  -- `is_continuous_phrase` is asked inside the window only, where both `unwrap`s succeed
  obtain ⟨b, hb, hbt⟩ : ∃ b, (if extEnd s e0 < s.length then isContinuousPhrase s (extEnd s e0)
      else some false) = some b ∧
      ((extEnd s e0 < s.length ∧ isContinuousPhrase s (extEnd s e0) = some true) → b = true) := by
    by_cases hlt : extEnd s e0 < s.length
    · obtain ⟨b, hb⟩ := isContinuousPhrase_some (Nat.le_trans h0 (extEnd_ge s e0)) hlt
      exact ⟨b, by rw [if_pos hlt, hb], fun h => Option.some.inj (hb.symm.trans h.2)⟩
    · exact ⟨false, if_neg hlt, fun h => absurd h.1 hlt⟩
  rw [hb]
  cases b with
  | true =>
    refine Or.inl ⟨Or.inr (Or.inr (Or.inl ?_)), rfl⟩
    by_cases hlt : extEnd s e0 < s.length
    · exact ⟨hlt, by rw [if_pos hlt] at hb; exact hb⟩
    · rw [if_neg hlt] at hb; cases hb
  | false =>
    -- brackets, header and phrase are ruled out: only the checker can still exempt the match
    have hne : (∀ lexs, ck = some lexs → hasNonBreakWord v lexs input (blen (s.take (extEnd s e0))) ≠ .ok true) →
        ¬ Exempt v ck input s e0 := by
      rintro hw (h | h | h | ⟨l, hl, h⟩)
      · exact hp h
      · exact hi h
      · cases hbt h
      · exact hw l hl h
    cases ck with
    | none => exact Or.inr (Or.inl ⟨hne fun _ h => (nomatch h), rfl, fun _ h => nomatch h⟩)
    | some lexs =>
      cases hw : hasNonBreakWord v lexs input (blen (s.take (extEnd s e0))) with
      | panic =>
        exact Or.inr (Or.inr ⟨hne fun _ hl => (by cases hl; rw [hw]; exact fun h => nomatch h), by simp only [hw],
          lexs, rfl, hw⟩)
      | ok r =>
        cases r with
        | true => exact Or.inl ⟨Or.inr (Or.inr (Or.inr ⟨lexs, rfl, hw⟩)), by simp only [hw]⟩
        | false =>
          exact Or.inr (Or.inl ⟨hne fun _ hl => (by cases hl; rw [hw]; exact fun h => nomatch h), by simp only [hw],
            fun _ h => Option.some.inj h ▸ hw⟩)

theorem examine_veto_iff {v : CkVariant} {ck : Option (List (List (List Nat)))} {input s : Text} {e0 : Nat}
    (h0 : 1 ≤ e0) : examine v ck input s e0 = .veto ↔ Exempt v ck input s e0 := by
  rcases examine_cases v ck input s h0 with ⟨hE, h'⟩ | ⟨hn, h', _⟩ | ⟨hn, h', _⟩
  · exact ⟨fun _ => hE, fun _ => h'⟩
  · exact ⟨fun h => (by rw [h'] at h; cases h), fun h => absurd h hn⟩
  · exact ⟨fun h => (by rw [h'] at h; cases h), fun h => absurd h hn⟩

theorem examine_accept_eq {v : CkVariant} {ck : Option (List (List (List Nat)))} {input s : Text} {e0 e : Nat}
    (h0 : 1 ≤ e0) (h : examine v ck input s e0 = .accept e) : e = extEnd s e0 := by
  rcases examine_cases v ck input s h0 with ⟨_, h'⟩ | ⟨_, h', _⟩ | ⟨_, h', _⟩
  · rw [h'] at h; cases h
  · rw [h'] at h; cases h; rfl
  · rw [h'] at h; cases h

/-! ## the scan over the matches -/

/-- loop body as a partial function: `none` = `continue` -/
def verdict (v : CkVariant) (ck : Option (List (List (List Nat)))) (input s : Text) (e0 : Nat) : Option Cand :=
  match examine v ck input s e0 with
  | .veto => none
  | r => some r

theorem verdict_none {v : CkVariant} {ck : Option (List (List (List Nat)))} {input s : Text} {e0 : Nat} :
    verdict v ck input s e0 = none ↔ examine v ck input s e0 = .veto := by
  unfold verdict
  cases examine v ck input s e0 with
  | veto => exact ⟨fun _ => rfl, fun _ => rfl⟩
  | accept e => exact ⟨fun h => (nomatch h), fun h => (nomatch h)⟩
  | panic => exact ⟨fun h => (nomatch h), fun h => (nomatch h)⟩

theorem verdict_some {v : CkVariant} {ck : Option (List (List (List Nat)))} {input s : Text} {e0 : Nat} {r : Cand}
    (h : verdict v ck input s e0 = some r) : examine v ck input s e0 = r ∧ r ≠ .veto := by
  unfold verdict at h
  cases he : examine v ck input s e0 <;> rw [he] at h <;> cases h <;> exact ⟨rfl, fun h => nomatch h⟩

theorem scan_eq_findSome {v : CkVariant} {ck : Option (List (List (List Nat)))} {input s : Text} :
    ∀ (l : Text) (k : Nat) (prev : Option Nat) (skip : Nat),
      scan v ck input s k prev skip l = (matchEnds k prev skip l).findSome? (verdict v ck input s) := by
  intro l k prev skip
  fun_induction matchEnds k prev skip l with
  | case1 => rfl
  | case2 _ _ _ _ _ ih => rw [scan]; exact ih
  | case3 _ _ _ _ hb ih => simp only [scan, hb]; exact ih
  | case4 k prev c rest n hb ih =>
    simp only [scan, hb, List.findSome?_cons, verdict]
    cases he : examine v ck input s (k + n) with
    | veto => exact ih
    | accept e => rfl
    | panic => rfl

/-- `get_eos` without a checker, as a search over the `find_iter` matches -/
theorem getEos_none_scan (v : CkVariant) (limit : Nat) (input : Text) :
    scan v none input (input.take limit) 0 none 0 (input.take limit)
      = (matchEnds 0 none 0 (input.take limit)).findSome? (verdict v none input (input.take limit)) :=
  scan_eq_findSome _ _ _ _

/-- **`find_iter` and the loop body**: the loop leaves at the first match end that the body does not veto -/
theorem scan_cases (v : CkVariant) (ck : Option (List (List (List Nat)))) (input s : Text) :
    (scan v ck input s 0 none 0 s = none ∧ ∀ e0 ∈ matchEnds 0 none 0 s, examine v ck input s e0 = .veto) ∨
    (∃ a ∈ matchEnds 0 none 0 s, examine v ck input s a ≠ .veto ∧
      scan v ck input s 0 none 0 s = some (examine v ck input s a) ∧
      ∀ e0 ∈ matchEnds 0 none 0 s, e0 < a → examine v ck input s e0 = .veto) := by
  rw [scan_eq_findSome]
  cases h : (matchEnds 0 none 0 s).findSome? (verdict v ck input s) with
  | none => exact Or.inl ⟨rfl, fun e0 hm => verdict_none.mp (List.findSome?_eq_none_iff.mp h e0 hm)⟩
  | some r =>
    obtain ⟨a, ha, hfa, hbefore⟩ := findSome?_sorted (matchEnds_sorted ..) h
    obtain ⟨rfl, hr⟩ := verdict_some hfa
    exact Or.inr ⟨a, ha, hr, rfl, fun e0 hm hlt => verdict_none.mp (hbefore e0 hm hlt)⟩

/-! ## `get_eos` -/

theorem lastSpaceEnd_bounds (s : Text) (e : Nat) (h : lastSpaceEnd s = some e) : 1 ≤ e ∧ e ≤ s.length := by
  rw [lastSpaceEnd_eq] at h
  obtain ⟨i, hi, rfl⟩ := Option.map_eq_some_iff.mp h
  have := (List.findIdx?_eq_some_iff_getElem.mp hi).1
  rw [List.length_reverse] at this
  omega

theorem spacesEnd_bounds : ∀ (s : Text) (e : Nat), spacesEnd s = some e → 1 ≤ e ∧ e ≤ s.length := by
  intro s
  induction s with
  | nil => intro e h; cases h
  | cons c cs ih =>
    intro e h
    rw [spacesEnd] at h
    by_cases hc : c = 0x0A
    · rw [if_pos hc] at h
      obtain ⟨e', he', rfl⟩ := Option.map_eq_some_iff.mp h
      have := ih _ he'
      rw [List.length_cons]; omega
    · rw [if_neg hc] at h
      have h1 : 1 ≤ spanLen (fun x => x != 0x0A) (c :: cs) := spanLen_pos_of_head (by simpa using hc)
      by_cases hlt : spanLen (fun x => x != 0x0A) (c :: cs) < (c :: cs).length
      · simp only [spacesFrom, if_pos hlt] at h
        cases h
        have := spanLen_le isSpace ((c :: cs).drop (spanLen (fun x => x != 0x0A) (c :: cs)))
        rw [List.length_drop] at this
        omega
      · simp only [spacesFrom, if_neg hlt] at h
        obtain ⟨e', he', rfl⟩ := Option.map_eq_some_iff.mp h
        have := lastSpaceEnd_bounds _ _ he'
        rw [List.length_cons]; omega

theorem negOf_pos {n e : Nat} (hn : 1 ≤ n) : negOf n ≠ .pos e := by
  rw [negOf, if_neg (by omega)]
  exact fun h => nomatch h

/-- **`get_eos` on a non-empty input**: let `a` be the first match end in the window that is not exempt.  The loop body
returns its extended end there (the checker, if there is one, said `false`) and that is the answer, or the checker panics
there; when every match end in the window is exempt, the answer is a provisional (negative) boundary `n`, `n ≥ 1` for a
window of at least one character. -/
theorem getEos_spec (v : CkVariant) (limit : Nat) (ck : Option (List (List (List Nat)))) {input : Text}
    (hne : input ≠ []) :
    (∃ a ∈ matchEnds 0 none 0 (input.take limit), ¬ Exempt v ck input (input.take limit) a ∧
      (∀ e0 ∈ matchEnds 0 none 0 (input.take limit), e0 < a → Exempt v ck input (input.take limit) e0) ∧
      ((examine v ck input (input.take limit) a = .accept (extEnd (input.take limit) a) ∧
        getEos v limit ck input = .ok (.pos (extEnd (input.take limit) a)) ∧
        ∀ lexs, ck = some lexs →
          hasNonBreakWord v lexs input (blen ((input.take limit).take (extEnd (input.take limit) a))) = .ok false) ∨
       (examine v ck input (input.take limit) a = .panic ∧ getEos v limit ck input = .panic ∧ ∃ lexs, ck = some lexs ∧
          hasNonBreakWord v lexs input (blen ((input.take limit).take (extEnd (input.take limit) a))) = .panic))) ∨
    ((∀ e0 ∈ matchEnds 0 none 0 (input.take limit), Exempt v ck input (input.take limit) e0) ∧
      ∃ n, getEos v limit ck input = .ok (negOf n) ∧ (1 ≤ limit → 1 ≤ n)) := by
  have hempty : ¬ input.isEmpty = true := fun h => hne (List.isEmpty_iff.mp h)
  have hveto : ∀ {e0}, e0 ∈ matchEnds 0 none 0 (input.take limit) →
      examine v ck input (input.take limit) e0 = .veto → Exempt v ck input (input.take limit) e0 :=
    fun hm => (examine_veto_iff (matchEnds_bounds hm).1).mp
  unfold getEos
  rw [if_neg hempty]
  dsimp only
  rcases scan_cases v ck input (input.take limit) with ⟨hsc, hall⟩ | ⟨a, ha, hna, hsc, hbefore⟩
  · rw [hsc]
    refine Or.inr ⟨fun e0 hm => hveto hm (hall e0 hm), ?_⟩
    have hslen : 1 ≤ limit → 1 ≤ (input.take limit).length := fun hl => by
      cases input with
      | nil => exact absurd rfl hne
      | cons c cs => rw [List.length_take, List.length_cons]; omega
    by_cases hx : decide (blen (input.take limit) < blen input) = true
    · cases hsp : spacesEnd (input.take limit) with
      | some e => exact ⟨e, if_pos hx, fun _ => (spacesEnd_bounds _ _ hsp).1⟩
      | none => exact ⟨_, if_pos hx, hslen⟩
    · exact ⟨_, if_neg hx, hslen⟩
  · rw [hsc]
    have hfirst := fun e0 hm hlt => hveto hm (hbefore e0 hm hlt)
    -- what the loop body answered at `a`
    rcases examine_cases v ck input (input.take limit) (matchEnds_bounds ha).1 with
      ⟨_, hv⟩ | ⟨hnE, hacc, hw⟩ | ⟨hnE, hp, hck⟩
    · exact absurd hv hna
    · rw [hacc]; exact Or.inl ⟨a, ha, hnE, hfirst, Or.inl ⟨hacc, rfl, hw⟩⟩
    · rw [hp]; exact Or.inl ⟨a, ha, hnE, hfirst, Or.inr ⟨hp, rfl, hck⟩⟩

theorem first_unvetoed_decides {limit : Nat} {v : CkVariant} {ck : Option (List (List (List Nat)))} {input : Text}
    (hne : input ≠ []) {e0 : Nat} (hm : e0 ∈ matchEnds 0 none 0 (input.take limit))
    (hv : examine v ck input (input.take limit) e0 ≠ .veto) :
    ∃ e0', e0' ∈ matchEnds 0 none 0 (input.take limit) ∧ e0' ≤ e0 ∧
      ((∃ e, examine v ck input (input.take limit) e0' = .accept e ∧ getEos v limit ck input = .ok (.pos e)) ∨
       (examine v ck input (input.take limit) e0' = .panic ∧ getEos v limit ck input = .panic)) := by
  have hnE := fun h => hv ((examine_veto_iff (matchEnds_bounds hm).1).mpr h)
  rcases getEos_spec v limit ck hne with ⟨a, ha, _, hfirst, hres⟩ | ⟨hall, _⟩
  · exact ⟨a, ha, Nat.le_of_not_lt fun hlt => hnE (hfirst e0 hm hlt),
      hres.imp (fun h => ⟨_, h.1, h.2.1⟩) fun h => ⟨h.1, h.2.1⟩⟩
  · exact absurd (hall e0 hm) hnE

theorem getEos_pos {limit : Nat} {v : CkVariant} {ck : Option (List (List (List Nat)))} {input : Text} {e : Nat}
    (hl : 1 ≤ limit) (hne : input ≠ []) (h : getEos v limit ck input = .ok (.pos e)) :
    ∃ a ∈ matchEnds 0 none 0 (input.take limit), ¬ Exempt v ck input (input.take limit) a ∧
      (∀ e0 ∈ matchEnds 0 none 0 (input.take limit), e0 < a → Exempt v ck input (input.take limit) e0) ∧
      e = extEnd (input.take limit) a ∧
      ∀ lexs, ck = some lexs → hasNonBreakWord v lexs input (blen ((input.take limit).take e)) = .ok false := by
  rcases getEos_spec v limit ck hne with ⟨a, ha, hnE, hfirst, ⟨_, hg, hw⟩ | ⟨_, hg, _⟩⟩ | ⟨_, n, hg, hn⟩
  · rw [hg] at h; cases h
    exact ⟨a, ha, hnE, hfirst, rfl, hw⟩
  · rw [hg] at h; cases h
  · rw [hg] at h; exact absurd (Res.ok.inj h) (negOf_pos (hn hl))

theorem getEos_neg_ge_one {v : CkVariant} {limit : Nat} {ck : Option (List (List (List Nat)))} {input : Text} {e : Nat}
    (hne : input ≠ []) (h : getEos v limit ck input = .ok (.neg e)) : 1 ≤ e := by
  rcases getEos_spec v limit ck hne with ⟨_, _, _, _, ⟨_, hg, _⟩ | ⟨_, hg, _⟩⟩ | ⟨_, n, hg, _⟩
  · rw [hg] at h; cases h
  · rw [hg] at h; cases h
  · rw [hg, negOf] at h
    by_cases hn : n = 0
    · rw [if_pos hn] at h; cases h
    · rw [if_neg hn] at h; cases h; omega

theorem getEos_pos_bounds {limit : Nat} {v : CkVariant} {ck : Option (List (List (List Nat)))} {input : Text} {e : Nat}
    (hl : 1 ≤ limit) (hne : input ≠ []) (h : getEos v limit ck input = .ok (.pos e)) : 1 ≤ e ∧ e ≤ input.length := by
  obtain ⟨a, ha, _, _, rfl, _⟩ := getEos_pos hl hne h
  have hb := matchEnds_bounds ha
  have h1 := extEnd_ge (input.take limit) a
  have h2 := extEnd_le hb.2
  rw [List.length_take] at h2
  omega

theorem take_take_of_le {input : Text} {limit e : Nat} (h : e ≤ (input.take limit).length) :
    (input.take limit).take e = input.take e := by
  rw [List.length_take] at h
  rw [List.take_take, Nat.min_eq_left (by omega)]

theorem getEos_pos_noWord {limit : Nat} {v : CkVariant} {lexs : List (List (List Nat))} {input : Text} {e : Nat}
    (hl : 1 ≤ limit) (hne : input ≠ []) (h : getEos v limit (some lexs) input = .ok (.pos e)) :
    hasNonBreakWord v lexs input (blen (input.take e)) = .ok false := by
  obtain ⟨a, ha, _, _, rfl, hw⟩ := getEos_pos hl hne h
  exact take_take_of_le (extEnd_le (matchEnds_bounds ha).2) ▸ hw lexs rfl

/-! ## the shape of a sentence that `get_eos` cuts off -/

theorem take_split3 (l : Text) (k n e : Nat) (h : k + n ≤ e) :
    l.take e = l.take k ++ (l.drop k).take n ++ (l.drop (k + n)).take (e - (k + n)) := by
  have : e = k + (n + (e - (k + n))) := by omega
  conv => lhs; rw [this]
  rw [List.take_add, List.take_add, List.drop_drop, List.append_assoc]

theorem not_open_of_prohibited {c : Nat} (h : isProhibitedBos c = true) : isOpen c = false := by
  cases ho : isOpen c with
  | false => rfl
  | true =>
    -- each of the twelve opening brackets is checked against the class
    simp only [isOpen, Bool.or_eq_true, decide_eq_true_eq, or_assoc] at ho
    rcases ho with rfl | rfl | rfl | rfl | rfl | rfl | rfl | rfl | rfl | rfl | rfl | rfl <;> cases h

theorem foldl_parenStep_zero (ext : Text) (h : ∀ c ∈ ext, isOpen c = false) :
    ext.foldl parenStep 0 = 0 := by
  induction ext with
  | nil => rfl
  | cons c cs ih =>
    have hc := h c (by simp)
    have : parenStep 0 c = 0 := by simp [parenStep, hc]
    simp only [List.foldl_cons, this]
    exact ih (fun x hx => h x (by simp [hx]))

theorem parenLevel_append_tail (a ext : Text) (ha : parenLevel a = 0)
    (h : ∀ c ∈ ext, isProhibitedBos c = true) : parenLevel (a ++ ext) = 0 := by
  unfold parenLevel at *
  rw [List.foldl_append, ha]
  exact foldl_parenStep_zero ext (fun c hc => not_open_of_prohibited (h c hc))

/-- The sentence cut off by a non-negative `get_eos`: `pre ++ t ++ tt ++ ext` with `t` a terminator,
`tt` further terminator characters matched with it, bracket level 0 at the end of `tt`, and `ext`
the closing brackets / commas / terminators that may not start the next sentence. -/
theorem getEos_pos_chunk {limit : Nat} {v : CkVariant} {ck : Option (List (List (List Nat)))} {input : Text} {e : Nat}
    (hl : 1 ≤ limit) (hne : input ≠ []) (h : getEos v limit ck input = .ok (.pos e)) :
    ∃ pre t tt ext, input.take e = pre ++ (t ++ tt) ++ ext ∧ IsTerminator t ∧
      (∀ c ∈ tt, isDotOrPeriod c = true) ∧ parenLevel (pre ++ (t ++ tt)) = 0 ∧
      (∀ c ∈ ext, isProhibitedBos c = true) := by
  obtain ⟨a, ha, hnE, _, rfl, _⟩ := getEos_pos hl hne h
  have hbd := matchEnds_bounds ha
  obtain ⟨k, n, _, hb, rfl⟩ := (mem_matchEnds _ 0 none 0 a).mp ha
  rw [Nat.zero_add] at hnE hbd ⊢
  obtain ⟨t, tt, hshape, hterm, htt⟩ := breakerAt_shape hb
  refine ⟨(input.take limit).take k, t, tt, _, ?_, hterm, htt, ?_, extEnd_tail (input.take limit) (k + n)⟩
  · rw [← take_take_of_le (extEnd_le hbd.2), take_split3 _ k n _ (extEnd_ge _ _), hshape]
  · have := Nat.eq_zero_of_not_pos fun hp => hnE (Or.inl hp)
    rw [List.take_add, hshape] at this
    exact this

/-! ## valid UTF-8 keys: no panic, and the case lemmas become equivalences -/

def ValidChecker : Option (List (List (List Nat))) → Prop
  | none => True
  | some lexs => ValidKeys lexs

theorem examine_no_panic {v : CkVariant} {ck : Option (List (List (List Nat)))} (hv : ValidChecker ck)
    {input s : Text} {e0 : Nat} (h0 : 1 ≤ e0) : examine v ck input s e0 ≠ .panic := by
  intro h
  rcases examine_cases v ck input s h0 with ⟨_, h'⟩ | ⟨_, h', _⟩ | ⟨_, _, lexs, rfl, hp⟩
  · rw [h'] at h; cases h
  · rw [h'] at h; cases h
  · exact hasNonBreakWord_no_panic v hv input _ hp

theorem getEos_no_panic {v : CkVariant} {ck : Option (List (List (List Nat)))} (hv : ValidChecker ck)
    (limit : Nat) (input : Text) : getEos v limit ck input ≠ .panic := by
  by_cases hne : input = []
  · subst hne
    exact fun h => nomatch h
  · rcases getEos_spec v limit ck hne with ⟨_, _, _, _, ⟨_, hg, _⟩ | ⟨_, _, lexs, rfl, hp⟩⟩ | ⟨_, n, hg, _⟩
    · rw [hg]; exact fun h => nomatch h
    · exact absurd hp (hasNonBreakWord_no_panic v hv input _)
    · rw [hg]; exact fun h => nomatch h

/-- **`get_eos` is non-negative iff** some match of SENTENCE_BREAKER in the window is not exempt; the answer
is the extended end of the FIRST such match. -/
theorem getEos_pos_iff {v : CkVariant} {ck : Option (List (List (List Nat)))} (hv : ValidChecker ck)
    (limit : Nat) (hl : 1 ≤ limit) {input : Text} (hne : input ≠ []) (e : Nat) :
    getEos v limit ck input = .ok (.pos e) ↔
      ∃ e0 ∈ matchEnds 0 none 0 (input.take limit),
        ¬ Exempt v ck input (input.take limit) e0 ∧
        (∀ e0' ∈ matchEnds 0 none 0 (input.take limit), e0' < e0 → Exempt v ck input (input.take limit) e0') ∧
        e = extEnd (input.take limit) e0 := by
  constructor
  · intro h
    obtain ⟨a, ha, hnE, hfirst, he, _⟩ := getEos_pos hl hne h
    exact ⟨a, ha, hnE, hfirst, he⟩
  · rintro ⟨e0, hm, hnE0, hfirst0, rfl⟩
    rcases getEos_spec v limit ck hne with ⟨a, ha, hnE, hfirst, hres⟩ | ⟨hall, _⟩
    · -- two first match ends that are not exempt are the same
      have : e0 = a := Nat.le_antisymm (Nat.le_of_not_lt fun hlt => hnE (hfirst0 a ha hlt))
        (Nat.le_of_not_lt fun hlt => hnE0 (hfirst e0 hm hlt))
      rcases hres with ⟨_, hg, _⟩ | ⟨_, _, lexs, rfl, hp⟩
      · rw [this]; exact hg
      · exact absurd hp (hasNonBreakWord_no_panic v hv input _)
    · exact absurd (hall e0 hm) hnE0

end Sentence
