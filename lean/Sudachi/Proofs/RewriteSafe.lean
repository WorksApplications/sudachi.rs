import Sudachi.Proofs.Rewrite
/-!
# C14: index safety of the two path-rewrite loops ("`rewriteAll ≠ panic`")

`Safe cat path` — what the index operations of `rewrite_gen` / `concat_nodes` / `concat_oov_nodes` need from a
path: adjacent nodes touch (characters and bytes), every node covers at least one character of the text whose
class table is `cat`, byte ranges are not reversed, and the head-word lengths of the whole path add up to less than
65536 (`u16`).  `Tiles cat nb path` adds that the path begins at `(0, 0)` and ends at `(cat.length, nb)`: the
nodes are laid end to end over the whole text (C01's `PathOk`, stated on the C14 node type).

Results: both concatenation functions, `JoinNumericPlugin::concat`, every iteration of both loops and both loops as
a whole keep `Safe` and return `ok` or the documented `err` (`InvalidRange`), never `panic`.  The `InvalidRange` case says
when it arises — the open run is the separator alone that the parser is stuck on (`nclose_safe`), impossible for a parser
that rejects a leading separator (`NOne.not_lone_sep`) — so that `RewriteNoErr` only has to discharge it.
-/
namespace Rewrite

structure Safe (cat : List Nat) (path : List Node) : Prop where
  contig : Contig path
  rng : ∀ n ∈ path, n.b < n.e ∧ n.e ≤ cat.length ∧ n.bb ≤ n.eb
  hwl : sumHwl path < 65536

/-- the path tiles the text: `Safe`, begins at `(0, 0)`, ends at `(cat.length, nb)`; an empty path only for an
empty text -/
structure Tiles (cat : List Nat) (nb : Nat) (path : List Node) : Prop where
  safe : Safe cat path
  first : ∀ x, firstB path = some x → x = (0, 0)
  last : ∀ x, lastE path = some x → x = (cat.length, nb)
  empty : path = [] → cat = [] ∧ nb = 0

theorem chain_span : ∀ (blk : List Node) (x y : Nat × Nat), Contig blk →
    (∀ n ∈ blk, n.b < n.e ∧ n.bb ≤ n.eb) → firstB blk = some x → lastE blk = some y →
    x.1 < y.1 ∧ x.2 ≤ y.2 := by
  intro blk
  induction blk with
  | nil => intro x y _ _ hf _; simp [firstB] at hf
  | cons a rest ih =>
    intro x y hc hr hf hl
    have ha := hr a (by simp)
    simp only [firstB, List.head?_cons, Option.map_some, Option.some.injEq] at hf
    subst hf
    cases rest with
    | nil =>
      simp only [lastE, List.getLast?_singleton, Option.map_some, Option.some.injEq] at hl
      subst hl
      exact ha
    | cons b r =>
      have := ih (b.b, b.bb) y hc.2.2 (fun n hn => hr n (by simp [hn])) (by simp [firstB]) hl
      have h1 := hc.1
      have h2 := hc.2.1
      simp only at this ⊢
      omega

theorem eb_le_last : ∀ (path : List Node) (y : Nat × Nat), Contig path → (∀ n ∈ path, n.bb ≤ n.eb) →
    lastE path = some y → ∀ m ∈ path, m.eb ≤ y.2 := by
  intro path
  induction path with
  | nil => intro _ _ _ _ m hm; cases hm
  | cons a rest ih =>
    intro y hc hr hl m hm
    cases rest with
    | nil =>
      simp only [lastE, List.getLast?_singleton, Option.map_some, Option.some.injEq] at hl
      rw [List.mem_singleton.mp hm, ← hl]
      exact Nat.le_refl _
    | cons b r =>
      have hb := ih y hc.2.2 (fun n hn => hr n (List.mem_cons_of_mem _ hn)) hl
      rcases List.mem_cons.mp hm with rfl | hm
      · have := hb b (List.mem_cons_self ..)
        have := hr b (by simp)
        have := hc.2.1
        omega
      · exact hb m hm

theorem Safe.block_facts {cat : List Nat} {path : List Node} (hs : Safe cat path) (b e : Nat) (hbe : b < e)
    (f l : Node) (hf : path[b]? = some f) (hl : path[e - 1]? = some l) :
    f.b < l.e ∧ f.bb ≤ l.eb ∧ l.e ≤ cat.length := by
  have hc : Contig (block path b e) := by
    have := hs.contig
    rw [block_decomp path b e (by omega), contig_append_iff, contig_append_iff] at this
    exact this.1.2.1
  have hsp := chain_span (block path b e) (f.b, f.bb) (l.e, l.eb) hc
    (fun n hn => ⟨(hs.rng n (mem_block hn)).1, (hs.rng n (mem_block hn)).2.2⟩)
    (block_first path b e hbe f hf) (block_last path b e hbe l hl)
  have hlm : l ∈ path := List.mem_of_getElem? hl
  exact ⟨hsp.1, hsp.2, (hs.rng l hlm).2.1⟩

theorem Safe.replace {cat : List Nat} {path : List Node} (hs : Safe cat path) (b e : Nat) (hbe : b < e)
    (he : e ≤ path.length) (f l : Node) (hf : path[b]? = some f) (hl : path[e - 1]? = some l) (m : Node)
    (hsp : Spans (block path b e) m) (hh : m.hwl = sumHwl (block path b e)) :
    Safe cat (path.take b ++ m :: path.drop e) := by
  obtain ⟨h1, h2, h3⟩ := hs.block_facts b e hbe f l hf hl
  have hfb := block_first path b e hbe f hf
  have hle := block_last path b e hbe l hl
  rw [hsp.first] at hfb
  rw [hsp.last] at hle
  simp only [Option.some.injEq, Prod.mk.injEq] at hfb hle
  refine ⟨?_, ?_, ?_⟩
  · exact (coarsens_replace_block (R := fun _ _ => True) path b e hbe m hsp trivial).contig hs.contig
  · intro n hn
    rcases List.mem_append.mp hn with hn | hn
    · exact hs.rng n (List.mem_of_mem_take hn)
    · rcases List.mem_cons.mp hn with rfl | hn
      · exact ⟨by omega, by omega, by omega⟩
      · exact hs.rng n (List.mem_of_mem_drop hn)
  · rw [sumHwl_splice path (Nat.le_of_lt hbe) hh]
    exact hs.hwl

/-- either concatenation function on a non-empty block of a safe path succeeds (no index out of range, no
`usize`/`u16` overflow) and the result is safe -/
theorem concatWith_safe {mk : Node → Node → List Node → Node} (hm : Merges mk) {cat : List Nat}
    {path : List Node} (hs : Safe cat path) (b e : Nat) (hbe : b < e) (he : e ≤ path.length) :
    ∃ q, concatWith mk path b e = .ok q ∧ Safe cat q := by
  have hf := List.getElem?_eq_getElem (l := path) (i := b) (by omega)
  have hl := List.getElem?_eq_getElem (l := path) (i := e - 1) (by omega)
  obtain ⟨h1, h2, h3⟩ := hs.block_facts b e hbe _ _ hf hl
  have hw := Nat.lt_of_le_of_lt (sumHwl_block_le path (Nat.le_of_lt hbe)) hs.hwl
  refine ⟨_, (concatWith_at hbe hf hl).trans (if_neg (by omega)), ?_⟩
  exact hs.replace b e hbe he _ _ hf hl _ (hm.spans hbe hf hl)
    (Prod.mk.inj (Prod.mk.inj (Prod.mk.inj (Prod.mk.inj (Prod.mk.inj (hm _ _ _)).2).2).2).2).2

/-- `path.drain(begin + 1..end)` at the end of both concatenation functions is in range whenever it is reached:
the model's `take b ++ m :: drop e` is what `path[begin] = node; path.drain(begin + 1..end)` leaves -/
theorem drain_in_range {mk : Node → Node → List Node → Node} {path : List Node} {b e : Nat} {q : List Node}
    (h : concatWith mk path b e = .ok q) :
    b + 1 ≤ e ∧ e ≤ path.length ∧ q.length = path.length - (e - (b + 1)) := by
  obtain ⟨_, _, hbe, he, -, -, -, -, -, hlen⟩ := concatWith_shape h
  omega

/-! ## the numeral loop -/

/-- `Err(InvalidRange)` only for an EMPTY range `[b, e)` -/
theorem nconcat_safe {cat : List Nat} (cfg : NCfg) (P : List Char → POut) {path : List Node} (hs : Safe cat path)
    (b e : Nat) (hb : b < path.length) (hbe : b ≤ e) (he : e ≤ path.length) (acc : List Char) :
    (nconcat cfg P path b e acc = .err ∧ b = e) ∨
      ∃ q, nconcat cfg P path b e acc = .ok q ∧ Safe cat q ∧ q.length ≤ path.length := by
  rw [nconcat_at (List.getElem?_eq_getElem hb)]
  by_cases hp : path[b].pos ≠ cfg.numPos
  · rw [if_pos hp]; exact .inr ⟨path, rfl, hs, Nat.le_refl _⟩
  · rw [if_neg hp, if_neg (by omega)]
    split
    · by_cases hlt : b < e
      · obtain ⟨q, hq, hsq⟩ := concatWith_safe (merges_mergedNode _) hs b e hlt he
        exact .inr ⟨q, hq, hsq, by have := drain_in_range hq; omega⟩
      · exact .inl ⟨if_pos (by omega), by omega⟩
    · exact .inr ⟨path, rfl, hs, Nat.le_refl _⟩

theorem catOfRange_safe {cat : List Nat} {path : List Node} (hs : Safe cat path) (n : Node) (hn : n ∈ path) :
    ∃ ct, catOfRange cat n.b n.e = some ct := by
  obtain ⟨h1, h2, _⟩ := hs.rng n hn
  unfold catOfRange
  rw [if_neg (by omega), if_neg (by omega)]
  exact ⟨_, rfl⟩

/-- `Err(InvalidRange)` only when the run is the separator alone that the parser is stuck on -/
theorem nclose_safe {cat : List Nat} (cfg : NCfg) (P : List Char → POut) {st : NState}
    (hs : Safe cat st.path) {j : Nat} (hbj : st.beginIdx < j) (hj : j ≤ st.path.length) :
    (nclose cfg P st j = .err ∧ 0 ≤ st.beginIdx ∧ st.beginIdx + 1 = j ∧
        ∃ prev, st.path[j - 1]? = some prev ∧ sepErr P st prev = true) ∨
      ∃ r, nclose cfg P st j = .ok r ∧ Safe cat r.1 ∧ r.1.length ≤ st.path.length ∧ 0 ≤ r.2 := by
  rcases nclose_cases (rfl : nclose cfg P st j = _) with h | ⟨h0, -, h⟩ | ⟨h0, -, -, prev, hp, hse, h⟩ |
      ⟨-, h0, hpanic⟩
  · exact .inr ⟨_, h, hs, Nat.le_refl _, by simp only; omega⟩
  · rw [Int.toNat_natCast] at h
    rcases nconcat_safe cfg P hs st.beginIdx.toNat j (by omega) (by omega) hj st.acc with he | ⟨q, hq, hsq, hlen⟩
    · omega
    · rw [hq] at h; exact .inr ⟨_, h, hsq, hlen, by simp only; omega⟩
  · rw [Int.toNat_natCast] at h hp
    rcases nconcat_safe cfg P hs st.beginIdx.toNat (j - 1) (by omega) (by omega) (by omega) st.acc with
      he | ⟨q, hq, hsq, hlen⟩
    · rw [he.1] at h; exact .inl ⟨h, h0, by omega, prev, hp, hse⟩
    · rw [hq] at h; exact .inr ⟨_, h, hsq, hlen, by simp only; omega⟩
  · rw [Int.toNat_natCast] at hpanic; omega

/-- the `InvalidRange` situation of `nclose_safe` contradicts `SepNotFirst P` and `NOne P st`; the statements below carry
this in their `InvalidRange` case as `SepNotFirst P → ¬ NOne P st` (`NOne` is kept by every iteration: `nstep_one`) -/
theorem NOne.not_lone_sep {P : List Char → POut} (hP : SepNotFirst P) {st : NState} (hone : NOne P st) {j : Nat}
    (hij : st.i + 1 = j) (hd : 0 ≤ st.beginIdx ∧ st.beginIdx + 1 = j ∧
      ∃ prev, st.path[j - 1]? = some prev ∧ sepErr P st prev = true) : False := by
  obtain ⟨h0, hbj, prev, hp, hse⟩ := hd
  obtain ⟨node, hn, hacc, hlen⟩ := hone h0 (by omega)
  rw [show st.i.toNat = j - 1 by omega, hp] at hn
  cases hn
  exact sep_not_accepted hP hse hacc hlen

theorem nstep_safe (v : NVariant) (cfg : NCfg) (cat : List Nat) (P : List Char → POut) (st : NState)
    (hs : Safe cat st.path) (hinv : NInv2 st) (hg : st.i < (st.path.length : Int) - 1) :
    (nstep v cfg cat P st = .err ∧ (SepNotFirst P → ¬ NOne P st)) ∨
      ∃ st', nstep v cfg cat P st = .ok st' ∧ Safe cat st'.path ∧ NInv2 st' := by
  have key : (nstep v cfg cat P st = .err ∧ (SepNotFirst P → ¬ NOne P st)) ∨
      ∃ st', nstep v cfg cat P st = .ok st' ∧ Safe cat st'.path := by
    obtain ⟨hi, hb, hbl⟩ := hinv
    obtain ⟨j, hj⟩ : ∃ j : Nat, st.i + 1 = (j : Int) := ⟨(st.i + 1).toNat, by omega⟩
    have hjl : j < st.path.length := by omega
    have hn : st.path[(st.i + 1).toNat]? = some st.path[j] := by
      rw [hj, Int.toNat_natCast]; exact getElem?_pos ..
    obtain ⟨ct, hct⟩ := catOfRange_safe hs st.path[j] (List.getElem_mem hjl)
    rw [nstep_at v cfg cat P (by omega) hn hct]
    split
    · exact .inr ⟨_, rfl, by rw [nfeed_path]; exact hs⟩
    · rw [hj]
      rcases nclose_safe cfg P hs (j := j) (by omega) (by omega) with ⟨he, hd⟩ | ⟨r, hr, hsr, -⟩
      · rw [he]; exact .inl ⟨rfl, fun hP hone => hone.not_lone_sep hP hj hd⟩
      · rw [hr]; exact .inr ⟨_, rfl, hsr⟩
  exact key.imp_right fun ⟨st', h, hs'⟩ => ⟨st', h, hs', nstep_inv2 h hinv.inv (by omega)⟩

theorem ntail_safe (cfg : NCfg) (cat : List Nat) (P : List Char → POut) (st : NState)
    (hs : Safe cat st.path) (hinv : NInv2 st) (hg : ¬ st.i < (st.path.length : Int) - 1) :
    (ntail cfg P st = .err ∧ (SepNotFirst P → ¬ NOne P st)) ∨ ∃ q, ntail cfg P st = .ok q ∧ Safe cat q := by
  obtain ⟨hi, hb, hbl⟩ := hinv
  rw [ntail_eq]
  by_cases hb0 : 0 ≤ st.beginIdx
  · have := hbl hb0
    rcases nclose_safe cfg P hs (j := st.path.length) (by omega) (Nat.le_refl _) with
      ⟨he, hd⟩ | ⟨r, hr, hsr, -⟩
    · rw [he]; exact .inl ⟨rfl, fun hP hone => hone.not_lone_sep hP (by omega) hd⟩
    · rw [hr]; exact .inr ⟨_, rfl, hsr⟩
  · exact .inr ⟨st.path, by rw [nclose_no_run (by omega)]; rfl, hs⟩

theorem nloop_safe (v : NVariant) (cfg : NCfg) (cat : List Nat) (P : List Char → POut) :
    ∀ (fuel : Nat) (st : NState), Safe cat st.path → NInv2 st →
      nloop v cfg cat P fuel st = .fuel ∨ (nloop v cfg cat P fuel st = .err ∧ (SepNotFirst P → ¬ NOne P st)) ∨
        ∃ q, nloop v cfg cat P fuel st = .ok q ∧ Safe cat q := by
  intro fuel
  induction fuel with
  | zero => intro st _ _; exact .inl rfl
  | succ fuel ih =>
    intro st hs hinv
    unfold nloop
    by_cases hg : st.i < (st.path.length : Int) - 1
    · rw [if_pos hg]
      rcases nstep_safe v cfg cat P st hs hinv hg with ⟨he, hd⟩ | ⟨st', hst, hs', hinv'⟩
      · rw [he]; exact .inr (.inl ⟨rfl, hd⟩)
      · rw [hst]
        exact (ih st' hs' hinv').imp_right (Or.imp_left fun ⟨he, hd⟩ =>
          ⟨he, fun hP _ => hd hP (nstep_one v cfg cat P st st' hinv.inv hst)⟩)
    · rw [if_neg hg]
      rcases ntail_safe cfg cat P st hs hinv hg with he | ⟨q, hq, hsq⟩
      · exact .inr (.inl he)
      · exact .inr (.inr ⟨q, hq, hsq⟩)

/-! ## the katakana loop -/

theorem isKatakana_safe {cat : List Nat} {path : List Node} (hs : Safe cat path) (n : Node) (hn : n ∈ path) :
    ∃ k, isKatakana cat n = .ok k :=
  isKatakana_ok_of_bounds cat n (.inr (hs.rng n hn).2.1)

theorem canOovBow_safe {cat : List Nat} {path : List Node} (hs : Safe cat path) (n : Node) (hn : n ∈ path) :
    ∃ k, canOovBow cat n = .ok k := by
  obtain ⟨h1, h2, _⟩ := hs.rng n hn
  unfold canOovBow
  rw [List.getElem?_eq_getElem (show n.b < cat.length by omega)]
  exact ⟨_, rfl⟩

theorem noBow_safe {cat : List Nat} {path : List Node} (hs : Safe cat path) (n : Node) (hn : n ∈ path) :
    ∃ k, noBow cat n = .ok k := by
  obtain ⟨c, hc⟩ := canOovBow_safe hs n hn
  exact ⟨_, noBow_of_ok hc⟩

theorem krun_safe {cat : List Nat} {path : List Node} (hs : Safe cat path) (i : Nat) (hi : i < path.length) :
    krun cat path i = .ok .next ∨ ∃ b e, krun cat path i = .ok (.join b e) ∧ b < e ∧ e ≤ path.length := by
  obtain ⟨nl, hl⟩ := countWhile_ok (path.take i).reverse fun n hn =>
    isKatakana_safe hs n (List.mem_of_mem_take (List.mem_reverse.mp hn))
  obtain ⟨nr, hr⟩ := countWhile_ok (path.drop (i + 1)) fun n hn => isKatakana_safe hs n (List.mem_of_mem_drop hn)
  obtain ⟨ns, hb⟩ := countWhile_ok (block path (i - nl) (i + 1 + nr)) fun n hn => noBow_safe hs n (mem_block hn)
  have := countWhile_drop_le hi hr
  unfold krun
  rw [hl, Outcome.ok_bind, hr, Outcome.ok_bind, hb, Outcome.ok_bind]
  split
  · exact .inr ⟨_, _, rfl, by omega, this⟩
  · exact .inl rfl

theorem kstep_safe {cat : List Nat} (cfg : KCfg) {path : List Node} (hs : Safe cat path) (i : Nat) (node : Node)
    (hi : i < path.length) (hnode : node ∈ path) :
    kstep cfg cat path i node = .ok .next ∨
      ∃ b e, kstep cfg cat path i node = .ok (.join b e) ∧ b < e ∧ e ≤ path.length := by
  obtain ⟨c, hc⟩ := cand_ok cfg node (Nat.le_of_lt (hs.rng node hnode).1)
  obtain ⟨kt, hk⟩ := isKatakana_safe hs node hnode
  rw [kstep_eq cfg cat path i node (by omega), hc, hk]
  cases c
  · exact .inl rfl
  · cases kt
    · exact .inl rfl
    · exact krun_safe hs i hi

theorem kloop_safe (cfg : KCfg) (cat : List Nat) :
    ∀ (fuel : Nat) (path : List Node) (i : Nat), Safe cat path →
      kloop cfg cat fuel path i = .fuel ∨ ∃ q, kloop cfg cat fuel path i = .ok q ∧ Safe cat q := by
  intro fuel
  induction fuel with
  | zero => intro path i _; exact .inl rfl
  | succ fuel ih =>
    intro path i hs
    unfold kloop
    by_cases hi : i ≥ path.length
    · rw [if_pos hi]; exact .inr ⟨path, rfl, hs⟩
    · rw [if_neg hi, List.getElem?_eq_getElem (show i < path.length by omega)]
      simp only
      rcases kstep_safe cfg hs i path[i] (by omega) (List.getElem_mem _) with hk | ⟨b, e, hk, hbe, he⟩
      · rw [hk]; exact ih path (i + 1) hs
      · rw [hk]
        simp only
        obtain ⟨q, hq, hsq⟩ := concatWith_safe (merges_mergedOovNode cfg.oovPos) hs b e hbe he
        rw [concatOovNodes_eq, hq]
        exact ih q (b + 2) hsq

/-! ## the plugin stack -/

theorem applyPlugin_safe (v : NVariant) (cat : List Nat) (P : List Char → POut) (pl : Plugin) (path : List Node)
    (hs : Safe cat path) :
    applyPlugin v cat P pl path = .fuel ∨ (applyPlugin v cat P pl path = .err ∧ ¬ SepNotFirst P) ∨
      ∃ q, applyPlugin v cat P pl path = .ok q ∧ Safe cat q := by
  cases pl with
  | numeric cfg =>
    exact (nloop_safe v cfg cat P _ _ hs (nInit_inv2 path)).imp_right (Or.imp_left fun ⟨he, hd⟩ =>
      ⟨he, fun hP => hd hP (nInit_one P path)⟩)
  | katakana cfg =>
    rcases kloop_safe cfg cat (kFuel path) path 0 hs with h | h
    · exact .inl h
    · exact .inr (.inr h)

theorem rewriteAll_safe (v : NVariant) (cat : List Nat) (P : List Char → POut) :
    ∀ (pls : List Plugin) (path : List Node), Safe cat path →
      rewriteAll v cat P pls path = .fuel ∨ (rewriteAll v cat P pls path = .err ∧ ¬ SepNotFirst P) ∨
        ∃ q, rewriteAll v cat P pls path = .ok q ∧ Safe cat q := by
  intro pls
  induction pls with
  | nil => intro path hs; exact .inr (.inr ⟨path, rfl, hs⟩)
  | cons pl rest ih =>
    intro path hs
    unfold rewriteAll
    rcases applyPlugin_safe v cat P pl path hs with h | ⟨h, hd⟩ | ⟨q, hq, hsq⟩
    · rw [h]; exact .inl rfl
    · rw [h]; exact .inr (.inl ⟨rfl, hd⟩)
    · rw [hq]; exact ih q hsq

theorem rewriteAll_tiles (v : NVariant) (cat : List Nat) (P : List Char → POut) (pls : List Plugin) (nb : Nat)
    (path q : List Node) (ht : Tiles cat nb path) (h : rewriteAll v cat P pls path = .ok q) : Tiles cat nb q := by
  have hc := rewriteAll_coarsens v cat P pls path q h
  obtain ⟨h1, h2, _⟩ := hc.summary
  refine ⟨?_, fun x hx => ht.first x (by rw [h1]; exact hx), fun x hx => ht.last x (by rw [h2]; exact hx),
    fun hq => ht.empty (hc.nil_iff.mpr hq)⟩
  rcases rewriteAll_safe v cat P pls path ht.safe with h' | ⟨h', -⟩ | ⟨q', hq', hs'⟩
  · rw [h] at h'; cases h'
  · rw [h] at h'; cases h'
  · rw [h] at hq'; cases hq'; exact hs'

theorem sumHwl_le_bytes : ∀ (path : List Node) (x y : Nat × Nat), Contig path →
    (∀ n ∈ path, n.bb ≤ n.eb ∧ n.hwl ≤ n.eb - n.bb) → firstB path = some x → lastE path = some y →
    sumHwl path + x.2 ≤ y.2 := by
  intro path
  induction path with
  | nil => intro x y _ _ hf _; simp [firstB] at hf
  | cons a rest ih =>
    intro x y hc hr hf hl
    have ha := hr a (by simp)
    simp only [firstB, List.head?_cons, Option.map_some, Option.some.injEq] at hf
    subst hf
    rw [sumHwl_cons]
    cases rest with
    | nil =>
      simp only [lastE, List.getLast?_singleton, Option.map_some, Option.some.injEq] at hl
      subst hl
      simp only [sumHwl, List.foldl_nil]
      omega
    | cons b r =>
      have := ih (b.b, b.bb) y hc.2.2 (fun n hn => hr n (by simp [hn])) (by simp [firstB]) hl
      have h2 := hc.2.1
      simp only at this ⊢
      omega

end Rewrite
