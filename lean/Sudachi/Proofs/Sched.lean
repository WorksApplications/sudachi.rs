import Sudachi.Model.Sched
/-!
# The scheduler model under every schedule (C18)

Two inductions over the schedule carry everything.  `run_inv`: a predicate `I` on the shared component that every step
preserves holds after every schedule.  `run_thread`: if, inside `I`, the private state and the output of a step do not
depend on the shared component, then what thread `i` has output so far, followed by what it would still output alone, is
what it outputs alone.  The frame hypothesis of C18 is `I := (· = d)`.  For once-cells `I := Consistent (init d)`: on
consistent cells a program returns its pure result (`exec_consistent`), and "initialised, or still asked for by some
thread" (`Due`) is conserved by every step, which determines the cells at the end.
-/
namespace Sched

variable {G D S Op Out : Type}

theorem getElem?_set_self_of_some {α : Type} {l : List α} {j : Nat} {a : α} (b : α) (h : l[j]? = some a) :
    (l.set j b)[j]? = some b := by
  rw [List.getElem?_set_self (List.getElem?_eq_some_iff.mp h).1]

theorem outputsOf_cons_self (i : Nat) (o : Out) (tr : List (Nat × Out)) :
    outputsOf i ((i, o) :: tr) = o :: outputsOf i tr := by
  simp only [outputsOf, List.filter_cons, beq_self_eq_true, if_true, List.map_cons]

theorem outputsOf_cons_ne {i j : Nat} (h : j ≠ i) (o : Out) (tr : List (Nat × Out)) :
    outputsOf i ((j, o) :: tr) = outputsOf i tr := by
  simp only [outputsOf, List.filter_cons, beq_iff_eq, h, if_false]

theorem stepThread_cases (step : G → S → Op → G × S × Out) (sys : Sys G S Op) (j : Nat) :
    stepThread step sys j = (sys, none) ∨
    ∃ s op rest, sys.states[j]? = some s ∧ sys.pending[j]? = some (op :: rest) ∧
      stepThread step sys j =
        ({ dict := (step sys.dict s op).1, states := sys.states.set j (step sys.dict s op).2.1,
           pending := sys.pending.set j rest }, some (j, (step sys.dict s op).2.2)) := by
  unfold stepThread
  split
  · next s op rest hs hp => exact .inr ⟨s, op, rest, hs, hp, rfl⟩
  · exact .inl rfl

theorem stepThread_inv (step : G → S → Op → G × S × Out) (I : G → Prop)
    (hI : ∀ g s op, I g → I (step g s op).1) (sys : Sys G S Op) (j : Nat) (h : I sys.dict) :
    I (stepThread step sys j).1.dict := by
  rcases stepThread_cases step sys j with e | ⟨s, op, rest, _, _, e⟩
  · rw [e]; exact h
  · rw [e]; exact hI _ s op h

theorem run_inv (step : G → S → Op → G × S × Out) (I : G → Prop)
    (hI : ∀ g s op, I g → I (step g s op).1) (sched : List Nat) :
    ∀ (sys : Sys G S Op), I sys.dict → I (run step sys sched).1.dict := by
  induction sched with
  | nil => exact fun _ h => h
  | cons j rest ih => exact fun sys h => ih _ (stepThread_inv step I hI sys j h)

theorem aloneG_insensitive (step : G → S → Op → G × S × Out) (I : G → Prop)
    (hI : ∀ g s op, I g → I (step g s op).1)
    (hins : ∀ g g' s op, I g → I g' → (step g s op).2 = (step g' s op).2) (ops : List Op) :
    ∀ (s : S) (g g' : G), I g → I g' → aloneG step g s ops = aloneG step g' s ops := by
  induction ops with
  | nil => exact fun _ _ _ _ _ => rfl
  | cons op rest ih =>
    intro s g g' hg hg'
    simp only [aloneG]
    rw [hins g g' s op hg hg', ih _ _ _ (hI _ _ _ hg) (hI _ _ _ hg')]

theorem run_thread (step : G → S → Op → G × S × Out) (I : G → Prop)
    (hI : ∀ g s op, I g → I (step g s op).1)
    (hins : ∀ g g' s op, I g → I g' → (step g s op).2 = (step g' s op).2) (g0 : G) (hg0 : I g0) (i : Nat) :
    ∀ (sched : List Nat) (sys : Sys G S Op) (s : S) (ops : List Op),
      I sys.dict → sys.states[i]? = some s → sys.pending[i]? = some ops →
      ∃ s' ops', (run step sys sched).1.states[i]? = some s' ∧ (run step sys sched).1.pending[i]? = some ops' ∧
        outputsOf i (run step sys sched).2 ++ aloneG step g0 s' ops' = aloneG step g0 s ops := by
  intro sched
  induction sched with
  | nil => exact fun sys s ops _ hs hp => ⟨s, ops, hs, hp, rfl⟩
  | cons j rest ih =>
    intro sys s ops hd hs hp
    simp only [run]
    rcases stepThread_cases step sys j with e | ⟨sj, op, restj, hsj, hpj, e⟩
    · rw [e]; exact ih sys s ops hd hs hp
    rw [e]
    by_cases hji : j = i
    · -- thread `i` itself steps: its next output is the one it gives alone from `g0`
      subst hji
      obtain rfl : sj = s := Option.some.inj (hsj.symm.trans hs)
      obtain rfl : op :: restj = ops := Option.some.inj (hpj.symm.trans hp)
      obtain ⟨s', ops', h1, h2, h3⟩ := ih ⟨_, sys.states.set j _, sys.pending.set j _⟩ _ restj (hI _ sj op hd)
        (getElem?_set_self_of_some _ hs) (getElem?_set_self_of_some _ hp)
      refine ⟨s', ops', h1, h2, ?_⟩
      rw [outputsOf_cons_self, List.cons_append, h3, hins sys.dict g0 sj op hd hg0]
      exact congrArg _ (aloneG_insensitive step I hI hins restj _ _ _ hg0 (hI _ _ _ hg0))
    · obtain ⟨s', ops', h1, h2, h3⟩ := ih ⟨_, sys.states.set j _, sys.pending.set j _⟩ s ops (hI _ sj op hd)
        ((List.getElem?_set_ne hji).trans hs) ((List.getElem?_set_ne hji).trans hp)
      exact ⟨s', ops', h1, h2, (congrArg (· ++ _) (outputsOf_cons_ne hji _ _)).trans h3⟩

theorem run_thread_done (step : G → S → Op → G × S × Out) (I : G → Prop)
    (hI : ∀ g s op, I g → I (step g s op).1)
    (hins : ∀ g g' s op, I g → I g' → (step g s op).2 = (step g' s op).2) (g0 : G) (hg0 : I g0) (i : Nat)
    (sched : List Nat) (sys : Sys G S Op) (s : S) (ops : List Op)
    (hd : I sys.dict) (hs : sys.states[i]? = some s) (hp : sys.pending[i]? = some ops)
    (hdone : (run step sys sched).1.pending[i]? = some []) :
    outputsOf i (run step sys sched).2 = aloneG step g0 s ops := by
  obtain ⟨s', ops', _, h2, h3⟩ := run_thread step I hI hins g0 hg0 i sched sys s ops hd hs hp
  obtain rfl : [] = ops' := Option.some.inj (hdone.symm.trans h2)
  exact (List.append_nil _).symm.trans h3

theorem aloneG_eq_alone (step : D → S → Op → D × S × Out) (hframe : ∀ d s op, (step d s op).1 = d) (ops : List Op) :
    ∀ (d : D) (s : S), aloneG step d s ops = alone step d s ops := by
  induction ops with
  | nil => exact fun _ _ => rfl
  | cons op rest ih => intro d s; simp only [aloneG, alone]; rw [hframe, ih]

/-! ## initialise-once cells -/

variable {V R : Type}

/-- every initialised cell holds what its initialiser gives -/
def Consistent (f : Nat → V) (cs : Cells V) : Prop := ∀ c v, cs c = some v → v = f c

theorem consistent_empty (f : Nat → V) : Consistent f Cells.empty :=
  fun _ _ h => nomatch h

theorem consistent_set (f : Nat → V) (cs : Cells V) (c : Nat) (h : Consistent f cs) : Consistent f (cs.set c (f c)) := by
  intro x v hx
  unfold Cells.set at hx
  split at hx
  · next hxc => rw [← Option.some.inj hx, hxc]
  · exact h x v hx

/-- on consistent cells a program returns its pure result, leaves the cells consistent, and the cells
afterwards are: what it asked for is initialised, everything else is as before -/
theorem exec_consistent (f : Nat → V) : ∀ (p : Prog V R) (cs : Cells V), Consistent f cs →
    (p.exec f cs).1 = p.pure f ∧ Consistent f (p.exec f cs).2 ∧
    ∀ x, (p.exec f cs).2 x = if x ∈ p.touched f then some (f x) else cs x := by
  intro p
  induction p with
  | ret r => exact fun cs h => ⟨rfl, h, fun x => rfl⟩
  | getOrInit c k ih =>
    intro cs h
    -- whether `c` was initialised or not, `k (f c)` runs on `cs` with `c` holding `f c`
    obtain ⟨cs', hcs', hc', he⟩ : ∃ cs', Consistent f cs' ∧ (∀ x, cs' x = if x = c then some (f c) else cs x) ∧
        (Prog.getOrInit c k).exec f cs = (k (f c)).exec f cs' := by
      cases hc : cs c with
      | some v =>
        obtain rfl := h c v hc
        refine ⟨cs, h, fun x => ?_, by simp only [Prog.exec, hc]⟩
        split
        · next hx => rw [hx, hc]
        · rfl
      | none => exact ⟨cs.set c (f c), consistent_set f cs c h, fun x => rfl, by simp only [Prog.exec, hc]⟩
    obtain ⟨a1, a2, a3⟩ := ih (f c) cs' hcs'
    rw [he]
    refine ⟨a1, a2, fun x => ?_⟩
    rw [a3 x, hc' x]
    simp only [Prog.touched, List.mem_cons]
    by_cases hx : x = c
    · simp only [hx, true_or, if_true, ite_self]
    · simp only [hx, false_or, if_false]

variable (init : D → Nat → V) (stepP : D → S → Op → Prog V (S × Out)) (d : D)

theorem onceStep_preserves (cs : Cells V) (s : S) (op : Op) (h : Consistent (init d) cs) :
    Consistent (init d) (onceStep init stepP d cs s op).1 :=
  (exec_consistent (init d) (stepP d s op) cs h).2.1

theorem onceStep_pure (cs : Cells V) (s : S) (op : Op) (h : Consistent (init d) cs) :
    (onceStep init stepP d cs s op).2 = (stepP d s op).pure (init d) :=
  (exec_consistent (init d) (stepP d s op) cs h).1

theorem onceStep_insensitive (cs cs' : Cells V) (s : S) (op : Op) (h : Consistent (init d) cs)
    (h' : Consistent (init d) cs') : (onceStep init stepP d cs s op).2 = (onceStep init stepP d cs' s op).2 :=
  (onceStep_pure init stepP d cs s op h).trans (onceStep_pure init stepP d cs' s op h').symm

theorem onceStep_cells (cs : Cells V) (s : S) (op : Op) (h : Consistent (init d) cs) (x : Nat) :
    (onceStep init stepP d cs s op).1 x = if x ∈ (stepP d s op).touched (init d) then some (init d x) else cs x :=
  (exec_consistent (init d) (stepP d s op) cs h).2.2 x

/-- "initialised, or some thread's remaining operations will ask for it": conserved by every step -/
def Due (sys : Sys (Cells V) S Op) (x : Nat) : Prop :=
  (sys.dict x).isSome ∨ ∃ (i : Nat) (s : S) (ops : List Op), sys.states[i]? = some s ∧ sys.pending[i]? = some ops ∧
    x ∈ touchedAlone init stepP d s ops

theorem stepThread_due (sys : Sys (Cells V) S Op) (j : Nat) (h : Consistent (init d) sys.dict) (x : Nat) :
    Due init stepP d (stepThread (onceStep init stepP d) sys j).1 x ↔ Due init stepP d sys x := by
  rcases stepThread_cases (onceStep init stepP d) sys j with e | ⟨sj, op, restj, hsj, hpj, e⟩
  · rw [e]
  rw [e]
  unfold Due
  simp only [onceStep_cells init stepP d _ sj op h x, onceStep_pure init stepP d _ sj op h]
  -- thread `j` asked for `x` before the step iff the step itself asks for it or `j` still does afterwards
  have hj : x ∈ touchedAlone init stepP d sj (op :: restj) ↔ x ∈ (stepP d sj op).touched (init d) ∨
      x ∈ touchedAlone init stepP d ((stepP d sj op).pure (init d)).1 restj := List.mem_append
  constructor
  · rintro (h1 | ⟨i, s, ops, hs, hp, hx⟩)
    · by_cases hm : x ∈ (stepP d sj op).touched (init d)
      · exact .inr ⟨j, sj, _, hsj, hpj, hj.mpr (.inl hm)⟩
      · rw [if_neg hm] at h1; exact .inl h1
    · by_cases hji : j = i
      · subst hji
        rw [getElem?_set_self_of_some _ hsj] at hs; rw [getElem?_set_self_of_some _ hpj] at hp
        obtain rfl := Option.some.inj hs; obtain rfl := Option.some.inj hp
        exact .inr ⟨j, sj, _, hsj, hpj, hj.mpr (.inr hx)⟩
      · rw [List.getElem?_set_ne hji] at hs hp; exact .inr ⟨i, s, ops, hs, hp, hx⟩
  · rintro (h1 | ⟨i, s, ops, hs, hp, hx⟩)
    · left; split
      · rfl
      · exact h1
    · by_cases hji : j = i
      · subst hji
        obtain rfl := Option.some.inj (hsj.symm.trans hs); obtain rfl := Option.some.inj (hpj.symm.trans hp)
        rcases hj.mp hx with hm | hx
        · left; rw [if_pos hm]; rfl
        · exact .inr ⟨j, _, restj, getElem?_set_self_of_some _ hsj, getElem?_set_self_of_some _ hpj, hx⟩
      · exact .inr ⟨i, s, ops, (List.getElem?_set_ne hji).trans hs, (List.getElem?_set_ne hji).trans hp, hx⟩

theorem run_due (sched : List Nat) : ∀ (sys : Sys (Cells V) S Op), Consistent (init d) sys.dict → ∀ x,
    (Due init stepP d (run (onceStep init stepP d) sys sched).1 x ↔ Due init stepP d sys x) := by
  induction sched with
  | nil => exact fun _ _ _ => Iff.rfl
  | cons j rest ih =>
    exact fun sys h x => (ih _ (stepThread_inv _ _ (onceStep_preserves init stepP d) sys j h) x).trans
      (stepThread_due init stepP d sys j h x)

end Sched
