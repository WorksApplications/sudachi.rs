import Sudachi.Model.CodecCsv
import Sudachi.Model.CodecBuild
/-!
# The CSV reader configured by `LexiconReader::read_bytes` (C05): the record-level contract

`csvRecords` (`Model/CodecCsv.lean`) is the reader.  Here: the RFC 4180 writer (`csvRender`: every field in
quotes, `"` doubled, `,` between fields, `\n` / `\r\n` / `\r` after every record) and the lemmas that carry the
reader through the written text level by level - the characters of a quoted field, one field, the fields of a record,
the records - whatever the fields contain (`#`, quotes, commas, line breaks, U+FEFF).
-/
namespace Codec

def csvEsc (f : Str) : Str := f.flatMap (fun c => if c = 34 then [34, 34] else [c])

/-- a field as RFC 4180 writes it in quotes -/
def csvQuoted (f : Str) : Str := 34 :: (csvEsc f ++ [34])

inductive CsvTerm where | lf | crlf | cr
deriving Repr, DecidableEq

def CsvTerm.str : CsvTerm → Str
  | .lf => [10] | .crlf => [13, 10] | .cr => [13]

/-- the reader state after a terminator -/
def CsvTerm.st : CsvTerm → CsvSt
  | .cr => .crlf | _ => .startRecord

def csvRenderRec : List Str → Str
  | [] => []
  | f :: fs => csvQuoted f ++ fs.flatMap (fun g => 44 :: csvQuoted g)

def csvRender (rs : List (List Str × CsvTerm)) : Str :=
  rs.flatMap (fun r => csvRenderRec r.1 ++ r.2.str)

/-- inside quotes everything but `"` is text; `""` is one `"` -/
theorem csv_quoted_body (f : Str) (x : Str) (F : List Str) (R : List (List Str)) :
    (csvEsc f).foldl csvStep { st := .inQuoted, cur := x, fields := F, recs := R }
      = { st := .inQuoted, cur := f.reverse ++ x, fields := F, recs := R } := by
  induction f generalizing x with
  | nil => rfl
  | cons c cs ih =>
    by_cases hc : c = 34
    · subst hc
      have : csvEsc (34 :: cs) = 34 :: 34 :: csvEsc cs := by simp [csvEsc]
      rw [this, List.foldl_cons, List.foldl_cons]
      simp only [csvStep, if_true]
      rw [ih]; simp
    · have : csvEsc (c :: cs) = c :: csvEsc cs := by simp [csvEsc, hc]
      rw [this, List.foldl_cons]
      simp only [csvStep, hc, if_false]
      rw [ih]; simp

theorem csv_term_after_quote (t : CsvTerm) (x : Str) (F : List Str) (R : List (List Str)) :
    t.str.foldl csvStep { st := .inDq, cur := x, fields := F, recs := R }
      = { st := t.st, cur := [], fields := [], recs := (F.reverse ++ [x.reverse]) :: R } := by
  cases t <;> simp [CsvTerm.str, CsvTerm.st, csvStep, csvIsTerm, csvEndRecord]

/-- one field in quotes, read from any state in which a field may start (start of a record, after `\r`, after a comma)
up to its closing quote -/
theorem csv_quoted_field (g : Str) (s : CsvSt) (hs : s = .startRecord ∨ s = .crlf ∨ s = .startField)
    (F : List Str) (R : List (List Str)) :
    (csvQuoted g).foldl csvStep { st := s, cur := [], fields := F, recs := R }
      = { st := .inDq, cur := g.reverse, fields := F, recs := R } := by
  have s1 : csvStep { st := s, cur := [], fields := F, recs := R } 34
      = { st := .inQuoted, cur := [], fields := F, recs := R } := by
    rcases hs with rfl | rfl | rfl <;> simp [csvStep, csvRecordStart, csvFieldStart, csvIsTerm]
  rw [csvQuoted, List.foldl_cons, List.foldl_append, s1, csv_quoted_body]
  simp [csvStep]

/-- the remaining fields of a record and its terminator, from the closing quote of a field -/
theorem csv_rest_of_record (fs : List Str) (t : CsvTerm) (x : Str) (F : List Str) (R : List (List Str)) :
    (fs.flatMap (fun g => 44 :: csvQuoted g) ++ t.str).foldl csvStep { st := .inDq, cur := x, fields := F, recs := R }
      = { st := t.st, cur := [], fields := [], recs := (F.reverse ++ x.reverse :: fs) :: R } := by
  induction fs generalizing x F with
  | nil => simpa using csv_term_after_quote t x F R
  | cons g gs ih =>
    have s1 : csvStep { st := .inDq, cur := x, fields := F, recs := R } 44
        = { st := .startField, cur := [], fields := x.reverse :: F, recs := R } := by
      simp [csvStep, csvEndField]
    rw [List.flatMap_cons, List.cons_append, List.cons_append, List.append_assoc, List.foldl_cons, List.foldl_append, s1,
      csv_quoted_field g _ (Or.inr (Or.inr rfl)), ih]
    simp

/-- one written record, read between two records (after `\n`, after `\r\n`, after a bare `\r`, or at the start) -/
theorem csv_one_record (f : Str) (fs : List Str) (t : CsvTerm) (s : CsvSt) (hs : s = .startRecord ∨ s = .crlf)
    (R : List (List Str)) :
    (csvRenderRec (f :: fs) ++ t.str).foldl csvStep { st := s, cur := [], fields := [], recs := R }
      = { st := t.st, cur := [], fields := [], recs := (f :: fs) :: R } := by
  rw [csvRenderRec, List.append_assoc, List.foldl_append, csv_quoted_field f s (hs.elim Or.inl fun h => Or.inr (Or.inl h)),
    csv_rest_of_record]
  simp

theorem CsvTerm.st_between (t : CsvTerm) : t.st = .startRecord ∨ t.st = .crlf := by
  cases t <;> simp [CsvTerm.st]

theorem csv_all_records (rs : List (List Str × CsvTerm)) (hne : ∀ r ∈ rs, r.1 ≠ []) (s : CsvSt)
    (hs : s = .startRecord ∨ s = .crlf) (R : List (List Str)) :
    ∃ s', (s' = .startRecord ∨ s' = .crlf) ∧
      (csvRender rs).foldl csvStep { st := s, cur := [], fields := [], recs := R }
        = { st := s', cur := [], fields := [], recs := (rs.map (·.1)).reverse ++ R } := by
  induction rs generalizing s R with
  | nil => exact ⟨s, hs, by simp [csvRender]⟩
  | cons r rest ih =>
    obtain ⟨fields, t⟩ := r
    have hf : fields ≠ [] := hne (fields, t) (List.mem_cons_self ..)
    obtain ⟨f, fs, rfl⟩ : ∃ f fs, fields = f :: fs := by
      cases fields with
      | nil => exact absurd rfl hf
      | cons f fs => exact ⟨f, fs, rfl⟩
    have : csvRender ((f :: fs, t) :: rest) = (csvRenderRec (f :: fs) ++ t.str) ++ csvRender rest := by
      simp [csvRender]
    rw [this, List.foldl_append, csv_one_record f fs t s hs R]
    obtain ⟨s', hs', h⟩ := ih (fun r hr => hne r (List.mem_cons_of_mem _ hr)) t.st t.st_between ((f :: fs) :: R)
    exact ⟨s', hs', by rw [h]; simp⟩

/-- a written file does not start with a byte order mark (it starts with a quote, or is empty) -/
theorem csvStripBom_render (rs : List (List Str × CsvTerm)) (hne : ∀ r ∈ rs, r.1 ≠ []) :
    csvStripBom (csvRender rs) = csvRender rs := by
  cases rs with
  | nil => rfl
  | cons r rest =>
    obtain ⟨fields, t⟩ := r
    cases fields with
    | nil => exact absurd rfl (hne ([], t) (List.mem_cons_self ..))
    | cons f fs => simp [csvRender, csvRenderRec, csvQuoted, csvStripBom]

end Codec
