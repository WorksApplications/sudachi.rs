import Sudachi.Model.Normalize
/-!
# Specifications and lemmas for the input-text plugins (C07)

Each plugin is a left-to-right scanner that emits edits, and `applyGo` replays an edit list over the same text.
What is proved of a scanner is `Rewrites pos es s out` — the edits are what `resolve_edits` accepts (`EditsOk`) and
replaying them gives `out` — by one induction along the scanner, whose steps are `Rewrites.nil`, `Rewrites.hit` (a match:
an edit at the position, scanning resumes behind it) and `Rewrites.skip` (no match at the first character).  The default
plugin is compared with a function: both its paths perform `scanSpec`, for any Unicode facts, and the specification
`normSpec` is `scanSpec` for the longest key and `specChar`; the other two are compared with relations (`PsmRel`,
`YomiSpec`) that describe the rewritten spans.  The Unicode tables enter through `CharOk` only, after the scan
(`scanSpec_charOk`).  C01/C08 have an `EditsOk` of their own (`EditM.EditsOk`, over byte ranges); this one reaches them
in `Proofs/PartitionUtf8.lean`: `Utf8Inv.cpEdits_ok` from `defaultEdits_ok`, `psmGo_edits_ok`, `yomiGo_edits_ok`, carried to
UTF-8 byte ranges by `Utf8Inv.editsOk_bytes` (not by `EditsOk.bytes` at the end of this file, which keeps `Normalize.Edit`,
takes any width function and serves `C07.edits_ok_bytes` only).
-/
namespace Normalize

/-! ## edit lists: `EditsOk` and `applyGo` -/

/-- edits sorted, non-overlapping and inside a text of `n` code points; `start` = end of the
previous edit.  Positions are code-point indices, hence character boundaries by construction;
`EditsOk.bytes` (last section) transports the statement to byte offsets for any width function. -/
def EditsOk (n : Nat) : Nat → List Edit → Prop
  | start, [] => start ≤ n
  | start, e :: es => start ≤ e.s ∧ e.s ≤ e.e ∧ e.e ≤ n ∧ EditsOk n e.e es

theorem EditsOk.start_le {n start : Nat} {es : List Edit} (h : EditsOk n start es) : start ≤ n := by
  cases es with
  | nil => exact h
  | cons e es => exact Nat.le_trans h.1 (Nat.le_trans h.2.1 h.2.2.1)

theorem EditsOk.weaken {n start start' : Nat} {es : List Edit} (h : EditsOk n start es)
    (hs : start' ≤ start) : EditsOk n start' es := by
  cases es with
  | nil => exact Nat.le_trans hs h
  | cons e es => exact ⟨Nat.le_trans hs h.1, h.2⟩

theorem applyGo_cons_ok (pos : Nat) (e : Edit) (es : List Edit) (s : List Nat)
    (h1 : pos ≤ e.s) (h2 : e.s ≤ e.e) (h3 : e.e ≤ pos + s.length) :
    applyGo pos (e :: es) s =
      (applyGo e.e es (s.drop (e.e - pos))).map (fun t => s.take (e.s - pos) ++ e.rep ++ t) := by
  simp only [applyGo]
  rw [if_neg]
  rw [lenLt_iff]
  rintro (h | h | h)
  · exact Nat.not_lt.mpr h1 h
  · exact Nat.not_lt.mpr h2 h
  · exact Nat.not_lt.mpr (Nat.sub_le_iff_le_add'.mpr h3) h

theorem applyGo_hit (pos a b : Nat) (rep : List Nat) (es : List Edit) (s : List Nat) (hab : a ≤ b)
    (hb : b ≤ s.length) :
    applyGo pos (⟨pos + a, pos + b, rep⟩ :: es) s =
      (applyGo (pos + b) es (s.drop b)).map (fun t => s.take a ++ rep ++ t) := by
  rw [applyGo_cons_ok pos _ es s (Nat.le_add_right _ _) (Nat.add_le_add_left hab _) (Nat.add_le_add_left hb _)]
  simp only [Nat.add_sub_cancel_left]

theorem applyGo_shift (pos : Nat) (es : List Edit) (c : Nat) (cs : List Nat)
    (h : EditsOk (pos + 1 + cs.length) (pos + 1) es) :
    applyGo pos es (c :: cs) = (applyGo (pos + 1) es cs).map (fun t => c :: t) := by
  cases es with
  | nil => rfl
  | cons e es =>
    obtain ⟨h1, h2, h3, _⟩ := h
    have e1 : e.s - pos = (e.s - (pos + 1)) + 1 := (Nat.succ_pred_eq_of_pos (Nat.sub_pos_of_lt h1)).symm
    have e2 : e.e - pos = (e.e - (pos + 1)) + 1 :=
      (Nat.succ_pred_eq_of_pos (Nat.sub_pos_of_lt (Nat.lt_of_lt_of_le h1 h2))).symm
    rw [applyGo_cons_ok pos e es (c :: cs) (Nat.le_of_succ_le h1) h2
        (by rw [List.length_cons, ← Nat.add_assoc, Nat.add_right_comm]; exact h3),
      applyGo_cons_ok (pos + 1) e es cs h1 h2 h3, Option.map_map, e1, e2, List.take_succ_cons, List.drop_succ_cons]
    rfl

theorem applyGo_isSome : ∀ (es : List Edit) (pos : Nat) (s : List Nat),
    EditsOk (pos + s.length) pos es → (applyGo pos es s).isSome := by
  intro es
  induction es with
  | nil => intro pos s _; rfl
  | cons e es ih =>
    intro pos s ⟨h1, h2, h3, h4⟩
    rw [applyGo_cons_ok pos e es s h1 h2 h3, Option.isSome_map]
    refine ih e.e _ ?_
    obtain ⟨d, hd⟩ := Nat.exists_eq_add_of_le (Nat.le_trans h1 h2)
    rw [hd] at h3 h4 ⊢
    rw [Nat.add_sub_cancel_left, List.length_drop, Nat.add_assoc, Nat.add_sub_of_le (Nat.le_of_add_le_add_left h3)]
    exact h4

/-- What every scanner is shown to satisfy: its edit list from `pos` over the text `s` is one `resolve_edits`
accepts, and replaying it gives `out`.  The three rules below are the three things a scanner does. -/
def Rewrites (pos : Nat) (es : List Edit) (s out : List Nat) : Prop :=
  EditsOk (pos + s.length) pos es ∧ applyGo pos es s = some out

theorem Rewrites.nil (pos : Nat) : Rewrites pos [] [] [] := ⟨Nat.le_refl _, rfl⟩

theorem Rewrites.skip {pos c : Nat} {cs out : List Nat} {es : List Edit} (h : Rewrites (pos + 1) es cs out) :
    Rewrites pos es (c :: cs) (c :: out) :=
  ⟨by rw [List.length_cons, ← Nat.add_assoc, Nat.add_right_comm]; exact h.1.weaken (Nat.le_succ _),
    (applyGo_shift pos es c cs h.1).trans (by rw [h.2]; rfl)⟩

/-- a match `[pos + a, pos + b)` followed by the scan of `s.drop b`; the hypothesis speaks of `s.drop b` because that is the
form in which the induction hypotheses of the scanning loops arrive -/
theorem Rewrites.hit {pos a b : Nat} {rep s out : List Nat} {es : List Edit} (hab : a ≤ b) (hb : b ≤ s.length)
    (h : Rewrites (pos + b) es (s.drop b) out) :
    Rewrites pos (⟨pos + a, pos + b, rep⟩ :: es) s (s.take a ++ rep ++ out) := by
  have e : pos + b + (s.drop b).length = pos + s.length := by
    rw [List.length_drop, Nat.add_assoc, Nat.add_sub_of_le hb]
  exact ⟨⟨Nat.le_add_right _ _, Nat.add_le_add_left hab _, Nat.add_le_add_left hb _, e ▸ h.1⟩,
    (applyGo_hit pos a b rep es s hab hb).trans (by rw [h.2]; rfl)⟩

/-! ## table lookup (`aho_corasick`) and the quick check -/

theorem isKeyAt_iff (p : Pair) (s : List Nat) : isKeyAt p s = true ↔ p.1 ≠ [] ∧ p.1 <+: s := by
  simp [isKeyAt, List.isPrefixOf_iff_prefix]

theorem key_len_bounds {p : Pair} {s : List Nat} (h : isKeyAt p s = true) :
    1 ≤ p.1.length ∧ p.1.length ≤ s.length :=
  have ⟨hne, hpre⟩ := (isKeyAt_iff p s).mp h
  ⟨List.length_pos_iff.mpr hne, hpre.length_le⟩

theorem longestAt_eq_none {ps : List Pair} {s : List Nat} :
    longestAt ps s = none ↔ ∀ q ∈ ps, isKeyAt q s = false := by
  induction ps with
  | nil => simp [longestAt]
  | cons a as ih =>
    rw [List.forall_mem_cons, ← ih, longestAt]
    cases isKeyAt a s
    · simp
    · cases longestAt as s <;> simp
      split <;> simp

theorem longestAt_some {ps : List Pair} {s : List Nat} {p : Pair} (h : longestAt ps s = some p) :
    p ∈ ps ∧ isKeyAt p s = true ∧ ∀ q ∈ ps, isKeyAt q s = true → q.1.length ≤ p.1.length := by
  fun_induction longestAt ps s generalizing p with
  | case1 => cases h
  | case2 s a as hk q hr hlt ih =>
    cases h
    obtain ⟨r1, r2, r3⟩ := ih hr
    exact ⟨List.mem_cons_of_mem _ r1, r2, List.forall_mem_cons.mpr ⟨fun _ => Nat.le_of_lt hlt, r3⟩⟩
  | case3 s a as hk q hr hlt ih =>
    cases h
    refine ⟨List.mem_cons_self, hk, List.forall_mem_cons.mpr ⟨fun _ => Nat.le_refl _, fun x hx hkx => ?_⟩⟩
    exact Nat.le_trans ((ih hr).2.2 x hx hkx) (Nat.le_of_not_lt hlt)
  | case4 s a as hk hr ih =>
    cases h
    refine ⟨List.mem_cons_self, hk, List.forall_mem_cons.mpr ⟨fun _ => Nat.le_refl _, fun x hx hkx => ?_⟩⟩
    rw [longestAt_eq_none.mp hr x hx] at hkx; cases hkx
  | case5 s a as hk ih =>
    obtain ⟨r1, r2, r3⟩ := ih h
    exact ⟨List.mem_cons_of_mem _ r1, r2, List.forall_mem_cons.mpr ⟨fun hka => absurd hka hk, r3⟩⟩

theorem shortestAt_eq_none {ps : List Pair} {s : List Nat} :
    shortestAt ps s = none ↔ ∀ q ∈ ps, isKeyAt q s = false := by
  induction ps with
  | nil => simp [shortestAt]
  | cons a as ih =>
    rw [List.forall_mem_cons, ← ih, shortestAt]
    cases isKeyAt a s
    · simp
    · cases shortestAt as s <;> simp
      split <;> simp

theorem shortestAt_some {ps : List Pair} {s : List Nat} {p : Pair} (h : shortestAt ps s = some p) :
    p ∈ ps ∧ isKeyAt p s = true := by
  fun_induction shortestAt ps s generalizing p with
  | case1 => cases h
  | case2 s a as hk q hr hlt ih => cases h; exact ⟨List.mem_cons_of_mem _ (ih hr).1, (ih hr).2⟩
  | case3 s a as hk q hr hlt ih => cases h; exact ⟨List.mem_cons_self, hk⟩
  | case4 s a as hk hr ih => cases h; exact ⟨List.mem_cons_self, hk⟩
  | case5 s a as hk ih => exact ⟨List.mem_cons_of_mem _ (ih h).1, (ih h).2⟩

theorem anchoredFind_key {e : Bool} {ps : List Pair} {s : List Nat} {p : Pair}
    (h : anchoredFind e ps s = some p) : isKeyAt p s = true := by
  cases e with
  | true => exact (shortestAt_some h).2
  | false => exact (longestAt_some h).2.1

theorem isNfkcQuick_single (U : Uni) (c : Nat) :
    isNfkcQuick U [c] = if c ≤ 0x7f then QC.yes else U.qc c := by
  simp only [isNfkcQuick, quickGo, Nat.not_lt_zero, gt_iff_lt, decide_false, Bool.false_and, Bool.false_eq_true,
    if_false]
  cases U.qc c <;> rfl

theorem quickGo_yes (U : Uni) (s : List Nat) (last : Nat) (r : QC) (h : quickGo U last r s = QC.yes) :
    r = QC.yes ∧ ∀ c ∈ s, isNfkcQuick U [c] = QC.yes := by
  fun_induction quickGo U last r s with
  | case1 => exact ⟨h, nofun⟩
  | case2 last r c cs ha ih =>
    exact ⟨(ih h).1, List.forall_mem_cons.mpr ⟨by rw [isNfkcQuick_single, if_pos ha], (ih h).2⟩⟩
  | case3 => cases h
  | case4 last r c cs ha cc hcc hq ih =>
    exact ⟨(ih h).1, List.forall_mem_cons.mpr ⟨by rw [isNfkcQuick_single, if_neg ha, hq], (ih h).2⟩⟩
  | case5 => cases h
  | case6 last r c cs ha cc hcc hq ih => cases (ih h).1

/-! ## the specification of the default plugin -/

/-- any character not covered by a key: lower-cased and, unless exempt, NFKC-normalised -/
def specChar (U : Uni) (ignore : List Nat) (c : Nat) : List Nat :=
  if ignore.contains c then U.lower c else U.nfkc (U.lower c)

/-- scanning left to right, the longest table key starting at a position is replaced by its
value; any other character is replaced by `specChar`; nothing else changes -/
def normSpec (U : Uni) (T : Table) (s : List Nat) : List Nat :=
  match s with
  | [] => []
  | c :: cs =>
    match h : longestAt T.pairs (c :: cs) with
    | some p => p.2 ++ normSpec U T ((c :: cs).drop p.1.length)
    | none => specChar U T.ignore c ++ normSpec U T cs
termination_by s.length
decreasing_by
  · have := longestAt_key_ne_nil h
    have : 0 < p.1.length := List.length_pos_iff.mpr this
    simp only [List.length_drop, List.length_cons]; omega
  · simp

theorem normSpec_nil (U : Uni) (T : Table) : normSpec U T [] = [] := by
  rw [normSpec]

theorem normSpec_some (U : Uni) (T : Table) (c : Nat) (cs : List Nat) (p : Pair)
    (h : longestAt T.pairs (c :: cs) = some p) :
    normSpec U T (c :: cs) = p.2 ++ normSpec U T ((c :: cs).drop p.1.length) := by
  rw [normSpec]; split
  · rename_i q hq; rw [h] at hq; injection hq with hq; subst hq; rfl
  · rename_i hq; rw [h] at hq; cases hq

theorem normSpec_none (U : Uni) (T : Table) (c : Nat) (cs : List Nat)
    (h : longestAt T.pairs (c :: cs) = none) :
    normSpec U T (c :: cs) = specChar U T.ignore c ++ normSpec U T cs := by
  rw [normSpec]; split
  · rename_i q hq; rw [h] at hq; cases hq
  · rfl

/-! ## assumptions on the Unicode parameters under which the code meets the specification

Each clause is a fact about real Unicode data that the harness re-checks for every character it
ships (`unihyp:*` counters in the evidence).  `U.isUpper` stands for the code's `has_lowercase_form`; read as
`char::is_uppercase` (the predicate before `becf425`) `lower_id` is violated by real data (31 title-case letters), see
`C07.lower_skipped_counterexample`. -/
structure UniOk (U : Uni) : Prop where
  /-- a character that is not `is_uppercase` is its own lower case -/
  lower_id : ∀ c, U.isUpper c = false → U.lower c = [c]
  /-- a character that passes the quick check is its own NFKC -/
  nfkc_id : ∀ c, isNfkcQuick U [c] = QC.yes → U.nfkc [c] = [c]
  /-- the lower case of a quick-check-clean upper-case character is NFKC already -/
  lower_nfkc : ∀ c, U.isUpper c = true → isNfkcQuick U [c] = QC.yes → U.nfkc (U.lower c) = U.lower c
  lower_ne : ∀ c, U.lower c ≠ []
  nfkc_ne : ∀ s, s ≠ [] → U.nfkc s ≠ []
  /-- "first output equals input ⇒ no edit" loses nothing -/
  lower_head : ∀ c ds, U.lower c = c :: ds → ds = []
  nfkc_head : ∀ c ds, U.nfkc [c] = c :: ds → ds = []
  nfkcl_head : ∀ c ds, U.nfkc (U.lower c) = c :: ds → ds = []

/-- what one iteration of step 2 of `replace_slow` writes for the character; `pos` is only handed on to `charEdit`, which
puts it into the edit, and does not matter for the text written (`charOut_pos`) -/
def charOut (U : Uni) (ignore : List Nat) (pos c : Nat) : List Nat :=
  match charEdit pos c (charData U ignore c) with
  | some e => e.rep
  | none => [c]

theorem charOut_pos (U : Uni) (ignore : List Nat) (pos pos' c : Nat) :
    charOut U ignore pos c = charOut U ignore pos' c := by
  unfold charOut
  match charData U ignore c with
  | none | some [] => rfl
  | some (d :: ds) =>
    simp only [charEdit]
    by_cases hd : d = c
    · rw [if_pos hd, if_pos hd]
    · rw [if_neg hd, if_neg hd]

theorem charEdit_shape {pos c : Nat} {d : Option (List Nat)} {e : Edit} (h : charEdit pos c d = some e) :
    e = ⟨pos, pos + 1, e.rep⟩ := by
  match d, h with
  | some (x :: xs), h =>
    simp only [charEdit] at h
    by_cases hx : x = c
    · rw [if_pos hx] at h; cases h
    · rw [if_neg hx] at h; cases h; rfl

theorem charOut_of_data (pos c : Nat) (l : List Nat) (hne : l ≠ [])
    (hhead : ∀ ds, l = c :: ds → ds = []) :
    (match charEdit pos c (some l) with | some e => e.rep | none => [c]) = l := by
  cases l with
  | nil => exact absurd rfl hne
  | cons x xs =>
    simp only [charEdit]
    by_cases hx : x = c
    · subst hx; rw [if_pos rfl, hhead xs rfl]
    · rw [if_neg hx]

def needNfkc (U : Uni) (ignore : List Nat) (c : Nat) : Bool :=
  !ignore.contains c && (isNfkcQuick U [c] != QC.yes)

theorem charData_eq (U : Uni) (ignore : List Nat) (c : Nat) :
    charData U ignore c =
      if U.isUpper c then (if needNfkc U ignore c then some (U.nfkc (U.lower c)) else some (U.lower c))
      else (if needNfkc U ignore c then some (U.nfkc [c]) else none) := by
  unfold charData needNfkc
  cases U.isUpper c <;> cases (!ignore.contains c && (isNfkcQuick U [c] != QC.yes)) <;> rfl

theorem specChar_need {U : Uni} {ignore : List Nat} {c : Nat} (h : needNfkc U ignore c = true) :
    specChar U ignore c = U.nfkc (U.lower c) := by
  rw [specChar, if_neg]
  intro hi
  rw [needNfkc, hi] at h
  exact absurd h Bool.false_ne_true

theorem UniOk.nfkc_lower_of_quick {U : Uni} (hU : UniOk U) (c : Nat) (hq : isNfkcQuick U [c] = QC.yes) :
    U.nfkc (U.lower c) = U.lower c := by
  cases hup : U.isUpper c
  · rw [hU.lower_id c hup, hU.nfkc_id c hq]
  · exact hU.lower_nfkc c hup hq

theorem specChar_no_need {U : Uni} (hU : UniOk U) {ignore : List Nat} {c : Nat}
    (h : needNfkc U ignore c = false) : specChar U ignore c = U.lower c := by
  unfold specChar
  cases hi : ignore.contains c
  · rw [if_neg Bool.false_ne_true]
    rw [needNfkc, hi] at h
    exact hU.nfkc_lower_of_quick c (bne_eq_false_iff_eq.mp h)
  · rfl

theorem charOut_plain (U : Uni) (ignore : List Nat) (pos c : Nat)
    (h : U.isUpper c = false ∧ isNfkcQuick U [c] = QC.yes) : charOut U ignore pos c = [c] := by
  simp only [charOut, charData, h.1, h.2, bne_self_eq_false, Bool.and_false, charEdit]

theorem charOut_eq_spec (U : Uni) (hU : UniOk U) (ignore : List Nat) (pos c : Nat) :
    charOut U ignore pos c = specChar U ignore c := by
  unfold charOut
  rw [charData_eq]
  cases hup : U.isUpper c <;> cases hn : needNfkc U ignore c <;>
    simp only [Bool.false_eq_true, if_false, if_true]
  · -- not upper, no NFKC needed: untouched
    rw [specChar_no_need hU hn, hU.lower_id c hup]; rfl
  · -- only NFKC
    rw [charOut_of_data pos c _ (hU.nfkc_ne _ (List.cons_ne_nil _ _)) (hU.nfkc_head c), specChar_need hn,
      hU.lower_id c hup]
  · -- only lower-casing
    rw [charOut_of_data pos c _ (hU.lower_ne c) (hU.lower_head c), specChar_no_need hU hn]
  · -- both
    rw [charOut_of_data pos c _ (hU.nfkc_ne _ (hU.lower_ne c)) (hU.nfkcl_head c), specChar_need hn]

/-! ## the exact assumption

`UniOk` is a convenient SUFFICIENT set of facts.  What the code needs of the Unicode tables — no more, no
less (`C07.uni_assumption_exact`) — is `CharOk`: for every character and either exemption status, what step 2
of `replace_slow` writes is the specification's image of the character.  The harness evaluates both on real
data for every character it ships. -/

def CharOk (U : Uni) : Prop := ∀ (exempt : List Nat) (c : Nat), charOut U exempt 0 c = specChar U exempt c

/-! ## the two code paths against the specification -/

/-- What both code paths compute, whatever the tables are: the scan for any lookup `find` and any treatment `f` of
the characters no key covers.  `normSpec` (above) is the specification the property speaks of; it is this scan for the
longest key and `specChar` (`normSpec_eq_scan`), and the code's instances of `find` and `f` — `anchoredFind e`, `charOut` —
are compared with those two afterwards.  The text behind a key is written `cs.drop (|key| - 1)`: that is where
`replace_slow` (`min_offset`) resumes, and it makes the recursion terminate without a fact about `find`. -/
def scanSpec (find : List Nat → Option Pair) (f : Nat → List Nat) (s : List Nat) : List Nat :=
  match s with
  | [] => []
  | c :: cs =>
    match find (c :: cs) with
    | some p => p.2 ++ scanSpec find f (cs.drop (p.1.length - 1))
    | none => f c ++ scanSpec find f cs
termination_by s.length
decreasing_by
  · simp only [List.length_drop, List.length_cons]; omega
  · simp

theorem scanSpec_some {find : List Nat → Option Pair} {c : Nat} {cs : List Nat} {p : Pair} (f : Nat → List Nat)
    (h : find (c :: cs) = some p) : scanSpec find f (c :: cs) = p.2 ++ scanSpec find f (cs.drop (p.1.length - 1)) := by
  rw [scanSpec, h]

theorem scanSpec_none {find : List Nat → Option Pair} {c : Nat} {cs : List Nat} (f : Nat → List Nat)
    (h : find (c :: cs) = none) : scanSpec find f (c :: cs) = f c ++ scanSpec find f cs := by
  rw [scanSpec, h]

theorem normSpec_eq_scan (U : Uni) (T : Table) (s : List Nat) :
    normSpec U T s = scanSpec (longestAt T.pairs) (specChar U T.ignore) s := by
  fun_induction normSpec U T s with
  | case1 => rw [scanSpec]
  | case2 c cs p h ih =>
    rw [scanSpec_some _ h, ih, List.drop_cons (key_len_bounds (longestAt_some h).2.1).1]
  | case3 c cs h ih => rw [scanSpec_none _ h, ih]

theorem scanSpec_congr (find : List Nat → Option Pair) (f g : Nat → List Nat) (s : List Nat)
    (h : ∀ c ∈ s, f c = g c) : scanSpec find f s = scanSpec find g s := by
  fun_induction scanSpec find f s with
  | case1 => rw [scanSpec]
  | case2 c cs p hp ih =>
    rw [scanSpec_some g hp, ih fun x hx => h x (List.mem_cons_of_mem _ (List.mem_of_mem_drop hx))]
  | case3 c cs hn ih =>
    rw [scanSpec_none g hn, ih fun x hx => h x (List.mem_cons_of_mem _ hx), h c List.mem_cons_self]

/-- `replace_slow` from `pos` with `min_offset = mo`, read from the first position it can still touch,
`max pos mo`: for ANY Unicode facts and either search mode it performs the scan with the search it uses and
with what step 2 writes (`charOut`) for the other characters. -/
theorem slowGo_rewrites (U : Uni) (T : Table) (e : Bool) : ∀ (s : List Nat) (pos mo : Nat), mo ≤ pos + s.length →
    Rewrites (max pos mo) (slowGo U T e pos mo s) (s.drop (mo - pos))
      (scanSpec (anchoredFind e T.pairs) (charOut U T.ignore 0) (s.drop (mo - pos))) := by
  intro s
  induction s with
  | nil => intro pos mo _; rw [List.drop_nil, scanSpec]; exact .nil _
  | cons c cs ih =>
    intro pos mo h
    have h' : mo ≤ pos + 1 + cs.length := by rw [Nat.add_right_comm]; exact h
    simp only [slowGo]
    by_cases hlt : pos < mo
    · have := ih (pos + 1) mo h'
      rw [Nat.max_eq_right hlt] at this
      rw [if_pos hlt, Nat.max_eq_right (Nat.le_of_lt hlt),
        (Nat.succ_pred_eq_of_pos (Nat.sub_pos_of_lt hlt)).symm, List.drop_succ_cons]
      exact this
    · have hle := Nat.le_of_not_lt hlt
      have hle' := Nat.le_succ_of_le hle
      -- the loop goes on behind the character with the same `min_offset`
      have next := ih (pos + 1) mo h'
      rw [Nat.max_eq_left hle', Nat.sub_eq_zero_of_le hle', List.drop_zero] at next
      rw [if_neg hlt, Nat.max_eq_left hle, Nat.sub_eq_zero_of_le hle, List.drop_zero]
      cases hf : anchoredFind e T.pairs (c :: cs) with
      | some p =>
        have hb := key_len_bounds (anchoredFind_key hf)
        have := ih (pos + 1) (pos + p.1.length) (by rw [Nat.add_right_comm]; exact Nat.add_le_add_left hb.2 pos)
        rw [Nat.max_eq_right (Nat.add_le_add_left hb.1 _), Nat.add_sub_add_left, ← List.drop_cons hb.1] at this
        rw [scanSpec_some _ hf, ← List.drop_cons hb.1]
        exact .hit (a := 0) (Nat.zero_le _) hb.2 this
      | none =>
        rw [scanSpec_none _ hf, charOut_pos U T.ignore 0 pos c]
        unfold charOut
        cases hc : charEdit pos c (charData U T.ignore c) with
        | some ed => rw [charEdit_shape hc]; exact .hit (a := 0) (b := 1) (Nat.zero_le _) (Nat.le_add_left 1 _) next
        | none => exact next.skip

theorem fastGo_rewrites (ps : List Pair) (pos : Nat) (s : List Nat) :
    Rewrites pos (fastGo ps pos s) s (scanSpec (longestAt ps) (fun c => [c]) s) := by
  fun_induction fastGo ps pos s with
  | case1 pos => rw [scanSpec]; exact .nil pos
  | case2 pos c cs p h ih =>
    have hb := key_len_bounds (longestAt_some h).2.1
    rw [scanSpec_some _ h, ← List.drop_cons hb.1]
    exact .hit (a := 0) (Nat.zero_le _) hb.2 ih
  | case3 pos c cs h ih => rw [scanSpec_none _ h]; exact ih.skip

theorem fastGo_nil_table (pos : Nat) (s : List Nat) : fastGo [] pos s = [] := by
  fun_induction fastGo [] pos s with
  | case1 pos => rfl
  | case2 pos c cs p h ih => cases h
  | case3 pos c cs h ih => exact ih

theorem fast_chars {U : Uni} {s : List Nat} (h : useSlow U s = false) :
    ∀ c ∈ s, U.isUpper c = false ∧ isNfkcQuick U [c] = QC.yes := by
  simp only [useSlow, Bool.or_eq_false_iff, bne_eq_false_iff_eq, List.any_eq_false] at h
  exact fun c hc => ⟨Bool.eq_false_iff.mpr (h.2 c hc), (quickGo_yes U s 0 QC.yes h.1).2 c hc⟩

theorem scanSpec_fast {U : Uni} {s : List Nat} (h : useSlow U s = false) (find : List Nat → Option Pair)
    (ignore : List Nat) : scanSpec find (charOut U ignore 0) s = scanSpec find (fun c => [c]) s :=
  scanSpec_congr _ _ _ s fun c hc => charOut_plain U ignore 0 c (fast_chars h c hc)

/-- The plugin as a whole, for ANY Unicode facts, whenever its search finds the longest key (`earliest = false`: always;
`earliest = true`: on a table without prefix-related keys, `shortestAt_eq_longestAt`): on either path it performs the scan
with the longest key and `charOut` (the optimised path is chosen only for texts on whose characters `charOut` is the
identity). -/
theorem defaultEdits_rewrites (U : Uni) (T : Table) (e : Bool) (s : List Nat)
    (he : anchoredFind e T.pairs = longestAt T.pairs) :
    Rewrites 0 (defaultEdits U T e s) s (scanSpec (longestAt T.pairs) (charOut U T.ignore 0) s) := by
  unfold defaultEdits
  cases h : useSlow U s
  · rw [scanSpec_fast h]; exact fastGo_rewrites T.pairs 0 s
  · exact he ▸ slowGo_rewrites U T e s 0 0 (Nat.zero_le _)

theorem scanSpec_charOk {U : Uni} (hC : CharOk U) (T : Table) (s : List Nat) :
    scanSpec (longestAt T.pairs) (charOut U T.ignore 0) s = normSpec U T s := by
  rw [normSpec_eq_scan, funext (hC T.ignore)]

theorem defaultEdits_spec (U : Uni) (hC : CharOk U) (T : Table) (s : List Nat) :
    applyEdits (defaultEdits U T false s) s = some (normSpec U T s) :=
  scanSpec_charOk hC T s ▸ (defaultEdits_rewrites U T false s rfl).2

theorem defaultEdits_ok (U : Uni) (T : Table) (e : Bool) (s : List Nat) :
    EditsOk s.length 0 (defaultEdits U T e s) := by
  unfold defaultEdits
  cases useSlow U s
  · exact Nat.zero_add s.length ▸ (fastGo_rewrites T.pairs 0 s).1
  · exact Nat.zero_add s.length ▸ (slowGo_rewrites U T e s 0 0 (Nat.zero_le _)).1

/-! ## context freedom of the scan, hence of the specification -/

/-- no occurrence of a table key that starts inside `u` reaches into `v` -/
def NoSpan (T : Table) (u v : List Nat) : Prop :=
  ∀ i, i < u.length → ∀ p ∈ T.pairs, p.1 ≠ [] → p.1 <+: (u ++ v).drop i → i + p.1.length ≤ u.length

theorem longestAt_congr (ps : List Pair) (s s' : List Nat)
    (h : ∀ q ∈ ps, isKeyAt q s = isKeyAt q s') : longestAt ps s = longestAt ps s' := by
  induction ps with
  | nil => rfl
  | cons a as ih =>
    simp only [longestAt]
    rw [h a (by simp), ih (fun q hq => h q (List.mem_cons_of_mem _ hq))]

theorem isKeyAt_append (T : Table) (u v : List Nat) (hns : NoSpan T u v) (hu : 0 < u.length) :
    ∀ q ∈ T.pairs, isKeyAt q (u ++ v) = isKeyAt q u := by
  intro q hq
  rw [Bool.eq_iff_iff, isKeyAt_iff, isKeyAt_iff]
  constructor
  · rintro ⟨hne, hpre⟩
    have := hns 0 hu q hq hne hpre
    exact ⟨hne, List.prefix_of_prefix_length_le hpre (List.prefix_append u v) (Nat.zero_add q.1.length ▸ this)⟩
  · rintro ⟨hne, hpre⟩
    exact ⟨hne, hpre.trans (List.prefix_append u v)⟩

theorem longestAt_append {T : Table} {u v : List Nat} (hns : NoSpan T u v) (hu : 0 < u.length) :
    longestAt T.pairs (u ++ v) = longestAt T.pairs u :=
  longestAt_congr _ _ _ (isKeyAt_append T u v hns hu)

theorem NoSpan.drop {T : Table} {u v : List Nat} (h : NoSpan T u v) (k : Nat) (hk : k ≤ u.length) :
    NoSpan T (u.drop k) v := by
  intro i hi p hp hne hpre
  rw [List.length_drop] at hi ⊢
  rw [← List.drop_append_of_le_length hk, List.drop_drop] at hpre
  exact Nat.le_sub_of_add_le' (Nat.add_assoc k i _ ▸ h (k + i) (Nat.add_lt_of_lt_sub' hi) p hp hne hpre)

/-- the scan with the longest key is context free whatever is written for the other characters -/
theorem scanSpec_append (T : Table) (f : Nat → List Nat) (u v : List Nat) (hns : NoSpan T u v) :
    scanSpec (longestAt T.pairs) f (u ++ v) = scanSpec (longestAt T.pairs) f u ++ scanSpec (longestAt T.pairs) f v := by
  fun_induction scanSpec (longestAt T.pairs) f u with
  | case1 => rfl
  | case2 c cs p h ih =>
    have hb := key_len_bounds (longestAt_some h).2.1
    have hd := List.drop_cons (a := c) (l := cs) hb.1
    rw [List.cons_append, scanSpec_some (cs := cs ++ v) f ((longestAt_append hns (Nat.succ_pos _)).trans h),
      ← List.drop_cons hb.1, ← List.cons_append, List.drop_append_of_le_length hb.2, hd, ih (hd ▸ hns.drop _ hb.2),
      List.append_assoc]
  | case3 c cs h ih =>
    rw [List.cons_append, scanSpec_none (cs := cs ++ v) f ((longestAt_append hns (Nat.succ_pos _)).trans h),
      ih (hns.drop 1 (Nat.succ_pos _)), List.append_assoc]

theorem normSpec_append (U : Uni) (T : Table) (u v : List Nat) (hns : NoSpan T u v) :
    normSpec U T (u ++ v) = normSpec U T u ++ normSpec U T v := by
  rw [normSpec_eq_scan, normSpec_eq_scan, normSpec_eq_scan, scanSpec_append T _ u v hns]

/-! ## `earliest`: without prefix-related keys the shortest key at a position is the longest -/

/-- no key of the table is a prefix of a different entry's key (in particular keys are distinct) -/
def PrefixFree (ps : List Pair) : Prop :=
  ps.Pairwise (fun p q => ¬ p.1 <+: q.1 ∧ ¬ q.1 <+: p.1)

theorem shortestAt_eq_longestAt {ps : List Pair} (hpf : PrefixFree ps) (s : List Nat) :
    shortestAt ps s = longestAt ps s := by
  induction ps with
  | nil => rfl
  | cons a as ih =>
    obtain ⟨ha, has⟩ := List.pairwise_cons.mp hpf
    simp only [shortestAt, longestAt]
    by_cases hk : isKeyAt a s = true
    · -- two keys at one position are prefix-related, so `a` is the only one
      have hka := (isKeyAt_iff a s).mp hk
      have hno : ∀ q ∈ as, isKeyAt q s = false := by
        intro q hq
        cases hq' : isKeyAt q s with
        | false => rfl
        | true =>
          have hkq := (isKeyAt_iff q s).mp hq'
          rcases Nat.le_total a.1.length q.1.length with hle | hle
          · exact absurd (List.prefix_of_prefix_length_le hka.2 hkq.2 hle) (ha q hq).1
          · exact absurd (List.prefix_of_prefix_length_le hkq.2 hka.2 hle) (ha q hq).2
      rw [if_pos hk, if_pos hk, longestAt_eq_none.mpr hno, shortestAt_eq_none.mpr hno]
    · rw [if_neg hk, if_neg hk]; exact ih has

/-! ## runs of a character class (`takeWhile`), for the two regex plugins -/

theorem mem_takeWhile_true {α : Type} (p : α → Bool) {l : List α} {x : α} (h : x ∈ l.takeWhile p) :
    p x = true :=
  List.all_eq_true.mp List.all_takeWhile x h

theorem drop_takeWhile_length {α : Type} (p : α → Bool) (l : List α) :
    l.drop (l.takeWhile p).length = l.dropWhile p := by
  induction l with
  | nil => rfl
  | cons a as ih =>
    simp only [List.takeWhile_cons, List.dropWhile_cons]
    cases p a <;> simp [ih]

theorem take_of_le_takeWhile {α : Type} (p : α → Bool) (l : List α) (k : Nat)
    (h : k ≤ (l.takeWhile p).length) : ∀ x ∈ l.take k, p x = true := by
  intro x hx
  have hpre : l.take k <+: l.takeWhile p :=
    List.prefix_of_prefix_length_le (List.take_prefix k l) (List.takeWhile_prefix p)
      (Nat.le_trans (List.length_take_le _ _) h)
  exact mem_takeWhile_true p (hpre.subset hx)

theorem le_takeWhile_of_all {α : Type} (p : α → Bool) (l : List α) (n : Nat) (h : n ≤ l.length)
    (hall : ∀ x ∈ l.take n, p x = true) : n ≤ (l.takeWhile p).length :=
  calc n = (l.take n).length := (List.length_take_of_le h).symm
    _ ≤ ((l.take n ++ l.drop n).takeWhile p).length := by
      rw [List.takeWhile_append_of_pos hall, List.length_append]; exact Nat.le_add_right _ _
    _ = (l.takeWhile p).length := by rw [List.take_append_drop]

/-! ## prolonged sound marks -/

/-- The plugin's definition as a relation between a text and its rewrite: the text decomposes,
left to right, into characters that are not marks, isolated marks (copied) and maximal runs of two
or more marks (each replaced by the replacement symbol).  Maximality: a run, and an isolated
mark, is followed by a non-mark or by the end of the text; what precedes a run is therefore never
a mark either. -/
inductive PsmRel (marks rep : List Nat) : List Nat → List Nat → Prop
  | nil : PsmRel marks rep [] []
  | plain (c : Nat) (s t : List Nat) : marks.contains c = false → PsmRel marks rep s t →
      PsmRel marks rep (c :: s) (c :: t)
  | single (c : Nat) (s t : List Nat) : marks.contains c = true →
      (∀ d ∈ s.head?, marks.contains d = false) → PsmRel marks rep s t →
      PsmRel marks rep (c :: s) (c :: t)
  | run (r s t : List Nat) : 2 ≤ r.length → (∀ d ∈ r, marks.contains d = true) →
      (∀ d ∈ s.head?, marks.contains d = false) → PsmRel marks rep s t →
      PsmRel marks rep (r ++ s) (rep ++ t)

theorem psmGo_rewrites (marks rep : List Nat) (pos : Nat) (s : List Nat) :
    ∃ out, Rewrites pos (psmGo marks rep pos s) s out ∧ PsmRel marks rep s out := by
  fun_induction psmGo marks rep pos s with
  | case1 pos => exact ⟨[], .nil pos, PsmRel.nil⟩
  | case2 pos c cs h ih =>
    obtain ⟨out, h1, h2⟩ := ih
    refine ⟨rep ++ out, .hit (a := 0) (Nat.zero_le _) (List.takeWhile_prefix _).length_le h1, ?_⟩
    rw [drop_takeWhile_length] at h2
    have := PsmRel.run _ _ _ h (fun d hd => mem_takeWhile_true _ hd)
      (fun d hd => by have := List.head?_dropWhile_not marks.contains (c :: cs); rwa [Option.mem_def.mp hd] at this) h2
    rwa [List.takeWhile_append_dropWhile] at this
  | case3 pos c cs h ih =>
    obtain ⟨out, h1, h2⟩ := ih
    refine ⟨c :: out, h1.skip, ?_⟩
    cases hc : marks.contains c with
    | false => exact PsmRel.plain c cs out hc h2
    | true =>
      -- a mark followed by a mark would be a run of two
      refine PsmRel.single c cs out hc (fun d hd => Bool.eq_false_iff.mpr fun hx => h ?_) h2
      match cs, hd with
      | x :: xs, hd =>
        cases Option.mem_def.mp hd
        simp only [List.takeWhile_cons, hc, hx, if_true, List.length_cons]
        exact Nat.le_add_left 2 _

theorem psmGo_edits_ok (marks rep : List Nat) (pos : Nat) (s : List Nat) :
    EditsOk (pos + s.length) pos (psmGo marks rep pos s) :=
  have ⟨_, h, _⟩ := psmGo_rewrites marks rep pos s
  h.1

/-! ## yomigana -/

theorem backtrack_hit {right s : List Nat} {m b : Nat} {rest : List Nat} (hd : s.drop (m + 1) = b :: rest)
    (hb : right.contains b = true) : backtrack right s (m + 1) = some (m + 1) := by
  simp only [backtrack, hd, hb, if_true]

theorem backtrack_miss {right s : List Nat} {m : Nat}
    (h : ¬ ∃ b rest, s.drop (m + 1) = b :: rest ∧ right.contains b = true) :
    backtrack right s (m + 1) = backtrack right s m := by
  rw [backtrack]
  cases hd : s.drop (m + 1) with
  | nil => rfl
  | cons b rest => exact if_neg fun hb => h ⟨b, rest, hd, hb⟩

theorem backtrack_some {right s : List Nat} : ∀ {m k : Nat}, backtrack right s m = some k →
    1 ≤ k ∧ k ≤ m ∧ ∃ b rest, s.drop k = b :: rest ∧ right.contains b = true := by
  intro m
  induction m with
  | zero => intro k h; cases h
  | succ m ih =>
    intro k h
    by_cases hit : ∃ b rest, s.drop (m + 1) = b :: rest ∧ right.contains b = true
    · obtain ⟨b, rest, hd, hb⟩ := hit
      rw [backtrack_hit hd hb] at h; cases h
      exact ⟨Nat.succ_pos _, Nat.le_refl _, b, rest, hd, hb⟩
    · rw [backtrack_miss hit] at h
      exact ⟨(ih h).1, Nat.le_succ_of_le (ih h).2.1, (ih h).2.2⟩

/-- `(backtrack …).getD 0 < k` reads "no result, or a smaller one": one statement for both outcomes -/
theorem backtrack_max {right s : List Nat} : ∀ {m k : Nat}, (backtrack right s m).getD 0 < k → k ≤ m →
    ∀ b rest, s.drop k = b :: rest → right.contains b = false := by
  intro m
  induction m with
  | zero => intro k h hk; exact absurd (Nat.lt_of_lt_of_le h hk) (Nat.not_lt_zero _)
  | succ m ih =>
    intro k h hk b rest hd
    by_cases hit : ∃ b rest, s.drop (m + 1) = b :: rest ∧ right.contains b = true
    · obtain ⟨b', rest', hd', hb'⟩ := hit
      rw [backtrack_hit hd' hb'] at h
      exact absurd (Nat.lt_of_lt_of_le h hk) (Nat.lt_irrefl _)
    · rw [backtrack_miss hit] at h
      by_cases hkm : k = m + 1
      · subst hkm; exact Bool.eq_false_iff.mpr fun hb => hit ⟨b, rest, hd, hb⟩
      · exact ih h (Nat.le_of_lt_succ (Nat.lt_of_le_of_ne hk hkm)) b rest hd

/-- the span the definition describes, at the head of a text: a kanji, a left bracket, `n`
reading characters with `1 ≤ n ≤ maxYomiganaLength`, a right bracket -/
def YomiMatch (Y : Yomi) (s : List Nat) (n : Nat) : Prop :=
  ∃ k l rd b rest, s = k :: l :: (rd ++ b :: rest) ∧ Y.kanji k = true ∧ Y.left.contains l = true ∧
    rd.length = n ∧ (∀ x ∈ rd, Y.kana x = true) ∧ 1 ≤ n ∧ n ≤ Y.max ∧ Y.right.contains b = true

theorem span_length_le {k l b : Nat} {rd rest : List Nat} :
    rd.length + 3 ≤ (k :: l :: (rd ++ b :: rest)).length := by
  rw [List.length_cons, List.length_cons, List.length_append, List.length_cons]
  exact Nat.succ_le_succ (Nat.succ_le_succ (Nat.add_le_add_left (Nat.le_add_left 1 _) _))

theorem yomiAt_sound {Y : Yomi} {s : List Nat} {n : Nat} (h : yomiAt Y s = some n) : YomiMatch Y s n := by
  match s, h with
  | k :: l :: rest, h =>
    simp only [yomiAt] at h
    by_cases hkl : (Y.kanji k && Y.left.contains l) = true
    · rw [if_pos hkl] at h
      obtain ⟨h1, h2, b, tl, hd, hb⟩ := backtrack_some h
      have hlen : n < rest.length :=
        Nat.lt_of_not_le fun hle => by rw [List.drop_eq_nil_of_le hle] at hd; cases hd
      rw [Bool.and_eq_true] at hkl
      refine ⟨k, l, rest.take n, b, tl, ?_, hkl.1, hkl.2, List.length_take_of_le (Nat.le_of_lt hlen),
        take_of_le_takeWhile Y.kana rest n (Nat.le_trans h2 (Nat.min_le_left _ _)), h1,
        Nat.le_trans h2 (Nat.min_le_right _ _), hb⟩
      rw [← hd, List.take_append_drop]
    · rw [if_neg hkl] at h; cases h

theorem yomiAt_max {Y : Yomi} {s : List Nat} {n : Nat} (hm : YomiMatch Y s n) : n ≤ (yomiAt Y s).getD 0 := by
  obtain ⟨k, l, rd, b, tl, rfl, hk, hl, rfl, hkana, _, h2, hb⟩ := hm
  have hrun : rd.length ≤ ((rd ++ b :: tl).takeWhile Y.kana).length := by
    rw [List.takeWhile_append_of_pos hkana, List.length_append]; exact Nat.le_add_right _ _
  simp only [yomiAt, hk, hl, Bool.and_self, if_true]
  refine Nat.le_of_not_lt fun hlt => ?_
  rw [backtrack_max hlt (Nat.le_min.mpr ⟨hrun, h2⟩) b tl List.drop_left] at hb; cases hb

theorem yomiAt_none {Y : Yomi} {s : List Nat} (h : yomiAt Y s = none) : ∀ n, ¬ YomiMatch Y s n := by
  intro n hm
  have h1 : 1 ≤ n := by obtain ⟨_, _, _, _, _, _, _, _, _, _, h1, _⟩ := hm; exact h1
  have := yomiAt_max hm
  rw [h] at this
  exact absurd (Nat.le_trans h1 this) (Nat.not_succ_le_zero 0)

theorem yomiAt_longest {Y : Yomi} {s : List Nat} {n : Nat} (h : yomiAt Y s = some n) :
    ∀ n', YomiMatch Y s n' → n' ≤ n := by
  intro n' hm
  have := yomiAt_max hm
  rwa [h] at this

/-- The plugin's definition as a relation, full strength: scanning left to right, a character is
copied only where no described span starts; where one starts, the span with the longest admissible
reading is taken, its kanji is kept, its bracketed group deleted, and scanning resumes after the
right bracket (leftmost, longest, non-overlapping). -/
inductive YomiSpec (Y : Yomi) : List Nat → List Nat → Prop
  | nil : YomiSpec Y [] []
  | copy (c : Nat) (s t : List Nat) : (∀ n, ¬ YomiMatch Y (c :: s) n) → YomiSpec Y s t →
      YomiSpec Y (c :: s) (c :: t)
  | span (k l b : Nat) (rd s t : List Nat) : YomiMatch Y (k :: l :: (rd ++ b :: s)) rd.length →
      (∀ n, YomiMatch Y (k :: l :: (rd ++ b :: s)) n → n ≤ rd.length) →
      YomiSpec Y s t → YomiSpec Y (k :: l :: (rd ++ b :: s)) (k :: t)

theorem yomiGo_rewrites (Y : Yomi) (pos : Nat) (s : List Nat) :
    ∃ out, Rewrites pos (yomiGo Y pos s) s out ∧ YomiSpec Y s out := by
  fun_induction yomiGo Y pos s with
  | case1 pos => exact ⟨[], .nil pos, YomiSpec.nil⟩
  | case2 pos c cs k h ih =>
    obtain ⟨out, h1, h2⟩ := ih
    have hm := yomiAt_sound h
    have hmax := yomiAt_longest h
    obtain ⟨k', l, rd, b, rest, hs, _, _, rfl, _⟩ := id hm
    rw [hs] at hm hmax h1 h2 ⊢
    rw [List.drop_succ_cons, List.drop_succ_cons, List.drop_length_add_append, List.drop_succ_cons, List.drop_zero] at h2
    rw [Nat.add_assoc pos] at h1 ⊢
    exact ⟨k' :: out, .hit (a := 1) (Nat.le_add_left 1 _) span_length_le h1, YomiSpec.span k' l b rd rest out hm hmax h2⟩
  | case3 pos c cs h ih =>
    obtain ⟨out, h1, h2⟩ := ih
    exact ⟨c :: out, h1.skip, YomiSpec.copy c cs out (yomiAt_none h) h2⟩

theorem yomiGo_edits_ok (Y : Yomi) (pos : Nat) (s : List Nat) :
    EditsOk (pos + s.length) pos (yomiGo Y pos s) :=
  have ⟨_, h, _⟩ := yomiGo_rewrites Y pos s
  h.1

/-- The plugin's definition as a relation (soundness direction): the text decomposes into copied
characters and described spans `kanji · ( · readings · )` of which only the kanji survives. -/
inductive YomiRel (Y : Yomi) : List Nat → List Nat → Prop
  | nil : YomiRel Y [] []
  | copy (c : Nat) (s t : List Nat) : YomiRel Y s t → YomiRel Y (c :: s) (c :: t)
  | span (k l b : Nat) (rd s t : List Nat) : Y.kanji k = true → Y.left.contains l = true →
      1 ≤ rd.length → rd.length ≤ Y.max → (∀ x ∈ rd, Y.kana x = true) → Y.right.contains b = true →
      YomiRel Y s t → YomiRel Y (k :: l :: (rd ++ b :: s)) (k :: t)

theorem YomiSpec.rel {Y : Yomi} {s t : List Nat} (h : YomiSpec Y s t) : YomiRel Y s t := by
  induction h with
  | nil => exact .nil
  | copy c s t _ _ ih => exact .copy c s t ih
  | span k l b rd s t hm _ _ ih =>
    -- the span `hm` describes is the one displayed: the two readings have the same length
    obtain ⟨_, _, rd', _, _, hs, hk, hl, hlen, hkana, h1, h2, hb⟩ := hm
    injection hs with e1 hs; injection hs with e2 hs
    obtain ⟨e3, e4⟩ := List.append_inj hs hlen.symm
    cases e1; cases e2; cases e3; cases e4
    exact .span k l b rd s t hk hl h1 h2 hkana hb ih

theorem yomiGo_rel (Y : Yomi) (pos : Nat) (s : List Nat) :
    ∃ out, applyGo pos (yomiGo Y pos s) s = some out ∧ YomiRel Y s out :=
  have ⟨out, h1, h2⟩ := yomiGo_rewrites Y pos s
  ⟨out, h1.2, h2.rel⟩

/-! ## from code-point indices to byte offsets -/

/-- byte offset of code-point index `i` for the width function `w` (`Split.pre` is the same function, `TotalIO.byteOff`
its instance for UTF-8: `Utf8Inv.byteOff_eq_off`) -/
def off (w : Nat → Nat) (s : List Nat) (i : Nat) : Nat := ((s.take i).map w).sum

theorem off_mono (w : Nat → Nat) : ∀ (s : List Nat) (i j : Nat), i ≤ j → off w s i ≤ off w s j := by
  intro s i j hij
  obtain ⟨k, rfl⟩ := Nat.exists_eq_add_of_le hij
  rw [off, off, List.take_add, List.map_append, List.sum_append_nat]
  exact Nat.le_add_right _ _

def Edit.toBytes (w : Nat → Nat) (s : List Nat) (e : Edit) : Edit := ⟨off w s e.s, off w s e.e, e.rep⟩

theorem EditsOk.bytes (w : Nat → Nat) (s : List Nat) : ∀ (es : List Edit) (start : Nat),
    EditsOk s.length start es →
    EditsOk (off w s s.length) (off w s start) (es.map (Edit.toBytes w s)) := by
  intro es
  induction es with
  | nil => intro start h; exact off_mono w s _ _ h
  | cons e es ih =>
    intro start h
    obtain ⟨h1, h2, h3, h4⟩ := h
    exact ⟨off_mono w s _ _ h1, off_mono w s _ _ h2, off_mono w s _ _ h3, ih e.e h4⟩

end Normalize
