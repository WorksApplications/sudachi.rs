import Sudachi.Proofs.RecycleWorld
/-!
# What a caller reads from a result list is a function of (text, mode, field request)  (C10)

`ObsEq` of `Proofs/Recycle.lean` compares two tokenizers with the same EFFECTIVE subset.  A tokenizer with a history and
one created now for the same mode and field request may differ there (earlier `set_mode` calls leave flags loaded), so
the comparison is made through a projection `proj` of the nodes onto the requested fields, under C11's statement as a
hypothesis on the payload (`FieldsFree`: the path phase, `pathPhase` of `Proofs/Recycle.lean`, run with either subset looks
the same through `proj`).  That
the hypothesis applies after every history is the invariant `Covers` of `Proofs/RecycleWorld.lean`; `result_eq_of_obs`
carries the comparison from the tokenizers to what a caller reads from a list (`World.result`).
-/
namespace Recycle
variable {E F : Type}

/-! ## `FieldsFree`: the path phase under two field subsets -/

def PathRes.mapP (f : E → F) : PathRes E → PathRes F
  | .nodes l => .nodes (l.map f)
  | .fail => .fail
  | .unwind => .unwind

/-- C11 as a payload hypothesis: running the path phase with subset `s` or `s'` is indistinguishable through `proj` -/
def FieldsFree (P : Payload E) (proj : E → F) (s s' : Subset) : Prop :=
  ∀ m inp full ends ids path0,
    (pathPhase P m s inp full ends ids path0).mapP proj = (pathPhase P m s' inp full ends ids path0).mapP proj

theorem FieldsFree.refl (P : Payload E) (proj : E → F) (s : Subset) : FieldsFree P proj s s :=
  fun _ _ _ _ _ _ => rfl

/-- `ObsEq` through `proj`, without its `subset` conjunct: the two tokenizers may run with different effective subsets -/
def ObsP (proj : E → F) (t t' : Tok E) : Prop :=
  t.topPath.map (List.map proj) = t'.topPath.map (List.map proj) ∧ t.input.view = t'.input.view ∧ t.mode = t'.mode

theorem PathRes.mapP_eq_cases {proj : E → F} {r r' : PathRes E} (h : r.mapP proj = r'.mapP proj) :
    (r = .fail ∧ r' = .fail) ∨ (r = .unwind ∧ r' = .unwind) ∨
    ∃ l l', r = .nodes l ∧ r' = .nodes l' ∧ l.map proj = l'.map proj := by
  cases r <;> cases r' <;> simp [PathRes.mapP] at h ⊢
  exact h

theorem resolve_subset (P : Payload E) (proj : E → F) (t : Tok E) (s' : Subset) (h : FieldsFree P proj t.subset s') :
    (Tok.resolveAndRewrite P t).2 = (Tok.resolveAndRewrite P { t with subset := s' }).2 ∧
    ObsP proj (Tok.resolveAndRewrite P t).1 (Tok.resolveAndRewrite P { t with subset := s' }).1 := by
  have hh := h t.mode t.input.view (t.lattice.endsFull.take t.lattice.size) (t.lattice.ends.take t.lattice.size)
    (t.topPathIds ++ P.fillTop t.lattice.eos (t.lattice.indices.take t.lattice.size)).reverse (t.topPath.getD [])
  rw [resolve_eq_phase, resolve_eq_phase]
  dsimp only
  rcases PathRes.mapP_eq_cases hh with ⟨e, e'⟩ | ⟨e, e'⟩ | ⟨l, l', e, e', hl⟩ <;> rw [e, e']
  · exact ⟨rfl, rfl, rfl, rfl⟩
  · exact ⟨rfl, rfl, rfl, rfl⟩
  · exact ⟨rfl, congrArg some hl, rfl, rfl⟩

theorem analyse_subset (v : ResetVariant) (P : Payload E) (proj : E → F) (t : Tok E) (s' : Subset) (text : List E)
    (h : FieldsFree P proj t.subset s') :
    (t.analyse v P text).2 = (Tok.analyse v P { t with subset := s' } text).2 ∧
    ObsP proj (t.analyse v P text).1 (Tok.analyse v P { t with subset := s' } text).1 := by
  have ha : ∀ s, Tok.analyse v P { t with subset := s } text =
      Tok.doTokenize P { t.resetWith v text with subset := s } := fun _ => rfl
  rw [show t.analyse v P text = Tok.analyse v P { t with subset := t.subset } text from rfl, ha, ha]
  obtain ⟨oov, lat, ⟨o, e⟩ | e⟩ := doTokenize_subset_cases P (t.resetWith v text)
  · rw [e, e]; exact ⟨rfl, rfl, rfl, rfl⟩
  · rw [e, e]; exact resolve_subset P proj _ s' h

theorem freshFor_eq (m : Mode) (req : Option Subset) :
    ({ Tok.create m with subset := (Tok.freshFor (E := E) m req).subset } : Tok E) = Tok.freshFor m req := by
  cases req <;> rfl

theorem freshFor_mode (m : Mode) (req : Option Subset) : (Tok.freshFor (E := E) m req).mode = m := by
  cases req <;> rfl

/-- `analyse_vs_create` (same effective subset) followed by `analyse_subset` (the payload cannot tell the two subsets apart
through `proj`) -/
theorem analyse_vs_freshFor (P : Payload E) (proj : E → F) (t : Tok E) (req : Option Subset) (text : List E)
    (hinv : Inv t) (hlen : OffsetsInRange .fix P t text)
    (hfree : FieldsFree P proj t.subset (Tok.freshFor (E := E) t.mode req).subset) :
    (t.analyse .fix P text).2 = ((Tok.freshFor t.mode req).analyse .fix P text).2 ∧
    ((t.analyse .fix P text).2 = .ok →
      ObsP proj (t.analyse .fix P text).1 ((Tok.freshFor t.mode req).analyse .fix P text).1) := by
  have h1 := analyse_vs_create .fix P t text hinv nofun hlen
  have h2 := analyse_subset .fix P proj { Tok.create t.mode with subset := t.subset }
    (Tok.freshFor (E := E) t.mode req).subset text hfree
  have he : ({ ({ Tok.create t.mode with subset := t.subset } : Tok E) with
      subset := (Tok.freshFor (E := E) t.mode req).subset } : Tok E) = Tok.freshFor t.mode req := freshFor_eq t.mode req
  rw [he] at h2
  refine ⟨h1.1.trans h2.1, fun hok => ?_⟩
  obtain ⟨a1, a2, -, a4⟩ := h1.2 hok
  obtain ⟨b1, b2, b3⟩ := h2.2
  exact ⟨by rw [a1]; exact b1, a2.trans b2, a4.trans b3⟩

/-! ## from two tokenizers to what a caller reads from a list -/

def World.fresh (m : Mode) (req : Option Subset) : World E := ⟨Tok.freshFor m req, [], [], req⟩

/-- core of the world-level statements: when the analyses of `w.tok` and of a second tokenizer `t'` end the same way
and agree through `proj`, then collecting into ANY existing list `j` of `w` shows what collecting the second
tokenizer's result into a new list shows -/
theorem result_eq_of_obs (proj : E → F) (P : Payload E) (w : World E) (t' : Tok E) (req' : Option Subset)
    (text : List E) (j : Nat) (hj : j < w.lists.length) (hok : ListsOk w)
    (ho : (w.tok.analyse .fix P text).2 = (t'.analyse .fix P text).2)
    (hobs : (w.tok.analyse .fix P text).2 = .ok → ObsP proj (w.tok.analyse .fix P text).1 (t'.analyse .fix P text).1) :
    let a := w.step .fix P (.analyse text)
    let f : World E := ((⟨t', [], [], req'⟩ : World E).step .fix P .newList).1
    let b := f.step .fix P (.analyse text)
    a.2 = b.2 ∧
    (a.2 = .ok → (a.1.collect j).2 = .ok ∧ (b.1.collect 0).2 = .ok ∧
      World.result proj (a.1.collect j).1 j = World.result proj (b.1.collect 0).1 0) := by
  intro a f b
  refine ⟨ho, fun haok => ?_⟩
  have haok : (w.tok.analyse .fix P text).2 = .ok := haok
  have hbok : (t'.analyse .fix P text).2 = .ok := ho.symm.trans haok
  obtain ⟨pa, hpa⟩ := Option.isSome_iff_exists.mp (analyse_ok_path .fix P w.tok text rfl haok)
  obtain ⟨pb, hpb⟩ := Option.isSome_iff_exists.mp (analyse_ok_path .fix P t' text rfl hbok)
  have hokf : ListsOk f := by
    intro L hL
    rw [show L = ⟨0, []⟩ from List.mem_singleton.mp hL]
    exact Nat.zero_lt_one
  have ra := analyse_collect_result .fix proj P w text j pa hj hok hpa
  have rb := analyse_collect_result .fix proj P f text 0 pb Nat.zero_lt_one hokf hpb
  obtain ⟨o1, o2, -⟩ := hobs haok
  rw [hpa, hpb] at o1
  refine ⟨ra.1, rb.1, ra.2.trans (Eq.trans ?_ rb.2.symm)⟩
  rw [Option.some.inj o1]
  exact congrArg (fun i => some (pb.map proj, i)) o2

end Recycle
