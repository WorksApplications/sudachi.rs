import Sudachi.Proofs.Numeric
/-!
# What a `StringNumber` holds (C15)

A `StringNumber` occupies the decimal positions below `SN.hi` and leaves free those below `SN.avail`;
`add` succeeds exactly when the second number lies below the free positions of the first (`add_good`).
A positional number `PN` is an ASCII digit string with the decimal exponent of its last digit, and
`SN.Rep s x` says that `s` holds exactly the digits of `x` at the positions of `x`, whatever
combination of `scale` and `point` encodes that: `normalize_scale` keeps the number, `shift_scale`
moves it up, `add` writes the digits of the first number, the zeros of the gap and the digits of the
second, `to_string` is `PN.render`.  Terms written one below the other: `joinList`, `FitL`; an
accumulator that holds them: `SN.Holds`, with `add` into it in one statement (`SN.Holds.add`); their
positions alone: `Fit`, `spanOf` (`joinList_span`, `fitL_none`).
-/
namespace Numeric

/-! ## `StringNumber::add` in one piece -/

theorem normalizeScale_sig (s : SN) : s.normalizeScale.sig = s.sig := by
  unfold SN.normalizeScale
  split
  · split
    · rfl
    · simp only []
      split <;> rfl
  · rfl

theorem isZero_iff (s : SN) : s.isZero = true ↔ s.sig = [] := by
  simp [SN.isZero]

/-- `int_length` of a normalised number -/
def SN.intLen (s : SN) : Nat :=
  match s.point with
  | some p => p
  | none => s.sig.length + s.scale

theorem intLength_eq (s : SN) : s.intLength = (s.normalizeScale, s.normalizeScale.intLen) := by
  unfold SN.intLength SN.intLen
  simp only
  split <;> simp_all

def SN.addNZ (a b : SN) : Bool × SN × SN :=
  let a' := a.normalizeScale
  let b' := b.normalizeScale
  let fill := a'.scale - b'.intLen
  if b'.intLen ≤ a'.scale then
    (true, { a' with sig := a'.sig ++ List.replicate fill '0' ++ b'.sig, scale := b'.scale,
                     point := match b'.point with
                       | some p => some (a'.sig.length + fill + p)
                       | none => a'.point }, b')
  else (false, a', b')

theorem add_nz (a b : SN) (ha : a.sig ≠ []) (hb : b.sig ≠ []) : a.add b = a.addNZ b := by
  unfold SN.add SN.addNZ
  simp only [isZero_false a ha, isZero_false b hb, intLength_eq, Bool.false_eq_true, if_false, ge_iff_le]
  split
  · cases hp : b.normalizeScale.point <;> simp [SN.fillZero]
  · rfl

theorem add_zero_right (a b : SN) (hb : b.sig = []) : a.add b = (true, a, b) := by
  unfold SN.add
  simp [SN.isZero, hb]

theorem add_zero_left (a b : SN) (ha : a.sig = []) (hb : b.sig ≠ []) :
    a.add b = (true, { a with sig := b.sig, scale := b.scale, point := b.point }, b) := by
  unfold SN.add
  simp [SN.isZero, ha]
  intro h; exact absurd h hb

/-! ## positions: what a `StringNumber` occupies and leaves free -/

def SN.fracLen (s : SN) : Nat :=
  match s.point with
  | some p => s.sig.length - p
  | none => 0

/-- the decimal positions below `avail` are free (negative: the number has fraction digits left) -/
def SN.avail (s : SN) : Int := (s.scale : Int) - (s.fracLen : Int)

/-- the decimal positions below `hi` are occupied by the written integer digits -/
def SN.hi (s : SN) : Int :=
  match s.point with
  | some p => (p : Int) + s.scale
  | none => (s.sig.length : Int) + s.scale

/-- a non-zero number whose point, if any, stands after at least one digit and inside the significand -/
def SN.Good (s : SN) : Prop := s.sig ≠ [] ∧ ∀ p, s.point = some p → 1 ≤ p ∧ p ≤ s.sig.length

theorem good_hi_pos (s : SN) (h : s.Good) : 1 ≤ s.hi := by
  obtain ⟨h1, h2⟩ := h
  unfold SN.hi
  cases hp : s.point with
  | none =>
    simp only
    have : 0 < s.sig.length := List.length_pos_iff.mpr h1
    omega
  | some p =>
    have := (h2 p hp).1
    simp only
    omega

theorem normalize_none (s : SN) (hp : s.point = none) : s.normalizeScale = s := by
  unfold SN.normalizeScale; rw [hp]

theorem normalize_some_gt (s : SN) (p : Nat) (hp : s.point = some p) (hle : p ≤ s.sig.length)
    (h : s.sig.length - p > s.scale) : s.normalizeScale = { s with point := some (p + s.scale), scale := 0 } := by
  unfold SN.normalizeScale
  have e1 : ¬ (p > s.sig.length) := by omega
  simp only [hp, e1, if_false, h, if_true]

theorem normalize_some_le (s : SN) (p : Nat) (hp : s.point = some p) (hle : p ≤ s.sig.length)
    (h : ¬ s.sig.length - p > s.scale) :
    s.normalizeScale = { s with scale := s.scale - (s.sig.length - p), point := none } := by
  unfold SN.normalizeScale
  have e1 : ¬ (p > s.sig.length) := by omega
  simp only [hp, e1, if_false, h]

theorem good_hi_eq (s : SN) (h : s.Good) : s.hi = (s.sig.length : Int) + s.avail := by
  unfold SN.hi SN.avail SN.fracLen
  cases hp : s.point with
  | none => simp only; omega
  | some p =>
    have := (h.2 p hp).2
    simp only
    omega

/-- `normalize_scale` of a good number: the free positions become the scale; if fraction digits are
left, the point stands in front of them -/
theorem normalize_eq (s : SN) (h : s.Good) : s.normalizeScale =
    { s with scale := s.avail.toNat,
             point := if 0 ≤ s.avail then none else some (s.sig.length - (-s.avail).toNat) } := by
  cases hp : s.point with
  | none =>
    have hav : s.avail = s.scale := by simp [SN.avail, SN.fracLen, hp]
    rw [normalize_none s hp, hav, if_pos (Int.natCast_nonneg _), Int.toNat_natCast, ← hp]
  | some p =>
    obtain ⟨p1, p2⟩ := h.2 p hp
    have hav : s.avail = (s.scale : Int) - ((s.sig.length - p : Nat) : Int) := by simp [SN.avail, SN.fracLen, hp]
    by_cases hs : s.sig.length - p > s.scale
    · rw [normalize_some_gt s p hp p2 hs, if_neg (by omega), show s.avail.toNat = 0 by omega,
        show s.sig.length - (-s.avail).toNat = p + s.scale by omega]
    · rw [normalize_some_le s p hp p2 hs, if_pos (by omega), show s.avail.toNat = s.scale - (s.sig.length - p) by omega]

theorem normalize_good (s : SN) (h : s.Good) :
    s.normalizeScale.Good ∧ s.normalizeScale.avail = s.avail ∧ (s.normalizeScale.intLen : Int) = s.hi ∧
    s.normalizeScale.scale = s.avail.toNat ∧ (0 < s.avail → s.normalizeScale.point = none) ∧
    s.normalizeScale.sig = s.sig ∧ s.normalizeScale.bad = s.bad := by
  have hhi := good_hi_eq s h
  have hpos := good_hi_pos s h
  rw [normalize_eq s h]
  by_cases ha : 0 ≤ s.avail
  · rw [if_pos ha]
    have hk := Int.toNat_of_nonneg ha
    refine ⟨⟨h.1, fun p hp => by cases hp⟩, ?_, ?_, rfl, fun _ => rfl, rfl, rfl⟩
    · show ((s.avail.toNat : Nat) : Int) - ((0 : Nat) : Int) = s.avail
      omega
    · show ((s.sig.length + s.avail.toNat : Nat) : Int) = s.hi
      omega
  · rw [if_neg ha, Int.toNat_of_nonpos (Int.le_of_lt (Int.not_le.1 ha))]
    have hm := Int.toNat_of_nonneg (a := -s.avail) (by omega)
    generalize (-s.avail).toNat = m at hm ⊢
    refine ⟨⟨h.1, fun p hp => ?_⟩, ?_, ?_, rfl, fun h0 => absurd (Int.le_of_lt h0) ha, rfl, rfl⟩
    · cases hp; simp only; omega
    · show ((0 : Nat) : Int) - ((s.sig.length - (s.sig.length - m) : Nat) : Int) = s.avail
      omega
    · show ((s.sig.length - m : Nat) : Int) = s.hi
      omega

/-- the sum of two non-zero numbers succeeds exactly when the second fits below the first; it then
holds the digits of the first, the zeros of the gap and the digits of the second, and has the free
positions of the second; the argument comes back normalised -/
theorem add_good (a b : SN) (ha : a.Good) (hb : b.Good) :
    ((a.add b).1 = true ↔ b.hi ≤ a.avail) ∧
    ((a.add b).1 = true → (a.add b).2.1.Good ∧ (a.add b).2.1.avail = b.avail ∧
      (a.add b).2.1.sig = a.sig ++ List.replicate (a.avail - b.hi).toNat '0' ++ b.sig ∧
      (a.add b).2.1.bad = a.bad) ∧
    (a.add b).2.2 = b.normalizeScale := by
  rw [add_nz a b ha.1 hb.1]
  obtain ⟨ga, _, _, ha4, ha5, ha6, ha7⟩ := normalize_good a ha
  obtain ⟨gb, hb2, hb3, _, _, hb6, _⟩ := normalize_good b hb
  have hbpos : 0 < b.hi := Int.lt_of_lt_of_le Int.zero_lt_one (good_hi_pos b hb)
  unfold SN.addNZ
  generalize a.normalizeScale = A at *
  generalize b.normalizeScale = B at *
  -- the scale of `A` is `a.avail` when that is not negative, so the test is the one on `hi` and `avail`
  have hsc : 0 ≤ a.avail → (A.scale : Int) = a.avail := fun h0 => by rw [ha4]; exact Int.toNat_of_nonneg h0
  have hiff : B.intLen ≤ A.scale ↔ b.hi ≤ a.avail := by
    by_cases h0 : 0 ≤ a.avail
    · rw [← hb3, ← hsc h0]; exact Int.ofNat_le.symm
    · have h1 : A.scale = 0 := by rw [ha4]; exact Int.toNat_of_nonpos (Int.le_of_lt (Int.not_le.1 h0))
      rw [h1]
      omega
  by_cases hle : B.intLen ≤ A.scale
  · have hav : 0 < a.avail := Int.lt_of_lt_of_le hbpos (hiff.1 hle)
    have hpa : A.point = none := ha5 hav
    have hfill : A.scale - B.intLen = (a.avail - b.hi).toNat := by
      rw [← hb3, ← hsc (Int.le_of_lt hav)]; exact (Int.toNat_sub _ _).symm
    simp only [hle, if_true, true_iff, true_implies, and_true]
    refine ⟨hiff.1 hle, ?_, ?_, by rw [ha6, hb6, hfill], ha7⟩
    · refine ⟨by simp [ga.1], fun q hq => ?_⟩
      cases hpb : B.point with
      | none => rw [hpb, hpa] at hq; cases hq
      | some p =>
        rw [hpb] at hq
        cases hq
        have := gb.2 p hpb
        simp only [List.length_append, List.length_replicate]
        omega
    · rw [← hb2]
      cases hpb : B.point with
      | none => simp [SN.avail, SN.fracLen, hpa, hpb]
      | some p =>
        have := (gb.2 p hpb).2
        simp only [SN.avail, SN.fracLen, hpb, List.length_append, List.length_replicate]
        omega
  · simp only [hle, if_false, Bool.false_eq_true, false_iff, false_implies, and_true]
    exact fun h => hle (hiff.2 h)

/-! ## content: the positional number a `StringNumber` holds -/

/-- a positional number: the digits `ds` (most significant first), the last one standing at the
decimal position `ex` (negative: fraction digits) -/
structure PN where
  ds : List Char
  ex : Int
deriving DecidableEq, Repr

/-- the decimal positions below `hi` are the ones occupied -/
def PN.hi (x : PN) : Int := (x.ds.length : Int) + x.ex
/-- multiplication by `10^e` -/
def PN.shift (x : PN) (e : Nat) : PN := ⟨x.ds, x.ex + (e : Int)⟩
/-- `y` written below `x`: the digits of `x`, the zeros of the gap, the digits of `y` -/
def PN.join (x y : PN) : PN := ⟨x.ds ++ List.replicate (x.ex - y.hi).toNat '0' ++ y.ds, y.ex⟩

/-- the `StringNumber` `s` holds the positional number `x` -/
def SN.Rep (s : SN) (x : PN) : Prop := s.Good ∧ s.bad = false ∧ s.sig = x.ds ∧ s.avail = x.ex

theorem rep_hi (s : SN) (x : PN) (h : s.Rep x) : s.hi = x.hi := by
  obtain ⟨g, _, hs, ha⟩ := h
  rw [good_hi_eq s g, hs, ha]; rfl

theorem rep_normalize (s : SN) (x : PN) (h : s.Rep x) : s.normalizeScale.Rep x := by
  obtain ⟨g, hb, hs, ha⟩ := h
  obtain ⟨g', ha', _, _, _, hs', hb'⟩ := normalize_good s g
  exact ⟨g', hb'.trans hb, hs'.trans hs, ha'.trans ha⟩

theorem normalize_form (s : SN) (h : s.Good) :
    s.normalizeScale.point = none ∨
    ∃ p, s.normalizeScale.point = some p ∧ s.normalizeScale.scale = 0 ∧ 1 ≤ p ∧ p < s.sig.length := by
  have hhi := good_hi_eq s h
  have hpos := good_hi_pos s h
  rw [normalize_eq s h]
  by_cases ha : 0 ≤ s.avail
  · exact .inl (if_pos ha)
  · exact .inr ⟨_, if_neg ha, show s.avail.toNat = 0 by omega, by omega, by omega⟩

theorem normalize_idem (s : SN) (h : s.Good) : s.normalizeScale.normalizeScale = s.normalizeScale := by
  obtain ⟨g', hav, _, _, _, hsig, _⟩ := normalize_good s h
  rw [normalize_eq _ g', hav, hsig, normalize_eq s h]

theorem rep_shift (s : SN) (x : PN) (e : Nat) (h : s.Rep x) : (s.shiftScale e).Rep (x.shift e) := by
  obtain ⟨g, hb, hs, ha⟩ := h
  unfold SN.shiftScale
  simp only [isZero_false s g.1, Bool.false_eq_true, if_false]
  refine ⟨⟨g.1, g.2⟩, hb, hs, ?_⟩
  rw [PN.shift, ← ha]
  simp only [SN.avail, SN.fracLen]
  cases hp : s.point <;> simp only <;> omega

/-- the cleared / fresh number -/
def SN.Zero (s : SN) : Prop := s.sig = [] ∧ s.point = none ∧ s.scale = 0 ∧ s.bad = false

theorem rep_shift_zero (s : SN) (e : Nat) (h : s.Zero) : (s.shiftScale e).Rep ⟨['1'], (e : Int)⟩ := by
  obtain ⟨h1, h2, h3, h4⟩ := h
  unfold SN.shiftScale
  simp only [SN.isZero, h1, List.isEmpty_nil, if_true, List.nil_append]
  exact ⟨⟨by simp, by simp [h2]⟩, h4, rfl, by simp [SN.avail, SN.fracLen, h2, h3]⟩

theorem rep_plain (t : SN) (ds : List Char) (hne : ds ≠ []) (hsig : t.sig = ds) (hp : t.point = none)
    (hs : t.scale = 0) (hb : t.bad = false) : t.Rep ⟨ds, 0⟩ :=
  ⟨⟨hsig ▸ hne, by simp [hp]⟩, hb, hsig, by simp [SN.avail, SN.fracLen, hp, hs]⟩

/-- **`add` of two non-zero numbers** succeeds exactly when the second fits below the first; the sum
then holds the digits of the first, the zeros of the gap, the digits of the second; the argument
(normalised by `int_length`) still holds its number -/
theorem rep_add (a b : SN) (x y : PN) (ha : a.Rep x) (hb : b.Rep y) :
    ((a.add b).1 = true ↔ y.hi ≤ x.ex) ∧
    (y.hi ≤ x.ex → (a.add b).2.1.Rep (x.join y) ∧ (a.add b).2.2.Rep y) := by
  obtain ⟨k1, k2, k3⟩ := add_good a b ha.1 hb.1
  have hbhi := rep_hi b y hb
  rw [hbhi, ha.2.2.2] at k1
  refine ⟨k1, fun hfit => ?_⟩
  obtain ⟨g, hav, hsig, hbad⟩ := k2 (k1.2 hfit)
  refine ⟨⟨g, hbad.trans ha.2.1, ?_, hav.trans hb.2.2.2⟩, k3 ▸ rep_normalize b y hb⟩
  rw [hsig, ha.2.2.1, hb.2.2.1, ha.2.2.2, hbhi]
  rfl

theorem add_zero_right' (a b : SN) (hb : b.sig = []) : a.add b = (true, a, b) := add_zero_right a b hb

theorem rep_add_zero_left (a b : SN) (y : PN) (ha : a.Zero) (hb : b.Rep y) :
    (a.add b).1 = true ∧ (a.add b).2.1.Rep y ∧ (a.add b).2.2 = b := by
  obtain ⟨h1, _, _, h4⟩ := ha
  obtain ⟨gb, bb, sb, ab⟩ := hb
  rw [add_zero_left a b h1 gb.1]
  refine ⟨rfl, ⟨⟨gb.1, gb.2⟩, h4, sb, ?_⟩, rfl⟩
  rw [← ab]
  simp [SN.avail, SN.fracLen]

theorem toStr_normalize (s : SN) (h : s.Good) : s.toStr = s.normalizeScale.toStr := by
  unfold SN.toStr
  simp only [SN.isZero, normalizeScale_sig, normalize_idem s h]

/-- rendering of a positional number: zeros up to the units, or the point in front of the fraction
digits, trailing fraction zeros (and then the point) dropped -/
def PN.render (x : PN) : List Char :=
  if 0 ≤ x.ex then x.ds ++ List.replicate x.ex.toNat '0'
  else
    x.ds.take (x.ds.length - (-x.ex).toNat) ++ fracPart (trimZeros (x.ds.drop (x.ds.length - (-x.ex).toNat)))

theorem rep_toStr (s : SN) (x : PN) (h : s.Rep x) (hd : ∀ c ∈ x.ds, c ≠ '.') : s.toStr = some x.render := by
  rw [toStr_normalize s h.1]
  have hn := rep_normalize s x h
  have hform := normalize_form s h.1
  have hsig0 := normalizeScale_sig s
  generalize s.normalizeScale = t at hn hform hsig0
  obtain ⟨g, hb, hs, ha⟩ := hn
  have hz : t.sig.isEmpty = false := isZero_false t g.1
  rcases hform with hp | ⟨p, hp, h0, h1, h2⟩
  · have hex : x.ex = (t.scale : Int) := by rw [← ha]; simp [SN.avail, SN.fracLen, hp]
    unfold SN.toStr
    rw [normalize_none t hp]
    simp only [SN.isZero, hz, hb, hp, Bool.false_eq_true, if_false]
    unfold PN.render
    have : (0 : Int) ≤ x.ex := by omega
    simp only [hex, Int.toNat_natCast, ← hs]
    by_cases hsc : t.scale > 0
    · simp [hsc]
    · have : t.scale = 0 := by omega
      simp [this]
  · rw [← hsig0] at h2
    have hlen : t.sig.length = x.ds.length := by rw [hs]
    have hex : x.ex = -((t.sig.length - p : Nat) : Int) := by
      rw [← ha]; simp [SN.avail, SN.fracLen, hp, h0]
    have hk : x.ds.length - (-x.ex).toNat = p := by omega
    have hneg : ¬ (0 : Int) ≤ x.ex := by omega
    unfold PN.render
    simp only [hneg, if_false, hk]
    have hsplit : t.sig = x.ds.take p ++ x.ds.drop p := by rw [hs, List.take_append_drop]
    apply toStr_point t (x.ds.take p) (x.ds.drop p) hsplit
    · exact List.ne_nil_of_length_pos (by rw [List.length_take]; omega)
    · exact List.ne_nil_of_length_pos (by rw [List.length_drop]; omega)
    · exact fun c hc => hd c (List.mem_of_mem_drop hc)
    · rw [hp]; simp; omega
    · exact h0
    · exact hb

/-! ## terms written one below the other -/

/-- a `StringNumber` that holds an optional positional number (`none`: it is cleared) -/
def SN.RepO (s : SN) : Option PN → Prop
  | none => s.Zero
  | some x => s.Rep x

/-- `y` written below whatever is there -/
def joinO : Option PN → PN → PN
  | none, y => y
  | some x, y => x.join y
/-- an optional `y` written below whatever is there -/
def joinOO (o : Option PN) : Option PN → Option PN
  | none => o
  | some y => some (joinO o y)
/-- `y` fits below `o` -/
def FitO (o : Option PN) (y : PN) : Prop := ∀ x, o = some x → y.hi ≤ x.ex

theorem clear_zero (s : SN) (h : s.bad = false) : s.clear.Zero := by
  simp [SN.Zero, SN.clear, h]

theorem clear_fields (s : SN) : s.clear.sig = [] ∧ s.clear.point = none ∧ s.clear.scale = 0 ∧ s.clear.allZero = true := by
  simp [SN.clear]

/-- the terms written one below the other -/
def joinList (o : Option PN) (ys : List PN) : Option PN := ys.foldl (fun o y => some (joinO o y)) o
/-- every term fits below what is there when it is written -/
def FitL : Option PN → List PN → Prop
  | _, [] => True
  | o, y :: ys => FitO o y ∧ FitL (some (joinO o y)) ys

theorem joinList_cons (o : Option PN) (y : PN) (ys : List PN) :
    joinList o (y :: ys) = joinList (some (joinO o y)) ys := rfl

theorem joinList_append (o : Option PN) (ys zs : List PN) : joinList o (ys ++ zs) = joinList (joinList o ys) zs := by
  simp [joinList, List.foldl_append]

theorem fitL_append (o : Option PN) (ys zs : List PN) :
    FitL o (ys ++ zs) ↔ FitL o ys ∧ FitL (joinList o ys) zs := by
  induction ys generalizing o with
  | nil => simp [FitL, joinList]
  | cons y ys ih =>
    simp only [List.cons_append, FitL, joinList_cons, ih]
    constructor
    · rintro ⟨h1, h2, h3⟩; exact ⟨⟨h1, h2⟩, h3⟩
    · rintro ⟨⟨h1, h2⟩, h3⟩; exact ⟨h1, h2, h3⟩

theorem joinList_toList (o : Option PN) (l : Option PN) : joinList o l.toList = joinOO o l := by
  cases l <;> rfl

theorem joinList_some (z : PN) (ys : List PN) : ∃ w, joinList (some z) ys = some w := by
  induction ys generalizing z with
  | nil => exact ⟨z, rfl⟩
  | cons y ys ih => rw [joinList_cons]; exact ih _

def PN.renderO : Option PN → List Char
  | none => ['0']
  | some x => x.render

theorem repO_bad (s : SN) (o : Option PN) (h : s.RepO o) : s.bad = false := by
  cases o with
  | none => exact h.2.2.2
  | some x => exact h.2.1

theorem repO_toStr (s : SN) (o : Option PN) (h : s.RepO o) (hd : ∀ x, o = some x → ∀ c ∈ x.ds, c ≠ '.') :
    s.toStr = some (PN.renderO o) := by
  cases o with
  | none =>
    unfold SN.toStr
    simp [SN.isZero, h.1, PN.renderO]
  | some x => exact rep_toStr s x h (hd x rfl)

/-! ## an accumulator and the terms added to it -/

/-- the accumulator `acc` (`subtotal`, `total`) holds the terms `ys`, written one below the other,
each fitting below what was there when it was added -/
def SN.Holds (acc : SN) (ys : List PN) : Prop := FitL none ys ∧ acc.RepO (joinList none ys)

theorem holds_nil {acc : SN} (h : acc.Zero) : acc.Holds [] := ⟨trivial, h⟩

theorem repO_sig_nil_iff {s : SN} {o : Option PN} (h : s.RepO o) : s.sig = [] ↔ o = none := by
  cases o with
  | none => exact iff_of_true h.1 rfl
  | some x => exact iff_of_false h.1.1 nofun

/-- **`add` into an accumulator** (`o = none`: the number added is zero): it succeeds exactly when the
number fits below what is there; it is then the last term held, and the argument still holds its number -/
theorem SN.Holds.add {acc x : SN} {ys : List PN} {o : Option PN} (h : acc.Holds ys) (hx : x.RepO o) :
    ((acc.add x).1 = true ↔ FitL (joinList none ys) o.toList) ∧
    ((acc.add x).1 = true → (acc.add x).2.1.Holds (ys ++ o.toList) ∧ (acc.add x).2.2.RepO o) := by
  obtain ⟨hf, hr⟩ := h
  cases o with
  | none =>
    rw [add_zero_right acc x hx.1]
    exact ⟨iff_of_true rfl trivial, fun _ => ⟨by simpa using ⟨hf, hr⟩, hx⟩⟩
  | some y =>
    have hsnoc : ∀ w, joinList none ys = w → FitO w y → (acc.add x).2.1.Rep (joinO w y) →
        (acc.add x).2.1.Holds (ys ++ [y]) := fun w hw h1 h2 =>
      ⟨(fitL_append none ys [y]).2 ⟨hf, hw ▸ h1, trivial⟩, by rw [joinList_append, hw]; exact h2⟩
    cases hj : joinList none ys with
    | none =>
      rw [hj] at hr
      obtain ⟨k1, k2, k3⟩ := rep_add_zero_left acc x y hr hx
      exact ⟨iff_of_true k1 ⟨nofun, trivial⟩, fun _ => ⟨hsnoc none hj nofun k2, by rw [k3]; exact hx⟩⟩
    | some z =>
      rw [hj] at hr
      obtain ⟨hiff, hrest⟩ := rep_add acc x z y hr hx
      refine ⟨hiff.trans ⟨fun h => ⟨fun w hw => by cases hw; exact h, trivial⟩, fun h => h.1 z rfl⟩, fun hok => ?_⟩
      obtain ⟨k2, k3⟩ := hrest (hiff.1 hok)
      exact ⟨hsnoc (some z) hj (fun w hw => by cases hw; exact hiff.1 hok) k2, k3⟩

/-! ## positions of terms written one below the other -/

/-- a chain of terms, each `(hi, avail)`: every term lies below the free positions of the one before -/
def Fit : List (Int × Int) → Prop
  | [] => True
  | [_] => True
  | a :: b :: l => b.1 ≤ a.2 ∧ Fit (b :: l)

/-- upper bound of the first term and free positions of the last -/
def spanOf (l : List (Int × Int)) : Option (Int × Int) :=
  match l.head?, l.getLast? with
  | some a, some b => some (a.1, b.2)
  | _, _ => none

theorem fit_snoc (l : List (Int × Int)) (x : Int × Int) :
    Fit (l ++ [x]) ↔ Fit l ∧ ∀ y, l.getLast? = some y → x.1 ≤ y.2 := by
  induction l with
  | nil => simp [Fit]
  | cons a l ih =>
    cases l with
    | nil => simp [Fit]
    | cons b l =>
      simp only [List.cons_append, Fit] at ih ⊢
      rw [ih]
      simp only [List.getLast?_cons_cons]
      constructor
      · rintro ⟨h1, h2, h3⟩; exact ⟨⟨h1, h2⟩, h3⟩
      · rintro ⟨⟨h1, h2⟩, h3⟩; exact ⟨h1, h2, h3⟩

theorem spanOf_nil : spanOf [] = none := rfl

theorem spanOf_single (x : Int × Int) : spanOf [x] = some x := by
  simp [spanOf]

theorem spanOf_eq_none (l : List (Int × Int)) : spanOf l = none ↔ l = [] := by
  cases l with
  | nil => simp [spanOf]
  | cons y l =>
    unfold spanOf
    cases hg : (y :: l).getLast? with
    | none => simp at hg
    | some z => simp

def PN.span (y : PN) : Int × Int := (y.hi, y.ex)

theorem fit_head (h1 h2 a : Int) (l : List (Int × Int)) : Fit ((h1, a) :: l) ↔ Fit ((h2, a) :: l) := by
  cases l <;> simp [Fit]

theorem joinO_ex (o : Option PN) (y : PN) : (joinO o y).ex = y.ex := by cases o <;> rfl

theorem fitL_some (x : PN) (ys : List PN) : FitL (some x) ys ↔ Fit (x.span :: ys.map PN.span) := by
  induction ys generalizing x with
  | nil => exact iff_of_true trivial trivial
  | cons y ys ih =>
    have e : Fit ((joinO (some x) y).span :: ys.map PN.span) ↔ Fit (y.span :: ys.map PN.span) := by
      simp only [PN.span]
      rw [joinO_ex]
      exact fit_head _ _ _ _
    simp only [FitL, ih, e, List.map_cons, Fit]
    exact and_congr_left' ⟨fun h => h x rfl, fun h z hz => by cases hz; exact h⟩

/-- fitting, on the positional numbers and on their positions alone -/
theorem fitL_none (ys : List PN) : FitL none ys ↔ Fit (ys.map PN.span) := by
  cases ys with
  | nil => exact iff_of_true trivial trivial
  | cons y ys => exact (and_iff_right (fun z hz => by cases hz)).trans (fitL_some y ys)

theorem join_hi (x y : PN) (h : y.hi ≤ x.ex) : (x.join y).hi = x.hi := by
  simp only [PN.hi, PN.join, List.length_append, List.length_replicate] at h ⊢
  omega

theorem spanOf_cons2 (a b : Int × Int) (l : List (Int × Int)) : spanOf (a :: b :: l) = spanOf ((a.1, b.2) :: l) := by
  cases l with
  | nil => simp [spanOf]
  | cons c l =>
    simp only [spanOf, List.head?_cons, List.getLast?_cons_cons]
    cases (c :: l).getLast? <;> rfl

theorem joinList_span (o : Option PN) (ys : List PN) (hf : FitL o ys) :
    (joinList o ys).map PN.span = spanOf ((o.map PN.span).toList ++ ys.map PN.span) := by
  induction ys generalizing o with
  | nil =>
    cases o with
    | none => rfl
    | some x => simp [joinList, spanOf_single]
  | cons y ys ih =>
    rw [joinList_cons, ih _ hf.2]
    cases o with
    | none => rfl
    | some x =>
      have hh := join_hi x y (hf.1 x rfl)
      have hsp : (joinO (some x) y).span = (x.span.1, y.span.2) := by
        simp only [joinO, PN.span, hh]
        rfl
      simp only [Option.map_some, Option.toList, List.cons_append, List.nil_append, List.map_cons]
      rw [spanOf_cons2, hsp]

theorem shift_span (x : PN) (e : Nat) : (x.shift e).span = (x.span.1 + (e : Int), x.span.2 + (e : Int)) := by
  simp only [PN.span, PN.shift, PN.hi]
  refine Prod.ext ?_ ?_ <;> simp only <;> omega

end Numeric
