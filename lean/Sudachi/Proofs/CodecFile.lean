import Sudachi.Model.CodecBuild
import Sudachi.Proofs.Codec
import Sudachi.Proofs.CodecLayout
/-!
# The whole dictionary file (C05 `dict_roundtrip`): header, grammar section, index, lexicon section

`compile` writes `header ++ POS table ++ connection matrix ++ (trie size, trie, table size, word-id table)
++ (count, parameters, offsets, records)` (`fileBytes`, `compile_ok` under the limits `FileOk`);
`DictionaryLoader::read_any_dictionary` finds every one of these parts again.  Each section parser is first read through
on a buffer made of ARBITRARY pieces of the right lengths (`parseHeader_hdrBytes`, `grammarParse_file`,
`lexiconParse_file`, together `readAny_sections`); `readAny_file` puts the compiled pieces in and records the result as
`LoadedAs c ld g`, from which the `_loaded` lemmas answer the queries on matrix and kind of the loaded dictionary, and
`LoadedAs.over` hands its lexicon to the per-entry lemmas (`getParams_over` here, the record lemmas of `CodecLayout`).

Last section, the matrix TEXT: `lineTriples` + `parseConnLines_eq` say that the line loop of `ConnBuffer::read`
(`parseConnLines` of the model) is `writeAll` of `Proofs/Codec.lean` over the parsed lines - the one place where the
specification `writeAll` / `declared` / `LinesOk` of the matrix lemmas meets the model's reader of the text.
-/
namespace Codec
open Basic

/-! ## the `Outcome` monad is lawful (needed for `List.mapM`) -/

instance : LawfulMonad Outcome := LawfulMonad.mk' (m := Outcome)
  (id_map := fun x => by cases x <;> rfl)
  (pure_bind := fun _ _ => rfl)
  (bind_assoc := fun x _ _ => by cases x <;> rfl)

theorem mapM_ok {α β : Type} (f : α → Outcome β) (g : α → β) (xs : List α) (h : ∀ x ∈ xs, f x = .ok (g x)) :
    xs.mapM f = .ok (xs.map g) := by
  induction xs with
  | nil => rfl
  | cons x xs ih =>
    rw [List.mapM_cons, h x (List.mem_cons_self ..), ih (fun y hy => h y (List.mem_cons_of_mem _ hy))]
    rfl

/-! ## lengths of the little-endian integers -/

theorem le32_length (n : Nat) : (le32 n).length = 4 := rfl
theorem le16_length (n : Nat) : (le16 n).length = 2 := rfl
theorem le64_length (n : Nat) : (le64 n).length = 8 := rfl

theorem le32_flatMap_len (xs : List Nat) : (xs.flatMap le32).length = 4 * xs.length := le32_flatMap_length xs

/-! ## header -/

theorem leU64_le64 (n : Nat) (h : n < 18446744073709551616) (rest : Bytes) :
    leU64 (le64 n ++ rest) = some (n, rest) := by
  rw [leU64, le64, List.append_assoc, leU32_le32 _ (Nat.mod_lt _ (by decide))]
  dsimp only
  rw [leU32_le32 _ (Nat.mod_lt _ (by decide)), Nat.mod_eq_of_lt (Nat.div_lt_of_lt_mul h)]
  exact congrArg (fun x => some (x, rest)) (Nat.mod_add_div n 4294967296)

/-- bytes of `Header::write_to`: the `else` branch of the model's `writeHeader`, under a name -/
def hdrBytes (version time : Nat) (desc : Bytes) : Bytes :=
  le64 version ++ le64 time ++ desc ++ List.replicate (DESCRIPTION_SIZE - desc.length) 0

theorem hdrBytes_length (v t : Nat) (desc : Bytes) (h : desc.length ≤ 256) : (hdrBytes v t desc).length = 272 := by
  simp only [hdrBytes, List.length_append, le64_length, List.length_replicate, DESCRIPTION_SIZE]
  omega

theorem writeHeader_ok (v t : Nat) (desc : Bytes) (h : desc.length ≤ 256) : writeHeader v t desc = .ok (hdrBytes v t desc) := by
  unfold writeHeader hdrBytes
  simp only [show ¬ desc.length > DESCRIPTION_SIZE by simp [DESCRIPTION_SIZE]; omega, if_false]

theorem takeWhile_append_zeros (a : Bytes) (k : Nat) :
    (a ++ List.replicate k 0).takeWhile (· ≠ 0) = a.takeWhile (· ≠ 0) := by
  induction a with
  | nil =>
    cases k with
    | zero => rfl
    | succ k => simp [List.replicate_succ]
  | cons x xs ih =>
    simp only [List.cons_append, List.takeWhile_cons]
    split
    · rw [ih]
    · rfl

theorem takeWhile_no_zero (a : Bytes) (h : ∀ b ∈ a, b ≠ 0) : a.takeWhile (· ≠ 0) = a := by
  have := List.takeWhile_append_of_pos (p := (· ≠ 0)) (l₂ := []) fun b hb => decide_eq_true (h b hb)
  rwa [List.append_nil, List.takeWhile_nil, List.append_nil] at this

def IsVersion (v : Nat) : Prop :=
  v = SYSTEM_DICT_VERSION_1 ∨ v = SYSTEM_DICT_VERSION_2 ∨ v = USER_DICT_VERSION_1 ∨ v = USER_DICT_VERSION_2 ∨ v = USER_DICT_VERSION_3

theorem parseHeader_hdrBytes (v t : Nat) (desc rest : Bytes) (hv : IsVersion v)
    (ht : t < 18446744073709551616) (hd : desc.length ≤ 256) :
    parseHeader (hdrBytes v t desc ++ rest) = .ok { version := v, createTime := t, description := desc.takeWhile (· ≠ 0) } := by
  -- each of the five versions is a `u64`
  have hv64 : v < 18446744073709551616 := by rcases hv with h | h | h | h | h <;> subst h <;> decide
  have h1 : ¬ ((hdrBytes v t desc ++ rest).length < HEADER_STORAGE_SIZE) := by
    rw [List.length_append, hdrBytes_length v t desc hd]; exact Nat.not_lt.2 (Nat.le_add_right 272 _)
  have htake : (desc ++ (List.replicate (DESCRIPTION_SIZE - desc.length) 0 ++ rest)).take DESCRIPTION_SIZE
      = desc ++ List.replicate (DESCRIPTION_SIZE - desc.length) 0 := by
    rw [← List.append_assoc]
    exact List.take_left' (by rw [List.length_append, List.length_replicate]; exact Nat.add_sub_cancel' hd)
  rw [parseHeader, if_neg h1]
  simp only [hdrBytes, List.append_assoc, leU64_le64 v hv64, leU64_le64 t ht, htake, takeWhile_append_zeros]
  exact if_pos hv

/-! ## grammar section: POS table, matrix sizes, matrix -/

/-- bytes of `write_pos_table` for the POS rows this dictionary adds -/
def posTableBytes (fresh : List (List Str)) : Bytes :=
  le16 (fresh.length % 65536) ++ ((fresh.map (fun p => p.map encStr)).map List.flatten).flatten

def PosOk (fresh : List (List Str)) : Prop :=
  fresh.length < 65536 ∧ ∀ p ∈ fresh, p.length = 6 ∧ ∀ s ∈ p, StrOk s

theorem writePosTable_ok (pos : List (List Str)) (startPos : Nat) (h : PosOk (pos.drop startPos)) :
    writePosTable pos startPos = .ok (posTableBytes (pos.drop startPos)) := by
  unfold writePosTable posTableBytes
  have hrows : (pos.drop startPos).mapM (fun p => p.mapM writeStr) = .ok ((pos.drop startPos).map (fun p => p.map encStr)) := by
    apply mapM_ok
    intro p hp
    apply mapM_ok
    intro s hs
    exact writeStr_ok s ((h.2 p hp).2 s hs)
  simp only [hrows, bind, Outcome.bind, pure]

theorem countStr_enc (p : List Str) (h : ∀ s ∈ p, StrOk s) (rest : Bytes) :
    countStr p.length ((p.map encStr).flatten ++ rest) = some (p, rest) :=
  count_enc utf16StringParser countStr encStr (fun _ => rfl) (fun _ _ _ _ _ _ h1 h2 => by simp only [countStr, h1, h2]) p
    (fun s hs => utf16StringParser_encStr s (h s hs).1 (h s hs).2) rest

theorem countPos_enc (ps : List (List Str)) (h : ∀ p ∈ ps, p.length = 6 ∧ ∀ s ∈ p, StrOk s) (rest : Bytes) :
    countPos ps.length (((ps.map (fun p => p.map encStr)).map List.flatten).flatten ++ rest) = some (ps, rest) := by
  rw [List.map_map]
  exact count_enc (countStr 6) countPos (fun p => (p.map encStr).flatten) (fun _ => rfl)
    (fun _ _ _ _ _ _ h1 h2 => by simp only [countPos, h1, h2]) ps
    (fun p hp rest => (h p hp).1 ▸ countStr_enc p (h p hp).2 rest) rest

theorem posListParser_enc (fresh : List (List Str)) (h : PosOk fresh) (rest : Bytes) :
    posListParser (posTableBytes fresh ++ rest) = some (fresh, rest) := by
  unfold posListParser posTableBytes
  rw [List.append_assoc, Nat.mod_eq_of_lt h.1, leU16_le16 _ h.1]
  simp only
  exact countPos_enc fresh h.2 rest

theorem i16At_append (m t : Bytes) (k : Nat) (x : Int) (h : i16At m 0 k = some x) : i16At (m ++ t) 0 k = some x := by
  obtain ⟨a, b, ha, hb, hx⟩ := (i16At_zero_iff m k x).1 h
  exact (i16At_zero_iff _ k x).2 ⟨a, b, by rw [List.getElem?_append_left (List.getElem?_eq_some_iff.1 ha).1]; exact ha,
    by rw [List.getElem?_append_left (List.getElem?_eq_some_iff.1 hb).1]; exact hb, hx⟩

def connBytes (nl nr : Nat) (matrix : Bytes) : Bytes := le16 nl ++ le16 nr ++ matrix

theorem i16ToU_nonneg (i : Int) (h0 : 0 ≤ i) (h1 : i < 32768) : i16ToU i = i.toNat := by
  rw [i16ToU, Int.emod_eq_of_lt h0 (Int.lt_trans h1 (by decide))]

theorem writeConn_ok (c : Conn) (l0 : 0 ≤ c.numLeft) (l1 : c.numLeft < 32768) (r0 : 0 ≤ c.numRight) (r1 : c.numRight < 32768) :
    writeConn c = .ok (connBytes c.numLeft.toNat c.numRight.toNat c.matrix) := by
  rw [writeConn, if_neg (not_or.2 ⟨Int.not_lt.2 l0, Int.not_lt.2 r0⟩), i16ToU_nonneg _ l0 l1, i16ToU_nonneg _ r0 r1]
  rfl

/-- `Grammar::parse` at offset 272 of `header ++ POS table ++ sizes ++ matrix ++ tail`.  Here and in `lexiconParse_file`
the buffer is given whole, the offset being the length of what stands in front, and not by `buf.drop off = piece ++ tail`:
the bounds checks of the parsers need `buf.length`, which is then a sum by `List.length_append`; from a `drop` it would be
`buf.length - off`, a truncated subtraction in every arithmetic step. -/
theorem grammarParse_file (hdr : Bytes) (fresh : List (List Str)) (nl nr : Nat) (matrix tail : Bytes)
    (hh : hdr.length = 272) (hp : PosOk fresh) (hl : nl < 32768) (hr : nr < 32768) (hm : matrix.length = 2 * (nl * nr)) :
    Grammar.parse (hdr ++ posTableBytes fresh ++ connBytes nl nr matrix ++ tail) 272 = .ok
      { posList := fresh, numLeft := nl, numRight := nr,
        connOff := 272 + (posTableBytes fresh).length + 4,
        storageSize := (posTableBytes fresh).length + 4 + matrix.length,
        bytes := hdr ++ posTableBytes fresh ++ connBytes nl nr matrix ++ tail } := by
  generalize hbuf : hdr ++ posTableBytes fresh ++ connBytes nl nr matrix ++ tail = buf
  have hdrop : buf.drop 272 = posTableBytes fresh ++ (le16 nl ++ (le16 nr ++ (matrix ++ tail))) := by
    rw [← hbuf, ← hh, connBytes]
    simp only [List.append_assoc]
    exact List.drop_left ..
  have hlen : buf.length = 272 + ((posTableBytes fresh).length + (2 + (2 + (matrix.length + tail.length)))) := by
    rw [← hbuf, connBytes]
    simp only [List.length_append, le16_length, hh, Nat.add_assoc]
  have hmt : (matrix ++ tail).length = matrix.length + tail.length := List.length_append
  have e2 : 2 * nl * nr = 2 * (nl * nr) := Nat.mul_assoc ..
  -- the matrix starts right after the two sizes and lies inside the buffer
  obtain ⟨c0, hco, c1, c2, hs⟩ : ¬ buf.length < 272 ∧
      buf.length - (matrix ++ tail).length = 272 + (posTableBytes fresh).length + 4 ∧
      ¬ (272 + (posTableBytes fresh).length + 4 + nl * nr > buf.length) ∧
      ¬ (272 + (posTableBytes fresh).length + 4 + 2 * nl * nr > buf.length) ∧
      272 + (posTableBytes fresh).length + 4 - 272 + 2 * nl * nr = (posTableBytes fresh).length + 4 + matrix.length := by
    omega
  simp only [Grammar.parse, if_neg c0, hdrop, posListParser_enc fresh hp, leU16_le16 nl (Nat.lt_trans hl (by decide)),
    leU16_le16 nr (Nat.lt_trans hr (by decide)), if_neg (not_or.2 ⟨Nat.not_le.2 hl, Nat.not_le.2 hr⟩), hco, if_neg c1,
    if_neg c2, hs]

/-! ## lexicon section: `Lexicon::parse` and the word parameters -/

/-- a position in a buffer, moved over the piece that starts there -/
theorem drop_seg {α : Type} {buf x t : List α} {off : Nat} (h : buf.drop off = x ++ t) : buf.drop (off + x.length) = t := by
  rw [← List.drop_drop, h, List.drop_left]

theorem u32At_of_drop {buf t : Bytes} {off x : Nat} (hx : x < 4294967296) (h : buf.drop off = le32 x ++ t) :
    u32At buf off = some x := by
  rw [u32At, if_neg (fun hlt => by rw [List.drop_of_length_le (Nat.le_of_lt hlt)] at h; cases h), h, leU32_le32 x hx]
  rfl

theorem lexiconParse_file (a trie wt rest : Bytes) (ts n : Nat) (hasSyn : Bool) (ht : trie.length = 4 * ts)
    (hsize : (a ++ (le32 ts ++ (trie ++ (le32 wt.length ++ (wt ++ (le32 n ++ rest)))))).length < 4294967296)
    (hrest : 6 * n ≤ rest.length) :
    Lexicon.parse (a ++ (le32 ts ++ (trie ++ (le32 wt.length ++ (wt ++ (le32 n ++ rest)))))) a.length hasSyn = .ok
      { bytes := a ++ (le32 ts ++ (trie ++ (le32 wt.length ++ (wt ++ (le32 n ++ rest))))),
        trieOff := a.length + 4, trieSize := ts, widTableOff := a.length + 4 + 4 * ts + 4, widTableSize := wt.length,
        paramsOff := a.length + 4 + 4 * ts + 4 + wt.length + 4, size := n,
        infosOff := a.length + 4 + 4 * ts + 4 + wt.length + 4 + 6 * n, hasSynonyms := hasSyn } := by
  have hlen : (a ++ (le32 ts ++ (trie ++ (le32 wt.length ++ (wt ++ (le32 n ++ rest)))))).length
      = a.length + (4 + (4 * ts + (4 + (wt.length + (4 + rest.length))))) := by
    simp only [List.length_append, le32_length, ht]
  rw [hlen] at hsize
  obtain ⟨b1, b2, b3, c1, c2⟩ : ts < 4294967296 ∧ wt.length < 4294967296 ∧ n < 4294967296 ∧
      ¬ (a.length + (4 + (4 * ts + (4 + (wt.length + (4 + rest.length))))) < a.length + 4 + ts * 4) ∧
      ¬ (a.length + 4 + 4 * ts + 4 + wt.length + 4 + 6 * n > a.length + (4 + (4 * ts + (4 + (wt.length + (4 + rest.length)))))) := by
    omega
  -- the three sizes are read where the pieces before them end
  have h1 : (a ++ (le32 ts ++ (trie ++ (le32 wt.length ++ (wt ++ (le32 n ++ rest)))))).drop a.length = _ := List.drop_left ..
  have h2 := drop_seg (drop_seg h1)
  rw [le32_length, ht] at h2
  have h3 := drop_seg (drop_seg h2)
  rw [le32_length] at h3
  simp only [Lexicon.parse, u32At_of_drop b1 h1, hlen, if_neg c1, u32At_of_drop b2 h2, u32At_of_drop b3 h3, if_neg c2]

theorem lexiconBytes_shape (es : List Entry) (infos : List Bytes) (off : Nat) :
    ∃ rest, lexiconBytes es infos off = le32 es.length ++ (es.flatMap encParams ++ rest) ∧ 6 * es.length ≤ (es.flatMap encParams ++ rest).length := by
  unfold lexiconBytes
  refine ⟨_, by simp only [List.append_assoc]; rfl, ?_⟩
  rw [List.length_append, encParams_flatMap_length]; omega

def ParamsOk (e : Entry) : Prop :=
  -32768 ≤ e.left ∧ e.left ≤ 32767 ∧ -32768 ≤ e.right ∧ e.right ≤ 32767 ∧ -32768 ≤ e.cost ∧ e.cost ≤ 32767

theorem i16At_le16 (buf : Bytes) (off k : Nat) (v : Int) (tail : Bytes) (h1 : -32768 ≤ v) (h2 : v ≤ 32767)
    (hd : buf.drop (off + 2 * k) = le16 (i16ToU v) ++ tail) : i16At buf off k = some v := by
  rw [i16At, hd]
  exact congrArg some (u16ToI_bytes v h1 h2)

theorem getParams_over {L : Lexicon} {pre : Bytes} {es : List Entry} (hL : OverSection L pre es)
    (w : Nat) (e : Entry) (hw : es[w]? = some e) (hr : ParamsOk e) :
    L.getParams w = .ok (e.left, e.right, e.cost) := by
  have hlt : w < es.length := (List.getElem?_eq_some_iff.1 hw).1
  obtain ⟨h1, h2, h3, h4, h5, h6⟩ := hr
  obtain ⟨rest, hshape, _⟩ := lexiconBytes_shape es (es.map encWordInfo) pre.length
  -- the three numbers of entry `w` are the bytes `6 w ..` of the array
  have hcell : ∀ j, L.bytes.drop (L.paramsOff + 2 * (3 * w + j))
      = (encParams e ++ ((es.drop (w + 1)).flatMap encParams ++ rest)).drop (2 * j) := by
    intro j
    rw [hL.bytes, hshape, hL.paramsOff, show pre.length + 4 + 2 * (3 * w + j) = pre.length + ((le32 es.length).length + (6 * w + 2 * j)) by
      simp only [le32_length]; omega, List.drop_length_add_append, List.drop_length_add_append, ← List.drop_drop, flatMap_drop_get encParams 6 (fun _ => rfl) es w e hw rest]
  rw [Lexicon.getParams, if_neg (by rw [hL.size]; omega), i16At_le16 L.bytes L.paramsOff (3 * w) e.left _ h1 h2 (hcell 0),
    i16At_le16 L.bytes L.paramsOff (3 * w + 1) e.right _ h3 h4 (hcell 1),
    i16At_le16 L.bytes L.paramsOff (3 * w + 2) e.cost _ h5 h6 (hcell 2)]

/-! ## what `compile` writes (`fileBytes`) within the limits of the format (`FileOk`) -/

/-- bytes of `build_word_id_table` -/
def widTableBytes (es : List Entry) : Bytes := (indexGroups es).flatMap (fun g => encU32s g.2)

/-- every key has at most 127 homographs (the count byte of a table record) -/
def WidOk (es : List Entry) : Prop := ∀ g ∈ indexGroups es, g.2.length ≤ 127

theorem foldlM_wid (gs : List (Str × List Nat)) (h : ∀ g ∈ gs, g.2.length ≤ 127) : ∀ acc : Bytes,
    gs.foldlM (fun acc g => do
      let b ← writeU32Array g.2
      pure (acc ++ b)) acc = Outcome.ok (acc ++ gs.flatMap (fun g => encU32s g.2)) := by
  induction gs with
  | nil => intro acc; simp [List.foldlM, pure]
  | cons g gs ih =>
    intro acc
    rw [List.foldlM_cons, writeU32Array_ok _ (h g (List.mem_cons_self ..))]
    show gs.foldlM _ (acc ++ encU32s g.2) = _
    rw [ih (fun x hx => h x (List.mem_cons_of_mem _ hx))]
    simp only [List.flatMap_cons, List.append_assoc]

theorem buildWordIdTable_ok (es : List Entry) (h : WidOk es) : buildWordIdTable es = .ok (widTableBytes es) := by
  unfold buildWordIdTable widTableBytes
  rw [foldlM_wid _ h]
  simp

/-- `DictBuilder::set_user`: the header version of the dictionaries the builder emits (the `if` inside the model's
`compile`, under a name) -/
def versionOf (user : Bool) : Nat := if user then USER_DICT_VERSION_3 else SYSTEM_DICT_VERSION_2

theorem versionOf_isVersion (u : Bool) : IsVersion (versionOf u) := by
  cases u
  · exact Or.inr (Or.inl rfl)
  · exact Or.inr (Or.inr (Or.inr (Or.inr rfl)))

/-- bytes of `write_index` -/
def indexBytes (trie wt : Bytes) : Bytes :=
  le32 ((trie.length / 4) % 4294967296) ++ trie ++ le32 (wt.length % 4294967296) ++ wt

def preBytes (c : CompileInput) : Bytes :=
  hdrBytes (versionOf c.user) c.time c.desc ++ posTableBytes (c.pos.drop c.startPos)
    ++ connBytes c.conn.numLeft.toNat c.conn.numRight.toNat c.conn.matrix ++ indexBytes c.trie (widTableBytes c.entries)

/-- the entries as `LexiconWriter::write` stores them (dictionary-form id through `storeDf`) -/
def storedEntries (c : CompileInput) : List Entry := c.entries.map (storeDf c.dfFix)

theorem storedEntries_length (c : CompileInput) : (storedEntries c).length = c.entries.length := by
  simp [storedEntries]

theorem storedEntries_get (c : CompileInput) (i : Nat) (e : Entry) (h : c.entries[i]? = some e) :
    (storedEntries c)[i]? = some (storeDf c.dfFix e) := by
  simp [storedEntries, h]

theorem storeDf_wf (f : Bool) (e : Entry) (h : e.WF) : (storeDf f e).WF := by
  unfold storeDf
  split
  · exact { hw := h.hw, nf := h.nf, rd := h.rd, key := h.key, pos := h.pos, df := widWord_lt _, a := h.a, b := h.b, ws := h.ws, syn := h.syn }
  · exact h

theorem storeDf_eq (f : Bool) (e : Entry) : storeDf f e = { e with dicForm := (storeDf f e).dicForm } := by
  unfold storeDf; split <;> rfl

theorem storeDf_headwordS (f : Bool) (e : Entry) : (storeDf f e).headwordS = e.headwordS := by
  rw [storeDf_eq]; rfl

/-- the writer variant `dfFix = false` (`df=cur` on the wire) stores the raw id -/
theorem storeDf_cur (e : Entry) : storeDf false e = e := by simp [storeDf]

/-- a reference into dictionary 0 (every reference of a system dictionary) and `*` are stored unchanged by both variants -/
theorem storeDf_sys (f : Bool) (e : Entry) (h : e.dicForm = INVALID_WID ∨ widDic e.dicForm = 0) : storeDf f e = e := by
  unfold storeDf
  rcases h with h | h <;> simp [h]

/-- the writer variant `dfFix = true` (`df=fix`) stores `UN` as `N` -/
theorem storeDf_user (e : Entry) (k : Nat) (hk : k < 268435456) (h : e.dicForm = widNew 1 k) : (storeDf true e).dicForm = k := by
  obtain ⟨h1, h2, h3⟩ := widNew_user k hk
  unfold storeDf
  rw [h]
  simp [h1, h2, h3]

theorem storedEntries_ok (c : CompileInput) (h : ∀ e ∈ c.entries, e.WF ∧ ParamsOk e) : ∀ e ∈ storedEntries c, e.WF ∧ ParamsOk e := by
  intro e he
  obtain ⟨e0, he0, rfl⟩ := List.mem_map.1 he
  exact ⟨storeDf_wf _ _ (h e0 he0).1, storeDf_eq c.dfFix e0 ▸ (h e0 he0).2⟩

def fileBytes (c : CompileInput) : Bytes :=
  preBytes c ++ lexiconBytes (storedEntries c) ((storedEntries c).map encWordInfo) (preBytes c).length

/-- The limits of the binary format (and of the Rust types that feed it), as one predicate on the builder's
state.  Everything else `compile` checks is `validateEntries` (reference targets exist, connection ids below
the matrix sizes). -/
structure FileOk (c : CompileInput) : Prop where
  /-- description: at most 256 UTF-8 bytes -/
  desc : c.desc.length ≤ 256
  /-- creation time: `u64` seconds -/
  time : c.time < 18446744073709551616
  /-- POS rows added by this dictionary: `u16` count, six strings each, every string made of scalar values
  and at most 32767 UTF-16 units -/
  pos : PosOk (c.pos.drop c.startPos)
  /-- matrix sizes: non-negative `i16` -/
  nl0 : 0 ≤ c.conn.numLeft
  nl1 : c.conn.numLeft < 32768
  nr0 : 0 ≤ c.conn.numRight
  nr1 : c.conn.numRight < 32768
  /-- one `i16` per cell -/
  mat : c.conn.matrix.length = 2 * (c.conn.numLeft.toNat * c.conn.numRight.toNat)
  /-- entries: strings of scalar values with at most 32767 UTF-16 units, key at most 32767 bytes, `u16` POS id,
  `u32` ids, at most 127 items per array, `i16` parameters -/
  entries : ∀ e ∈ c.entries, e.WF ∧ ParamsOk e
  /-- at most 127 indexed entries per key -/
  wid : WidOk c.entries
  /-- the trie is an array of `u32` units -/
  trie : c.trie.length % 4 = 0
  /-- offsets are `u32`: the file is smaller than 4 GiB -/
  size : (fileBytes c).length < 4294967296

theorem writeLexicon_ok (es : List Entry) (h : ∀ e ∈ es, e.WF) (off : Nat) :
    writeLexicon es off = .ok (lexiconBytes es (es.map encWordInfo) off) := by
  unfold writeLexicon
  simp only [mapM_ok writeWordInfo encWordInfo es (fun e he => writeWordInfo_ok e (h e he)), bind, Outcome.bind, pure]

theorem compile_ok (c : CompileInput) (hok : FileOk c)
    (hval : validateEntries c.dfOwn c.maxLeft c.maxRight c.numSystem c.entries = true) :
    compile c = .ok (fileBytes c) := by
  unfold compile
  simp only [hval, Bool.not_true, Bool.false_eq_true, if_false]
  have h1 := writeHeader_ok (versionOf c.user) c.time c.desc hok.desc
  have h2 := writePosTable_ok c.pos c.startPos hok.pos
  have h3 := writeConn_ok c.conn hok.nl0 hok.nl1 hok.nr0 hok.nr1
  have h4 := buildWordIdTable_ok c.entries hok.wid
  unfold versionOf at h1
  simp only [h1, h2, h3, h4, bind, Outcome.bind]
  have hw := writeLexicon_ok (storedEntries c) (fun e he => (storedEntries_ok c hok.entries e he).1)
  unfold storedEntries at hw
  rw [hw]
  simp only [pure, fileBytes, preBytes, indexBytes, versionOf, storedEntries, List.length_append]

/-! `FileOk` and everything it is made of is decidable: the non-vacuity examples of `Props/C05.lean` evaluate it on
concrete builder states (`decide +kernel`) -/

instance (c : Nat) : Decidable (IsScalar c) := by unfold IsScalar; infer_instance
instance (s : Str) : Decidable (Scalars s) := by unfold Scalars; infer_instance
instance (s : Str) : Decidable (StrOk s) := by unfold StrOk; infer_instance
instance (xs : List Nat) : Decidable (U32s xs) := by unfold U32s; infer_instance
instance (e : Entry) : Decidable (ParamsOk e) := by unfold ParamsOk; infer_instance
instance (ps : List (List Str)) : Decidable (PosOk ps) := by unfold PosOk; infer_instance
instance (es : List Entry) : Decidable (WidOk es) := by unfold WidOk; infer_instance

instance (e : Entry) : Decidable e.WF :=
  decidable_of_iff (StrOk e.headwordS ∧ StrOk e.normS ∧ StrOk e.readingS ∧ utf8LenStr e.surface ≤ 32767 ∧ e.pos < 65536 ∧
      e.dicForm < 4294967296 ∧ U32s e.splitsA ∧ U32s e.splitsB ∧ U32s e.wordStructure ∧ U32s e.synonyms)
    ⟨fun ⟨a, b, c, d, e, f, g, h, i, j⟩ => ⟨a, b, c, d, e, f, g, h, i, j⟩,
     fun w => ⟨w.hw, w.nf, w.rd, w.key, w.pos, w.df, w.a, w.b, w.ws, w.syn⟩⟩

instance (c : CompileInput) : Decidable (FileOk c) :=
  decidable_of_iff (c.desc.length ≤ 256 ∧ c.time < 18446744073709551616 ∧ PosOk (c.pos.drop c.startPos) ∧
      0 ≤ c.conn.numLeft ∧ c.conn.numLeft < 32768 ∧ 0 ≤ c.conn.numRight ∧ c.conn.numRight < 32768 ∧
      c.conn.matrix.length = 2 * (c.conn.numLeft.toNat * c.conn.numRight.toNat) ∧
      (∀ e ∈ c.entries, e.WF ∧ ParamsOk e) ∧ WidOk c.entries ∧ c.trie.length % 4 = 0 ∧
      (fileBytes c).length < 4294967296)
    ⟨fun ⟨a, b, c, d, e, f, g, h, i, j, k, l⟩ => ⟨a, b, c, d, e, f, g, h, i, j, k, l⟩,
     fun w => ⟨w.desc, w.time, w.pos, w.nl0, w.nl1, w.nr0, w.nr1, w.mat, w.entries, w.wid, w.trie, w.size⟩⟩

/-! ## what `read_any_dictionary` loads (`LoadedAs`) -/

/-- what `read_any_dictionary` returns for the file -/
structure LoadedAs (c : CompileInput) (ld : Loaded) (g : Grammar) : Prop where
  header : ld.header = { version := versionOf c.user, createTime := c.time, description := c.desc.takeWhile (· ≠ 0) }
  grammar : ld.grammar = some g
  posList : g.posList = c.pos.drop c.startPos
  numLeft : g.numLeft = c.conn.numLeft.toNat
  numRight : g.numRight = c.conn.numRight.toNat
  /-- the matrix bytes start at the offset the grammar records -/
  conn : ∃ tail, g.bytes.drop g.connOff = c.conn.matrix ++ tail
  bytes : ld.lexicon.bytes = fileBytes c
  trie : (ld.lexicon.bytes.drop ld.lexicon.trieOff).take (4 * ld.lexicon.trieSize) = c.trie
  widTable : (ld.lexicon.bytes.drop ld.lexicon.widTableOff).take ld.lexicon.widTableSize = widTableBytes c.entries
  paramsOff : ld.lexicon.paramsOff = (preBytes c).length + 4
  size : ld.lexicon.size = (storedEntries c).length
  infosOff : ld.lexicon.infosOff = (preBytes c).length + 4 + 6 * (storedEntries c).length
  syn : ld.lexicon.hasSynonyms = true

theorem LoadedAs.over {c : CompileInput} {ld : Loaded} {g : Grammar} (h : LoadedAs c ld g) (hok : FileOk c) :
    OverSection ld.lexicon (preBytes c) (storedEntries c) :=
  ⟨h.bytes, h.paramsOff, h.size, h.infosOff, h.syn, fun e he => (storedEntries_ok c hok.entries e he).1, hok.size⟩

/-- `read_any_dictionary` on `header ++ POS table ++ matrix ++ index ++ lexicon section`, for any contents of the
sections: what is loaded, and where the matrix, the trie and the word-id table lie in the loaded bytes -/
theorem readAny_sections (user : Bool) (t : Nat) (desc : Bytes) (fresh : List (List Str)) (nl nr : Nat)
    (matrix trie wt rest : Bytes) (ts n : Nat) (G buf : Bytes)
    (hG : G = hdrBytes (versionOf user) t desc ++ posTableBytes fresh ++ connBytes nl nr matrix)
    (hbuf : buf = G ++ (le32 ts ++ (trie ++ (le32 wt.length ++ (wt ++ (le32 n ++ rest))))))
    (ht : t < 18446744073709551616) (hd : desc.length ≤ 256) (hp : PosOk fresh) (hl : nl < 32768) (hr : nr < 32768)
    (hm : matrix.length = 2 * (nl * nr)) (htr : trie.length = 4 * ts) (hrest : 6 * n ≤ rest.length)
    (hsize : buf.length < 4294967296) :
    readAny buf 0 = .ok
        { header := { version := versionOf user, createTime := t, description := desc.takeWhile (· ≠ 0) },
          grammar := some { posList := fresh, numLeft := nl, numRight := nr,
                            connOff := 272 + (posTableBytes fresh).length + 4,
                            storageSize := (posTableBytes fresh).length + 4 + matrix.length, bytes := buf },
          lexicon := { bytes := buf, trieOff := G.length + 4, trieSize := ts, widTableOff := G.length + 4 + 4 * ts + 4,
                       widTableSize := wt.length, paramsOff := G.length + 4 + 4 * ts + 4 + wt.length + 4, size := n,
                       infosOff := G.length + 4 + 4 * ts + 4 + wt.length + 4 + 6 * n, hasSynonyms := true } } ∧
      (∃ tail, buf.drop (272 + (posTableBytes fresh).length + 4) = matrix ++ tail) ∧
      (buf.drop (G.length + 4)).take (4 * ts) = trie ∧
      (buf.drop (G.length + 4 + 4 * ts + 4)).take wt.length = wt := by
  have hhl := hdrBytes_length (versionOf user) t desc hd
  have hGl : 272 + ((posTableBytes fresh).length + 4 + matrix.length) = G.length := by
    rw [hG, connBytes]; simp only [List.length_append, hhl, le16_length]; omega
  have hH : parseHeader buf = .ok { version := versionOf user, createTime := t, description := desc.takeWhile (· ≠ 0) } := by
    rw [hbuf, hG, List.append_assoc, List.append_assoc]
    exact parseHeader_hdrBytes (versionOf user) t desc _ (versionOf_isVersion user) ht hd
  have hGr : Grammar.parse buf 272 = .ok ⟨fresh, nl, nr, 272 + (posTableBytes fresh).length + 4,
      (posTableBytes fresh).length + 4 + matrix.length, buf⟩ := by
    rw [hbuf, hG]; exact grammarParse_file _ fresh nl nr matrix _ hhl hp hl hr hm
  have hL := lexiconParse_file G trie wt rest ts n true htr (hbuf ▸ hsize) hrest
  rw [← hbuf] at hL
  have hgram : ({ version := versionOf user, createTime := t, description := desc.takeWhile (· ≠ 0) } : Header).hasGrammar = true := by
    cases user <;> rfl
  have hsyn : ({ version := versionOf user, createTime := t, description := desc.takeWhile (· ≠ 0) } : Header).hasSynonymGroupIds = true := by
    cases user <;> rfl
  -- where the POS table starts, moved over table and sizes to the matrix; where the index starts, moved to trie and table
  have h0 : buf.drop 272 = posTableBytes fresh ++ (le16 nl ++ (le16 nr ++ (matrix ++
      (le32 ts ++ (trie ++ (le32 wt.length ++ (wt ++ (le32 n ++ rest)))))))) := by
    rw [hbuf, hG, connBytes, ← hhl]
    simp only [List.append_assoc]
    exact List.drop_left ..
  have hM := drop_seg (drop_seg (drop_seg h0))
  rw [le16_length, le16_length, Nat.add_assoc _ 2 2] at hM
  have hT := drop_seg (hbuf ▸ List.drop_left .. : buf.drop G.length = le32 ts ++ _)
  rw [le32_length] at hT
  have hW := drop_seg (drop_seg hT)
  rw [le32_length, htr] at hW
  refine ⟨?_, ⟨_, hM⟩, by rw [hT, ← htr, List.take_left], by rw [hW, List.take_left]⟩
  simp only [readAny, List.drop_zero, hH, bind, Outcome.bind, hgram, if_true, HEADER_STORAGE_SIZE, Nat.reduceAdd, hGr,
    hsyn, hGl, hL, pure]

theorem readAny_file (c : CompileInput) (hok : FileOk c) :
    ∃ ld g, readAny (fileBytes c) 0 = .ok ld ∧ LoadedAs c ld g := by
  obtain ⟨rest, hshape, hrest⟩ := lexiconBytes_shape (storedEntries c) ((storedEntries c).map encWordInfo) (preBytes c).length
  have hsize := hok.size
  obtain ⟨ts, hts⟩ : ∃ ts, c.trie.length = 4 * ts :=
    ⟨c.trie.length / 4, (Nat.div_add_mod _ 4).symm.trans (by rw [hok.trie, Nat.add_zero])⟩
  obtain ⟨G, hG⟩ : ∃ G, G = hdrBytes (versionOf c.user) c.time c.desc ++ posTableBytes (c.pos.drop c.startPos)
      ++ connBytes c.conn.numLeft.toNat c.conn.numRight.toNat c.conn.matrix := ⟨_, rfl⟩
  have hpre : (preBytes c).length = G.length + 4 + 4 * ts + 4 + (widTableBytes c.entries).length := by
    rw [hG]; simp only [preBytes, indexBytes, List.length_append, le32_length, hts]; omega
  have hflen : (fileBytes c).length = (preBytes c).length + (4 + ((storedEntries c).flatMap encParams ++ rest).length) := by
    rw [fileBytes, hshape, List.length_append, List.length_append, le32_length]
  have sh : fileBytes c = G ++ (le32 ts ++ (c.trie ++ (le32 (widTableBytes c.entries).length ++ (widTableBytes c.entries ++
      (le32 (storedEntries c).length ++ ((storedEntries c).flatMap encParams ++ rest)))))) := by
    obtain ⟨b1, b2⟩ : ts < 4294967296 ∧ (widTableBytes c.entries).length < 4294967296 := by omega
    rw [fileBytes, hshape, preBytes, indexBytes, ← hG, hts, Nat.mul_div_cancel_left _ (by decide : 0 < 4),
      Nat.mod_eq_of_lt b1, Nat.mod_eq_of_lt b2]
    simp only [List.append_assoc]
  obtain ⟨hread, hc, htrie, hwt⟩ :=
    readAny_sections c.user c.time c.desc _ _ _ c.conn.matrix c.trie (widTableBytes c.entries) _ ts _ G (fileBytes c) hG sh
      hok.time hok.desc hok.pos ((Int.toNat_lt hok.nl0).2 hok.nl1) ((Int.toNat_lt hok.nr0).2 hok.nr1) hok.mat hts hrest hsize
  exact ⟨_, _, hread,
    { header := rfl, grammar := rfl, posList := rfl, numLeft := rfl, numRight := rfl, conn := hc, bytes := rfl,
      trie := htrie, widTable := hwt, paramsOff := by rw [hpre], size := rfl, infosOff := by rw [hpre], syn := rfl }⟩

theorem cost_loaded (c : CompileInput) (ld : Loaded) (g : Grammar) (h : LoadedAs c ld g)
    (v : Nat → Nat → Int) (hv : Holds c.conn.matrix c.conn.numLeft.toNat c.conn.numRight.toNat v)
    (l r : Nat) (hl : l < c.conn.numLeft.toNat) (hr : r < c.conn.numRight.toNat) :
    g.cost l r = .ok (v l r) := by
  obtain ⟨tail, ht⟩ := h.conn
  unfold Grammar.cost connCost
  rw [h.numLeft, h.numRight, ht]
  have : ¬ (l ≥ c.conn.numLeft.toNat ∨ r ≥ c.conn.numRight.toNat) := by omega
  simp only [this, if_false, i16At_append _ tail _ _ (hv.2 l r hl hr)]

/-- the loader for the file's own kind (`read_user_dictionary` resp. `read_system_dictionary`) accepts what
`read_any_dictionary` loaded -/
theorem readKind_loaded (c : CompileInput) (ld : Loaded) (g : Grammar) (bytes : Bytes) (hr : readAny bytes 0 = .ok ld) (h : LoadedAs c ld g) :
    (if c.user then readUser bytes 0 else readSystem bytes 0) = .ok ld := by
  have hs : ld.header.isSystem = !c.user := by
    rw [h.header]; cases c.user <;> rfl
  unfold readUser readSystem
  simp only [hr, bind, Outcome.bind, hs]
  cases c.user <;> rfl

/-! ## the matrix TEXT (`ConnBuffer::read`) -/

/-- the triples of the non-blank lines of a matrix body (`none`: some line does not parse) -/
def lineTriples : List Str → Option (List (Int × Int × Int))
  | [] => some []
  | l :: rest =>
    if isEmptyLine l then lineTriples rest else
    match parseConnLine l with
    | some x => (lineTriples rest).map (x :: ·)
    | none => none

/-- the line loop of `ConnBuffer::read` is `write_elem` over the parsed lines in file order -/
theorem parseConnLines_eq (nl : Nat) (ls : List Str) : ∀ (t : List (Int × Int × Int)) (m : Bytes), lineTriples ls = some t →
    parseConnLines nl ls m = writeAll nl t m := by
  induction ls with
  | nil => intro t m h; simp [lineTriples] at h; subst h; rfl
  | cons l rest ih =>
    intro t m h
    rw [lineTriples] at h
    rw [parseConnLines]
    by_cases he : isEmptyLine l = true
    · rw [if_pos he] at h ⊢
      exact ih t m h
    · rw [if_neg he] at h ⊢
      cases hp : parseConnLine l with
      | none => rw [hp] at h; cases h
      | some x =>
        obtain ⟨left, right, cost⟩ := x
        rw [hp] at h
        obtain ⟨t', hr, rfl⟩ := Option.map_eq_some_iff.1 h
        dsimp only [writeAll]
        cases hw : writeElem m nl left right cost with
        | ok m' => exact ih t' m' hr
        | err k => rfl
        | panic w => rfl

end Codec
