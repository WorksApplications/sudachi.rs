import Sudachi.Model.Split
import Sudachi.Proofs.Basic
/-!
# Lemmas about the split model (`Model/Split.lean`) for property C09

The model writes every failure ladder out as a three-way `match`; here the loops `splitGo`, `splitPathGo`, `resolvePath`
(and `resolveNode`) get their recursion equation with the ladder as `Outcome.bind` (`splitGo_more`, `splitPathGo_cons`,
`resolvePath_cons`, `resolveNode_eq`) and the inversion of a successful step (`…_ok`); `parseGo` has its equation on a
non-empty request (`parseGo_cons`), `updateDictId` a closed form for 4-bit dictionary ids (`updateDictId_eq`).  Inductions
that start from a result go through the inversions; the forward ones (`…_exact`, `…_agree`, `…_congr`, `…_total`) rewrite
with the equation where a word info is known and otherwise unfold the loop at their step.  The small loops of the joined
nodes and of `lookup` (`resolveG1s`, `resolveGroups`, `sumHwl`, `lookupNodes`) are unfolded where they are used.

The sections follow the model: tokenizer state, the word-info reader (why the key length is loaded whenever a split list
is), `get_word_info_subset`, chains, the iterator and `split_path`, `resolve_best_path`, placement of the units, independence
of the other subset bits, totality and character starts of the present iterator, the original text, joined nodes.
The predicates the C09 statements are made of are defined in the section that proves things about them; the two that
bundle them, `C09.TextOk` and `C09.SplitsConcat`, are in `Props/C09.lean`.

`Variant.d6fix` is `NodeSplitIterator::next` of the present code (clamp to the parent's end, snap to a character start),
`Variant.cur` the iterator before that; `LookupV.fix` is the present `MorphemeList::lookup`, `LookupV.cur` the one before.
What holds of every dictionary only for the present iterator (totality, `OnChar`) is stated for `d6fix`.
-/
namespace Split

/-! ## `normalize`, `set_mode`, `set_subset` -/

theorem mem_ite_cons (c : Prop) [Decidable c] (a x : Nat) (l : List Nat) :
    x ∈ (if c then a :: l else l) ↔ (x = a ∧ c) ∨ x ∈ l := by
  by_cases h : c <;> simp only [h, if_true, if_false, List.mem_cons, and_true, and_false, false_or]

theorem mem_normalize (s : Subset) (x : Nat) :
    x ∈ normalize s ↔ x ∈ s ∨ (x = SURFACE ∧ (READING_FORM ∈ s ∨ NORMALIZED_FORM ∈ s ∨ DIC_FORM_WORD_ID ∈ s)) ∨
      (x = HEAD_WORD_LENGTH ∧ (SPLIT_A ∈ s ∨ SPLIT_B ∈ s)) := by
  have e6 : ¬ SPLIT_A = SURFACE := by decide
  have e7 : ¬ SPLIT_B = SURFACE := by decide
  simp only [normalize, mem_ite_cons, e6, e7, false_and, false_or]
  rw [or_comm, or_assoc, or_left_comm]

/-- the split field of the current mode is loaded (the hypothesis `∀ x ∈ modeSubset m, x ∈ s` of the lemmas on two
subsets, for `m = t.mode`, `s = t.subset`) -/
def ModeLoaded (t : Tok) : Prop := ∀ x ∈ modeSubset t.mode, x ∈ t.subset

theorem create_loaded (m : Mode) : ModeLoaded (create m) := by
  unfold ModeLoaded; cases m <;> decide

theorem setMode_loaded (t : Tok) (m : Mode) : ModeLoaded (setMode t m).1 :=
  fun _ hx => List.mem_append_right _ hx

theorem setSubset_loaded (t : Tok) (s : Subset) : ModeLoaded (setSubset t s).1 :=
  fun _ hx => List.mem_append_right _ hx

theorem setSubset_mode (t : Tok) (s : Subset) : (setSubset t s).1.mode = t.mode := rfl
theorem setMode_mode (t : Tok) (m : Mode) : (setMode t m).1.mode = m := rfl

theorem setSubset_contains (t : Tok) (s : Subset) :
    (∀ x ∈ s, x ∈ (setSubset t s).1.subset) ∧
    (t.mode ≠ Mode.C → HEAD_WORD_LENGTH ∈ (setSubset t s).1.subset) := by
  constructor
  · intro x hx
    exact List.mem_append_left _ ((mem_normalize _ _).mpr (.inl (List.mem_append_left _ hx)))
  · intro hm
    refine List.mem_append_left _ ((mem_normalize _ _).mpr (.inr (.inr ⟨rfl, ?_⟩)))
    cases hmode : t.mode
    · exact .inl (List.mem_append_right _ List.mem_cons_self)
    · exact .inr (List.mem_append_right _ List.mem_cons_self)
    · exact absurd hmode hm

theorem runOps_loaded : ∀ (ops : List Op) (t : Tok) (acc : List String),
    ModeLoaded t → ModeLoaded (runOps ops t acc).1
  | [], _, _, h => h
  | .new m :: rest, _, acc, _ => runOps_loaded rest (create m) acc (create_loaded m)
  | .sub s :: rest, t, _, _ => runOps_loaded rest _ _ (setSubset_loaded t s)
  | .md m :: rest, t, _, _ => runOps_loaded rest _ _ (setMode_loaded t m)

/-! ## the word-info reader -/

theorem parseGo_nil : ∀ fs : List (Nat × Bool), parseGo fs [] = []
  | [] => rfl
  | _ :: _ => rfl

theorem parseGo_cons (f : Nat) (heavy : Bool) (rest : List (Nat × Bool)) (flds : Subset) (hne : flds ≠ []) :
    parseGo ((f, heavy) :: rest) flds =
      (if heavy = false ∨ f ∈ flds then [f] else []) ++ parseGo rest (flds.filter (· ≠ f)) := by
  have hs : f ∉ flds → flds.filter (· ≠ f) = flds := fun hf =>
    List.filter_eq_self.mpr fun x hx => decide_eq_true fun e => hf (e ▸ hx)
  by_cases hf : f ∈ flds <;> cases heavy <;>
    simp only [parseGo, List.isEmpty_iff, hne, hf, if_false, if_true, Bool.false_eq_true, Bool.true_eq_false,
      or_false, or_true, List.cons_append, List.nil_append, hs, not_false_eq_true]

theorem parseGo_reads (g : Nat) : ∀ (fs : List (Nat × Bool)) (flds : Subset),
    g ∈ flds → g ∈ fs.map Prod.fst → g ∈ parseGo fs flds
  | (f, heavy) :: rest, flds, hg, hfs => by
    rw [parseGo_cons f heavy rest flds (List.ne_nil_of_mem hg)]
    by_cases hfg : g = f
    · exact List.mem_append_left _ (List.mem_ite_nil_right.mpr ⟨.inr (hfg ▸ hg), hfg ▸ List.mem_cons_self⟩)
    · exact List.mem_append_right _ (parseGo_reads g rest _ (List.mem_filter.mpr ⟨hg, decide_eq_true hfg⟩)
        ((List.mem_cons.mp hfs).resolve_left hfg))

theorem parseGo_sound (g : Nat) : ∀ (fs : List (Nat × Bool)) (flds : Subset),
    g ∈ parseGo fs flds → g ∈ flds ∨ (g, false) ∈ fs
  | [], _, h => nomatch h
  | (f, heavy) :: rest, flds, h => by
    by_cases hne : flds = []
    · rw [hne, parseGo_nil] at h; cases h
    · rw [parseGo_cons f heavy rest flds hne] at h
      rcases List.mem_append.mp h with h | h
      · obtain ⟨hc, hg⟩ := List.mem_ite_nil_right.mp h
        obtain rfl := List.mem_singleton.mp hg
        exact hc.symm.imp id fun e => by subst e; exact List.mem_cons_self
      · exact (parseGo_sound g rest _ h).imp (fun h' => (List.mem_filter.mp h').1) (List.mem_cons_of_mem _)

theorem heavy_read_iff (s : Subset) (f : Nat) (hin : f ∈ fieldOrder.map Prod.fst)
    (hh : (f, false) ∉ fieldOrder) : f ∈ readFields s ↔ f ∈ s :=
  ⟨fun h => (parseGo_sound f _ _ h).resolve_right hh, fun h => parseGo_reads f _ _ h hin⟩

theorem splitA_read_iff (s : Subset) : SPLIT_A ∈ readFields s ↔ SPLIT_A ∈ s :=
  heavy_read_iff s _ (by decide) (by decide)

theorem splitB_read_iff (s : Subset) : SPLIT_B ∈ readFields s ↔ SPLIT_B ∈ s :=
  heavy_read_iff s _ (by decide) (by decide)

theorem eq_nil_congr {f1 f2 : Subset} (h : ∀ x, x ∈ f1 ↔ x ∈ f2) : f1 = [] ↔ f2 = [] := by
  simp only [List.eq_nil_iff_forall_not_mem, h]

/-- the reader only asks "is this field requested" and "is anything still requested": two requests
with the same members are read identically -/
theorem parseGo_congr : ∀ (fs : List (Nat × Bool)) (f1 f2 : Subset), (∀ x, x ∈ f1 ↔ x ∈ f2) →
    parseGo fs f1 = parseGo fs f2
  | [], _, _, _ => rfl
  | (f, heavy) :: rest, f1, f2, h => by
    by_cases hne : f2 = []
    · rw [hne, (eq_nil_congr h).mpr hne]
    · rw [parseGo_cons f heavy rest f1 (mt (eq_nil_congr h).mp hne), parseGo_cons f heavy rest f2 hne,
        parseGo_congr rest (f1.filter (· ≠ f)) (f2.filter (· ≠ f)) fun x => by simp only [List.mem_filter, h x]]
      simp only [h f]

/-- what the reader does when some field behind the surface is requested (`g`): it reads the surface
if requested, then the key length — a "light" field, written because the reader has to walk past it —
and goes on with the rest of the layout -/
theorem readFields_of_later (s : Subset) (g : Nat) (hg : g ∈ s) (h0 : g ≠ SURFACE) :
    readFields s = (if SURFACE ∈ s then [SURFACE] else []) ++ HEAD_WORD_LENGTH ::
      parseGo (fieldOrder.drop 2) ((s.filter (· ≠ SURFACE)).filter (· ≠ HEAD_WORD_LENGTH)) := by
  show parseGo ((SURFACE, true) :: (HEAD_WORD_LENGTH, false) :: fieldOrder.drop 2) s = _
  rw [parseGo_cons _ _ _ _ (List.ne_nil_of_mem hg),
    parseGo_cons _ _ _ _ (List.ne_nil_of_mem (List.mem_filter.mpr ⟨hg, decide_eq_true h0⟩))]
  simp only [Bool.true_eq_false, false_or, true_or, if_true, List.cons_append, List.nil_append]

theorem hwl_read_of_later (s : Subset) (g : Nat) (hg : g ∈ s) (h0 : g ≠ SURFACE) :
    HEAD_WORD_LENGTH ∈ readFields s := by
  rw [readFields_of_later s g hg h0]
  exact List.mem_append_right _ List.mem_cons_self

theorem readFields_hwl_bit_irrelevant (s1 s2 : Subset) (h : ∀ x, x ≠ HEAD_WORD_LENGTH → (x ∈ s1 ↔ x ∈ s2))
    (g : Nat) (hg : g ∈ s1) (hg0 : g ≠ SURFACE) (hg1 : g ≠ HEAD_WORD_LENGTH) :
    readFields s1 = readFields s2 := by
  rw [readFields_of_later s1 g hg hg0, readFields_of_later s2 g ((h g hg1).mp hg) hg0]
  simp only [h SURFACE (by decide)]
  refine congrArg (_ ++ HEAD_WORD_LENGTH :: ·) (parseGo_congr _ _ _ fun x => ?_)
  simp only [List.mem_filter, decide_eq_true_eq]
  exact ⟨fun ⟨⟨hx, h0⟩, hn⟩ => ⟨⟨(h x hn).mp hx, h0⟩, hn⟩, fun ⟨⟨hx, h0⟩, hn⟩ => ⟨⟨(h x hn).mpr hx, h0⟩, hn⟩⟩

/-! ## word ids, `update_dict_id`, `get_word_info_subset` -/

/-- what `update_dict_id` does to one stored id when read from dictionary `d` -/
def restamp (d : Nat) (r : Nat) : Nat := if dicOf r > 0 then mkId d (wordOf r) else r

theorem wordOf_lt (r : Nat) : wordOf r < DIC_SHIFT := Nat.mod_lt _ (by decide)

theorem dicOf_mkId (d w : Nat) (hw : w < DIC_SHIFT) : dicOf (mkId d w) = d :=
  (Basic.pack_div_mod DIC_SHIFT d w hw).1

theorem wordOf_mkId (d w : Nat) (hw : w < DIC_SHIFT) : wordOf (mkId d w) = w :=
  (Basic.pack_div_mod DIC_SHIFT d w hw).2

theorem wordOf_le (r : Nat) : ¬ wordOf r > WORD_MASK := Nat.not_lt.mpr (Nat.le_of_lt_succ (wordOf_lt r))

theorem dicOf_restamp (d r : Nat) (hd : d < 16) : dicOf (restamp d r) < 16 := by
  unfold restamp
  by_cases h : dicOf r > 0
  · rw [if_pos h, dicOf_mkId _ _ (wordOf_lt r)]; exact hd
  · rw [if_neg h]; omega

theorem updateDictId_eq (d : Nat) (hd : d < 16) : ∀ l : List Nat,
    updateDictId l d = .ok (l.map (restamp d))
  | [] => rfl
  | id :: rest => by
    have h16 : ¬ d ≥ 16 := Nat.not_le.mpr hd
    simp only [updateDictId, updateDictId_eq d hd rest, List.map_cons, restamp, checkedId, h16, wordOf_le,
      if_false]
    by_cases h : dicOf id > 0 <;> simp only [h, if_true, if_false]

/-- `get_word_info_subset` on a word that exists (whether the key length is among the fields read: `hwl_read_of_later`) -/
theorem getWordInfoSubset_eq (lex : Lex) (id : Nat) (s : Subset) (l : List Entry) (e : Entry)
    (hd : dicOf id < 16) (hl : lex[dicOf id]? = some l) (he : l[wordOf id]? = some e) :
    getWordInfoSubset lex id s = .ok
      ⟨if HEAD_WORD_LENGTH ∈ readFields s then e.hwl else 0,
       if SPLIT_A ∈ s then e.a.map (restamp (dicOf id)) else [],
       if SPLIT_B ∈ s then e.b.map (restamp (dicOf id)) else []⟩ := by
  have hu : ∀ (c : Prop) [Decidable c] (r : List Nat),
      (if c then updateDictId (if c then r else []) (dicOf id) else .ok (if c then r else [])) =
        .ok (if c then r.map (restamp (dicOf id)) else []) := by
    intro c _ r
    by_cases hc : c <;> simp only [hc, if_true, if_false, updateDictId_eq _ hd]
  -- the model tests `SPLIT_A ∈ readFields s` for the content and `SPLIT_A ∈ s` for the re-stamping; `splitA_read_iff`
  -- makes them one condition `c`, and `hu` collapses the nested `if c`
  simp only [getWordInfoSubset, hl, he, splitA_read_iff, splitB_read_iff, hu]

/-! ## linked chains -/

/-- `Linked ns c b c' b'`: the nodes start at character `c` / byte `b`, each begins where the
previous one ended, the last ends at `c'` / `b'` -/
def Linked : List Node → Nat → Nat → Nat → Nat → Prop
  | [], c, b, c', b' => c = c' ∧ b = b'
  | n :: r, c, b, c', b' => n.cb = c ∧ n.bb = b ∧ Linked r n.ce n.be c' b'

theorem linked_append : ∀ (l1 l2 : List Node) (c b c1 b1 c2 b2 : Nat),
    Linked l1 c b c1 b1 → Linked l2 c1 b1 c2 b2 → Linked (l1 ++ l2) c b c2 b2
  | [], l2, c, b, c1, b1, c2, b2, h1, h2 => by
    obtain ⟨rfl, rfl⟩ := h1; exact h2
  | n :: r, l2, c, b, c1, b1, c2, b2, h1, h2 => by
    obtain ⟨hc, hb, hr⟩ := h1
    exact ⟨hc, hb, linked_append r l2 _ _ _ _ _ _ hr h2⟩

theorem linked_bounds : ∀ (l : List Node) (c b c' b' : Nat), l ≠ [] → Linked l c b c' b' →
    c ∈ l.map (·.cb) ∧ b ∈ l.map (·.bb) ∧ c' ∈ l.map (·.ce) ∧ b' ∈ l.map (·.be)
  | [n], c, b, c', b', _, ⟨hc, hb, hc', hb'⟩ => by
    subst hc hb hc' hb'
    exact ⟨List.mem_cons_self, List.mem_cons_self, List.mem_cons_self, List.mem_cons_self⟩
  | n :: m :: r, c, b, c', b', _, ⟨hc, hb, hr⟩ => by
    obtain ⟨_, _, h3, h4⟩ := linked_bounds (m :: r) _ _ _ _ (List.cons_ne_nil _ _) hr
    subst hc hb
    exact ⟨List.mem_cons_self, List.mem_cons_self, List.mem_cons_of_mem _ h3, List.mem_cons_of_mem _ h4⟩

theorem linked_last : ∀ (l : List Node) (c b c' b' : Nat) (last : Node),
    Linked l c b c' b' → l.getLast? = some last → last.ce = c' ∧ last.be = b'
  | [n], _, _, _, _, _, ⟨_, _, h3⟩, hl => by cases hl; exact h3
  | _ :: n2 :: r, _, _, _, _, last, ⟨_, _, h3⟩, hl => linked_last (n2 :: r) _ _ _ _ last h3 hl

theorem pairwise_le_cons {a b : Nat} {l : List Nat} (h : a ≤ b) (hp : (b :: l).Pairwise (· ≤ ·)) :
    (a :: b :: l).Pairwise (· ≤ ·) :=
  List.pairwise_cons.mpr ⟨fun x hx => by
    rcases List.mem_cons.mp hx with rfl | hx
    · exact h
    · exact Nat.le_trans h ((List.pairwise_cons.mp hp).1 x hx), hp⟩

/-- a linked chain of forward-running nodes has non-decreasing cut points (the form
`C01.surfaces_partition` asks for: `Mono (b :: cuts)`) -/
theorem linked_cuts_mono : ∀ (l : List Node) (c b c' b' : Nat), Linked l c b c' b' →
    (∀ u ∈ l, u.cb ≤ u.ce ∧ u.bb ≤ u.be) →
    (b :: l.map (·.be)).Pairwise (· ≤ ·) ∧ (c :: l.map (·.ce)).Pairwise (· ≤ ·) ∧ b ≤ b' ∧ c ≤ c'
  | [], c, b, c', b', ⟨hc, hb⟩, _ =>
    ⟨List.pairwise_singleton _ _, List.pairwise_singleton _ _, Nat.le_of_eq hb, Nat.le_of_eq hc⟩
  | n :: r, c, b, c', b', ⟨hc, hb, hr⟩, hf => by
    obtain ⟨⟨hn1, hn2⟩, hf'⟩ := List.forall_mem_cons.mp hf
    obtain ⟨i1, i2, i3, i4⟩ := linked_cuts_mono r _ _ _ _ hr hf'
    subst hc hb
    exact ⟨pairwise_le_cons hn2 i1, pairwise_le_cons hn1 i2, Nat.le_trans hn2 i3, Nat.le_trans hn1 i4⟩

/-! ## outcomes: inversion of a successful `bind`, agreement of two runs -/

theorem Outcome.bind_eq_ok {α β : Type} {x : Outcome α} {f : α → Outcome β} {b : β} :
    x.bind f = .ok b ↔ ∃ a, x = .ok a ∧ f a = .ok b := by
  cases x
  · exact ⟨fun h => ⟨_, rfl, h⟩, fun ⟨_, e, h⟩ => by cases e; exact h⟩
  · exact ⟨fun h => (nomatch h), fun ⟨_, e, _⟩ => (nomatch e)⟩
  · exact ⟨fun h => (nomatch h), fun ⟨_, e, _⟩ => (nomatch e)⟩

/-- a loop that appends what its body returns for each element (`split_path`, in whatever form its result is observed)
runs over a concatenation as over the two halves one after the other -/
theorem Outcome.loop_append {α β : Type} {f : α → Outcome (List β)} {go : List α → Outcome (List β)}
    (hcons : ∀ x P, go (x :: P) = (f x).bind fun ts => (go P).bind fun r => .ok (ts ++ r))
    (hnil : go [] = .ok []) (A B : List α) :
    go (A ++ B) = (go A).bind fun a => (go B).bind fun b => .ok (a ++ b) := by
  induction A with
  | nil => rw [List.nil_append, hnil]; cases go B <;> rfl
  | cons x A ih =>
    rw [List.cons_append, hcons, hcons, ih]
    cases f x <;> try rfl
    cases go A <;> try rfl
    cases go B <;> simp only [Outcome.bind, List.append_assoc]

def Outcome.map {α β : Type} (f : α → β) : Outcome α → Outcome β
  | .ok a => .ok (f a)
  | .err k => .err k
  | .panic w => .panic w

inductive Outcome.Agree {α β : Type} (R : α → β → Prop) : Outcome α → Outcome β → Prop
  | ok {a b} : R a b → Agree R (.ok a) (.ok b)
  | err (k) : Agree R (.err k) (.err k)
  | panic (w) : Agree R (.panic w) (.panic w)

theorem Outcome.Agree.rfl {α : Type} : ∀ {x : Outcome α}, x.Agree Eq x
  | .ok _ => .ok (Eq.refl _)
  | .err k => .err k
  | .panic w => .panic w

theorem Outcome.Agree.bind {α β γ δ : Type} {R : α → β → Prop} {S : γ → δ → Prop} {x : Outcome α} {y : Outcome β}
    {f : α → Outcome γ} {g : β → Outcome δ} (h : x.Agree R y) (hf : ∀ a b, R a b → (f a).Agree S (g b)) :
    (x.bind f).Agree S (y.bind g) :=
  match h with
  | .ok hab => hf _ _ hab
  | .err k => .err k
  | .panic w => .panic w

/-! ## `NodeSplitIterator` and `split_path` for arbitrary dictionaries -/

theorem splitGo_one_ok {cx : Ctx} {wid co bo ce be : Nat} {us : List Node}
    (h : splitGo cx [wid] co bo ce be = .ok us) :
    ∃ info, getWordInfoSubset cx.lex wid cx.s = .ok info ∧ us = [⟨co, ce, bo, be, wid, info⟩] := by
  simp only [splitGo] at h
  cases hi : getWordInfoSubset cx.lex wid cx.s <;> simp only [hi] at h <;> cases h
  exact ⟨_, rfl, rfl⟩

theorem splitGo_more {cx : Ctx} {wid : Nat} {info : Info} (hi : getWordInfoSubset cx.lex wid cx.s = .ok info)
    (w2 : Nat) (rest : List Nat) (co bo cend bend : Nat) :
    splitGo cx (wid :: w2 :: rest) co bo cend bend =
      (unitEnd cx bo info.hwl bend).bind fun p => (splitGo cx (w2 :: rest) p.1 p.2 cend bend).bind fun r =>
        .ok (⟨co, p.1, bo, p.2, wid, info⟩ :: r) := by
  simp only [splitGo, hi]
  rcases unitEnd cx bo info.hwl bend with ⟨ce, be⟩ | k | w <;> try rfl
  simp only [Outcome.bind]
  cases splitGo cx (w2 :: rest) ce be cend bend <;> rfl

theorem splitGo_more_ok {cx : Ctx} {wid w2 : Nat} {rest : List Nat} {co bo cend bend : Nat} {us : List Node}
    (h : splitGo cx (wid :: w2 :: rest) co bo cend bend = .ok us) :
    ∃ info ce be r, getWordInfoSubset cx.lex wid cx.s = .ok info ∧
      unitEnd cx bo info.hwl bend = .ok (ce, be) ∧ splitGo cx (w2 :: rest) ce be cend bend = .ok r ∧
      us = ⟨co, ce, bo, be, wid, info⟩ :: r := by
  cases hi : getWordInfoSubset cx.lex wid cx.s with
  | err k => simp only [splitGo, hi] at h; cases h
  | panic w => simp only [splitGo, hi] at h; cases h
  | ok info =>
    rw [splitGo_more hi] at h
    obtain ⟨p, hu, h⟩ := Outcome.bind_eq_ok.mp h
    obtain ⟨r, hr, h⟩ := Outcome.bind_eq_ok.mp h
    cases h
    exact ⟨info, p.1, p.2, r, rfl, hu, hr, rfl⟩

theorem splitGo_shape (cx : Ctx) : ∀ (ws : List Nat) (co bo ce be : Nat) (us : List Node),
    splitGo cx ws co bo ce be = .ok us → us.map (·.wid) = ws ∧ (ws ≠ [] → Linked us co bo ce be)
  | [], _, _, _, _, us, h => by
    simp only [splitGo] at h; cases h; exact ⟨rfl, fun h => absurd rfl h⟩
  | [wid], co, bo, ce, be, us, h => by
    obtain ⟨info, _, rfl⟩ := splitGo_one_ok h
    exact ⟨rfl, fun _ => ⟨rfl, rfl, rfl, rfl⟩⟩
  | wid :: w2 :: rest, co, bo, ce, be, us, h => by
    obtain ⟨info, ce', be', r, _, _, hr, rfl⟩ := splitGo_more_ok h
    obtain ⟨h1, h2⟩ := splitGo_shape cx (w2 :: rest) _ _ _ _ r hr
    exact ⟨congrArg (wid :: ·) h1, fun _ => ⟨rfl, rfl, h2 (List.cons_ne_nil _ _)⟩⟩

theorem splitsOf_ne_nil {n : Node} {m : Mode} (h : numSplits n m ≠ 0) : splitsOf n m ≠ [] :=
  fun e => h (by rw [numSplits, e]; rfl)

def Info.splits (i : Info) : Mode → List Nat
  | .A => i.a
  | .B => i.b
  | .C => []

theorem splitsOf_eq (n : Node) (m : Mode) : splitsOf n m = n.info.splits m := by
  cases m <;> rfl

theorem split_eq_splitGo (cx : Ctx) {n : Node} {m : Mode} (h : numSplits n m ≠ 0) :
    split cx n m = splitGo cx (splitsOf n m) n.cb n.bb n.ce n.be := by
  cases m
  · rfl
  · rfl
  · exact absurd rfl h

theorem split_ok {cx : Ctx} {n : Node} {m : Mode} {us : List Node} (h : split cx n m = .ok us) :
    splitGo cx (splitsOf n m) n.cb n.bb n.ce n.be = .ok us := by
  cases m
  · exact h
  · exact h
  · cases h

theorem split_linked (cx : Ctx) (n : Node) (m : Mode) (us : List Node)
    (hn : numSplits n m ≠ 0) (h : split cx n m = .ok us) : Linked us n.cb n.bb n.ce n.be :=
  (splitGo_shape cx _ _ _ _ _ us (split_ok h)).2 (splitsOf_ne_nil hn)

theorem expand_ok {cx : Ctx} {m : Mode} {n : Node} {us : List Node} (h : expand cx m n = .ok us) :
    (numSplits n m ≤ 1 ∧ us = [n]) ∨
    (2 ≤ numSplits n m ∧ splitGo cx (splitsOf n m) n.cb n.bb n.ce n.be = .ok us) := by
  unfold expand at h
  by_cases hle : numSplits n m ≤ 1
  · rw [if_pos hle] at h; cases h; exact .inl ⟨hle, rfl⟩
  · rw [if_neg hle] at h; exact .inr ⟨by omega, split_ok h⟩

theorem splitInto_eq_expand (cx : Ctx) {m : Mode} {n : Node} (h : 2 ≤ numSplits n m) :
    splitInto cx m n = (expand cx m n).bind fun us => .ok (true, us) := by
  rw [splitInto, if_neg (by omega), expand, if_neg (by omega)]
  cases split cx n m <;> rfl

theorem expand_linked (cx : Ctx) (m : Mode) (n : Node) (us : List Node)
    (h : expand cx m n = .ok us) : us ≠ [] ∧ Linked us n.cb n.bb n.ce n.be := by
  rcases expand_ok h with ⟨_, rfl⟩ | ⟨h2, hg⟩
  · exact ⟨List.cons_ne_nil _ _, rfl, rfl, rfl, rfl⟩
  · have hne := splitsOf_ne_nil (n := n) (m := m) (by omega)
    obtain ⟨hw, hl⟩ := splitGo_shape cx _ _ _ _ _ us hg
    exact ⟨fun e => hne (by rw [← hw, e]; rfl), hl hne⟩

/-- in mode C nothing declares units, so the loop of `split_path` copies the path: the early return of
`split_path` for mode C is not a separate case -/
theorem splitPathGo_C (cx : Ctx) : ∀ path : List Node, splitPathGo cx .C path = .ok path
  | [] => rfl
  | n :: rest => by
    have he : expand cx .C n = .ok [n] := rfl
    simp only [splitPathGo, he, splitPathGo_C cx rest, List.singleton_append]

theorem splitPath_eq_go (cx : Ctx) (m : Mode) (path : List Node) :
    splitPath cx m path = splitPathGo cx m path := by
  unfold splitPath
  by_cases hm : m = .C
  · rw [if_pos hm, hm, splitPathGo_C]
  · rw [if_neg hm]

theorem splitPathGo_cons (cx : Ctx) (m : Mode) (n : Node) (rest : List Node) :
    splitPathGo cx m (n :: rest) =
      (expand cx m n).bind fun us => (splitPathGo cx m rest).bind fun r => .ok (us ++ r) := by
  rw [splitPathGo]
  cases expand cx m n <;> try rfl
  cases splitPathGo cx m rest <;> rfl

theorem splitPathGo_cons_ok {cx : Ctx} {m : Mode} {n : Node} {rest out : List Node}
    (h : splitPathGo cx m (n :: rest) = .ok out) :
    ∃ us r, expand cx m n = .ok us ∧ splitPathGo cx m rest = .ok r ∧ out = us ++ r := by
  rw [splitPathGo_cons] at h
  obtain ⟨us, hus, h⟩ := Outcome.bind_eq_ok.mp h
  obtain ⟨r, hr, h⟩ := Outcome.bind_eq_ok.mp h
  cases h
  exact ⟨us, r, hus, hr, rfl⟩

theorem splitPathGo_decompose (cx : Ctx) (m : Mode) (p1 : List Node) (n : Node) (p2 out : List Node)
    (h : splitPathGo cx m (p1 ++ n :: p2) = .ok out) :
    ∃ o1 us o2, out = o1 ++ us ++ o2 ∧ splitPathGo cx m p1 = .ok o1 ∧
      expand cx m n = .ok us ∧ splitPathGo cx m p2 = .ok o2 := by
  rw [Outcome.loop_append (splitPathGo_cons cx m) rfl] at h
  obtain ⟨o1, h1, h⟩ := Outcome.bind_eq_ok.mp h
  obtain ⟨r, hr, h⟩ := Outcome.bind_eq_ok.mp h
  obtain ⟨us, o2, hus, h2, rfl⟩ := splitPathGo_cons_ok hr
  cases h
  exact ⟨o1, us, o2, (List.append_assoc ..).symm, h1, hus, h2⟩

/-- `split_path` keeps a node with at most one declared unit for the mode where it is, whatever the
rest of the path does (the two sides are split on their own): the converse of `splitPathGo_decompose` for such a node -/
theorem splitPathGo_keeps (cx : Ctx) (m : Mode) (n : Node) (hn : numSplits n m ≤ 1)
    (B B' : List Node) (hB : splitPathGo cx m B = .ok B') (A A' : List Node) (hA : splitPathGo cx m A = .ok A') :
    splitPathGo cx m (A ++ n :: B) = .ok (A' ++ n :: B') := by
  rw [Outcome.loop_append (splitPathGo_cons cx m) rfl, hA, splitPathGo_cons, expand, if_pos hn, hB]
  rfl

theorem splitPathGo_linked (cx : Ctx) (m : Mode) :
    ∀ (path out : List Node) (c b c' b' : Nat), splitPathGo cx m path = .ok out →
    Linked path c b c' b' → Linked out c b c' b'
  | [], out, c, b, c', b', h, hl => by
    simp only [splitPathGo] at h; cases h; exact hl
  | n :: rest, out, c, b, c', b', h, ⟨hc, hb, hr⟩ => by
    obtain ⟨us, r, hus, hr', rfl⟩ := splitPathGo_cons_ok h
    exact linked_append us r _ _ _ _ _ _ (hc ▸ hb ▸ (expand_linked cx m n us hus).2)
      (splitPathGo_linked cx m rest r _ _ _ _ hr' hr)

theorem splitPathGo_mem (cx : Ctx) (m : Mode) : ∀ (path out : List Node) (u : Node),
    splitPathGo cx m path = .ok out → u ∈ out → ∃ n ∈ path, (numSplits n m ≤ 1 ∧ u = n) ∨
      (2 ≤ numSplits n m ∧ ∃ us, splitGo cx (splitsOf n m) n.cb n.bb n.ce n.be = .ok us ∧ u ∈ us)
  | [], out, u, h, hu => by
    simp only [splitPathGo] at h; cases h; cases hu
  | n :: rest, out, u, h, hu => by
    obtain ⟨us, r, hus, hr, rfl⟩ := splitPathGo_cons_ok h
    rcases List.mem_append.mp hu with hu | hu
    · refine ⟨n, List.mem_cons_self, (expand_ok hus).imp ?_ ?_⟩
      · rintro ⟨h1, rfl⟩; exact ⟨h1, List.mem_singleton.mp hu⟩
      · exact fun ⟨h2, hg⟩ => ⟨h2, us, hg, hu⟩
    · obtain ⟨n', hn', h'⟩ := splitPathGo_mem cx m rest r u hr hu
      exact ⟨n', List.mem_cons_of_mem _ hn', h'⟩

/-! ## `resolve_best_path` -/

/-- the `let info` of `resolveNode` -/
def nodeInfo (lex : Lex) (s : Subset) (r : RawNode) : Outcome Info :=
  if r.syn || isOov r.wid then .ok Info.empty else getWordInfoSubset lex r.wid s

theorem resolveNode_eq (lex : Lex) (s : Subset) (c2b : List Nat) (r : RawNode) :
    resolveNode lex s c2b r = (nodeInfo lex s r).bind fun i => (currByteIdx c2b r.cb).bind fun bb =>
      (currByteIdx c2b r.ce).bind fun be => .ok ⟨r.cb, r.ce, bb, be, r.wid, i⟩ := by
  unfold resolveNode nodeInfo
  generalize (if (r.syn || isOov r.wid) = true then Outcome.ok Info.empty else getWordInfoSubset lex r.wid s) = o
  cases o <;> try rfl
  cases currByteIdx c2b r.cb <;> try rfl
  cases currByteIdx c2b r.ce <;> rfl

theorem resolveNode_ok {lex : Lex} {s : Subset} {c2b : List Nat} {r : RawNode} {n : Node}
    (h : resolveNode lex s c2b r = .ok n) :
    ∃ i bb be, nodeInfo lex s r = .ok i ∧ currByteIdx c2b r.cb = .ok bb ∧ currByteIdx c2b r.ce = .ok be ∧
      n = ⟨r.cb, r.ce, bb, be, r.wid, i⟩ := by
  rw [resolveNode_eq] at h
  obtain ⟨i, hi, h⟩ := Outcome.bind_eq_ok.mp h
  obtain ⟨bb, h1, h⟩ := Outcome.bind_eq_ok.mp h
  obtain ⟨be, h2, h⟩ := Outcome.bind_eq_ok.mp h
  exact ⟨i, bb, be, hi, h1, h2, (Outcome.ok.inj h).symm⟩

theorem resolvePath_cons (lex : Lex) (s : Subset) (c2b : List Nat) (r : RawNode) (rest : List RawNode) :
    resolvePath lex s c2b (r :: rest) =
      (resolveNode lex s c2b r).bind fun n => (resolvePath lex s c2b rest).bind fun ns => .ok (n :: ns) := by
  rw [resolvePath]
  cases resolveNode lex s c2b r <;> try rfl
  cases resolvePath lex s c2b rest <;> rfl

/-! ## well-formed declarations: the units' keys concatenate to the text of the parent -/

/-- a text window `cs[c..cend)` that reads `k ++ r`: `k` stands at `c` and `r` is the window from `c + |k|` -/
theorem text_cons {α : Type} (k r cs : List α) (c cend : Nat)
    (h : k ++ r = (cs.drop c).take (cend - c)) :
    (cs.drop c).take k.length = k ∧ k.length ≤ cend - c ∧
      r = (cs.drop (c + k.length)).take (cend - (c + k.length)) := by
  have h1 : k.length ≤ cend - c := by
    have : (k ++ r).length ≤ cend - c := h ▸ List.length_take_le _ _
    rw [List.length_append] at this
    exact Nat.le_trans (Nat.le_add_right _ _) this
  have h3 := congrArg (List.take k.length) h
  have h4 := congrArg (List.drop k.length) h
  rw [List.take_left' rfl, List.take_take, Nat.min_eq_left h1] at h3
  rw [List.drop_left' rfl, List.drop_take, List.drop_drop, Nat.sub_sub] at h4
  exact ⟨h3.symm, h1, h4⟩

def bytes (w : Nat → Nat) (l : List Nat) : Nat := (l.map w).sum

/-- byte offset of character `k` of the text `cs` (the same function as `Normalize.off`) -/
def pre (w : Nat → Nat) (cs : List Nat) (k : Nat) : Nat := bytes w (cs.take k)

theorem pre_add (w : Nat → Nat) (cs : List Nat) (c j : Nat) :
    pre w cs (c + j) = pre w cs c + bytes w ((cs.drop c).take j) := by
  simp only [pre, bytes, List.take_add, List.map_append, List.sum_append]

theorem pre_le (w : Nat → Nat) (cs : List Nat) {i j : Nat} (h : i ≤ j) : pre w cs i ≤ pre w cs j := by
  obtain ⟨k, rfl⟩ := Nat.le.dest h
  rw [pre_add]
  exact Nat.le_add_right _ _

/-- `mod_b2c` as `InputBuffer::build` fills it: every byte of character `i` holds `i`, then the
sentinel (number of characters; texts that reach the lattice are non-empty) -/
def mkB2cFrom (w : Nat → Nat) : Nat → List Nat → List Nat
  | i, [] => [i]
  | i, c :: cs => List.replicate (w c) i ++ mkB2cFrom w (i + 1) cs

/-- what `NodeSplitIterator` needs from `mod_b2c`: at the byte offset of character `k` it holds `k` -/
def B2cOk (w : Nat → Nat) (cs : List Nat) (b2c : List Nat) : Prop :=
  ∀ k, k ≤ cs.length → b2c[pre w cs k]? = some k

/-- what the variant `d6fix` needs from `mod_c2b` -/
def C2bOk (w : Nat → Nat) (cs : List Nat) (c2b : List Nat) : Prop :=
  ∀ k, k ≤ cs.length → c2b[k]? = some (pre w cs k)

/-- generalised over the first character number `i`; `1 ≤ w c` puts offset 0 inside the first block, a later offset skips it -/
theorem mkB2cFrom_ok (w : Nat → Nat) (hw : ∀ c, 1 ≤ w c) : ∀ (cs : List Nat) (i k : Nat), k ≤ cs.length →
    (mkB2cFrom w i cs)[pre w cs k]? = some (i + k)
  | [], i, k, hk => by
    obtain rfl : k = 0 := Nat.le_zero.mp hk
    rfl
  | c :: cs, i, 0, _ => by
    have hpos : 0 < w c := hw c
    simp only [mkB2cFrom, pre, bytes, List.take_zero, List.map_nil, List.sum_nil]
    rw [List.getElem?_append_left (by rw [List.length_replicate]; exact hpos), List.getElem?_replicate,
      if_pos hpos]
    rfl
  | c :: cs, i, k + 1, hk => by
    have ih := mkB2cFrom_ok w hw cs (i + 1) k (Nat.le_of_succ_le_succ hk)
    simp only [pre, bytes] at ih
    simp only [mkB2cFrom, pre, bytes, List.take_succ_cons, List.map_cons, List.sum_cons]
    rw [List.getElem?_append_right (by rw [List.length_replicate]; omega), List.length_replicate,
      Nat.add_sub_cancel_left, ih, Nat.add_assoc, Nat.add_comm 1 k]

theorem mkB2c_ok (w : Nat → Nat) (hw : ∀ c, 1 ≤ w c) (cs : List Nat) : B2cOk w cs (mkB2cFrom w 0 cs) := by
  intro k hk
  rw [mkB2cFrom_ok w hw cs 0 k hk, Nat.zero_add]

/-- the observable part of a node: unit id and the two ranges -/
def Node.core (n : Node) : Nat × Nat × Nat × Nat × Nat := (n.wid, n.cb, n.ce, n.bb, n.be)

/-- where the declared units lie when their keys are laid out one after the other from character `c` -/
def unitsSpec (w : Nat → Nat) (cs : List Nat) (key : Nat → List Nat) : List Nat → Nat → List (Nat × Nat × Nat × Nat × Nat)
  | [], _ => []
  | wid :: rest, c =>
    (wid, c, c + (key wid).length, pre w cs c, pre w cs (c + (key wid).length)) ::
      unitsSpec w cs key rest (c + (key wid).length)

def KeysLoaded (cx : Ctx) (w : Nat → Nat) (key : Nat → List Nat) (ws : List Nat) : Prop :=
  ∀ wid ∈ ws, ∃ info, getWordInfoSubset cx.lex wid cx.s = .ok info ∧ info.hwl = bytes w (key wid)

theorem asU16_id (x : Nat) (h : x < 65536) : asU16 x = x := Nat.mod_eq_of_lt h

section
variable (cx : Ctx) (w : Nat → Nat) (cs : List Nat) (key : Nat → List Nat)
  (hb : B2cOk w cs cx.b2c) (hc : cx.v = Variant.d6fix → C2bOk w cs cx.c2b)
  (hsz : pre w cs cs.length < 65536 ∧ cs.length < 65536)
include hb hc hsz

theorem unitEnd_exact (c j cend : Nat) (hj : c + j ≤ cend) (hcend : cend ≤ cs.length) :
    unitEnd cx (pre w cs c) (bytes w ((cs.drop c).take j)) (pre w cs cend) = .ok (c + j, pre w cs (c + j)) := by
  have hle : c + j ≤ cs.length := by omega
  have hlt : pre w cs (c + j) < 65536 := Nat.lt_of_le_of_lt (pre_le w cs hle) hsz.1
  have hcj : c + j < 65536 := by omega
  unfold unitEnd
  rw [← pre_add]
  cases hv : cx.v
  · simp only [hb _ hle, asU16_id _ hlt, asU16_id _ hcj]
  · simp only [Nat.min_eq_left (pre_le w cs hj), hb _ hle, hc hv _ hle, asU16_id _ hlt, asU16_id _ hcj]

theorem splitGo_exact (cend : Nat) (hcend : cend ≤ cs.length) :
    ∀ (ws : List Nat) (c : Nat), ws ≠ [] → c ≤ cend → KeysLoaded cx w key ws →
      (ws.map key).flatten = (cs.drop c).take (cend - c) →
      ∃ us, splitGo cx ws c (pre w cs c) cend (pre w cs cend) = .ok us ∧
        us.map Node.core = unitsSpec w cs key ws c
  | [wid], c, _, hle, hk, hcat => by
    obtain ⟨info, hi, _⟩ := hk wid List.mem_cons_self
    have hlen : (key wid).length = cend - c := by
      have := congrArg List.length hcat
      rwa [List.map_cons, List.map_nil, List.flatten_cons, List.flatten_nil, List.append_nil, List.length_take,
        List.length_drop, Nat.min_eq_left (Nat.sub_le_sub_right hcend c)] at this
    refine ⟨[⟨c, cend, pre w cs c, pre w cs cend, wid, info⟩], by simp only [splitGo, hi], ?_⟩
    rw [List.map_cons, unitsSpec, hlen, Nat.add_sub_cancel' hle]
    rfl
  | wid :: w2 :: rest, c, _, hle, hk, hcat => by
    obtain ⟨⟨info, hi, hh⟩, hk'⟩ := List.forall_mem_cons.mp hk
    obtain ⟨h1, h2, h4⟩ := text_cons (key wid) ((w2 :: rest).map key).flatten cs c cend hcat
    have hj : c + (key wid).length ≤ cend := Nat.add_le_of_le_sub' hle h2
    obtain ⟨us, hus, hcore⟩ := splitGo_exact cend hcend (w2 :: rest) (c + (key wid).length)
      (List.cons_ne_nil _ _) hj hk' h4
    have hue := unitEnd_exact cx w cs hb hc hsz c (key wid).length cend hj hcend
    rw [h1, ← hh] at hue
    refine ⟨⟨c, c + (key wid).length, pre w cs c, pre w cs (c + (key wid).length), wid, info⟩ :: us, ?_, ?_⟩
    · rw [splitGo_more hi, hue, Outcome.bind, hus]; rfl
    · rw [List.map_cons, unitsSpec, hcore]
      rfl

end

theorem unitsSpec_text (w : Nat → Nat) (cs : List Nat) (key : Nat → List Nat) (cend : Nat) :
    ∀ (ws : List Nat) (c : Nat), (ws.map key).flatten = (cs.drop c).take (cend - c) →
      (unitsSpec w cs key ws c).map (fun u => (cs.drop u.2.1).take (u.2.2.1 - u.2.1)) = ws.map key
  | [], _, _ => rfl
  | wid :: rest, c, hcat => by
    obtain ⟨h1, _, h4⟩ := text_cons (key wid) (rest.map key).flatten cs c cend hcat
    simp only [unitsSpec, List.map_cons, Nat.add_sub_cancel_left, h1]
    rw [unitsSpec_text w cs key cend rest _ h4]

theorem unitsSpec_forward (w : Nat → Nat) (cs : List Nat) (key : Nat → List Nat) :
    ∀ (ws : List Nat) (c : Nat) {wid cb ce bb be : Nat}, (wid, cb, ce, bb, be) ∈ unitsSpec w cs key ws c →
      cb ≤ ce ∧ bb ≤ be
  | wid :: rest, c, _, _, _, _, _, hx => by
    rcases List.mem_cons.mp hx with h | hx
    · cases h
      exact ⟨Nat.le_add_right _ _, pre_le w cs (Nat.le_add_right _ _)⟩
    · exact unitsSpec_forward w cs key rest _ hx

/-! ## the result does not depend on the other subset bits -/

def coreOut (o : Outcome (List Node)) : Outcome (List (Nat × Nat × Nat × Nat × Nat)) := o.map (List.map Node.core)

/-- two token lists with the same observable part -/
abbrev SameCore (us us' : List Node) : Prop := us.map Node.core = us'.map Node.core

theorem coreOut_eq_of_agree {x y : Outcome (List Node)} (h : x.Agree SameCore y) : coreOut x = coreOut y :=
  match h with
  | .ok h => congrArg Outcome.ok h
  | .err _ => Eq.refl _
  | .panic _ => Eq.refl _

theorem getWordInfoSubset_cases (lex : Lex) (id : Nat) :
    (∃ w, ∀ s, getWordInfoSubset lex id s = .panic w) ∨
    (∃ l e, lex[dicOf id]? = some l ∧ l[wordOf id]? = some e) := by
  cases hl : lex[dicOf id]? with
  | none => exact .inl ⟨"lexicons[dict_id]: index out of bounds", fun s => by simp only [getWordInfoSubset, hl]⟩
  | some l =>
    cases he : l[wordOf id]? with
    | none => exact .inl ⟨"word id outside the offset table", fun s => by simp only [getWordInfoSubset, hl, he]⟩
    | some e => exact .inr ⟨l, e, rfl, he⟩

theorem getWordInfoSubset_loaded (lex : Lex) (id : Nat) (s : Subset) (m : Mode) (l : List Entry) (e : Entry)
    (hs : ∀ x ∈ modeSubset m, x ∈ s) (hd : dicOf id < 16) (hl : lex[dicOf id]? = some l)
    (he : l[wordOf id]? = some e) :
    ∃ i, getWordInfoSubset lex id s = .ok i ∧ (m ≠ Mode.C → i.hwl = e.hwl) ∧
      i.splits m = ((⟨e.hwl, e.a, e.b⟩ : Info).splits m).map (restamp (dicOf id)) := by
  refine ⟨_, getWordInfoSubset_eq lex id s l e hd hl he, fun hm => ?_, ?_⟩
  · obtain ⟨g, hg, h0⟩ : ∃ g ∈ modeSubset m, g ≠ SURFACE := by
      cases m
      · exact ⟨SPLIT_A, List.mem_cons_self, by decide⟩
      · exact ⟨SPLIT_B, List.mem_cons_self, by decide⟩
      · exact absurd rfl hm
    exact if_pos (hwl_read_of_later s g (hs g hg) h0)
  · cases m
    · exact if_pos (hs _ List.mem_cons_self)
    · exact if_pos (hs _ List.mem_cons_self)
    · rfl

/-- two resolved nodes that differ only in what else their word infos hold (the last conjunct is there for the induction:
the units are looked up in turn) -/
def NodeAgree (m : Mode) (n n' : Node) : Prop :=
  n.core = n'.core ∧ n.info.splits m = n'.info.splits m ∧ ∀ x ∈ n.info.splits m, dicOf x < 16

def PathAgree (m : Mode) : List Node → List Node → Prop
  | [], [] => True
  | n :: r, n' :: r' => NodeAgree m n n' ∧ PathAgree m r r'
  | _, _ => False

section
variable (v : Variant) (lex : Lex) (b2c c2b : List Nat) (s s' : Subset) (m : Mode)
  (hs : ∀ x ∈ modeSubset m, x ∈ s) (hs' : ∀ x ∈ modeSubset m, x ∈ s')
include hs hs'

/-- what two subsets that both hold the split field of mode `m` agree on, for every word: outcome
class, key length (when the mode splits), the unit list of the mode; and the units again have 4-bit
dictionary ids -/
theorem getWordInfoSubset_agree (id : Nat) (hd : dicOf id < 16) :
    (∃ w, getWordInfoSubset lex id s = .panic w ∧ getWordInfoSubset lex id s' = .panic w) ∨
    (∃ i i', getWordInfoSubset lex id s = .ok i ∧ getWordInfoSubset lex id s' = .ok i' ∧
      (m ≠ Mode.C → i.hwl = i'.hwl) ∧ i.splits m = i'.splits m ∧ ∀ x ∈ i.splits m, dicOf x < 16) := by
  rcases getWordInfoSubset_cases lex id with ⟨w, hw⟩ | ⟨l, e, hl, he⟩
  · exact .inl ⟨w, hw s, hw s'⟩
  · obtain ⟨i, hi, h1, h2⟩ := getWordInfoSubset_loaded lex id s m l e hs hd hl he
    obtain ⟨i', hi', h1', h2'⟩ := getWordInfoSubset_loaded lex id s' m l e hs' hd hl he
    refine .inr ⟨i, i', hi, hi', fun hm => (h1 hm).trans (h1' hm).symm, h2.trans h2'.symm, fun x hx => ?_⟩
    rw [h2] at hx
    obtain ⟨r, _, rfl⟩ := List.mem_map.mp hx
    exact dicOf_restamp _ _ hd

/-- the iterator's observable output is the same under both subsets (the sub-tokens' own word infos
differ: they are loaded with the respective subset) -/
theorem splitGo_agree (hm : m ≠ Mode.C) :
    ∀ (ws : List Nat) (co bo cend bend : Nat), (∀ x ∈ ws, dicOf x < 16) →
      (splitGo ⟨v, lex, s, b2c, c2b⟩ ws co bo cend bend).Agree SameCore
        (splitGo ⟨v, lex, s', b2c, c2b⟩ ws co bo cend bend)
  | [], _, _, _, _, _ => .ok (Eq.refl _)
  | [wid], co, bo, cend, bend, hd => by
    rcases getWordInfoSubset_agree lex s s' m hs hs' wid (hd wid List.mem_cons_self) with
      ⟨w, h1, h2⟩ | ⟨i, i', h1, h2, _, _, _⟩ <;> simp only [splitGo, h1, h2]
    · exact .panic w
    · exact .ok (Eq.refl _)
  | wid :: w2 :: rest, co, bo, cend, bend, hd => by
    obtain ⟨hd0, hd'⟩ := List.forall_mem_cons.mp hd
    rcases getWordInfoSubset_agree lex s s' m hs hs' wid hd0 with ⟨w, h1, h2⟩ | ⟨i, i', h1, h2, hh, _, _⟩
    · simp only [splitGo, h1, h2]; exact .panic w
    · rw [splitGo_more (cx := ⟨v, lex, s, b2c, c2b⟩) h1, splitGo_more (cx := ⟨v, lex, s', b2c, c2b⟩) h2, ← hh hm]
      exact Outcome.Agree.rfl.bind fun p _ e => e ▸ (splitGo_agree hm (w2 :: rest) p.1 p.2 cend bend hd').bind
        fun _ _ hr => .ok (congrArg (_ :: ·) hr)

theorem resolveNode_agree (r : RawNode) (hd : dicOf r.wid < 16) :
    (resolveNode lex s c2b r).Agree (NodeAgree m) (resolveNode lex s' c2b r) := by
  rw [resolveNode_eq, resolveNode_eq]
  -- what the two word infos share is all `NodeAgree` asks of them; the two table look-ups that follow are the same run
  refine Outcome.Agree.bind (R := fun i i' => i.splits m = i'.splits m ∧ ∀ x ∈ i.splits m, dicOf x < 16) ?_
    fun i i' hi => Outcome.Agree.rfl.bind fun _ _ e => e ▸ Outcome.Agree.rfl.bind fun _ _ e' => e' ▸ .ok ⟨Eq.refl _, hi⟩
  unfold nodeInfo
  by_cases hsyn : (r.syn || isOov r.wid) = true
  · rw [if_pos hsyn, if_pos hsyn]
    exact .ok ⟨Eq.refl _, by cases m <;> exact fun _ h => nomatch h⟩
  · rw [if_neg hsyn, if_neg hsyn]
    rcases getWordInfoSubset_agree lex s s' m hs hs' r.wid hd with ⟨w, h1, h2⟩ | ⟨i, i', h1, h2, _, h4, h5⟩ <;> rw [h1, h2]
    · exact .panic w
    · exact .ok ⟨h4, h5⟩

theorem expand_agree (n n' : Node) (h : NodeAgree m n n') :
    (expand ⟨v, lex, s, b2c, c2b⟩ m n).Agree SameCore
      (expand ⟨v, lex, s', b2c, c2b⟩ m n') := by
  obtain ⟨hcore, h6, h7⟩ := h
  have hnum : numSplits n m = numSplits n' m := by
    rw [numSplits, numSplits, splitsOf_eq, splitsOf_eq, h6]
  unfold expand
  by_cases hle : numSplits n' m ≤ 1
  · rw [if_pos hle, if_pos (hnum ▸ hle)]
    exact .ok (congrArg (fun c => [c]) hcore)
  · have hm : m ≠ Mode.C := fun e => hle (by subst e; exact Nat.zero_le 1)
    simp only [Node.core, Prod.mk.injEq] at hcore
    obtain ⟨_, h1, h2, h3, h4⟩ := hcore
    rw [if_neg hle, if_neg (hnum ▸ hle), split_eq_splitGo _ (by omega), split_eq_splitGo _ (by omega),
      splitsOf_eq, splitsOf_eq, h6, h1, h2, h3, h4]
    exact splitGo_agree v lex b2c c2b s s' m hs hs' hm _ _ _ _ _ (h6 ▸ h7)

theorem splitPath_agree :
    ∀ (p p' : List Node), PathAgree m p p' →
      (splitPath ⟨v, lex, s, b2c, c2b⟩ m p).Agree SameCore
        (splitPath ⟨v, lex, s', b2c, c2b⟩ m p')
  | [], [], _ => by rw [splitPath_eq_go, splitPath_eq_go]; exact .ok (Eq.refl _)
  | n :: r, n' :: r', ⟨hn, hr⟩ => by
    have h2 := splitPath_agree r r' hr
    rw [splitPath_eq_go, splitPath_eq_go] at h2 ⊢
    rw [splitPathGo_cons, splitPathGo_cons]
    exact (expand_agree v lex b2c c2b s s' m hs hs' n n' hn).bind fun _ _ h => h2.bind fun _ _ h' =>
      .ok ((List.map_append ..).trans (h ▸ h' ▸ (List.map_append ..).symm))

theorem resolvePath_agree :
    ∀ (raws : List RawNode), (∀ r ∈ raws, dicOf r.wid < 16) →
      (resolvePath lex s c2b raws).Agree (PathAgree m) (resolvePath lex s' c2b raws)
  | [], _ => .ok trivial
  | r :: rest, hd => by
    obtain ⟨hd0, hd'⟩ := List.forall_mem_cons.mp hd
    rw [resolvePath_cons, resolvePath_cons]
    exact (resolveNode_agree lex c2b s s' m hs hs' r hd0).bind fun _ _ hn =>
      (resolvePath_agree rest hd').bind fun _ _ hp => .ok ⟨hn, hp⟩

end

def directCore (v : Variant) (lex : Lex) (b2c c2b : List Nat) (s : Subset) (m : Mode) (raws : List RawNode) :
    Outcome (List (Nat × Nat × Nat × Nat × Nat)) :=
  coreOut (match resolvePath lex s c2b raws with
    | .ok p => splitPath ⟨v, lex, s, b2c, c2b⟩ m p
    | .err k => .err k
    | .panic w => .panic w)

theorem directCore_eq (v : Variant) (lex : Lex) (b2c c2b : List Nat) (s : Subset) (m : Mode) (raws : List RawNode) :
    directCore v lex b2c c2b s m raws =
      coreOut ((resolvePath lex s c2b raws).bind (splitPath ⟨v, lex, s, b2c, c2b⟩ m)) := by
  unfold directCore
  cases resolvePath lex s c2b raws <;> rfl

/-! ## `set_mode` does not re-normalise: the HEAD_WORD_LENGTH bit does not matter -/

theorem getWordInfoSubset_hwl_bit_irrelevant (lex : Lex) (id : Nat) (s1 s2 : Subset)
    (h : ∀ x, x ≠ HEAD_WORD_LENGTH → (x ∈ s1 ↔ x ∈ s2))
    (g : Nat) (hg : g ∈ s1) (hg0 : g ≠ SURFACE) (hg1 : g ≠ HEAD_WORD_LENGTH) :
    getWordInfoSubset lex id s1 = getWordInfoSubset lex id s2 := by
  unfold getWordInfoSubset
  simp only [readFields_hwl_bit_irrelevant s1 s2 h g hg hg0 hg1, h SPLIT_A (by decide), h SPLIT_B (by decide)]

section
variable (v : Variant) (lex : Lex) (b2c c2b : List Nat) (s1 s2 : Subset)
  (h : ∀ id, getWordInfoSubset lex id s1 = getWordInfoSubset lex id s2)
include h

/-- everything `split` and `resolve_best_path` do with the subset goes through `get_word_info_subset` -/
theorem splitGo_congr :
    ∀ (ws : List Nat) (co bo cend bend : Nat),
      splitGo ⟨v, lex, s1, b2c, c2b⟩ ws co bo cend bend = splitGo ⟨v, lex, s2, b2c, c2b⟩ ws co bo cend bend
  | [], _, _, _, _ => rfl
  | [wid], co, bo, cend, bend => by simp only [splitGo, h wid]
  | wid :: w2 :: rest, co, bo, cend, bend => by
    have hue : ∀ hwl, unitEnd ⟨v, lex, s1, b2c, c2b⟩ bo hwl bend = unitEnd ⟨v, lex, s2, b2c, c2b⟩ bo hwl bend :=
      fun _ => rfl
    simp only [splitGo, h wid, hue, splitGo_congr (w2 :: rest)]

theorem splitPath_congr (m : Mode) (p : List Node) :
    splitPath ⟨v, lex, s1, b2c, c2b⟩ m p = splitPath ⟨v, lex, s2, b2c, c2b⟩ m p := by
  rw [splitPath_eq_go, splitPath_eq_go]
  induction p with
  | nil => rfl
  | cons n r ih =>
    have he : expand ⟨v, lex, s1, b2c, c2b⟩ m n = expand ⟨v, lex, s2, b2c, c2b⟩ m n := by
      cases m <;> simp only [expand, split, splitGo_congr v lex b2c c2b s1 s2 h]
    rw [splitPathGo_cons, splitPathGo_cons, he, ih]

theorem resolvePath_congr (raws : List RawNode) :
    resolvePath lex s1 c2b raws = resolvePath lex s2 c2b raws := by
  induction raws with
  | nil => rfl
  | cons r rest ih => simp only [resolvePath, resolveNode, h r.wid, ih]

end

/-! ## the iterator (`d6fix`) is total: clause 1 without "if `split_path` returns" -/

/-- the range facts of a built buffer of `nb` bytes (C03 states the same as `Total.TablesRange`): `mod_b2c[i]` exists for every
`i ≤ nb` and is an index of `mod_c2b` -/
def TablesRange (b2c c2b : List Nat) (nb : Nat) : Prop :=
  ∀ i, i ≤ nb → ∃ c : Nat, b2c[i]? = some c ∧ ∃ b : Nat, c2b[c]? = some b

/-- `id` names an existing word of the lexicon set (dictionary id fits the 4 bits of a `WordId`) -/
def Resolves (lex : Lex) (id : Nat) : Prop :=
  dicOf id < 16 ∧ ∃ l e, lex[dicOf id]? = some l ∧ l[wordOf id]? = some e

/-- every stored reference names an existing word once re-stamped with its owner's dictionary id — what
`validate_entries` (builder) checks for every split of every row, for at most 15 user dictionaries -/
def LexClosed (lex : Lex) : Prop :=
  ∀ (d : Nat) (l : List Entry), d < 16 → lex[d]? = some l → ∀ e ∈ l, ∀ r ∈ e.a ++ e.b, Resolves lex (restamp d r)

def NodeOk (lex : Lex) (nb : Nat) (n : Node) : Prop :=
  n.be ≤ nb ∧ (∀ x ∈ n.info.a, Resolves lex x) ∧ (∀ x ∈ n.info.b, Resolves lex x)

theorem getWordInfoSubset_closed (lex : Lex) (hc : LexClosed lex) (id : Nat) (s : Subset) (h : Resolves lex id) :
    ∃ i, getWordInfoSubset lex id s = .ok i ∧ (∀ x ∈ i.a, Resolves lex x) ∧ (∀ x ∈ i.b, Resolves lex x) := by
  obtain ⟨hd, l, e, hl, he⟩ := h
  have hmem : ∀ (c : Prop) [Decidable c] (rs : List Nat), (∀ r ∈ rs, r ∈ e.a ++ e.b) →
      ∀ x ∈ (if c then rs.map (restamp (dicOf id)) else []), Resolves lex x := by
    intro c _ rs hrs x hx
    by_cases h : c
    · rw [if_pos h] at hx
      obtain ⟨r, hr, rfl⟩ := List.mem_map.mp hx
      exact hc _ l hd hl e (List.mem_of_getElem? he) r (hrs r hr)
    · rw [if_neg h] at hx; cases hx
  exact ⟨_, getWordInfoSubset_eq lex id s l e hd hl he, hmem _ _ fun _ => List.mem_append_left _,
    hmem _ _ fun _ => List.mem_append_right _⟩

section
variable (cx : Ctx) (hv : cx.v = Variant.d6fix) (hc : LexClosed cx.lex) (nb : Nat)
  (hr : TablesRange cx.b2c cx.c2b nb)
include hv hr

theorem unitEnd_d6fix_total (bend : Nat) (he : bend ≤ nb) (bo hwl : Nat) :
    ∃ ce be, unitEnd cx bo hwl bend = .ok (ce, be) := by
  obtain ⟨c, hc, b, hb⟩ := hr _ (Nat.le_trans (Nat.min_le_right (bo + hwl) bend) he)
  exact ⟨asU16 c, asU16 b, by simp only [unitEnd, hv, hc, hb]⟩

include hc

theorem splitGo_d6fix_total (cend bend : Nat) (he : bend ≤ nb) :
    ∀ (ws : List Nat) (co bo : Nat), (∀ x ∈ ws, Resolves cx.lex x) → ∃ us, splitGo cx ws co bo cend bend = .ok us
  | [], _, _, _ => ⟨[], rfl⟩
  | [wid], co, bo, hw => by
    obtain ⟨i, hi, _⟩ := getWordInfoSubset_closed cx.lex hc wid cx.s (hw wid List.mem_cons_self)
    simp only [splitGo, hi]
    exact ⟨_, rfl⟩
  | wid :: w2 :: rest, co, bo, hw => by
    obtain ⟨hw0, hw'⟩ := List.forall_mem_cons.mp hw
    obtain ⟨i, hi, _⟩ := getWordInfoSubset_closed cx.lex hc wid cx.s hw0
    obtain ⟨ce, be, hue⟩ := unitEnd_d6fix_total cx hv nb hr bend he bo i.hwl
    obtain ⟨us, hus⟩ := splitGo_d6fix_total cend bend he (w2 :: rest) ce be hw'
    simp only [splitGo, hi, hue, hus]
    exact ⟨_, rfl⟩

theorem splitPathGo_d6fix_total (m : Mode) :
    ∀ (p : List Node), (∀ n ∈ p, NodeOk cx.lex nb n) → ∃ out, splitPathGo cx m p = .ok out
  | [], _ => ⟨[], rfl⟩
  | n :: rest, hp => by
    obtain ⟨⟨hbe, ha, hb⟩, hp'⟩ := List.forall_mem_cons.mp hp
    obtain ⟨out, ho⟩ := splitPathGo_d6fix_total m rest hp'
    obtain ⟨us, hus⟩ : ∃ us, expand cx m n = .ok us := by
      unfold expand
      by_cases hle : numSplits n m ≤ 1
      · exact ⟨[n], if_pos hle⟩
      · rw [if_neg hle, split_eq_splitGo _ (by omega)]
        refine splitGo_d6fix_total cx hv hc nb hr n.ce n.be hbe _ _ _ ?_
        cases m
        · exact ha
        · exact hb
        · exact fun _ h => nomatch h
    exact ⟨us ++ out, by simp only [splitPathGo, hus, ho]⟩

end

def RawOk (lex : Lex) (c2b : List Nat) (nb : Nat) (r : RawNode) : Prop :=
  (∃ b, c2b[r.cb]? = some b) ∧ (∃ b, c2b[r.ce]? = some b ∧ asU16 b ≤ nb) ∧
    ((r.syn || isOov r.wid) = true ∨ Resolves lex r.wid)

theorem resolvePath_total (lex : Lex) (hc : LexClosed lex) (s : Subset) (c2b : List Nat) (nb : Nat) :
    ∀ (raws : List RawNode), (∀ r ∈ raws, RawOk lex c2b nb r) →
      ∃ p, resolvePath lex s c2b raws = .ok p ∧ (∀ n ∈ p, NodeOk lex nb n) ∧
        p.map (fun n => (n.cb, n.ce, n.wid)) = raws.map (fun r => (r.cb, r.ce, r.wid))
  | [], _ => ⟨[], rfl, fun _ h => (nomatch h), rfl⟩
  | r :: rest, hr => by
    obtain ⟨⟨⟨b1, h1⟩, ⟨b2, h2, h2'⟩, h3⟩, hr'⟩ := List.forall_mem_cons.mp hr
    obtain ⟨p, hp, hok, hm⟩ := resolvePath_total lex hc s c2b nb rest hr'
    obtain ⟨i, hi, ha, hb⟩ : ∃ i, nodeInfo lex s r = .ok i ∧
        (∀ x ∈ i.a, Resolves lex x) ∧ (∀ x ∈ i.b, Resolves lex x) := by
      unfold nodeInfo
      by_cases hsyn : (r.syn || isOov r.wid) = true
      · exact ⟨Info.empty, if_pos hsyn, fun _ h => (nomatch h), fun _ h => (nomatch h)⟩
      · rw [if_neg hsyn]
        exact getWordInfoSubset_closed lex hc r.wid s (h3.resolve_left hsyn)
    exact ⟨⟨r.cb, r.ce, asU16 b1, asU16 b2, r.wid, i⟩ :: p,
      by simp only [resolvePath_cons, resolveNode_eq, currByteIdx, hi, h1, h2, hp, Outcome.bind],
      List.forall_mem_cons.mpr ⟨⟨h2', ha, hb⟩, hok⟩, by rw [List.map_cons, List.map_cons, hm]⟩

/-! ## the two routes to the original text agree (`begin()`/`end()` vs `surface()`) -/

def OnChar (c2b : List Nat) (n : Node) : Prop := c2b[n.cb]? = some n.bb ∧ c2b[n.ce]? = some n.be

/-- all table entries fit 16 bits (texts are at most 49149 bytes when analysis starts, 65535 after
rewriting: `start_build`, `commit`) -/
def Small (t : List Nat) : Prop := ∀ x ∈ t, x < 65536

instance (t : List Nat) : Decidable (Small t) := by unfold Small; infer_instance

theorem small_get (t : List Nat) (h : Small t) (i x : Nat) (hx : t[i]? = some x) : asU16 x = x :=
  asU16_id x (h x (List.mem_of_getElem? hx))

section
variable (cx : Ctx) (hv : cx.v = Variant.d6fix) (hb : Small cx.b2c) (hc : Small cx.c2b)
include hv hb hc

theorem unitEnd_d6fix_onChar {bo hwl bend ce be : Nat} (h : unitEnd cx bo hwl bend = .ok (ce, be)) :
    cx.c2b[ce]? = some be := by
  simp only [unitEnd, hv] at h
  cases h1 : cx.b2c[min (bo + hwl) bend]? <;> simp only [h1] at h <;> try cases h
  rename_i charEnd
  cases h2 : cx.c2b[charEnd]? <;> simp only [h2] at h <;> cases h
  rw [small_get _ hb _ _ h1, small_get _ hc _ _ h2]
  exact h2

theorem splitGo_onChar (cend bend : Nat) (hend : cx.c2b[cend]? = some bend) :
    ∀ (ws : List Nat) (co bo : Nat) (us : List Node), cx.c2b[co]? = some bo →
      splitGo cx ws co bo cend bend = .ok us → ∀ u ∈ us, OnChar cx.c2b u
  | [], _, _, us, _, h => by simp only [splitGo] at h; cases h; exact fun _ h => nomatch h
  | [wid], co, bo, us, hco, h => by
    obtain ⟨info, _, rfl⟩ := splitGo_one_ok h
    exact List.forall_mem_singleton.mpr ⟨hco, hend⟩
  | wid :: w2 :: rest, co, bo, us, hco, h => by
    obtain ⟨info, ce, be, r, _, hue, hr, rfl⟩ := splitGo_more_ok h
    have hce := unitEnd_d6fix_onChar cx hv hb hc hue
    exact List.forall_mem_cons.mpr ⟨⟨hco, hce⟩, splitGo_onChar cend bend hend (w2 :: rest) ce be r hce hr⟩

end

theorem currByteIdx_small {c2b : List Nat} (hc : Small c2b) {i b : Nat} (h : currByteIdx c2b i = .ok b) :
    c2b[i]? = some b := by
  unfold currByteIdx at h
  cases hx : c2b[i]? <;> simp only [hx] at h <;> cases h
  exact congrArg some (small_get _ hc _ _ hx).symm

theorem resolveNode_onChar (lex : Lex) (s : Subset) (c2b : List Nat) (hc : Small c2b) (r : RawNode) (n : Node)
    (h : resolveNode lex s c2b r = .ok n) : OnChar c2b n := by
  obtain ⟨i, b1, b2, _, h1, h2, rfl⟩ := resolveNode_ok h
  exact ⟨currByteIdx_small hc h1, currByteIdx_small hc h2⟩

theorem resolvePath_onChar (lex : Lex) (s : Subset) (c2b : List Nat) (hc : Small c2b) :
    ∀ (raws : List RawNode) (p : List Node), resolvePath lex s c2b raws = .ok p → ∀ n ∈ p, OnChar c2b n
  | [], p, h => by simp only [resolvePath] at h; cases h; exact fun _ h => nomatch h
  | r :: rest, p, h => by
    rw [resolvePath_cons] at h
    obtain ⟨n, hn, h⟩ := Outcome.bind_eq_ok.mp h
    obtain ⟨ns, hns, h⟩ := Outcome.bind_eq_ok.mp h
    cases h
    exact List.forall_mem_cons.mpr ⟨resolveNode_onChar lex s c2b hc r _ hn, resolvePath_onChar lex s c2b hc rest ns hns⟩

theorem origIdx_eq_ok {c2b m2o : List Nat} {c o : Nat} :
    origIdx c2b m2o c = .ok o ↔ ∃ b, c2b[c]? = some b ∧ m2o[b]? = some o := by
  constructor
  · intro h
    unfold origIdx at h
    cases h1 : c2b[c]? <;> simp only [h1] at h <;> try cases h
    rename_i b
    cases h2 : m2o[b]? <;> simp only [h2] at h <;> cases h
    exact ⟨b, rfl, h2⟩
  · rintro ⟨b, h1, h2⟩
    simp only [origIdx, h1, h2]

theorem surfaceRange_ok (b2c c2b m2o : List Nat) (bb be ob oe : Nat)
    (h : surfaceRange b2c c2b m2o bb be = .ok (ob, oe)) : m2o[bb]? = some ob ∧ m2o[be]? = some oe := by
  unfold surfaceRange at h
  by_cases h1 : (!onBoundary b2c c2b bb) = true
  · rw [if_pos h1] at h; cases h
  by_cases h2 : (!onBoundary b2c c2b be) = true
  · rw [if_neg h1, if_pos h2] at h; cases h
  rw [if_neg h1, if_neg h2] at h
  cases hb : m2o[bb]? <;> cases he : m2o[be]? <;> simp only [hb, he] at h <;> try cases h
  rename_i x y
  by_cases hle : x ≤ y
  · rw [if_pos hle] at h; cases h; exact ⟨rfl, rfl⟩
  · rw [if_neg hle] at h; cases h

/-! ## ranges in the ORIGINAL text -/

def OrigMono (c2b m2o : List Nat) : Prop :=
  ∀ i j oi oj, i ≤ j → origIdx c2b m2o i = .ok oi → origIdx c2b m2o j = .ok oj → oi ≤ oj

/-- the original-text ranges `begin()..end()` of a chain of nodes: none ends before it begins, each begins
where the previous one ended, the first begins at `o`, the last ends at `o'` -/
def OrigLinked (c2b m2o : List Nat) : List Node → Nat → Nat → Prop
  | [], o, o' => o = o'
  | n :: r, o, o' => origIdx c2b m2o n.cb = .ok o ∧ ∃ oe, origIdx c2b m2o n.ce = .ok oe ∧ o ≤ oe ∧ OrigLinked c2b m2o r oe o'

theorem origLinked_of_linked (c2b m2o : List Nat) (hm : OrigMono c2b m2o) :
    ∀ (us : List Node) (c b c' b' : Nat) (o : Nat), Linked us c b c' b' → (∀ u ∈ us, u.cb ≤ u.ce ∧ u.bb ≤ u.be) →
      (∀ x, c ≤ x → x ≤ c' → ∃ y, origIdx c2b m2o x = .ok y) → origIdx c2b m2o c = .ok o →
      ∃ o', origIdx c2b m2o c' = .ok o' ∧ OrigLinked c2b m2o us o o'
  | [], c, b, c', b', o, ⟨hc, _⟩, _, _, ho => ⟨o, hc ▸ ho, rfl⟩
  | n :: r, c, b, c', b', o, ⟨hc, _, hr⟩, hf, hd, ho => by
    obtain ⟨⟨hfn, _⟩, hf'⟩ := List.forall_mem_cons.mp hf
    subst hc
    -- `begin()`/`end()` can panic (two index look-ups), so the unit's end needs `hd`: it lies between `c` and `c'`
    obtain ⟨oe, hoe⟩ := hd n.ce hfn (linked_cuts_mono r _ _ _ _ hr hf').2.2.2
    obtain ⟨o', ho', hlk⟩ := origLinked_of_linked c2b m2o hm r n.ce n.be c' b' oe hr hf'
      (fun x h1 h2 => hd x (Nat.le_trans hfn h1) h2) hoe
    exact ⟨o', ho', ho, oe, hoe, hm n.cb n.ce o oe hfn ho hoe, hlk⟩

theorem sorted_get {l : List Nat} (h : l.Pairwise (· ≤ ·)) {i j x y : Nat} (hij : i ≤ j)
    (hi : l[i]? = some x) (hj : l[j]? = some y) : x ≤ y := by
  rcases Nat.lt_or_eq_of_le hij with hlt | rfl
  · obtain ⟨hi', rfl⟩ := List.getElem?_eq_some_iff.mp hi
    obtain ⟨hj', rfl⟩ := List.getElem?_eq_some_iff.mp hj
    exact (List.pairwise_iff_getElem.mp h) i j hi' hj' hlt
  · rw [hi] at hj; cases hj; exact Nat.le_refl _

/-- non-decreasing `mod_c2b` (by construction) and `m2o` (C08 `offset map monotone`) give `OrigMono` -/
theorem origMono_of_sorted (c2b m2o : List Nat) (h1 : c2b.Pairwise (· ≤ ·)) (h2 : m2o.Pairwise (· ≤ ·)) :
    OrigMono c2b m2o := by
  intro i j oi oj hij hi hj
  obtain ⟨bi, ci, mi⟩ := origIdx_eq_ok.mp hi
  obtain ⟨bj, cj, mj⟩ := origIdx_eq_ok.mp hj
  exact sorted_get h2 (sorted_get h1 hij ci cj) mi mj

/-! ## nodes joined by the path-rewrite plugins (`concat_nodes`, `concat_oov_nodes`)

The plugins replace a run of nodes by ONE new node.  What the splitter sees of it is in `joinNodes`: the range of
the run, a synthetic word id, the summed key length and NO split units. -/

theorem sumHwl_eq : ∀ (ps : List Node) (acc h : Nat), sumHwl ps acc = .ok h → acc < 65536 →
    h = acc + (ps.map (·.info.hwl)).sum ∧ h < 65536
  | [], acc, h, hh, hacc => by
    cases hh
    exact ⟨rfl, hacc⟩
  | n :: rest, acc, h, hh, _ => by
    rw [sumHwl] at hh
    by_cases hov : acc + n.info.hwl ≥ 65536
    · rw [if_pos hov] at hh; cases hh
    · rw [if_neg hov] at hh
      obtain ⟨h1, h2⟩ := sumHwl_eq rest _ h hh (by omega)
      exact ⟨by rw [h1, List.map_cons, List.sum_cons, Nat.add_assoc], h2⟩

theorem joinNodes_ok (k : JoinKind) (parts : List Node) (j : Node) (h : joinNodes k parts = .ok j) :
    ∃ first rest last hw, parts = first :: rest ∧ parts.getLast? = some last ∧ sumHwl parts 0 = .ok hw ∧
      j = ⟨asU16 first.cb, asU16 last.ce, first.bb, last.be, joinWid k parts, ⟨hw, [], []⟩⟩ := by
  cases parts with
  | nil => cases h
  | cons first rest =>
    obtain ⟨last, hl⟩ : ∃ last, (first :: rest).getLast? = some last := ⟨_, rfl⟩
    simp only [joinNodes, hl] at h
    cases hs : sumHwl (first :: rest) 0 <;> simp only [hs] at h <;> cases h
    exact ⟨first, rest, last, _, rfl, hl, rfl, rfl⟩

end Split
