import Sudachi.Proofs.ParamsOutcome
/-!
# C20: the POS list

`handle_user_pos` either leaves the POS list alone or appends ONE entry at the end (`register_pos`
pushes), `read_oov` threads the list through its lines, `Plugins::load` threads it through the
providers, `Grammar::merge` appends the POS of the user dictionaries.  Hence the list only ever
grows at its end (`PosStep`): the ids of the dictionary's own POS never shift, an id handed to a
provider keeps denoting the POS it was resolved to (`ProvPos`, `ProvPos.mono`), and with
`userPOS: forbid` everywhere nothing is registered.  This file holds the lookup, `handle_user_pos`
and the two notions, and at its end the lookup without the arity guard, which is refuted; the walk over the
reader, the providers and the load is in Proofs/Params.lean.
-/
namespace Params
open Outcome

/-- every entry has `POS_DEPTH` components: what `Grammar::parse` delivers and `register_pos` keeps -/
def PosWF (pl : List Pos) : Prop := ∀ q ∈ pl, q.length = 6

/-! ## the lookup -/

theorem posMatch_iff_eq : ∀ (p q : Pos), p.length = q.length → (posMatch p q = true ↔ p = q)
  | [], [], _ => ⟨fun _ => rfl, fun _ => rfl⟩
  | [], _ :: _, h => nomatch h
  | _ :: _, [], h => nomatch h
  | a :: p, b :: q, h => by
    have ih := posMatch_iff_eq p q (Nat.succ.inj h)
    simp only [posMatch, List.zip_cons_cons, List.all_cons, Bool.and_eq_true, beq_iff_eq] at ih ⊢
    rw [ih, List.cons.injEq]

section
variable {pl pl' : List Pos} {p : Pos} {id : Nat} {mode : Mode}

/-- `getPosId` answers with the first entry that matches -/
theorem getPosId_some (h : getPosId pl p = some id) (hsz : pl.length ≤ 65536) :
    ∃ (hlt : id < pl.length), posMatch p pl[id] = true ∧
      ∀ j (hj : j < id), posMatch p (pl[j]'(Nat.lt_trans hj hlt)) = false := by
  unfold getPosId at h
  split at h
  · cases h
  · dsimp only at h
    split at h
    · rename_i hi
      obtain rfl : pl.findIdx (posMatch p) = id := by have := Option.some.inj h; omega
      exact ⟨hi, List.findIdx_getElem, fun j hj => by simpa using List.not_of_lt_findIdx hj⟩
    · cases h

theorem getPosId_none (h : getPosId pl p = none) (hlen : p.length = 6) :
    ∀ q ∈ pl, posMatch p q = false := by
  unfold getPosId at h
  rw [if_neg (by simp [hlen])] at h
  dsimp only at h
  split at h
  · cases h
  · exact List.findIdx_eq_length.mp (Nat.le_antisymm List.findIdx_le_length (by omega))

theorem getPosId_len (h : getPosId pl p = some id) : p.length = 6 := by
  unfold getPosId at h
  split at h
  · cases h
  · rename_i hlen; simpa using hlen

theorem getPosId_none_of_len {pl : List Pos} {p : Pos} (h : p.length ≠ 6) : getPosId pl p = none := by
  simp [getPosId, h]

theorem getPosId_getElem (hwf : PosWF pl) (hsz : pl.length ≤ 65536) (h : getPosId pl p = some id) :
    pl[id]? = some p := by
  obtain ⟨hlt, hm, _⟩ := getPosId_some h hsz
  rw [List.getElem?_eq_getElem hlt,
    (posMatch_iff_eq p pl[id] (by rw [getPosId_len h, hwf _ (List.getElem_mem hlt)])).mp hm]

theorem getPosId_mem (hwf : PosWF pl) (hsz : pl.length ≤ 65536) (h : getPosId pl p = some id) :
    p.length = 6 ∧ p ∈ pl :=
  ⟨getPosId_len h, List.mem_of_getElem? (getPosId_getElem hwf hsz h)⟩

theorem getPosId_of_mem {pl : List Pos} {p : Pos} (hlen : p.length = 6) (hmem : p ∈ pl) :
    ∃ id, getPosId pl p = some id := by
  cases hg : getPosId pl p with
  | some id => exact ⟨id, rfl⟩
  | none =>
    have := getPosId_none hg hlen p hmem
    rw [(posMatch_iff_eq p p rfl).mpr rfl] at this
    cases this

theorem getPosId_eq_none_iff (hwf : PosWF pl) (hsz : pl.length ≤ 65536) :
    getPosId pl p = none ↔ ¬ (p.length = 6 ∧ p ∈ pl) := by
  constructor
  · intro h ⟨hlen, hmem⟩
    obtain ⟨id, hid⟩ := getPosId_of_mem hlen hmem
    exact nomatch h.symm.trans hid
  · intro h
    cases hg : getPosId pl p with
    | none => rfl
    | some id => exact absurd (getPosId_mem hwf hsz hg) h

/-! ## `handle_user_pos` -/

/-- `handle_user_pos` with `register_pos` inlined -/
theorem handleUserPos_eq (pl : List Pos) (p : Pos) (mode : Mode) :
    handleUserPos pl p mode = match getPosId pl p with
      | some id => ok (pl, id)
      | none =>
        if mode = .allow ∧ p.length = 6 ∧ pl.length ≤ 65535 then ok (pl ++ [p], pl.length) else err .pos := by
  unfold handleUserPos
  cases hg : getPosId pl p with
  | some id => rfl
  | none =>
    cases mode with
    | forbid => exact (if_neg fun h => nomatch h.1).symm
    | allow =>
      by_cases hlen : p.length = 6
      · by_cases hsz : pl.length ≤ 65535
        · simp [registerPos, hg, hlen, hsz, Nat.not_lt.mpr hsz, Nat.mod_eq_of_lt (Nat.lt_succ_of_le hsz)]
        · simp [registerPos, hg, hlen, hsz, Nat.not_le.mp hsz]
      · simp [registerPos, hlen]

theorem handleUserPos_cases {pl pl' : List Pos} {p : Pos} {mode : Mode} {id : Nat}
    (h : handleUserPos pl p mode = ok (pl', id)) :
    p.length = 6 ∧
    ((pl' = pl ∧ getPosId pl p = some id) ∨
     (mode = .allow ∧ pl' = pl ++ [p] ∧ getPosId pl p = none ∧ pl.length ≤ 65535 ∧ id = pl.length)) := by
  rw [handleUserPos_eq] at h
  cases hg : getPosId pl p <;> rw [hg] at h
  · dsimp only at h
    split at h
    · rename_i hc
      cases h
      exact ⟨hc.2.1, Or.inr ⟨hc.1, rfl, rfl, hc.2.2, rfl⟩⟩
    · cases h
  · cases h
    exact ⟨getPosId_len hg, Or.inl ⟨rfl, rfl⟩⟩

theorem handleUserPos_of_length_ne (pl : List Pos) (hp : p.length ≠ 6) (mode : Mode) :
    handleUserPos pl p mode = err .pos := by
  rw [handleUserPos_eq, getPosId_none_of_len hp]
  exact if_neg fun hc => hp hc.2.1

theorem handleUserPos_isOk (hwf : PosWF pl) (hsz : pl.length ≤ 65536) :
    (∃ r, handleUserPos pl p mode = ok r) ↔ p.length = 6 ∧ (p ∈ pl ∨ mode = .allow ∧ pl.length ≤ 65535) := by
  rw [handleUserPos_eq]
  cases hg : getPosId pl p with
  | some id =>
    have hin := getPosId_mem hwf hsz hg
    exact ⟨fun _ => ⟨hin.1, Or.inl hin.2⟩, fun _ => ⟨_, rfl⟩⟩
  | none =>
    have hout := (getPosId_eq_none_iff hwf hsz).mp hg
    dsimp only
    by_cases hc : mode = .allow ∧ p.length = 6 ∧ pl.length ≤ 65535
    · rw [if_pos hc]
      exact ⟨fun _ => ⟨hc.2.1, Or.inr ⟨hc.1, hc.2.2⟩⟩, fun _ => ⟨_, rfl⟩⟩
    · rw [if_neg hc]
      exact ⟨fun ⟨_, h⟩ => (nomatch h), fun ⟨h6, h⟩ =>
        h.elim (fun hm => absurd ⟨h6, hm⟩ hout) fun ha => absurd ⟨ha.1, h6, ha.2⟩ hc⟩

end

/-! ## `PosStep`: the list grows at its end only -/

/-- the POS list before (`pl`) and after (`pl'`) any number of calls of `handle_user_pos` (one call, one line, one
provider, a whole load: the relation is reflexive and transitive): it grows at the end only, stays well formed and addressable by `u16`,
and does not change at all unless user-defined POS are allowed -/
structure PosStep (allow : Bool) (pl pl' : List Pos) : Prop where
  ext : ∃ e, pl' = pl ++ e ∧ ∀ q ∈ e, q.length = 6
  sz : pl.length ≤ 65536 → pl'.length ≤ 65536
  forbid : allow = false → pl' = pl

theorem PosStep.pre {a : Bool} {pl pl' : List Pos} (h : PosStep a pl pl') : pl <+: pl' := by
  obtain ⟨e, he, _⟩ := h.ext
  exact ⟨e, he.symm⟩

theorem PosStep.wf {a : Bool} {pl pl' : List Pos} (h : PosStep a pl pl') : PosWF pl → PosWF pl' := by
  obtain ⟨e, rfl, hw⟩ := h.ext
  exact fun hwf => List.forall_mem_append.mpr ⟨hwf, hw⟩

theorem PosStep.refl (a : Bool) (pl : List Pos) : PosStep a pl pl :=
  ⟨⟨[], (List.append_nil _).symm, fun _ hq => nomatch hq⟩, id, fun _ => rfl⟩

theorem PosStep.trans {a b : Bool} {p1 p2 p3 : List Pos} (h1 : PosStep a p1 p2) (h2 : PosStep b p2 p3) :
    PosStep (a || b) p1 p3 := by
  obtain ⟨e1, he1, hw1⟩ := h1.ext
  obtain ⟨e2, he2, hw2⟩ := h2.ext
  refine ⟨⟨e1 ++ e2, by rw [he2, he1, List.append_assoc], List.forall_mem_append.mpr ⟨hw1, hw2⟩⟩,
    fun h => h2.sz (h1.sz h), fun h => ?_⟩
  rw [Bool.or_eq_false_iff] at h
  rw [h2.forbid h.2, h1.forbid h.1]

def Mode.allows : Mode → Bool
  | .allow => true
  | .forbid => false

theorem handleUserPos_post {pl : List Pos} {p : Pos} {mode : Mode} :
    (handleUserPos pl p mode).Post fun q => PosStep mode.allows pl q.1 ∧
      (PosWF pl → pl.length ≤ 65536 → q.1[q.2]? = some p) ∧ p.length = 6 := by
  rw [handleUserPos_eq]
  cases hg : getPosId pl p with
  | some id => exact Post.ok ⟨PosStep.refl _ _, fun hwf hsz => getPosId_getElem hwf hsz hg, getPosId_len hg⟩
  | none =>
    refine Post.ite (fun hc => Post.ok ⟨⟨⟨[p], rfl, List.forall_mem_singleton.mpr hc.2.1⟩, fun _ => ?_, fun hf => ?_⟩,
      fun _ _ => List.getElem?_concat_length, hc.2.1⟩) fun _ => Post.err
    · rw [List.length_append, List.length_singleton]; omega
    · rw [hc.1] at hf; cases hf

/-! ## providers -/

def ProvCfg.allows : ProvCfg → Bool
  | .simple _ _ _ _ m => m.allows
  | .regex _ _ _ _ m => m.allows
  | .mecab _ m => m.allows

/-- the POS ids of a loaded provider index `pl`; for Simple/Regex the entry is the configured POS -/
def ProvPos (pl : List Pos) (c : ProvCfg) (p : Prov) : Prop :=
  (∀ e ∈ provNodes p, e.p < pl.length) ∧
  match c, p with
  | .simple pos _ _ _ _, .simple e => pl[e.p]? = some pos
  | .regex pos _ _ _ _, .regex e => pl[e.p]? = some pos
  | .mecab _ _, .mecab _ => True
  | _, _ => False

theorem getElem?_of_prefix {α : Type} {l l' : List α} (h : l <+: l') {i : Nat} {x : α} (hx : l[i]? = some x) :
    l'[i]? = some x := by
  obtain ⟨hi, rfl⟩ := List.getElem?_eq_some_iff.mp hx
  exact List.prefix_iff_getElem?.mp h i hi

theorem ProvPos.mono {pl pl' : List Pos} {c : ProvCfg} {p : Prov} (hpre : pl <+: pl') (h : ProvPos pl c p) :
    ProvPos pl' c p := by
  refine ⟨fun e he => Nat.lt_of_lt_of_le (h.1 e he) hpre.length_le, ?_⟩
  have h2 := h.2
  -- a matching pair: the entry found stays where it is in a longer list; mecab: `True`; a mismatched pair: `False`
  cases c <;> cases p <;> first | exact getElem?_of_prefix hpre h2 | exact h2

theorem ProvPos.mem {pl : List Pos} {c : ProvCfg} {p : Prov} (h : ProvPos pl c p) {pos : Pos} {l r k : Int} {mode : Mode}
    (hc : c = .simple pos l r k mode ∨ c = .regex pos l r k mode) : pos ∈ pl := by
  have h2 := h.2
  rcases hc with rfl | rfl <;> cases p <;> first | exact List.mem_of_getElem? h2 | exact h2.elim

/-! ## the lookup without the arity guard (the change /verif/seeded/C20c makes) -/

theorem posMatch_of_prefix : ∀ {p q : Pos}, p <+: q → posMatch p q = true
  | [], q, _ => rfl
  | a :: p, [], h => nomatch h.length_le
  | a :: p, b :: q, h => by
    obtain ⟨rfl, hpq⟩ := List.cons_prefix_cons.mp h
    have ih := posMatch_of_prefix hpq
    simp only [posMatch, List.zip_cons_cons, List.all_cons, Bool.and_eq_true, beq_iff_eq] at ih ⊢
    exact ⟨trivial, ih⟩

theorem getPosIdU_of_prefix {pl : List Pos} {p q : Pos} (hq : q ∈ pl) (hp : p <+: q) :
    ∃ id, getPosIdU pl p = some id := by
  unfold getPosIdU
  exact ⟨_, if_pos (List.findIdx_lt_length_of_exists ⟨q, hq, posMatch_of_prefix hp⟩)⟩

end Params
