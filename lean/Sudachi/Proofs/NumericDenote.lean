import Sudachi.Proofs.NumericValue
/-!
# Denotation of the numeral AST and of the normal form (C15)

* the digits of a numeral are ASCII digits (`numeralPN_digits`), so the forward simulation holds on
  `Numeral.Fits` (`parse_render_canon`) and the repaired parser is characterised (`parse_iff_render_canon`);
* values: `Dec` = `m / 10^k` on `Nat`; `PN.val`; `Numeral.value` (sum of coefficient × unit);
  `join`/`shift` are sum and multiplication by a power of ten (`val_join`, `val_shift`), hence the
  positional number of a well-formed numeral denotes its value (`numeralPN_value`);
* the normal form read back as a decimal (`decimalOf`) is that value (`canon_value`);
* the shape of the normal form, and the numerals without units: a written number alone (`parse_run`, from
  which the plain-digit, grouped and decimal cases of the property follow).
-/
namespace Numeric

/-! ## the digits of a numeral -/

/-- ASCII digits only -/
def Digits (l : List Char) : Prop := ∀ c ∈ l, ∃ d : Fin 10, c = SN.digitChar d.val

theorem digit_ne_point (c : Char) (h : ∃ d : Fin 10, c = SN.digitChar d.val) : c ≠ '.' := by
  obtain ⟨d, rfl⟩ := h
  revert d
  decide

theorem digits_append (a b : List Char) (ha : Digits a) (hb : Digits b) : Digits (a ++ b) := by
  intro c hc
  rcases List.mem_append.1 hc with h | h
  · exact ha c h
  · exact hb c h

theorem digits_canon (ds : List Dg) : Digits (canonDigits ds) := by
  intro c hc
  simp only [canonDigits, List.mem_map] at hc
  obtain ⟨g, _, rfl⟩ := hc
  exact ⟨g.d, rfl⟩

theorem digits_zeros (n : Nat) : Digits (List.replicate n '0') := by
  intro c hc
  rw [List.mem_replicate] at hc
  exact ⟨0, by rw [hc.2]; rfl⟩

theorem digits_run (r : Run) : Digits (runPN r).ds :=
  digits_append _ _ (digits_canon _) (digits_canon _)

theorem digits_term (c : Option Run) (e : Nat) : Digits (termPN c e).ds := by
  cases c with
  | none =>
    intro c hc
    simp only [termPN, List.mem_singleton] at hc
    exact ⟨1, by rw [hc]; rfl⟩
  | some r => exact digits_run r

theorem digits_joinO (o : Option PN) (y : PN) (ho : ∀ x, o = some x → Digits x.ds) (hy : Digits y.ds) :
    Digits (joinO o y).ds := by
  cases o with
  | none => exact hy
  | some x => exact digits_append _ _ (digits_append _ _ (ho x rfl) (digits_zeros _)) hy

theorem digits_joinList (o : Option PN) (ys : List PN) (ho : ∀ x, o = some x → Digits x.ds)
    (hy : ∀ y ∈ ys, Digits y.ds) : ∀ w, joinList o ys = some w → Digits w.ds := by
  induction ys generalizing o with
  | nil => intro w hw; exact ho w hw
  | cons y ys ih =>
    intro w hw
    rw [joinList_cons] at hw
    refine ih (some (joinO o y)) ?_ (fun z hz => hy z (by simp [hz])) w hw
    intro x hx
    cases hx
    exact digits_joinO o y ho (hy y (by simp))

theorem digits_group (g : Group) : ∀ w, groupPN g = some w → Digits w.ds := by
  apply digits_joinList
  · intro x hx; cases hx
  · intro y hy
    simp only [groupList, List.mem_append, smallsPN, List.mem_map] at hy
    rcases hy with ⟨t, _, rfl⟩ | hy
    · exact digits_term _ _
    · cases hl : g.last with
      | none => rw [hl] at hy; simp at hy
      | some r =>
        rw [hl] at hy
        simp only [Option.map_some, Option.toList, List.mem_singleton] at hy
        rw [hy]; exact digits_run r

theorem numeralPN_digits (a : Numeral) : ∀ x, numeralPN a = some x → Digits x.ds := by
  intro x hx
  have hL : ∀ w, joinList none (largesPN a.larges) = some w → Digits w.ds := by
    apply digits_joinList
    · intro x hx; cases hx
    · intro y hy
      simp only [largesPN, List.mem_filterMap] at hy
      obtain ⟨t, _, ht⟩ := hy
      cases hg : groupPN t.1 with
      | none => rw [hg] at ht; cases ht
      | some z =>
        rw [hg] at ht
        simp only [Option.map_some, Option.some.injEq] at ht
        rw [← ht]
        exact digits_group t.1 z hg
  unfold numeralPN at hx
  cases hg : groupPN a.rest with
  | none => rw [hg] at hx; exact hL x hx
  | some y =>
    rw [hg] at hx
    simp only [joinOO, Option.some.injEq] at hx
    rw [← hx]
    exact digits_joinO _ y hL (digits_group a.rest y hg)

/-! ## the forward simulation on `Numeral.Fits`; the repaired parser in one statement -/

theorem parse_render_canon (v : Variant) (a : Numeral) (hw : a.WF) (hf : a.Fits) :
    parse v (render a) = some (canon v a) :=
  parse_render_pn v a hw ((fitsPN_iff a).2 hf)
    (fun x hx c hc => digit_ne_point c (numeralPN_digits a x hx c hc))

/-- what the parser with the repairs F1–F4 reads to the end (every character accepted, `done()`) is the
rendering of a well-formed numeral whose terms fit, and `parse` answers the `canon` of that numeral -/
theorem canon_of_feed_done (v : Variant) (h1 : v.f1 = true) (h2 : v.f2 = true) (h3 : v.f3 = true) (h4 : v.f4 = true)
    (text : List Char) (q : Parser) (hf : Parser.new.run v text = some q) (hd : (q.done v).1 = true) :
    ∃ a : Numeral, a.WF ∧ a.Fits ∧ render a = text ∧ parse v text = some (canon v a) := by
  obtain ⟨a, hw, hfit, rfl⟩ := wellformed_of_feed_done v h1 h2 h3 h4 text q hf hd
  exact ⟨a, hw, hfit, rfl, parse_render_canon v a hw hfit⟩

/-- **the language and the normal form of the repaired parser in one statement**: `parse` answers `s`
exactly when the text is the rendering of a well-formed numeral whose terms fit and `s` is its `canon` -/
theorem parse_iff_render_canon (v : Variant) (h1 : v.f1 = true) (h2 : v.f2 = true) (h3 : v.f3 = true) (h4 : v.f4 = true)
    (text s : List Char) :
    parse v text = some s ↔ ∃ a : Numeral, a.WF ∧ a.Fits ∧ render a = text ∧ s = canon v a := by
  constructor
  · intro h
    obtain ⟨q, hf, hd, -, -⟩ := parse_some v text s h
    obtain ⟨a, hw, hfit, hr, hp⟩ := canon_of_feed_done v h1 h2 h3 h4 text q hf hd
    exact ⟨a, hw, hfit, hr, Option.some.inj (h.symm.trans hp)⟩
  · rintro ⟨a, hw, hf, rfl, rfl⟩
    exact parse_render_canon v a hw hf

/-! ## decimals `m / 10^k`; the value of a positional number -/

/-- a non-negative decimal `m / 10^k` -/
structure Dec where
  m : Nat
  k : Nat
deriving DecidableEq, Repr

def Dec.eqv (a b : Dec) : Prop := a.m * 10 ^ b.k = b.m * 10 ^ a.k
def Dec.add (a b : Dec) : Dec := ⟨a.m * 10 ^ b.k + b.m * 10 ^ a.k, a.k + b.k⟩
def Dec.shl (a : Dec) (e : Nat) : Dec := ⟨a.m * 10 ^ e, a.k⟩
def Dec.zero : Dec := ⟨0, 0⟩

theorem Dec.eqv_refl (a : Dec) : a.eqv a := rfl
theorem Dec.eqv_of_eq {a b : Dec} (h : a = b) : a.eqv b := by rw [h]; rfl
theorem Dec.eqv_symm {a b : Dec} (h : a.eqv b) : b.eqv a := Eq.symm h
theorem Dec.eqv_trans {a b c : Dec} (h1 : a.eqv b) (h2 : b.eqv c) : a.eqv c := by
  unfold Dec.eqv at *
  -- cancel `10 ^ b.k`: both sides are products of `h1` and `h2` up to the order of the factors
  apply Nat.eq_of_mul_eq_mul_right (Nat.pow_pos (by decide : 0 < 10) (n := b.k))
  grind

theorem Dec.add_congr {a a' b b' : Dec} (h1 : a.eqv a') (h2 : b.eqv b') : (a.add b).eqv (a'.add b') := by
  unfold Dec.eqv Dec.add at *
  simp only [Nat.pow_add]
  grind

theorem Dec.shl_congr {a a' : Dec} (e : Nat) (h : a.eqv a') : (a.shl e).eqv (a'.shl e) := by
  unfold Dec.eqv Dec.shl at *
  simp only
  grind

theorem Dec.zero_add (a : Dec) : a.eqv (Dec.zero.add a) := by
  unfold Dec.eqv Dec.add Dec.zero
  simp

theorem Dec.add_zero (a : Dec) : a.eqv (a.add Dec.zero) := by
  unfold Dec.eqv Dec.add Dec.zero
  simp

/-- the number written by a string of ASCII digits -/
def natOf (l : List Char) : Nat := l.foldl (fun n c => 10 * n + (c.toNat - 48)) 0

theorem foldl_digits (b : List Char) (n : Nat) :
    b.foldl (fun n c => 10 * n + (c.toNat - 48)) n = n * 10 ^ b.length + natOf b := by
  induction b generalizing n with
  | nil => simp [natOf]
  | cons c b ih =>
    simp only [List.foldl_cons, List.length_cons, natOf]
    rw [ih, ih (10 * 0 + (c.toNat - 48))]
    simp only [Nat.pow_succ]
    grind

theorem natOf_append (a b : List Char) : natOf (a ++ b) = natOf a * 10 ^ b.length + natOf b := by
  unfold natOf
  rw [List.foldl_append, foldl_digits]
  rfl

theorem natOf_zeros (n : Nat) : natOf (List.replicate n '0') = 0 := by
  induction n with
  | zero => rfl
  | succ n ih =>
    rw [List.replicate_succ, show ('0' :: List.replicate n '0') = ['0'] ++ List.replicate n '0' from rfl,
      natOf_append, ih]
    have : natOf ['0'] = 0 := by decide
    simp [this]

/-- the value of a positional number: digits × 10^exponent -/
def PN.val (x : PN) : Dec := ⟨natOf x.ds * 10 ^ x.ex.toNat, (-x.ex).toNat⟩

theorem mul_pow2 (N A B : Nat) : N * 10 ^ A * 10 ^ B = N * 10 ^ (A + B) := by
  rw [Nat.mul_assoc, ← Nat.pow_add]

theorem val_shift (x : PN) (e : Nat) : (x.shift e).val.eqv (x.val.shl e) := by
  unfold Dec.eqv PN.val Dec.shl PN.shift
  simp only
  rw [mul_pow2, mul_pow2, mul_pow2]
  congr 2
  have hx := Int.toNat_sub_toNat_neg x.ex
  have hs := Int.toNat_sub_toNat_neg (x.ex + e)
  generalize x.ex.toNat = a, (-x.ex).toNat = b at hx ⊢
  generalize (x.ex + (e : Int)).toNat = c, (-(x.ex + (e : Int))).toNat = d at hs ⊢
  omega

/-- **denotation of `add`** (second number fitting below the first): the sum -/
theorem val_join (x y : PN) (h : y.hi ≤ x.ex) : (x.join y).val.eqv (x.val.add y.val) := by
  have hlen : natOf (x.join y).ds = natOf x.ds * 10 ^ (x.ex - y.ex).toNat + natOf y.ds := by
    simp only [PN.join]
    rw [natOf_append, natOf_append, natOf_zeros, Nat.add_zero, mul_pow2]
    congr 3
    simp only [List.length_replicate, PN.hi] at h ⊢
    omega
  have hp : 10 ^ (x.ex - y.ex).toNat * 10 ^ y.ex.toNat * 10 ^ (-x.ex).toNat = 10 ^ x.ex.toNat * 10 ^ (-y.ex).toNat := by
    rw [← Nat.pow_add, ← Nat.pow_add, ← Nat.pow_add]
    congr 1
    simp only [PN.hi] at h
    -- every exponent is the difference of its positive and its negative part: linear without `toNat`
    have hx := Int.toNat_sub_toNat_neg x.ex
    have hy := Int.toNat_sub_toNat_neg y.ex
    have hd : ((x.ex - y.ex).toNat : Int) = x.ex - y.ex := Int.toNat_of_nonneg (by omega)
    generalize (x.ex - y.ex).toNat = d at hd ⊢
    generalize x.ex.toNat = a, (-x.ex).toNat = b at hx ⊢
    generalize y.ex.toNat = c, (-y.ex).toNat = e at hy ⊢
    omega
  unfold Dec.eqv PN.val Dec.add
  simp only
  rw [hlen, show (x.join y).ex = y.ex from rfl]
  simp only [Nat.pow_add]
  clear hlen h
  generalize natOf x.ds = X
  generalize natOf y.ds = Y
  generalize 10 ^ (x.ex - y.ex).toNat = D at hp ⊢
  generalize 10 ^ y.ex.toNat = A at hp ⊢
  generalize 10 ^ (-x.ex).toNat = B at hp ⊢
  generalize 10 ^ x.ex.toNat = C at hp ⊢
  generalize 10 ^ (-y.ex).toNat = E at hp ⊢
  -- a polynomial identity in the generalised powers, given `hp : D * A * B = C * E`
  grind

/-! ## the value of the numeral AST -/

def digitsVal (ds : List Dg) : Nat := ds.foldl (fun n g => 10 * n + g.d.val) 0
/-- a written number: all its digits read as one integer, divided by `10^(fraction digits)` -/
def Run.value (r : Run) : Dec := ⟨digitsVal (r.int.g1 ++ r.int.gs.flatten ++ r.frac), r.frac.length⟩
/-- a unit without coefficient counts as `1` -/
def coefValue : Option Run → Dec
  | none => ⟨1, 0⟩
  | some r => r.value
def termValue (t : Option Run × SmallU) : Dec := (coefValue t.1).shl t.2.exp
def lastValue : Option Run → Dec
  | none => Dec.zero
  | some r => r.value
/-- the sum of the small-unit terms and of the plain number -/
def Group.value (g : Group) : Dec :=
  (g.smalls.foldl (fun acc t => acc.add (termValue t)) Dec.zero).add (lastValue g.last)
/-- **the value of a numeral**: the sum of its groups, each multiplied by its large unit -/
def Numeral.value (a : Numeral) : Dec :=
  (a.larges.foldl (fun acc t => acc.add (t.1.value.shl t.2.exp)) Dec.zero).add a.rest.value

theorem ascii_val (g : Dg) : g.ascii.toNat - 48 = g.d.val := by
  cases g with
  | mk k d => revert k d; decide +kernel

theorem natOf_canon (ds : List Dg) : natOf (canonDigits ds) = digitsVal ds := by
  unfold natOf canonDigits digitsVal
  rw [List.foldl_map]
  simp only [ascii_val]

theorem run_val (r : Run) : (runPN r).val = r.value := by
  have h1 : (-(r.frac.length : Int)).toNat = 0 := by omega
  have h2 : (-(-(r.frac.length : Int))).toNat = r.frac.length := by omega
  have h3 : canonInt r.int ++ canonDigits r.frac = canonDigits (r.int.g1 ++ r.int.gs.flatten ++ r.frac) := by
    simp [canonInt, canonDigits]
  simp only [PN.val, runPN, h1, h2, h3, natOf_canon, Run.value, Nat.pow_zero, Nat.mul_one]

theorem term_val (c : Option Run) (e : Nat) : (termPN c e).val.eqv ((coefValue c).shl e) := by
  cases c with
  | none =>
    apply Dec.eqv_of_eq
    have h1 : natOf ['1'] = 1 := by decide
    have h2 : (-(e : Int)).toNat = 0 := by omega
    simp only [termPN, PN.val, coefValue, Dec.shl, h1, h2, Int.toNat_natCast]
  | some r =>
    exact Dec.eqv_trans (val_shift (runPN r) e) (Dec.shl_congr e (Dec.eqv_of_eq (run_val r)))

def valO : Option PN → Dec
  | none => Dec.zero
  | some x => x.val

theorem joinO_val (o : Option PN) (y : PN) (h : FitO o y) : (joinO o y).val.eqv ((valO o).add y.val) := by
  cases o with
  | none => exact Dec.zero_add y.val
  | some x => exact val_join x y (h x rfl)

theorem sum_congr {α : Type} (l : List α) (f g : α → Dec) (a b : Dec) (h : a.eqv b)
    (hfg : ∀ t ∈ l, (f t).eqv (g t)) :
    (l.foldl (fun acc t => acc.add (f t)) a).eqv (l.foldl (fun acc t => acc.add (g t)) b) := by
  induction l generalizing a b with
  | nil => exact h
  | cons t l ih =>
    simp only [List.foldl_cons]
    exact ih _ _ (Dec.add_congr h (hfg t (by simp))) (fun u hu => hfg u (by simp [hu]))

theorem joinList_val (o : Option PN) (ys : List PN) (hf : FitL o ys) :
    (valO (joinList o ys)).eqv (ys.foldl (fun acc y => acc.add y.val) (valO o)) := by
  induction ys generalizing o with
  | nil => exact Dec.eqv_refl _
  | cons y ys ih =>
    rw [joinList_cons]
    simp only [List.foldl_cons]
    exact Dec.eqv_trans (ih _ hf.2) (sum_congr ys PN.val PN.val _ _ (joinO_val o y hf.1) (fun _ _ => Dec.eqv_refl _))

theorem group_val (g : Group) (hf : FitL none (groupList g)) : (valO (groupPN g)).eqv g.value := by
  have h := joinList_val none (groupList g) hf
  simp only [groupList, List.foldl_append, smallsPN, List.foldl_map] at h
  refine Dec.eqv_trans h ?_
  have hs := sum_congr g.smalls (fun t => (termPN t.1 t.2.exp).val) termValue (valO none) Dec.zero (Dec.eqv_refl _)
    (fun t _ => term_val t.1 t.2.exp)
  unfold Group.value
  cases g.last with
  | none =>
    simp only [Option.map_none, Option.toList, List.foldl_nil, lastValue]
    exact Dec.eqv_trans hs (Dec.add_zero _)
  | some r =>
    simp only [Option.map_some, Option.toList, List.foldl_cons, List.foldl_nil, lastValue]
    exact Dec.add_congr hs (Dec.eqv_of_eq (run_val r))

theorem larges_val (L : List (Group × LargeU)) (hne : ∀ t ∈ L, t.1.Nonempty)
    (hfg : ∀ t ∈ L, FitL none (groupList t.1)) (o : Option PN) (hf : FitL o (largesPN L)) (acc : Dec)
    (h : (valO o).eqv acc) :
    (valO (joinList o (largesPN L))).eqv (L.foldl (fun acc t => acc.add (t.1.value.shl t.2.exp)) acc) := by
  induction L generalizing o acc with
  | nil => exact h
  | cons t L ih =>
    obtain ⟨g, U⟩ := t
    obtain ⟨x, hx⟩ := groupPN_some g (hne (g, U) (by simp))
    have hlp : largesPN ((g, U) :: L) = x.shift U.exp :: largesPN L := by simp [largesPN, hx]
    rw [hlp] at hf ⊢
    rw [joinList_cons]
    simp only [List.foldl_cons]
    apply ih (fun t ht => hne t (by simp [ht])) (fun t ht => hfg t (by simp [ht])) _ hf.2
    have hg := group_val g (hfg (g, U) (by simp))
    rw [hx] at hg
    exact Dec.eqv_trans (joinO_val o _ hf.1)
      (Dec.add_congr h (Dec.eqv_trans (val_shift x U.exp) (Dec.shl_congr U.exp hg)))

theorem numeralPN_value (a : Numeral) (hw : a.WF) (hf : a.Fits) : (valO (numeralPN a)).eqv a.value := by
  have hp := (fitsPN_iff a).2 hf
  obtain ⟨f1, f2⟩ := (fitL_append none _ _).1 hp.chain
  have hL := larges_val a.larges (fun t ht => (hw.1 t ht).2) hp.larges none f1 Dec.zero (Dec.eqv_refl _)
  have hR := group_val a.rest hp.rest
  unfold numeralPN Numeral.value
  cases hg : groupPN a.rest with
  | none =>
    rw [hg] at hR
    exact Dec.eqv_trans hL (Dec.eqv_trans (Dec.add_zero _) (Dec.add_congr (Dec.eqv_refl _) hR))
  | some y =>
    rw [hg] at hR f2
    simp only [Option.toList, FitL] at f2
    exact Dec.eqv_trans (joinO_val _ y f2.1) (Dec.add_congr hL hR)

/-! ## reading the normal form back -/

/-- the decimal a string denotes: the digits before and after its first point -/
def decimalOf (s : List Char) : Dec :=
  ⟨natOf (s.takeWhile (· != '.') ++ (s.dropWhile (· != '.')).drop 1), ((s.dropWhile (· != '.')).drop 1).length⟩

theorem takeWhile_nopt (a : List Char) (ha : ∀ c ∈ a, c ≠ '.') (rest : List Char) :
    (a ++ rest).takeWhile (· != '.') = a ++ rest.takeWhile (· != '.') ∧
    (a ++ rest).dropWhile (· != '.') = rest.dropWhile (· != '.') := by
  induction a with
  | nil => exact ⟨rfl, rfl⟩
  | cons c a ih =>
    have hc : (c != '.') = true := by simpa using ha c (by simp)
    obtain ⟨i1, i2⟩ := ih (fun x hx => ha x (by simp [hx]))
    constructor
    · simp only [List.cons_append, List.takeWhile_cons, hc, if_true, i1]
    · simp only [List.cons_append, List.dropWhile_cons, hc, if_true, i2]

theorem decimalOf_nopt (a : List Char) (ha : ∀ c ∈ a, c ≠ '.') : decimalOf a = ⟨natOf a, 0⟩ := by
  obtain ⟨h1, h2⟩ := takeWhile_nopt a ha []
  simp only [List.append_nil, List.takeWhile_nil, List.dropWhile_nil] at h1 h2
  simp [decimalOf, h1, h2]

theorem decimalOf_pt (a b : List Char) (ha : ∀ c ∈ a, c ≠ '.') :
    decimalOf (a ++ '.' :: b) = ⟨natOf (a ++ b), b.length⟩ := by
  obtain ⟨h1, h2⟩ := takeWhile_nopt a ha ('.' :: b)
  simp [decimalOf, h1, h2]

theorem decimalOf_zeros (n : Nat) (t : List Char) : decimalOf (List.replicate n '0' ++ t) = decimalOf t := by
  obtain ⟨h1, h2⟩ := takeWhile_nopt (List.replicate n '0')
    (by intro c hc; rw [(List.mem_replicate.1 hc).2]; decide) t
  simp only [decimalOf, h1, h2, List.append_assoc]
  rw [natOf_append (List.replicate n '0'), natOf_zeros]
  simp

theorem takeWhile_zeros (s : List Char) : s.takeWhile (· == '0') = List.replicate (s.takeWhile (· == '0')).length '0' := by
  rw [List.eq_replicate_iff]
  exact ⟨rfl, fun c hc => by simpa using List.all_eq_true.1 List.all_takeWhile c hc⟩

theorem decimalOf_strip (s : List Char) : decimalOf (Parser.stripLeadingZeros s) = decimalOf s := by
  have hs : s = List.replicate (s.takeWhile (· == '0')).length '0' ++ s.dropWhile (· == '0') := by
    rw [← takeWhile_zeros]
    exact (List.takeWhile_append_dropWhile).symm
  have hd := decimalOf_zeros (s.takeWhile (· == '0')).length (s.dropWhile (· == '0'))
  rw [← hs] at hd
  rw [hd]
  unfold Parser.stripLeadingZeros
  simp only
  cases ht : s.dropWhile (· == '0') with
  | nil => exact decimalOf_zeros 1 []
  | cons c t =>
    simp only
    by_cases hp : (c == '.') = true
    · simp only [hp, if_true]
      exact decimalOf_zeros 1 (c :: t)
    · simp only [hp]
      rfl

theorem trimZeros_append_zeros (b : List Char) : ∃ j, b = trimZeros b ++ List.replicate j '0' := by
  refine ⟨(b.reverse.takeWhile (· == '0')).length, ?_⟩
  have h := List.takeWhile_append_dropWhile (p := (· == '0')) (l := b.reverse)
  have := congrArg List.reverse h
  rw [List.reverse_append, List.reverse_reverse] at this
  rw [takeWhile_zeros b.reverse, List.reverse_replicate] at this
  unfold trimZeros
  exact this.symm

/-- **`to_string` denotes the number held** (digits only, at least one integer digit) -/
theorem decimalOf_render (x : PN) (hd : Digits x.ds) (hh : 1 ≤ x.hi) : (decimalOf x.render).eqv x.val := by
  have hnp : ∀ c ∈ x.ds, c ≠ '.' := fun c hc => digit_ne_point c (hd c hc)
  unfold PN.render
  by_cases hex : 0 ≤ x.ex
  · simp only [hex, if_true]
    have hall : ∀ c ∈ x.ds ++ List.replicate x.ex.toNat '0', c ≠ '.' :=
      fun c hc => digit_ne_point c (digits_append _ _ hd (digits_zeros _) c hc)
    rw [decimalOf_nopt _ hall, natOf_append, natOf_zeros]
    apply Dec.eqv_of_eq
    have : (-x.ex).toNat = 0 := by omega
    simp [PN.val, this]
  · simp only [hex, if_false]
    have hk : (-x.ex).toNat ≤ x.ds.length := by simp only [PN.hi] at hh; omega
    generalize hkk : x.ds.length - (-x.ex).toNat = k
    have hsplit : x.ds = x.ds.take k ++ x.ds.drop k := (List.take_append_drop k x.ds).symm
    have hbl : (x.ds.drop k).length = (-x.ex).toNat := by rw [List.length_drop]; omega
    have hA : ∀ c ∈ x.ds.take k, c ≠ '.' := fun c hc => hnp c (List.mem_of_mem_take hc)
    obtain ⟨j, hj⟩ := trimZeros_append_zeros (x.ds.drop k)
    generalize trimZeros (x.ds.drop k) = T at hj ⊢
    generalize x.ds.drop k = B at hj hbl hsplit ⊢
    generalize x.ds.take k = A at hsplit hA ⊢
    have hval : x.val = ⟨natOf (A ++ T) * 10 ^ j, T.length + j⟩ := by
      have h0 : x.ex.toNat = 0 := by omega
      have hlen : B.length = T.length + j := by rw [hj]; simp
      unfold PN.val
      rw [h0, ← hbl, hlen, hsplit, hj, ← List.append_assoc, natOf_append, natOf_zeros]
      simp
    rw [hval]
    cases T with
    | nil =>
      simp only [fracPart, List.isEmpty_nil, if_true, List.append_nil]
      rw [decimalOf_nopt _ hA]
      unfold Dec.eqv
      simp
    | cons c T =>
      simp only [fracPart, List.isEmpty_cons, Bool.false_eq_true, if_false]
      rw [decimalOf_pt _ _ hA]
      unfold Dec.eqv
      simp only [List.length_cons, Nat.pow_add, Nat.pow_succ]
      grind

/-- **the normal form of a well-formed numeral, read back as a decimal, is the value of the numeral**
(every variant: repair F5 changes the rendering, not the value) -/
theorem canon_value (v : Variant) (a : Numeral) (hw : a.WF) (hf : a.Fits) :
    (decimalOf (canon v a)).eqv a.value := by
  have hv := numeralPN_value a hw hf
  have hr : (decimalOf (PN.renderO (numeralPN a))).eqv (valO (numeralPN a)) := by
    cases hx : numeralPN a with
    | none => exact Dec.eqv_of_eq (by decide)
    | some x =>
      exact decimalOf_render x (numeralPN_digits a x hx) (numeralPN_hi a hw ((fitsPN_iff a).2 hf) x hx)
  unfold canon
  split
  · rw [decimalOf_strip]; exact Dec.eqv_trans hr hv
  · exact Dec.eqv_trans hr hv

/-! ## the shape of the normal form -/

/-- a written number alone is rendered with all its integer digits and its fraction without
trailing zeros -/
theorem render_run (r : Run) :
    (runPN r).render = canonInt r.int ++ fracPart (trimZeros (canonDigits r.frac)) := by
  unfold PN.render runPN
  cases hfr : r.frac with
  | nil => simp [canonDigits, trimZeros, fracPart]
  | cons f fs =>
    have hneg : ¬ (0 : Int) ≤ -(((f :: fs).length : Nat) : Int) := by simp
    simp only [hneg, if_false]
    have hk : (canonInt r.int ++ canonDigits (f :: fs)).length - (-(-(((f :: fs).length : Nat) : Int))).toNat
        = (canonInt r.int).length := by
      simp only [List.length_append, canonDigits_length]
      omega
    rw [hk, List.take_left' rfl, List.drop_left' rfl]

/-- without units the normal form is the written number itself (leading zeros kept, separators
removed, trailing fraction zeros dropped), for every variant -/
theorem canon_plain (v : Variant) (a : Numeral) (hu : a.hasUnit = false) :
    canon v a = match a.rest.last with
      | none => ['0']
      | some r => canonInt r.int ++ fracPart (trimZeros (canonDigits r.frac)) := by
  simp only [Numeral.hasUnit, Bool.or_eq_false_iff, Bool.not_eq_false', List.isEmpty_iff] at hu
  obtain ⟨h1, h2⟩ := hu
  unfold canon
  simp only [Numeral.hasUnit, h1, h2, List.isEmpty_nil, Bool.not_true, Bool.or_self, Bool.and_false,
    Bool.false_eq_true, if_false]
  unfold numeralPN groupPN groupList
  simp only [h1, h2, largesPN, List.filterMap_nil, smallsPN, List.map_nil, List.nil_append, joinList, List.foldl_nil]
  cases hl : a.rest.last with
  | none => rfl
  | some r =>
    simp only [Option.map_some, Option.toList, List.foldl_cons, List.foldl_nil, joinO, joinOO, PN.renderO]
    exact render_run r

/-- **a written number alone** (digits in any script, thousands separators, fraction; every variant):
all integer digits are kept, the separators removed, trailing fraction zeros dropped -/
theorem parse_run (v : Variant) (r : Run) (hwf : r.WF) :
    parse v (renderRun r) = some (canonInt r.int ++ fracPart (trimZeros (canonDigits r.frac))) := by
  have h := parse_render_canon v ⟨[], ⟨[], some r⟩⟩ ⟨by simp, by simp, by simp, hwf⟩ ⟨by simp, trivial, trivial⟩
  rw [canon_plain v _ rfl] at h
  simpa [render, renderLarges, renderGroup, renderSmalls, renderCoef] using h

theorem canon_units (v : Variant) (hv : v.f5 = true) (a : Numeral) (hu : a.hasUnit = true) :
    NoLeadingZero (canon v a) := by
  unfold canon
  simp only [hv, hu, Bool.and_self, if_true]
  exact stripLeadingZeros_noLeadingZero _

end Numeric
