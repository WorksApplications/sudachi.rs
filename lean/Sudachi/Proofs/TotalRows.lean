import Sudachi.Proofs.TotalCompose
/-!
# How many candidates end at one boundary (the hypothesis `hrowsz` of C03)

The back-pointer of a lattice node stores the index of its predecessor inside a row, so a row must stay below the width of
that index.  `build_lattice` inserts at most `K` candidates per position, each at most `L` characters long, hence at most
`K·L` end at any one boundary (`buildLattice_rows`).  `K` and `L` are then read off the configuration: for providers that
return one node per call (`SmallProvider`, `rows_small`), and in general through `rowCap` (lexicon rows + what every provider
can return in the provider loop and in the extra call of the last one; `rows_le_cap_mul`, from which
`C03.rows_from_row_cap` and `C03.rows_from_row_cap_u32` follow).
-/
namespace Total
open Oov (Outcome)

/-! ## at most `K` candidates per position, each at most `L` characters long: at most `K·L` end at one boundary -/

/-- positions from which a candidate of at most `L` characters can end at `e` -/
def near (e L p : Nat) : Bool := decide (p < e ∧ e ≤ p + L)

/-- the positions below `n` from which a candidate can end at `e` lie in `[e - L, e)` -/
theorem countP_near_range (e L : Nat) : ∀ n, (List.range n).countP (near e L) ≤ L ∧
    (List.range n).countP (near e L) ≤ n - (e - L)
  | 0 => ⟨Nat.zero_le _, Nat.zero_le _⟩
  | n + 1 => by
    obtain ⟨h1, h2⟩ := countP_near_range e L n
    rw [List.range_succ, List.countP_append, List.countP_singleton]
    by_cases h : n < e ∧ e ≤ n + L
    · rw [near, decide_eq_true h, if_pos rfl]; omega
    · rw [near, decide_eq_false h, if_neg (by decide), Nat.add_zero]
      exact ⟨h1, Nat.le_trans h2 (Nat.sub_le_sub_right (Nat.le_succ n) _)⟩

/-- the position loop: the candidates ending at `e` number at most `K` per position that is `near` -/
theorem buildFrom_count (ps : List Oov.Provider) (lex : List Oov.Word) (buf : Oov.Buf) (K L e : Nat)
    (hK : ∀ p new, Oov.stepAt ps lex buf p = .ok new → new.length ≤ K ∧ ∀ x ∈ new, x.b = p ∧ x.b < x.e ∧ x.e ≤ x.b + L)
    (n : Nat) (nodes : List Oov.Node) (h : Oov.buildFrom ps lex buf (List.range n) [] = .ok nodes) :
    nodes.countP (fun x => x.e == e) ≤ K * (List.range n).countP (near e L) := by
  obtain ⟨ran, hsub, he, hst, _⟩ := Oov.buildFrom_eq _ [] nodes List.pairwise_lt_range h
  -- a step near `e` adds at most `K` candidates, a step elsewhere none that ends at `e`
  have hq : ∀ q ∈ ran, (Oov.stepOut ps lex buf q).countP (fun x => x.e == e) ≤ K * (if near e L q = true then 1 else 0) := by
    intro q hq
    obtain ⟨hlen, hall⟩ := hK q _ (hst q hq)
    by_cases hn : near e L q = true
    · rw [if_pos hn, Nat.mul_one]; exact Nat.le_trans List.countP_le_length hlen
    · have h0 : (Oov.stepOut ps lex buf q).countP (fun x => x.e == e) = 0 := by
        rw [List.countP_eq_zero]
        intro x hx hxe
        obtain ⟨a, b, c⟩ := hall x hx
        apply hn
        have : x.e = e := by simpa using hxe
        simp only [near, decide_eq_true_eq]; omega
      rw [h0]; exact Nat.zero_le _
  have hsum : ∀ l : List Nat, (∀ q ∈ l, q ∈ ran) →
      (l.map ((List.countP fun x => x.e == e) ∘ Oov.stepOut ps lex buf)).sum ≤ K * l.countP (near e L) := by
    intro l
    induction l with
    | nil => exact fun _ => Nat.le_refl _
    | cons q l ih =>
      intro hl
      have h1 := hq q (hl q List.mem_cons_self)
      have h2 := ih fun q' h' => hl q' (List.mem_cons_of_mem _ h')
      rw [List.map_cons, List.sum_cons, List.countP_cons, Nat.mul_add, Nat.add_comm (K * l.countP (near e L))]
      exact Nat.add_le_add h1 h2
  rw [he, List.nil_append, List.countP_flatMap]
  exact Nat.le_trans (hsum ran fun _ h => h) (Nat.mul_le_mul_left _ hsub.countP_le)

/-- the `as u16` casts of `toVit` do not merge boundaries when the candidates lie inside a text of ≤ 65535 characters,
so the count over the cast nodes is (at most, which is what is used) the count over the candidates -/
theorem countP_toVit (nodes : List Oov.Node) (hn : ∀ x ∈ nodes, x.e ≤ 65535) (e : Nat) :
    (nodes.map toVit).countP (fun n => n.e == e) ≤ nodes.countP (fun x => x.e == e) := by
  induction nodes with
  | nil => simp
  | cons x rest ih =>
    have ih' := ih (fun y hy => hn y (List.mem_cons_of_mem _ hy))
    have hx : (toVit x).e = x.e := by simp only [toVit]; exact asU16_id x.e (hn x List.mem_cons_self)
    simp only [List.map_cons, List.countP_cons, hx]
    split <;> omega

/-- **`hrowsz` from configuration bounds.**  If at every position the builder inserts at most `K` candidates, each at
most `L` characters long, then at most `K·L` of the stored nodes end at any one boundary — for every text of at most
65535 characters (the bound on the text only serves the `as u16` casts of `toVit`). -/
theorem buildLattice_rows (ps : List Oov.Provider) (lex : List Oov.Word) (buf : Oov.Buf) (K L : Nat)
    (hK : ∀ p new, Oov.stepAt ps lex buf p = .ok new → new.length ≤ K ∧ ∀ x ∈ new, x.b = p ∧ x.b < x.e ∧ x.e ≤ x.b + L)
    (hb : BufOk buf) (hn : buf.chars.length ≤ 65535)
    (nodes : List Oov.Node) (h : Oov.buildLattice ps lex buf = .ok nodes) (e : Nat) :
    (nodes.map toVit).countP (fun n => n.e == e) ≤ K * L := by
  have hin := buildLattice_cand ps lex buf hb nodes h
  refine Nat.le_trans (countP_toVit nodes (fun x hx => Nat.le_trans (hin x hx).2 hn) e) ?_
  have := buildFrom_count ps lex buf K L e hK _ _ (Oov.buildLattice_ok h).1
  exact Nat.le_trans this (Nat.mul_le_mul_left _ (countP_near_range e L _).1)

/-! ## how many candidates one position gets -/

theorem provideAllT_outs_length (cap : Oov.Provider → Nat) (buf : Oov.Buf) (o : Nat) :
    ∀ (ps : List Oov.Provider), (∀ p ∈ ps, ∀ c ex out, Oov.provide p buf o c ex = .ok out → out.length ≤ cap p) →
      ∀ (i : Nat) (st st' : Nat × List Oov.Node) (calls : List Oov.Call), Oov.provideAllT ps i buf o st = .ok (st', calls) →
        (Oov.outsOf calls).length ≤ (ps.map cap).sum
  | [], _, i, st, st', calls, h => by cases h; exact Nat.le_refl _
  | p :: rest, hcap, i, st, st', calls, h => by
    obtain ⟨st1, c, cs, h1, h2, rfl⟩ := Oov.provideAllT_cons_ok h
    have a := hcap p List.mem_cons_self _ _ _ (Oov.provideOovsT_ok h1).1
    have b := provideAllT_outs_length cap buf o rest (fun q hq => hcap q (List.mem_cons_of_mem _ hq)) _ _ _ _ h2
    simp only [Oov.outsOf, List.flatMap_cons, List.length_append, List.map_cons, List.sum_cons] at b ⊢
    exact Nat.add_le_add a b

theorem lexNodes_length (lex : List Oov.Word) (buf : Oov.Buf) (o : Nat) : (Oov.lexNodes lex buf o).length ≤ lex.length :=
  Nat.le_trans (List.length_filterMap_le _ _) (List.length_filter_le _ _)

/-- a position gets the dictionary words, what every provider returns once in the provider loop, and what the last
provider returns when it is called again: with at most `cap p` nodes per call of `p` and `cap p ≤ C` -/
theorem stepAt_length (cap : Oov.Provider → Nat) (ps : List Oov.Provider) (lex : List Oov.Word) (buf : Oov.Buf) (o : Nat)
    (hcap : ∀ p ∈ ps, ∀ c ex out, Oov.provide p buf o c ex = .ok out → out.length ≤ cap p)
    (C : Nat) (hC : ∀ p ∈ ps, cap p ≤ C) (new : List Oov.Node) (h : Oov.stepAt ps lex buf o = .ok new) :
    new.length ≤ lex.length + (ps.map cap).sum + C := by
  obtain ⟨a, cs, hd, _, hS, _⟩ := Oov.step_does ps lex buf o
  rw [hS] at h
  cases hd with
  | @found cat _ _ _ hT _ =>
    -- the dictionary words and what every provider the class let run returned once
    cases h
    obtain ⟨rfl, hasked, hnot⟩ := Oov.stepLoop_ok hT
    have hl := lexNodes_length lex buf o
    have : (Oov.outsOf cs).length ≤ (ps.map cap).sum := by
      cases ha : Oov.asksProviders cat with
      | true => exact provideAllT_outs_length cap buf o ps hcap _ _ _ _ (hasked ha)
      | false => rw [hnot ha]; exact Nat.zero_le _
    rw [List.length_append]; omega
  | @extra _ _ p _ _ _ hl' hp _ =>
    -- nothing but what the last provider returns when it is called again
    cases h
    have hp' := List.mem_of_getLast? hl'
    exact Nat.le_trans (hcap p hp' _ _ _ hp) (Nat.le_trans (hC p hp') (Nat.le_add_left _ _))
  | _ => cases h

/-! ## providers that return one node per call (configurations without MeCab provider) -/

/-- a provider that yields at most one candidate per call, of at most `L` characters: the Regex provider with
`maxLength ≤ L`; the Simple provider over a buffer in which every character may start a word -/
def SmallProvider (L : Nat) (buf : Oov.Buf) : Oov.Provider → Prop
  | .mecab _ => False
  | .simple _ => (∀ b ∈ buf.bow, b = true) ∧ 1 ≤ L
  | .regex c => c.maxLength ≤ L

theorem nextBow_all_true : ∀ (l : List Bool), (∀ b ∈ l, b = true) → Oov.nextBow l = 0
  | [], _ => rfl
  | b :: bs, h => by
    have : b = true := h b List.mem_cons_self
    subst this; rfl

/-- `SimpleOovPlugin::provide_oov` returns nothing, or the one node that reaches to the next word start -/
theorem simpleProvide_eq_ok (cfg : Oov.SimpleCfg) (buf : Oov.Buf) (o created : Nat) (nodes : List Oov.Node)
    (h : Oov.simpleProvide cfg buf o created = .ok nodes) :
    nodes = [] ∨ ∃ len, Oov.wordCandidateLength buf.bow o = some len ∧
      nodes = [⟨o, o + len, cfg.l, cfg.r, cfg.c, true, cfg.pos⟩] := by
  unfold Oov.simpleProvide at h
  by_cases hc : created ≠ 0
  · rw [if_pos hc] at h; cases h; exact Or.inl rfl
  · rw [if_neg hc] at h
    cases hl : Oov.wordCandidateLength buf.bow o with
    | none => rw [hl] at h; cases h
    | some len => rw [hl] at h; cases h; exact Or.inr ⟨len, rfl, rfl⟩

theorem provide_small (L : Nat) (buf : Oov.Buf) (p : Oov.Provider) (hp : SmallProvider L buf p) (o created : Nat)
    (existing nodes : List Oov.Node) (h : Oov.provide p buf o created existing = .ok nodes) :
    nodes.length ≤ 1 ∧ ∀ x ∈ nodes, x.e ≤ x.b + L := by
  cases p with
  | mecab cfg => exact absurd hp (by simp [SmallProvider])
  | simple cfg =>
    obtain ⟨hall, hL⟩ := hp
    rcases simpleProvide_eq_ok cfg buf o created nodes h with rfl | ⟨len, hlen, rfl⟩
    · exact ⟨Nat.zero_le _, fun x hx => nomatch hx⟩
    · refine ⟨Nat.le_refl _, fun x hx => ?_⟩
      rw [List.mem_singleton.mp hx]
      -- every character may start a word, so the next word start is the next character
      have : len ≤ 1 := by
        unfold Oov.wordCandidateLength at hlen
        split at hlen
        · cases hlen
          rw [nextBow_all_true _ (fun b hb => hall b (List.mem_of_mem_drop hb))]; omega
        · split at hlen
          · cases hlen; omega
          · cases hlen
      exact Nat.add_le_add_left (Nat.le_trans this hL) o
  | regex cfg =>
    have hL : cfg.maxLength ≤ L := hp
    rcases regexProvide_ok_cases cfg buf o created existing nodes h with rfl | ⟨k, _, _, hk, rfl⟩
    · exact ⟨Nat.zero_le _, fun x hx => nomatch hx⟩
    · refine ⟨Nat.le_refl _, fun x hx => ?_⟩
      rw [List.mem_singleton.mp hx]
      exact Nat.add_le_add_left (Nat.le_trans hk hL) o

theorem stepAt_small (L : Nat) (ps : List Oov.Provider) (lex : List Oov.Word) (buf : Oov.Buf)
    (hps : ∀ p ∈ ps, SmallProvider L buf p) (hlex : ∀ w ∈ lex, w.surface.length ≤ L) (o : Nat) (new : List Oov.Node)
    (h : Oov.stepAt ps lex buf o = .ok new) :
    new.length ≤ lex.length + ps.length + 1 ∧ ∀ x ∈ new, x.e ≤ x.b + L := by
  constructor
  · have := stepAt_length (fun _ => 1) ps lex buf o
      (fun p hp c ex out hout => (provide_small L buf p (hps p hp) o c ex out hout).1) 1 (fun _ _ => Nat.le_refl 1) new h
    rwa [List.map_const', List.sum_replicate_nat, Nat.mul_one] at this
  · refine Oov.stepAt_forall (fun x => x.e ≤ x.b + L) ps lex buf o new ?_ ?_ h
    · intro x hx
      obtain ⟨w, hw, rfl⟩ := lexNodes_mem lex buf o x hx
      exact Nat.add_le_add_left (hlex w hw) o
    · intro p hp c ex out hout
      exact (provide_small L buf p (hps p hp) o c ex out hout).2

/-- `hrowsz` for a configuration without MeCab provider: with `K = |lex| + |providers| + 1` candidates per position of
at most `L` characters and `K·L ≤ 65535`, fewer than 65536 candidates end at any boundary of any text of at most 65535
characters -/
theorem rows_small (L : Nat) (ps : List Oov.Provider) (lex : List Oov.Word) (buf : Oov.Buf) (hwf : buf.WF)
    (hn : buf.chars.length ≤ 65535)
    (hps : ∀ p ∈ ps, SmallProvider L buf p) (hlex : ∀ w ∈ lex, w.surface.length ≤ L)
    (hKL : (lex.length + ps.length + 1) * L ≤ 65535) (nodes : List Oov.Node)
    (h : Oov.buildLattice ps lex buf = .ok nodes) (e : Nat) :
    (nodes.map toVit).countP (fun n => n.e == e) ≤ 65535 := by
  refine Nat.le_trans (buildLattice_rows ps lex buf _ L ?_ (wf_bufOk buf hwf) hn nodes h e) hKL
  intro p new hnew
  obtain ⟨a, b⟩ := stepAt_small L ps lex buf hps hlex p new hnew
  refine ⟨a, fun x hx => ?_⟩
  obtain ⟨c1, c2, _⟩ := (Oov.stepAt_ok ps lex buf p new hwf hnew).2 x hx
  exact ⟨c1, c1 ▸ c2, b x hx⟩

/-! ### the empty class table: every character may start a word (the buffer of `totalCfg`) -/

theorem bowGoV_default (cb : Bool) : ∀ (n : Nat) (prev : Nat),
    ∀ b ∈ Oov.bowGoV cb (List.replicate n CharCat.DEFAULT) true prev, b = true
  | 0, _ => by intro b hb; simp [Oov.bowGoV] at hb
  | n + 1, prev => by
    intro b hb
    have e : Oov.bowGoV cb (List.replicate (n + 1) CharCat.DEFAULT) true prev
        = true :: Oov.bowGoV cb (List.replicate n CharCat.DEFAULT) true CharCat.DEFAULT := by
      simp [List.replicate_succ, Oov.bowGoV, CharCat.DEFAULT, Oov.NOOOVBOW2, Oov.NOOOVBOW, Oov.nonStarting]
    rw [e] at hb
    rcases List.mem_cons.mp hb with rfl | hb
    · rfl
    · exact bowGoV_default cb n _ b hb

theorem builtBuf_nil_bow (v : Oov.Variant) (bf : Bool) (chars : List Nat) : ∀ b ∈ (builtBuf v bf [] chars).bow, b = true := by
  have hc : chars.map (CharCat.denF []) = List.replicate chars.length CharCat.DEFAULT := by
    induction chars with
    | nil => rfl
    | cons c rest ih => simp only [List.map_cons, List.length_cons, List.replicate_succ, ih]; rfl
  intro b hb
  simp only [builtBuf, hc] at hb
  split at hb
  · exact bowGoV_default true _ _ b hb
  · exact bowGoV_default false _ _ b hb

/-! ## the general bound `rowCap`, computed from the configuration -/

def maxOf (l : List Nat) : Nat := l.foldr max 0

theorem le_maxOf : ∀ (l : List Nat) (x : Nat), x ∈ l → x ≤ maxOf l
  | [], _, h => by cases h
  | y :: ys, x, h => by
    simp only [maxOf, List.foldr_cons]
    rcases List.mem_cons.mp h with rfl | h
    · exact Nat.le_max_left _ _
    · exact Nat.le_trans (le_maxOf ys x h) (Nat.le_max_right _ _)

/-- candidates one call of the MeCab provider can return: at most 19 classes are visited (`bitflags` iteration: 18 named
flags + one remainder), each contributes per `unk.def` line one grouped candidate and one per length `1..=length` -/
def mecabCap (c : Oov.MecabCfg) : Nat :=
  19 * (maxOf (c.oovs.map (fun kv => kv.2.length)) * (1 + maxOf (c.cats.map (fun kv => kv.2.length))))

def providerCap : Oov.Provider → Nat
  | .mecab c => mecabCap c
  | .simple _ => 1
  | .regex _ => 1

/-- **an explicit bound of the number of candidates `build_lattice` inserts at one position**: every lexicon row (at most
all of them are prefixes of the rest of the text: homographs and one row per length), every provider once in the provider
loop and the last one once more (the re-invocation) -/
def rowCap (ps : List Oov.Provider) (lex : List Oov.Word) : Nat := lex.length + 2 * (ps.map providerCap).sum

theorem lenLoop_length (stop : Bool) (oovs : List Oov.OovDef) (o n ll : Nat) :
    ∀ (cnt i : Nat), (Oov.lenLoop stop oovs o n ll cnt i).length ≤ oovs.length * cnt
  | 0, _ => by simp [Oov.lenLoop]
  | cnt + 1, i => by
    simp only [Oov.lenLoop]
    split
    · simp
    · have := lenLoop_length stop oovs o n ll cnt (i + 1)
      simp only [List.length_append, List.length_map, Nat.mul_add, Nat.mul_one]
      omega

theorem iterGo_length (src : Nat) : ∀ (fs : List Nat) (rem : Nat), (Oov.iterGo src fs rem).length ≤ fs.length + 1
  | [], rem => by simp only [Oov.iterGo]; split <;> simp
  | f :: fs, rem => by
    simp only [Oov.iterGo]
    split
    · simp
    · split
      · have := iterGo_length src fs (rem ^^^ (rem &&& f))
        simp only [List.length_cons]; omega
      · have := iterGo_length src fs rem
        simp only [List.length_cons]; omega

theorem length_flatMap_le {α β : Type} (f : α → List β) (K : Nat) : ∀ (l : List α), (∀ a ∈ l, (f a).length ≤ K) →
    (l.flatMap f).length ≤ l.length * K
  | [], _ => by simp
  | a :: as, h => by
    have h1 := h a List.mem_cons_self
    have h2 := length_flatMap_le f K as (fun x hx => h x (List.mem_cons_of_mem _ hx))
    simp only [List.flatMap_cons, List.length_append, List.length_cons, Nat.add_mul, Nat.one_mul]
    omega

theorem mecabClass_length (cfg : Oov.MecabCfg) (n o charLen created ct : Nat) :
    (Oov.mecabClass cfg n o charLen created ct).length ≤
      maxOf (cfg.oovs.map (fun kv => kv.2.length)) * (1 + maxOf (cfg.cats.map (fun kv => kv.2.length))) := by
  unfold Oov.mecabClass
  split
  · simp
  · rename_i ci hci
    split
    · simp
    · split
      · simp
      · rename_i oovs hoovs
        obtain ⟨k1, hk1⟩ := Oov.findKey_mem _ _ _ hci
        obtain ⟨k2, hk2⟩ := Oov.findKey_mem _ _ _ hoovs
        have hl : ci.length ≤ maxOf (cfg.cats.map (fun kv => kv.2.length)) :=
          le_maxOf _ _ (List.mem_map.mpr ⟨(k1, ci), hk1, rfl⟩)
        have hd : oovs.length ≤ maxOf (cfg.oovs.map (fun kv => kv.2.length)) :=
          le_maxOf _ _ (List.mem_map.mpr ⟨(k2, oovs), hk2, rfl⟩)
        have h1 := lenLoop_length cfg.stopAtEnd oovs o n (if ci.group then charLen - 1 else charLen) ci.length 1
        have hg : (if ci.group = true then oovs.map (Oov.mkNode o (o + charLen)) else []).length ≤ oovs.length := by
          split <;> simp
        simp only [List.length_append]
        calc _ ≤ oovs.length + oovs.length * ci.length := Nat.add_le_add hg h1
          _ = oovs.length * (1 + ci.length) := by rw [Nat.mul_add, Nat.mul_one]
          _ ≤ _ := Nat.mul_le_mul hd (by omega)

theorem provide_cap (p : Oov.Provider) (buf : Oov.Buf) (o created : Nat) (existing nodes : List Oov.Node)
    (h : Oov.provide p buf o created existing = .ok nodes) : nodes.length ≤ providerCap p := by
  cases p with
  | mecab cfg =>
    simp only [Oov.provide, Oov.mecabProvide] at h
    split at h
    · split at h
      · cases h; simp
      · cases h
        -- at most 19 classes are visited (`flagsIter`), each contributes at most `mecabClass_length`
        rename_i charLen cat _ _ _
        have h1 := length_flatMap_le (Oov.mecabClass cfg buf.chars.length o charLen created) _ (Oov.flagsIter cat)
          (fun ct _ => mecabClass_length cfg buf.chars.length o charLen created ct)
        have h2 : (Oov.flagsIter cat).length ≤ 19 := by
          have := iterGo_length cat Oov.flagDefs cat
          simpa [Oov.flagsIter, Oov.flagDefs] using this
        exact Nat.le_trans h1 (Nat.mul_le_mul_right _ h2)
    · cases h
  | simple cfg =>
    rcases simpleProvide_eq_ok cfg buf o created nodes h with rfl | ⟨len, _, rfl⟩
    · exact Nat.zero_le _
    · exact Nat.le_refl _
  | regex cfg =>
    rcases regexProvide_ok_cases cfg buf o created existing nodes h with rfl | ⟨k, _, _, _, rfl⟩
    · exact Nat.zero_le _
    · exact Nat.le_refl _

theorem providerCap_le_sum : ∀ (ps : List Oov.Provider) (p : Oov.Provider), p ∈ ps → providerCap p ≤ (ps.map providerCap).sum
  | [], _, h => by cases h
  | q :: qs, p, h => by
    simp only [List.map_cons, List.sum_cons]
    rcases List.mem_cons.mp h with rfl | h
    · omega
    · have := providerCap_le_sum qs p h; omega

theorem stepAt_cap (ps : List Oov.Provider) (lex : List Oov.Word) (buf : Oov.Buf) (o : Nat) (new : List Oov.Node)
    (h : Oov.stepAt ps lex buf o = .ok new) : new.length ≤ rowCap ps lex := by
  have := stepAt_length providerCap ps lex buf o (fun p _ c ex out hout => provide_cap p buf o c ex out hout) _
    (providerCap_le_sum ps) new h
  unfold rowCap; omega

/-- every row holds at most `rowCap · |text|` candidates (texts of at most 65535 characters, where the `as u16` casts of
`toVit` are the identity): every candidate lies inside the text, so it is at most `|text|` characters long -/
theorem rows_le_cap_mul (ps : List Oov.Provider) (lex : List Oov.Word) (buf : Oov.Buf) (hwf : buf.WF)
    (hn : buf.chars.length ≤ 65535) (nodes : List Oov.Node)
    (h : Oov.buildLattice ps lex buf = .ok nodes) (e : Nat) :
    (nodes.map toVit).countP (fun n => n.e == e) ≤ rowCap ps lex * buf.chars.length := by
  refine buildLattice_rows ps lex buf (rowCap ps lex) buf.chars.length ?_ (wf_bufOk buf hwf) hn nodes h e
  intro p new hnew
  refine ⟨stepAt_cap ps lex buf p new hnew, fun x hx => ?_⟩
  obtain ⟨c1, c2, c3⟩ := (Oov.stepAt_ok ps lex buf p new hwf hnew).2 x hx
  exact ⟨c1, c1 ▸ c2, Nat.le_trans c3 (Nat.le_add_left _ _)⟩

end Total
