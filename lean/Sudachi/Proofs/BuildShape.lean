import Sudachi.Proofs.BuildKept
/-!
# What the parsers guarantee about the TYPES of the builder state (C06, for the bridge to C05's file)

`i16` parameters, `u32` synonym ids, POS ids inside a POS table of at most 32768 rows of six strings,
matrix sizes `0..32767` with one `i16` per cell: facts the Rust types carry and the model (with `Int` /
`Nat` / lists) has to prove from the parsers.  One invariant over any sequence of calls (`runOps_shape`).

At the end, in a namespace of its own (`BuildSide`), the one fact about this model that C20 uses: `ConnBuffer::read`
never accepts a negative size (`readConn_sizes`).  Its own namespace, because `Props/C20.lean` has `Params` open, whose
`Variant` would clash with `Build.Variant` if `Build` were opened there.
-/
namespace Build

/-! ## the number parsers answer within their types -/

def I16 (x : Int) : Prop := -32768 ≤ x ∧ x ≤ 32767

/-- `parseI16` and `parseU32` are written as `match digitsVal? r with | some n => if n ≤ bound then some .. else none
| none => none`, once per sign: this is that shape inverted, so that each branch is one `obtain` -/
theorem checked_eq_some {α : Type} {o : Option Nat} {p : Nat → Prop} [DecidablePred p] {f : Nat → α} {v : α}
    (h : (match o with | some n => if p n then some (f n) else none | none => none) = some v) :
    ∃ n, p n ∧ f n = v := by
  cases o with
  | none => cases h
  | some n =>
    by_cases hp : p n
    · exact ⟨n, hp, Option.some.inj ((if_pos hp).symm.trans h)⟩
    · exact absurd ((if_neg hp).symm.trans h) nofun

theorem parseI16_range {s : Str} {v : Int} (h : parseI16 s = some v) : I16 v := by
  unfold parseI16 at h
  unfold I16
  split at h
  · obtain ⟨n, hn, rfl⟩ := checked_eq_some h; omega
  · obtain ⟨n, hn, rfl⟩ := checked_eq_some h; omega
  · obtain ⟨n, hn, rfl⟩ := checked_eq_some h; omega

theorem eI16_range {s : Str} {v : Int} (h : eI16 s = .ok v) : I16 v := by
  unfold eI16 at h
  split at h
  · rename_i w hw; injection h with h; subst h; exact parseI16_range hw
  · simp at h

theorem parseU32_range {s : Str} {v : Nat} (h : parseU32 s = some v) : v < 4294967296 := by
  unfold parseU32 at h
  split at h
  · obtain ⟨n, hn, rfl⟩ := checked_eq_some h; exact hn
  · obtain ⟨n, hn, rfl⟩ := checked_eq_some h; exact hn

theorem eU32_range {s : Str} {v : Nat} (h : eU32 s = .ok v) : v < 4294967296 := by
  unfold eU32 at h
  split at h
  · rename_i w hw; injection h with h; subst h; exact parseU32_range hw
  · simp at h

theorem parseU32List_range {s : Str} {l : List Nat} (h : parseU32List s = .ok l) : ∀ a ∈ l, a < 4294967296 := by
  unfold parseU32List at h
  split at h
  · injection h with h; subst h; simp
  · intro a ha
    obtain ⟨p, hp⟩ := (slashList_mem h).1 a ha
    exact eU32_range hp

/-! ## the reader: the POS table's shape, the ranges of every entry -/

/-- the table has at least the `n0` rows the builder started from, at most `max n0 32768` rows (32768 = `MAX_POS_IDS` + 1:
`pos_of` refuses only a table of MORE than 32767 rows), and every row added since has six strings -/
def TabShape (n0 : Nat) (tab : List PosKey) : Prop :=
  n0 ≤ tab.length ∧ tab.length ≤ max n0 32768 ∧ ∀ k ∈ tab.drop n0, k.length = 6

theorem TabExt.shape {n0 : Nat} {tab tab' : List PosKey} (h : TabExt tab tab') (ht : TabShape n0 tab) :
    TabShape n0 tab' := by
  obtain ⟨ks, rfl, hk, hl⟩ := h
  obtain ⟨a, b, c⟩ := ht
  refine ⟨by rw [List.length_append]; omega, by omega, ?_⟩
  rw [List.drop_append_of_le_length a]
  exact List.forall_mem_append.2 ⟨c, hk⟩

def EntryRange (e : Entry) : Prop :=
  I16 e.left ∧ I16 e.right ∧ I16 e.cost ∧ ∀ s ∈ e.synonyms, s < 4294967296

/-- what every sequence of calls maintains about the reader: the POS table's shape, the ranges of every entry, and
that every entry's POS id names a row of the table -/
def LexShape (n0 : Nat) (st : LexState) : Prop :=
  TabShape n0 st.pos ∧ ∀ e ∈ st.entries, EntryRange e ∧ e.pos < st.pos.length

theorem LexShape.mono {n0 : Nat} {st : LexState} {tab : List PosKey} {u : Nat} (h : LexShape n0 st)
    (ht : TabExt st.pos tab) : LexShape n0 ⟨tab, st.entries, u⟩ :=
  ⟨ht.shape h.1, fun e he => ⟨(h.2 e he).1, Nat.lt_of_lt_of_le (h.2 e he).2 ht.prefix.length_le⟩⟩

theorem parseRecord_shape {n0 : Nat} {v : Variant} {x : Ext} {st st' : LexState} {fs : List Str}
    (hi : LexShape n0 st) (h : parseRecord v x st fs = .ok st') : LexShape n0 st' := by
  have hold := hi.mono (parseRecord_tabExt h) (u := 0)
  obtain ⟨e0, tab, rfl, hrow⟩ := parseRecord_ok h
  obtain ⟨t0, t1, pk, _, _, hpos, hpk⟩ := hrow.tables
  obtain ⟨_, _, hl'⟩ := fld_ok hrow.left
  obtain ⟨_, _, hr'⟩ := fld_ok hrow.right
  obtain ⟨_, _, hc'⟩ := fld_ok hrow.cost
  have hsyn := hrow.synonyms
  have hsy : ∀ s ∈ e0.synonyms, s < 4294967296 := by
    split at hsyn
    · exact parseU32List_range hsyn
    · injection hsyn with hsyn; rw [← hsyn]; nofun
  exact ⟨hold.1, List.forall_mem_append.2 ⟨hold.2, List.forall_mem_singleton.2
    ⟨⟨eI16_range hl', eI16_range hr', eI16_range hc', hsy⟩, (posOf_tabExt hpos hpk).2⟩⟩⟩

theorem readLexB_shape {n0 : Nat} {v : Variant} {x : Ext} {b : Builder} (recs : List (Nat × List Str)) (ce : Option Nat)
    (hi : LexShape n0 b.lex) : LexShape n0 (readLexB v x b recs ce).1.lex := by
  refine readLexB_preserves (fun _ _ _ => parseRecord_shape) (fun st fs hst => ?_) recs ce hi
  obtain ⟨tab, u, he, ht, _⟩ := parseRecordLeft_kept v x st fs
  rw [he]; exact hst.mono ht

theorem resolve_shape {n0 : Nat} {b b' : Builder} {n : Nat} (hi : LexShape n0 b.lex) (h : resolve b = .ok (b', n)) :
    LexShape n0 b'.lex := by
  rcases resolve_cases h with ⟨_, rfl⟩ | ⟨es, hr, rfl⟩
  · exact hi
  · refine ⟨hi.1, fun r hr' => ?_⟩
    obtain ⟨e, he, _, _, _, _, _, _, rfl⟩ := (resolveEntries_ok hr).2 r hr'
    exact hi.2 e he

/-! ## the matrix reader: sizes `0..32767`, one `i16` per cell -/

def ConnShape (c : Conn) : Prop :=
  0 ≤ c.nl ∧ c.nl ≤ 32767 ∧ 0 ≤ c.nr ∧ c.nr ≤ 32767 ∧ c.bytes = c.nl.toNat * c.nr.toNat * 2

theorem parseHeader_range {line : Str} {l r : Int} (h : parseHeader line = .ok (l, r)) : I16 l ∧ I16 r := by
  revert h
  fun_cases parseHeader line with
  | case6 => rename_i hl _ hr; exact fun h => by cases h; exact ⟨eI16_range hl, eI16_range hr⟩
  | _ => nofun

theorem readConn_unchanged_or_shape (v : Variant) (buf : ConnBuf) (lines : List (Option Str)) :
    ((readConn v buf lines).1.conn = buf.conn ∧ (readConn v buf lines).2 ≠ .ok ()) ∨
      ConnShape (readConn v buf lines).1.conn := by
  obtain ⟨c, line⟩ := buf
  rcases readConn_cases v line lines with ⟨hd, r, hne, _, hc⟩ | ⟨hd, l, r, n, rest, hh, hl, hr, hc⟩
  · rw [hc]; exact Or.inl ⟨rfl, hne⟩
  · rw [hc]
    obtain ⟨⟨_, l1⟩, ⟨_, r1⟩⟩ := parseHeader_range hh
    exact Or.inr ⟨hl, l1, hr, r1, rfl⟩

theorem readConn_shape (v : Variant) (buf : ConnBuf) (lines : List (Option Str)) (hi : ConnShape buf.conn) :
    ConnShape (readConn v buf lines).1.conn :=
  (readConn_unchanged_or_shape v buf lines).elim (fun h => h.1 ▸ hi) id

theorem readConnB_shape (v : Variant) (b : Builder) (lines : List (Option Str)) (hi : ConnShape b.conn) :
    ConnShape (readConnB v b lines).1.conn := by
  obtain ⟨_, _, e⟩ := readConnB_frame v b lines
  rw [e]; exact readConn_shape v ⟨b.conn, b.connLine⟩ lines hi

/-! ## both, over any sequence of calls -/

def BuilderShape (b : Builder) : Prop := LexShape b.base.pos0.length b.lex ∧ ConnShape b.conn

theorem init_shape (v : Variant) (base : Base) : BuilderShape (Builder.init v base) := by
  refine ⟨⟨⟨Nat.le_refl _, ?_, ?_⟩, ?_⟩, ?_⟩
  · simp [Builder.init]; omega
  · simp [Builder.init]
  · simp [Builder.init]
  · simp [Builder.init, ConnShape, Conn.empty]

theorem runOps_shape {v : Variant} {x : Ext} {s s' : Builder × Nat} {ops : List Op}
    (hi : BuilderShape s.1) (h : runOps v x s ops = .ok s') : BuilderShape s'.1 := by
  refine runOps_preserves (P := BuilderShape) ?_ ?_ ?_ h hi
  · intro b lines hb
    obtain ⟨_, _, e⟩ := readConnB_frame v b lines
    exact ⟨by rw [e]; exact hb.1, readConnB_shape v b lines hb.2⟩
  · intro b recs ce hb
    have hl := readLexB_shape (v := v) (x := x) recs ce hb.1
    obtain ⟨_, e⟩ := readLexB_frame v x b recs ce
    rw [e] at hl ⊢; exact ⟨hl, hb.2⟩
  · intro b b' n hb hr
    have hl := resolve_shape hb.1 hr
    obtain ⟨_, rfl⟩ := resolve_frame hr
    exact ⟨hl, hb.2⟩

theorem prepare_shape {v : Variant} {x : Ext} {inp : Input} {b : Builder} {cnt : Nat}
    (h : prepare v x inp = .ok (b, cnt)) : BuilderShape b ∧ b.base = inp.base := by
  refine ⟨runOps_shape (s := (Builder.init v inp.base, 0)) (init_shape v inp.base) h, ?_⟩
  exact runOps_base (s := (Builder.init v inp.base, 0)) h

end Build

namespace BuildSide
open Build

theorem readConn_sizes {v : Variant} {buf buf' : ConnBuf} {lines : List (Option Str)}
    (h : readConn v buf lines = (buf', .ok ())) :
    0 ≤ buf'.conn.nl ∧ buf'.conn.nl ≤ 32767 ∧ 0 ≤ buf'.conn.nr ∧ buf'.conn.nr ≤ 32767 := by
  rcases readConn_unchanged_or_shape v buf lines with ⟨_, hne⟩ | hs
  · rw [h] at hne; exact absurd rfl hne
  · rw [h] at hs; exact ⟨hs.1, hs.2.1, hs.2.2.1, hs.2.2.2.1⟩

end BuildSide
