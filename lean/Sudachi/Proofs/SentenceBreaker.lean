import Sudachi.Proofs.SentenceText
/-!
# SENTENCE_BREAKER and `find_iter` (property C16)

`breakerAt_cases` lists the three shapes of a match of SENTENCE_BREAKER anchored at a position.  It reads one way only
(from `breakerAt … = some n`) and forgets the look-around condition of the DOT alternative; what `breakerAt` answers in
every case, `none` included, is `run_reBreakerHead` / `breakerAt_spec` of `SentenceRegex`.  A match that starts inside
another match ends where that match ends (`same_end`), so the ends `find_iter` reports (`matchEnds`, the traversal of `scan`
without the loop body) are exactly the ends of ALL anchored matches (`mem_matchEnds`), in ascending order
(`matchEnds_sorted`).  `mem_matchEnds` is the statement to use (`C16.match_ends_are_matches` and
`C16.find_iter_misses_no_terminator` are its two directions with information dropped).  The look-behind character is
`advPrev prev l j` relative to a position, and `prevChar s j = advPrev none s j` (by definition) from the start of the
window.
-/
namespace Sentence

/-! ## what a match of SENTENCE_BREAKER looks like -/

/-- a sentence terminator as listed in the property: one full stop / question / exclamation mark /
note / ellipsis character or one period; three or more `・`; two or more line-break tags -/
def IsTerminator (t : Text) : Prop :=
  (∃ c, t = [c] ∧ (isPeriod c = true ∨ isDot c = true)) ∨
  (∃ n, 3 ≤ n ∧ t = List.replicate n 0x30FB) ∨
  (∃ k, 2 ≤ k ∧ t.length = 4 * k ∧ brUnits t = k)

/-- characters that may follow the terminator inside the sentence: further terminators / periods,
closing brackets, commas -/
def isTailChar (c : Nat) : Bool := isDotOrPeriod c || isProhibitedBos c

theorem breakerAt_cases {prev : Option Nat} {c : Nat} {rest : Text} {n : Nat}
    (h : breakerAt prev (c :: rest) = some n) :
    ((isPeriod c = true ∨ isDot c = true) ∧ n = 1 + spanLen isDotOrPeriod rest) ∨
    (isCdot c = true ∧ 3 ≤ 1 + spanLen isCdot rest ∧
      n = 1 + spanLen isCdot rest + spanLen isDotOrPeriod (rest.drop (spanLen isCdot rest))) ∨
    (c = 0x3C ∧ 2 ≤ brUnits (c :: rest) ∧ n = 4 * brUnits (c :: rest)) := by
  simp only [breakerAt] at h
  by_cases h1 : isPeriod c = true
  · rw [if_pos h1] at h
    exact Or.inl ⟨Or.inl h1, (Option.some.inj h).symm⟩
  rw [if_neg h1] at h
  by_cases h2 : isCdot c = true
  · rw [if_pos h2] at h
    by_cases h3 : 3 ≤ 1 + spanLen isCdot rest
    · rw [if_pos h3, Nat.add_sub_cancel_left] at h
      exact Or.inr (Or.inl ⟨h2, h3, (Option.some.inj h).symm⟩)
    · rw [if_neg h3] at h; cases h
  rw [if_neg h2] at h
  by_cases h3 : isDot c = true
  · rw [if_pos h3] at h
    by_cases h4 : (notAfterAN prev && notBeforeANComma rest) = true
    · rw [if_pos h4] at h
      exact Or.inl ⟨Or.inr h3, (Option.some.inj h).symm⟩
    · rw [if_neg h4] at h; cases h
  rw [if_neg h3] at h
  by_cases h4 : c = 0x3C
  · rw [if_pos h4] at h
    by_cases h5 : 2 ≤ brUnits (c :: rest)
    · rw [if_pos h5] at h
      exact Or.inr (Or.inr ⟨h4, h5, (Option.some.inj h).symm⟩)
    · rw [if_neg h5] at h; cases h
  · rw [if_neg h4] at h; cases h

theorem breakerAt_bounds {prev : Option Nat} {l : Text} {n : Nat}
    (h : breakerAt prev l = some n) : 1 ≤ n ∧ n ≤ l.length := by
  cases l with
  | nil => cases h
  | cons c rest =>
    rw [List.length_cons]
    rcases breakerAt_cases h with ⟨_, rfl⟩ | ⟨_, _, rfl⟩ | ⟨_, hk, rfl⟩
    · have := spanLen_le isDotOrPeriod rest
      omega
    · have h1 := spanLen_le isCdot rest
      have h2 := spanLen_le isDotOrPeriod (rest.drop (spanLen isCdot rest))
      rw [List.length_drop] at h2
      omega
    · have := brUnits_le (c :: rest)
      rw [List.length_cons] at this
      omega

theorem breakerAt_shape {prev : Option Nat} {l : Text} {n : Nat}
    (h : breakerAt prev l = some n) :
    ∃ t tail, l.take n = t ++ tail ∧ IsTerminator t ∧ ∀ c ∈ tail, isDotOrPeriod c = true := by
  cases l with
  | nil => cases h
  | cons c rest =>
    rcases breakerAt_cases h with ⟨hc, rfl⟩ | ⟨hc, h3, rfl⟩ | ⟨_, hk, rfl⟩
    · exact ⟨[c], rest.take (spanLen isDotOrPeriod rest), by rw [Nat.add_comm]; rfl,
        Or.inl ⟨c, rfl, hc⟩, spanLen_all _ _⟩
    · refine ⟨List.replicate (1 + spanLen isCdot rest) 0x30FB, _, ?_, Or.inr (Or.inl ⟨_, h3, rfl⟩),
        spanLen_all isDotOrPeriod (rest.drop (spanLen isCdot rest))⟩
      have hcv : ∀ x, isCdot x = true → x = 0x30FB := fun x hx => of_decide_eq_true hx
      rw [Nat.add_comm 1, Nat.add_right_comm, List.take_succ_cons, List.take_add,
        take_spanLen_replicate isCdot 0x30FB hcv, List.replicate_succ, hcv c hc]
      rfl
    · exact ⟨_, [], (List.append_nil _).symm,
        Or.inr (Or.inr ⟨_, hk, length_take_brUnits _, brUnits_take _⟩), fun _ hx => nomatch hx⟩

/-! ## a match that starts inside another match -/

theorem dotOrPeriod_not_cdot {c : Nat} (h : isDotOrPeriod c = true) : isCdot c = false := by
  simp only [isDotOrPeriod, isDot, isPeriod, Bool.or_eq_true, decide_eq_true_eq] at h
  simp only [isCdot, decide_eq_false_iff_not]
  omega

theorem cdot_not_period {c : Nat} (h : isCdot c = true) : isPeriod c = false := by
  simp only [isCdot, decide_eq_true_eq] at h
  subst h; decide

theorem cdot_not_dot {c : Nat} (h : isCdot c = true) : isDot c = false := by
  cases of_decide_eq_true h; rfl

theorem breakerAt_dp_head {pv : Option Nat} {c : Nat} {r : Text} {n : Nat}
    (hc : isDotOrPeriod c = true) (h : breakerAt pv (c :: r) = some n) :
    n = 1 + spanLen isDotOrPeriod r := by
  rcases breakerAt_cases h with ⟨_, hn⟩ | ⟨hcd, _⟩ | ⟨rfl, _⟩
  · exact hn
  · rw [dotOrPeriod_not_cdot hc] at hcd; cases hcd
  · cases hc

theorem breakerAt_cdot_head {pv : Option Nat} {c : Nat} {r : Text} {n : Nat}
    (hc : isCdot c = true) (h : breakerAt pv (c :: r) = some n) :
    n = 1 + spanLen isCdot r + spanLen isDotOrPeriod (r.drop (spanLen isCdot r)) := by
  rcases breakerAt_cases h with ⟨hp | hp, _⟩ | ⟨_, _, hn⟩ | ⟨rfl, _⟩
  · rw [cdot_not_period hc] at hp; cases hp
  · rw [cdot_not_dot hc] at hp; cases hp
  · exact hn
  · cases hc

theorem same_end_in_run {l : Text} {q d n' : Nat} {pv' : Option Nat}
    (hq : q ≤ d) (hd : d < q + spanLen isDotOrPeriod (l.drop q))
    (h : breakerAt pv' (l.drop d) = some n') : d + n' = q + spanLen isDotOrPeriod (l.drop q) := by
  obtain ⟨c, r, hl, hc, hsp⟩ := drop_in_span isDotOrPeriod (l := l.drop q) (d := d - q) (by omega)
  rw [List.drop_drop, Nat.add_sub_cancel' hq] at hl
  rw [hl] at h
  have hn := breakerAt_dp_head hc h
  omega

theorem brUnits_drop : ∀ (l : Text) (j : Nat), j ≤ brUnits l →
    brUnits (l.drop (4 * j)) = brUnits l - j := by
  intro l
  fun_induction brUnits l with
  | case1 a b c d rest h ih =>
    intro j hj
    cases j with
    | zero => simp [brUnits, h]
    | succ j =>
      have : 4 * (j + 1) = 4 * j + 1 + 1 + 1 + 1 := by omega
      rw [this]
      simp only [List.drop_succ_cons]
      rw [ih j (by omega)]; omega
  | case2 a b c d rest h =>
    intro j hj
    have : j = 0 := by omega
    subst this; simp [brUnits, h]
  | case3 l h =>
    intro j hj
    have : j = 0 := by omega
    subst this
    simp only [Nat.mul_zero, List.drop_zero, Nat.sub_zero]
    unfold brUnits
    split
    · rename_i a b c d rest; exact absurd rfl (h a b c d rest)
    · rfl

theorem breakerAt_tag_inner {pv : Option Nat} {c : Nat} {r : Text}
    (hc : c = 0x62 ∨ c = 0x72 ∨ c = 0x3E ∨ c = 0x42 ∨ c = 0x52) : breakerAt pv (c :: r) = none := by
  rcases hc with rfl | rfl | rfl | rfl | rfl <;> rfl

theorem br_inner : ∀ (l : Text) (d : Nat) (pv : Option Nat), d < 4 * brUnits l → d % 4 ≠ 0 →
    breakerAt pv (l.drop d) = none := by
  intro l
  fun_induction brUnits l with
  | case1 a b c d rest h ih =>
    intro x pv hx hmod
    have htag : a = 0x3C ∧ d = 0x3E ∧ ((b = 0x62 ∧ c = 0x72) ∨ (b = 0x42 ∧ c = 0x52)) := by
      simpa [isBrTag, and_assoc] using h
    match x, hmod with
    | 0, hmod => exact absurd rfl hmod
    | 1, _ => exact breakerAt_tag_inner (by omega)
    | 2, _ => exact breakerAt_tag_inner (by omega)
    | 3, _ => exact breakerAt_tag_inner (by omega)
    | x + 4, hmod => exact ih x pv (by omega) (by omega)
  | case2 a b c d rest h => intro x pv hx; omega
  | case3 l h => intro x pv hx; omega

theorem head_of_brUnits_pos {c : Nat} {r : Text} (h : 1 ≤ brUnits (c :: r)) : c = 0x3C := by
  match r, h with
  | b1 :: b2 :: b3 :: r3, h =>
    rw [brUnits] at h
    by_cases ht : isBrTag c b1 b2 b3 = true
    · simp only [isBrTag, Bool.and_eq_true, decide_eq_true_eq] at ht
      exact ht.1.1
    · rw [if_neg ht] at h; cases h

theorem same_end {pv pv' : Option Nat} {l : Text} {n d n' : Nat}
    (h : breakerAt pv l = some n) (hd0 : 0 < d) (hdn : d < n)
    (h' : breakerAt pv' (l.drop d) = some n') : d + n' = n := by
  cases l with
  | nil => cases h
  | cons c rest =>
    rcases breakerAt_cases h with ⟨_, rfl⟩ | ⟨hcd, _, rfl⟩ | ⟨_, hk, rfl⟩
    · exact same_end_in_run (l := c :: rest) (q := 1) hd0 hdn h'
    · by_cases hda : d < 1 + spanLen isCdot rest
      · -- still inside the run of `・`: the match from there is the rest of the run and what follows it
        have ha : spanLen isCdot (c :: rest) = spanLen isCdot rest + 1 := by rw [spanLen, if_pos hcd]
        obtain ⟨c', r', hl, hc', hsp⟩ := drop_in_span isCdot (l := c :: rest) (d := d) (by omega)
        rw [hl] at h'
        have hr' : r'.drop (spanLen isCdot r') = rest.drop (spanLen isCdot rest) := by
          have h1 : (c :: rest).drop (d + (spanLen isCdot r' + 1)) = r'.drop (spanLen isCdot r') := by
            rw [← List.drop_drop, hl]; rfl
          rw [← h1, ← hsp, ha]
          rfl
        rw [breakerAt_cdot_head hc' h', hr']
        omega
      · exact (same_end_in_run (l := c :: rest) (q := 1 + spanLen isCdot rest) (Nat.le_of_not_lt hda)
          (by rw [Nat.add_comm 1, List.drop_succ_cons]; omega) h').trans
          (by rw [Nat.add_comm 1 (spanLen isCdot rest), List.drop_succ_cons])
    · by_cases hmod : d % 4 = 0
      · -- at the start of a later tag of the run: the match from there is the rest of the run
        have hbd := brUnits_drop (c :: rest) (d / 4) (by omega)
        rw [show 4 * (d / 4) = d by omega] at hbd
        cases hl : (c :: rest).drop d with
        | nil => rw [hl] at h'; cases h'
        | cons c' r' =>
          rw [hl] at h' hbd
          cases head_of_brUnits_pos (c := c') (r := r') (by omega)
          rcases breakerAt_cases h' with ⟨hp | hp, _⟩ | ⟨hc', _⟩ | ⟨_, _, rfl⟩
          · cases hp
          · cases hp
          · cases hc'
          · omega
      · rw [br_inner (c :: rest) d pv' hdn hmod] at h'; cases h'

/-! ## the ends `find_iter` reports -/

/-- ends (character index in the window) of the successive non-overlapping matches of
SENTENCE_BREAKER — what `find_iter` yields, independently of the loop body.
Same traversal as `scan`. -/
def matchEnds : Nat → Option Nat → Nat → Text → List Nat
  | _, _, _, [] => []
  | k, _, skip + 1, c :: rest => matchEnds (k + 1) (some c) skip rest
  | k, prev, 0, c :: rest =>
    match breakerAt prev (c :: rest) with
    | none => matchEnds (k + 1) (some c) 0 rest
    | some n => (k + n) :: matchEnds (k + 1) (some c) (n - 1) rest

/-- the character before the position reached after consuming `n` characters of `rest` -/
def advPrev (prev : Option Nat) (rest : Text) (n : Nat) : Option Nat :=
  if n = 0 then prev else rest[n - 1]?

theorem advPrev_zero (prev : Option Nat) (l : Text) : advPrev prev l 0 = prev := by simp [advPrev]

theorem advPrev_cons (prev : Option Nat) (c : Nat) (cs : Text) (n : Nat) :
    advPrev prev (c :: cs) (n + 1) = advPrev (some c) cs n := by
  unfold advPrev
  cases n with
  | zero => simp
  | succ n => simp

/-- **What `find_iter` reports**: `x` is among the reported ends iff it is the end of an anchored match of
SENTENCE_BREAKER at or behind the current position (taken with its true look-behind character) -/
theorem mem_matchEnds : ∀ (l : Text) (k : Nat) (prev : Option Nat) (skip x : Nat),
    x ∈ matchEnds k prev skip l ↔
      ∃ j n, skip ≤ j ∧ breakerAt (advPrev prev l j) (l.drop j) = some n ∧ x = k + j + n := by
  intro l
  induction l with
  | nil =>
    intro k prev skip x
    constructor
    · intro h; cases h
    · rintro ⟨j, n, _, hb, _⟩; rw [List.drop_nil] at hb; cases hb
  | cons c rest ih =>
    intro k prev skip x
    -- a match behind the first character, seen from `rest`
    have shift : ∀ sk, (∃ j n, sk ≤ j ∧ breakerAt (advPrev (some c) rest j) (rest.drop j) = some n ∧ x = k + 1 + j + n) ↔
        ∃ j n, sk + 1 ≤ j ∧ breakerAt (advPrev prev (c :: rest) j) ((c :: rest).drop j) = some n ∧ x = k + j + n := by
      intro sk
      constructor
      · rintro ⟨j, n, hj, hb, rfl⟩
        exact ⟨j + 1, n, by omega, by rw [advPrev_cons]; exact hb, by omega⟩
      · rintro ⟨j, n, hj, hb, rfl⟩
        obtain ⟨j', rfl⟩ : ∃ j', j = j' + 1 := ⟨j - 1, by omega⟩
        rw [advPrev_cons] at hb
        exact ⟨j', n, by omega, hb, by omega⟩
    cases skip with
    | succ sk => rw [matchEnds, ih, shift]
    | zero =>
      cases hb0 : breakerAt prev (c :: rest) with
      | none =>
        simp only [matchEnds, hb0]
        rw [ih, shift]
        constructor
        · rintro ⟨j, n, _, hb, hx⟩; exact ⟨j, n, Nat.zero_le _, hb, hx⟩
        · rintro ⟨j, n, _, hb, hx⟩
          cases j with
          | zero => rw [advPrev_zero, List.drop_zero, hb0] at hb; cases hb
          | succ j => exact ⟨j + 1, n, by omega, hb, hx⟩
      | some n0 =>
        simp only [matchEnds, hb0, List.mem_cons]
        rw [ih, shift]
        have hn0 := (breakerAt_bounds hb0).1
        constructor
        · rintro (rfl | ⟨j, n, _, hb, hx⟩)
          · exact ⟨0, n0, Nat.le_refl _, by rw [advPrev_zero]; exact hb0, rfl⟩
          · exact ⟨j, n, Nat.zero_le _, hb, hx⟩
        · rintro ⟨j, n, _, hb, rfl⟩
          by_cases hj0 : j = 0
          · subst hj0; rw [advPrev_zero, List.drop_zero, hb0] at hb; cases hb; exact Or.inl rfl
          · by_cases hin : j < n0
            · -- a match that starts inside this one ends with it
              exact Or.inl (by have := same_end hb0 (by omega) hin hb; omega)
            · exact Or.inr ⟨j, n, by omega, hb, rfl⟩

theorem matchEnds_lower {l : Text} {k skip x : Nat} {prev : Option Nat} (hx : x ∈ matchEnds k prev skip l) :
    k + skip < x := by
  obtain ⟨j, n, hj, hb, rfl⟩ := (mem_matchEnds l k prev skip x).mp hx
  have := (breakerAt_bounds hb).1
  omega

theorem matchEnds_bounds {s : Text} {e0 : Nat} (h : e0 ∈ matchEnds 0 none 0 s) : 1 ≤ e0 ∧ e0 ≤ s.length := by
  obtain ⟨j, n, _, hb, rfl⟩ := (mem_matchEnds s 0 none 0 e0).mp h
  have := breakerAt_bounds hb
  rw [List.length_drop] at this
  omega

theorem matchEnds_sorted : ∀ (l : Text) (k : Nat) (prev : Option Nat) (skip : Nat),
    (matchEnds k prev skip l).Pairwise (· < ·) := by
  intro l k prev skip
  -- the induction principle Lean generates for `matchEnds`: one case per equation of its definition, the last with
  -- `hb : breakerAt … = some n`
  fun_induction matchEnds k prev skip l with
  | case1 => exact List.Pairwise.nil
  | case2 _ _ _ _ _ ih => exact ih
  | case3 _ _ _ _ _ ih => exact ih
  | case4 k prev c rest n hb ih =>
    have hn := (breakerAt_bounds hb).1
    exact List.pairwise_cons.mpr ⟨fun x hx => by have := matchEnds_lower hx; omega, ih⟩

/-- the character before position `k` of `s` (`advPrev none s k`) -/
def prevChar (s : Text) (k : Nat) : Option Nat := if k = 0 then none else s[k - 1]?

end Sentence
