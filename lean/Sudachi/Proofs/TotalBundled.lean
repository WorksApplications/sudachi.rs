import Sudachi.Proofs.TotalCompose
/-!
# C03: the bundled OOV providers

* what `provide_oov` of the MeCab, the Simple and the (repaired) Regex provider can put into the lattice
  (`provide_fields`: an OOV node with a configured quadruple; hence `buildLattice_sourced`, from which `C03.candidate_costs_i16`) — on
  top of `Oov.provide_ok` (position/extent) and `Total.provide_noPanic`.  `Total.providerDefs` (the quadruples a provider is
  configured with) is declared in `Proofs/Oov.lean`, beside `Oov.provide_shape`, which is stated with it;
* `Bundled`: ONE bundled provider with its settings (the regex provider being the one with the empty-match guard);
  the non-empty list of them the loader demands is `C03.bundledCfg … (b :: bs)`.  (`Utf8Inv.Bundled` of
  `Proofs/PartitionUtf8.lean` is another notion: a predicate on input-text plugin functions.)
-/
namespace Total
open Oov (Outcome)

/-! ## what a bundled provider can put into the lattice -/

def defOf (x : Oov.Node) : Oov.OovDef := ⟨x.l, x.r, x.c, x.pos⟩

theorem provide_fields (p : Oov.Provider) (buf : Oov.Buf) (o created : Nat) (existing nodes : List Oov.Node)
    (h : Oov.provide p buf o created existing = .ok nodes) : ∀ x ∈ nodes, x.oov = true ∧ defOf x ∈ providerDefs p := by
  intro x hx
  obtain ⟨d, hd, k, rfl, _⟩ := Oov.provide_shape p buf o created existing nodes h x hx
  exact ⟨rfl, by cases d; exact hd⟩

theorem providerCostOk_iff (p : Oov.Provider) : ProviderCostOk p ↔ ∀ d ∈ providerDefs p, I16 d.c := by
  cases p with
  | mecab cfg =>
    simp only [ProviderCostOk, providerDefs, List.mem_flatMap]
    exact ⟨fun h d ⟨kv, hkv, hd⟩ => h kv hkv d hd, fun h kv hkv d hd => h d ⟨kv, hkv, hd⟩⟩
  | simple cfg => exact ⟨fun h d hd => List.mem_singleton.mp hd ▸ h, fun h => h _ (List.mem_singleton.mpr rfl)⟩
  | regex cfg => exact ⟨fun h d hd => List.mem_singleton.mp hd ▸ h, fun h => h _ (List.mem_singleton.mpr rfl)⟩

/-- where a node of the lattice comes from: a lexicon row, or a configured quadruple of a configured provider -/
def Sourced (ps : List Oov.Provider) (lex : List Oov.Word) (x : Oov.Node) : Prop :=
  (x.oov = false ∧ ∃ w ∈ lex, x.l = w.l ∧ x.r = w.r ∧ x.c = w.c) ∨
  (x.oov = true ∧ ∃ p ∈ ps, defOf x ∈ providerDefs p)

theorem buildLattice_sourced (ps : List Oov.Provider) (lex : List Oov.Word) (buf : Oov.Buf) (nodes : List Oov.Node)
    (h : Oov.buildLattice ps lex buf = .ok nodes) : ∀ x ∈ nodes, Sourced ps lex x := by
  refine buildLattice_forall (Sourced ps lex) ps lex buf (fun p new hnew => ?_) nodes h
  refine Oov.stepAt_forall (Sourced ps lex) ps lex buf p new ?_ ?_ hnew
  · intro x hx
    obtain ⟨w, hw, rfl⟩ := lexNodes_mem lex buf p x hx
    exact Or.inl ⟨rfl, w, hw, rfl, rfl, rfl⟩
  · intro q hq c ex out hout x hx
    obtain ⟨a, b⟩ := provide_fields q buf p c ex out hout x hx
    exact Or.inr ⟨a, q, hq, b⟩

/-! ## configurations made of bundled providers -/

/-- a bundled OOV provider with its settings; the regex provider is the one with the empty-match guard
(`fix: the regex OOV provider ignores an empty match`), so the variant flag of `Oov.RegexCfg` is not a setting -/
inductive Bundled where
  | mecab (c : Oov.MecabCfg)
  | simple (c : Oov.SimpleCfg)
  | regex (c : Oov.RegexCfg)

def Bundled.prov : Bundled → Oov.Provider
  | .mecab c => .mecab c
  | .simple c => .simple c
  | .regex c => .regex { c with skipEmpty := true }

theorem bundled_regexRepaired (bs : List Bundled) : RegexRepaired (bs.map Bundled.prov) := by
  intro p hp c hc
  obtain ⟨b, _, rfl⟩ := List.mem_map.mp hp
  cases b with
  | mecab c' => cases hc
  | simple c' => cases hc
  | regex c' => simp only [Bundled.prov] at hc; cases hc; rfl

end Total
