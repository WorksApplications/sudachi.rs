import Sudachi.Model.LatticeLex
import Sudachi.Proofs.LatticeRec
import Sudachi.Proofs.Trie
/-!
# The position loop of `build_lattice` with the dictionary inside (C02)

The stateful loop `buildLatS` decides `has_previous_node` by reading the recycled state; the functional loop
`collect` decides it on the list of nodes inserted so far.  On a state that simulates the lattice of that list
the two decisions agree (`hasPrev_sim`), so both loops are followed by ONE induction principle, `collect_cases`:
the stateful loop performs exactly the inserts of the list, and the list holds every candidate (`Cand`) of every
position a node ends at and nothing else.  The look-up the model iterates over is C04's `specSetFrom`.
-/
namespace Vit

variable (conn : Nat → Nat → Int)

/-! ### `build`, `buildP`, `buildS` on appended lists -/

theorem build_append : ∀ (a b : List Node) (rows : Rows),
    build conn (a ++ b) rows = build conn b (build conn a rows) := by
  intro a
  induction a with
  | nil => intro b rows; rfl
  | cons n ns ih => intro b rows; simp only [List.cons_append, build, ih]

theorem buildP_append : ∀ (a b : List Node) (rows : Rows) (pr : PRows),
    buildP conn (a ++ b) rows pr = buildP conn b (build conn a rows) (buildP conn a rows pr) := by
  intro a
  induction a with
  | nil => intro b rows pr; rfl
  | cons n ns ih => intro b rows pr; simp only [List.cons_append, build, buildP, ih]

theorem buildS_append : ∀ (a b : List Node) (s s1 : Lat), buildS conn a s = some s1 →
    buildS conn (a ++ b) s = buildS conn b s1 := by
  intro a
  induction a with
  | nil => intro b s s1 h; simp only [buildS, Option.some.injEq] at h; subst h; rfl
  | cons n ns ih =>
    intro b s s1 h
    simp only [List.cons_append, buildS] at h ⊢
    cases hi : insertS conn s n with
    | none => rw [hi] at h; cases h
    | some s' => rw [hi] at h; exact ih b s' s1 h

/-! ### the row at a position; `has_previous_node` on a simulating state -/

theorem build_nodes : ∀ (F : List Node) (rows : Rows) (e : Nat),
    (build conn F rows e).map (·.1) = (rows e).map (·.1) ++ F.filter (fun n => n.e == e) := by
  intro F
  induction F with
  | nil => intro rows e; exact (List.append_nil _).symm
  | cons n ns ih =>
    intro rows e
    rw [build, ih, insert, List.filter_cons]
    by_cases hq : e = n.e
    · subst hq; rw [if_pos rfl, if_pos (beq_self_eq_true _), List.map_append, List.append_assoc]; rfl
    · rw [if_neg hq, if_neg fun h => hq (beq_iff_eq.mp h).symm]

theorem filter_isEmpty_any {α : Type} (p : α → Bool) : ∀ (l : List α), (l.filter p).isEmpty = !l.any p := by
  intro l
  induction l with
  | nil => rfl
  | cons a as ih =>
    simp only [List.filter_cons, List.any_cons]
    cases hq : p a <;> simp [ih]

theorem hasPrev_sim {s : Lat} {acc : List Node} {pr : PRows} {len : Nat}
    (h : Sim s (build conn acc init) pr len) (o : Nat) (ho : o ≤ len) : hasPrev s o = reachable acc o := by
  -- the row at `o` holds the BOS entry (`o = 0`) and the nodes of `acc` that end at `o`
  have hrow : (build conn acc init o).isEmpty = !reachable acc o := by
    rw [← List.isEmpty_map (f := fun ent : Entry => ent.1), build_nodes, reachable, Bool.not_or,
      ← filter_isEmpty_any]
    cases o <;> rfl
  rw [hasPrev, h.ends o ho]; dsimp only
  rw [List.isEmpty_map, hrow, Bool.not_not]

/-! ### the cases of the position loop -/

/-- induction along `collect`: a position without previous node is skipped; at a position with one, either nothing is
created and the loop stops, or the new nodes are appended -/
theorem collect_cases (x : BIn) {P : List (Nat × Nat) → List Node → List Node → Bool → Prop}
    (nil : ∀ acc, P [] acc acc true)
    (skip : ∀ o bo rest acc F fin, reachable acc o = false → P rest acc F fin → P ((o, bo) :: rest) acc F fin)
    (stop : ∀ o bo rest acc, reachable acc o = true → candsAt x o bo = some [] → P ((o, bo) :: rest) acc acc false)
    (step : ∀ o bo rest acc new F fin, reachable acc o = true → candsAt x o bo = some new → new ≠ [] →
      P rest (acc ++ new) F fin → P ((o, bo) :: rest) acc F fin) :
    ∀ ps acc F fin, collect x ps acc = some (F, fin) → P ps acc F fin := by
  intro ps
  induction ps with
  | nil => intro acc F fin h; cases h; exact nil acc
  | cons p rest ih =>
    intro acc F fin h
    obtain ⟨o, bo⟩ := p
    rw [collect] at h
    cases hr : reachable acc o with
    | false => rw [hr] at h; exact skip o bo rest acc F fin hr (ih acc F fin h)
    | true =>
      rw [hr] at h
      cases hc : candsAt x o bo with
      | none => rw [hc] at h; cases h
      | some new =>
        rw [hc] at h
        cases new with
        | nil => cases h; exact stop o bo rest acc hr hc
        | cons a as => exact step o bo rest acc (a :: as) F fin hr hc (List.cons_ne_nil _ _) (ih _ F fin h)

/-- **the stateful loop = the functional candidate list**, on every state that simulates the lattice of the nodes
inserted so far -/
theorem buildLatS_collect (x : BIn) (len : Nat) : ∀ (ps : List (Nat × Nat)) (acc F : List Node) (fin : Bool),
    collect x ps acc = some (F, fin) → ∃ r, F = acc ++ r ∧ ∀ s, (∀ p ∈ ps, p.1 ≤ len) →
      Sim s (build conn acc init) (buildP conn acc init initP) len → (∀ n ∈ F, n.b ≤ len ∧ n.e ≤ len) →
      ∃ s2, buildLatS conn x ps s = some (s2, fin) ∧ buildS conn r s = some s2 ∧
        Sim s2 (build conn F init) (buildP conn F init initP) len ∧ s2.eos = s.eos := by
  refine collect_cases x ?_ ?_ ?_ ?_
  · exact fun acc => ⟨[], (List.append_nil _).symm, fun s _ hsim _ => ⟨s, rfl, rfl, hsim, rfl⟩⟩
  · intro o bo rest acc F fin hr ⟨r, e, ih⟩
    refine ⟨r, e, fun s hpos hsim hF => ?_⟩
    rw [buildLatS, hasPrev_sim conn hsim o (hpos _ (List.mem_cons_self ..)), hr]
    exact ih s (fun p hp => hpos p (List.mem_cons_of_mem _ hp)) hsim hF
  · intro o bo rest acc hr hc
    refine ⟨[], (List.append_nil _).symm, fun s hpos hsim _ => ⟨s, ?_, rfl, hsim, rfl⟩⟩
    rw [buildLatS, hasPrev_sim conn hsim o (hpos _ (List.mem_cons_self ..)), hr]
    simp only [hc, buildS]; rfl
  · intro o bo rest acc new F fin hr hc hne ⟨r, e, ih⟩
    refine ⟨new ++ r, by rw [e, List.append_assoc], fun s hpos hsim hF => ?_⟩
    -- the inserts of this position keep the simulation; the rest of the loop runs on the state they leave
    obtain ⟨s', b1, b2, b3, _⟩ := build_sim conn new s _ _ len hsim
      fun n hn => hF n (e ▸ List.mem_append_left _ (List.mem_append_right _ hn))
    rw [← build_append, ← buildP_append] at b2
    obtain ⟨s2, e2, e3, e4, e5⟩ := ih s' (fun p hp => hpos p (List.mem_cons_of_mem _ hp)) b2 hF
    refine ⟨s2, ?_, (buildS_append conn new r s s' b1).trans e3, e4, e5.trans b3⟩
    rw [buildLatS, hasPrev_sim conn hsim o (hpos _ (List.mem_cons_self ..)), hr]
    simp only [hc, b1, List.isEmpty_eq_false_iff.mpr hne]; exact e2

/-! ### the positions of the loop -/

theorem positions_fst (x : BIn) (ps : List (Nat × Nat)) (h : positions x = some ps) :
    ps.map (·.1) = List.range (x.c2b.length - 1) := by
  unfold positions at h
  split at h
  · cases h
  · simp only [Option.some.injEq] at h
    subst h
    simp only [List.map_map]
    have : ((fun p : Nat × Nat => p.1) ∘ fun p : Nat × Nat => (p.2, p.1)) = Prod.snd := rfl
    rw [this, List.zipIdx_map_snd, List.range_eq_range']
    simp

theorem positions_sorted (x : BIn) (ps : List (Nat × Nat)) (h : positions x = some ps) :
    ps.Pairwise (fun p q => p.1 < q.1) := by
  have h1 := positions_fst x ps h
  have h2 : (ps.map (·.1)).Pairwise (· < ·) := by rw [h1]; exact List.pairwise_lt_range
  exact List.pairwise_map.mp h2

/-! ### what is inserted at a position -/

/-- the outcomes of one look-up entry: it is inserted only as the node of its row's parameters that begins at `o` and
ends at `ch_idx` of its end, and it is not skipped when it passes the `can_bow` test -/
theorem candOf_some {x : BIn} {o : Nat} {we : Nat × Nat} {r : Option (Nat × Node)} (h : candOf x o we = some r) :
    (∀ c, r = some c → ∃ p ec, wordParam x we.1 = some p ∧ x.b2c[we.2]? = some ec ∧
      c = (we.1, ⟨o, ec, toU16 p.left, toU16 p.right, p.cost⟩)) ∧
    ((x.text.length ≤ we.2 ∨ x.bow[we.2]? = some true) → r ≠ none) := by
  unfold candOf at h
  dsimp only at h
  generalize hsk : (if we.2 < x.text.length then (x.bow[we.2]?).map (fun b => !b) else some false) = skip at h
  rcases skip with _ | _ | _
  · cases h
  · dsimp only at h
    cases hp : wordParam x we.1 with
    | none => rw [hp] at h; cases h
    | some p =>
      cases hc : x.b2c[we.2]? with
      | none => rw [hp, hc] at h; cases h
      | some ec =>
        rw [hp, hc] at h; cases h
        exact ⟨fun c hc' => ⟨p, ec, rfl, rfl, (Option.some.inj hc').symm⟩, fun _ => nofun⟩
  · cases h
    refine ⟨nofun, fun hb _ => ?_⟩
    by_cases hlt : we.2 < x.text.length
    · rw [if_pos hlt, hb.resolve_left (Nat.not_le_of_gt hlt)] at hsk; cases hsk
    · rw [if_neg hlt] at hsk; cases hsk

theorem candsGo_cons (x : BIn) (o : Nat) (we : Nat × Nat) (rest : List (Nat × Nat)) :
    candsGo x o (we :: rest) = (candOf x o we).bind fun c => (candsGo x o rest).map (c.toList ++ ·) := by
  rw [candsGo]
  rcases candOf x o we with _ | _ | c <;> cases candsGo x o rest <;> rfl

/-- every accepted word begins at `o`; every entry of the look-up is either skipped or inserted, and the inserted
ones are in the list -/
theorem candsGo_spec (x : BIn) (o : Nat) : ∀ (l : List (Nat × Nat)) (lc : List (Nat × Node)), candsGo x o l = some lc →
    (∀ c ∈ lc, c.2.b = o) ∧ ∀ we ∈ l, ∃ r, candOf x o we = some r ∧ ∀ c, r = some c → c ∈ lc := by
  intro l
  induction l with
  | nil => intro lc h; cases h; exact ⟨nofun, nofun⟩
  | cons w0 rest ih =>
    intro lc h
    rw [candsGo_cons] at h
    obtain ⟨r0, h0, h⟩ := Option.bind_eq_some_iff.mp h
    obtain ⟨r, hr, rfl⟩ := Option.map_eq_some_iff.mp h
    obtain ⟨i1, i2⟩ := ih r hr
    refine ⟨fun c hc => ?_, List.forall_mem_cons.mpr ⟨⟨r0, h0, fun c hc => ?_⟩, fun we hwe => ?_⟩⟩
    · rcases List.mem_append.mp hc with hc | hc
      · obtain ⟨_, _, _, _, rfl⟩ := (candOf_some h0).1 c (Option.mem_toList.mp hc); rfl
      · exact i1 c hc
    · exact List.mem_append_left _ (Option.mem_toList.mpr hc)
    · obtain ⟨r', g1, g2⟩ := i2 we hwe
      exact ⟨r', g1, fun c hc => List.mem_append_right _ (g2 c hc)⟩

theorem candsAt_some {x : BIn} {o bo : Nat} {new : List Node} (h : candsAt x o bo = some new) :
    ∃ lc, candsGo x o (dictLookup x bo) = some lc ∧ new = lc.map (·.2) ++ x.oov.filter (fun n => n.b == o) := by
  obtain ⟨lc, hl, rfl⟩ := Option.map_eq_some_iff.mp h
  exact ⟨lc, hl, rfl⟩

theorem candsAt_b (x : BIn) (o bo : Nat) (new : List Node) (h : candsAt x o bo = some new) :
    ∀ n ∈ new, n.b = o := by
  obtain ⟨lc, hl, rfl⟩ := candsAt_some h
  intro n hn
  rcases List.mem_append.mp hn with hn | hn
  · obtain ⟨c, hc, rfl⟩ := List.mem_map.mp hn
    exact (candsGo_spec x o _ lc hl).1 c hc
  · exact beq_iff_eq.mp (List.mem_filter.mp hn).2

theorem candsAt_dict (x : BIn) (o bo : Nat) (new : List Node) (h : candsAt x o bo = some new) (w e : Nat)
    (hw : (w, e) ∈ dictLookup x bo) (hb : x.text.length ≤ e ∨ x.bow[e]? = some true) :
    ∃ p ec, wordParam x w = some p ∧ x.b2c[e]? = some ec ∧
      (⟨o, ec, toU16 p.left, toU16 p.right, p.cost⟩ : Node) ∈ new := by
  obtain ⟨lc, hl, rfl⟩ := candsAt_some h
  obtain ⟨r, g1, g2⟩ := (candsGo_spec x o _ lc hl).2 (w, e) hw
  obtain ⟨c, rfl⟩ := Option.ne_none_iff_exists'.mp ((candOf_some g1).2 hb)
  obtain ⟨p, ec, hp, hc, rfl⟩ := (candOf_some g1).1 c rfl
  exact ⟨p, ec, hp, hc, List.mem_append_left _ (List.mem_map.mpr ⟨_, g2 _ rfl, rfl⟩)⟩

theorem candsAt_oov (x : BIn) (o bo : Nat) (new : List Node) (h : candsAt x o bo = some new) (n : Node)
    (hn : n ∈ x.oov) (hb : n.b = o) : n ∈ new := by
  obtain ⟨lc, _, rfl⟩ := candsAt_some h
  exact List.mem_append_right _ (List.mem_filter.mpr ⟨hn, beq_iff_eq.mpr hb⟩)

/-! ### soundness and completeness of the candidate list -/

/-- `n` is a node the builder creates at some position: a dictionary hit at that position that passes the `can_bow`
test (with the parameters of its row), or a node the providers pushed there -/
def Cand (x : BIn) (ps : List (Nat × Nat)) (n : Node) : Prop :=
  ∃ o bo new, (o, bo) ∈ ps ∧ candsAt x o bo = some new ∧ n ∈ new

theorem Cand.pos {x : BIn} {ps : List (Nat × Nat)} {n : Node} (h : Cand x ps n) : ∃ bo, (n.b, bo) ∈ ps := by
  obtain ⟨o, bo, new, m1, m2, m3⟩ := h
  exact ⟨bo, candsAt_b x o bo new m2 n m3 ▸ m1⟩

theorem Cand.cons {x : BIn} {p : Nat × Nat} {ps : List (Nat × Nat)} {n : Node} (h : Cand x ps n) :
    Cand x (p :: ps) n := by
  obtain ⟨o, bo, new, m1, m2, m3⟩ := h
  exact ⟨o, bo, new, List.mem_cons_of_mem _ m1, m2, m3⟩

theorem reachable_iff {acc : List Node} {p : Nat} : reachable acc p = true ↔ p = 0 ∨ ∃ n ∈ acc, n.e = p := by
  simp only [reachable, Bool.or_eq_true, beq_iff_eq, List.any_eq_true]

theorem reachable_stable (acc r : List Node) (o : Nat) (h : ∀ n ∈ r, o < n.e) :
    reachable (acc ++ r) o = reachable acc o := by
  have : r.any (fun n => n.e == o) = false :=
    List.any_eq_false.mpr fun n hn he => Nat.lt_irrefl o (beq_iff_eq.mp he ▸ h n hn)
  rw [reachable, List.any_append, this, Bool.or_false]; rfl

/-- the candidate list of a loop that ran to its end: every node is a candidate of some position, at every
position a previous node ends at everything `candsAt` produces is in the list, and begins do not decrease -/
theorem collect_spec (x : BIn) : ∀ (ps : List (Nat × Nat)) (acc F : List Node) (fin : Bool),
    collect x ps acc = some (F, fin) → fin = true → ps.Pairwise (fun p q => p.1 < q.1) → (∀ n ∈ F, n.b < n.e) →
    ∃ r, F = acc ++ r ∧ (∀ n ∈ r, Cand x ps n) ∧
      (∀ o bo, (o, bo) ∈ ps → reachable F o = true → ∃ new, candsAt x o bo = some new ∧ ∀ n ∈ new, n ∈ F) ∧
      r.Pairwise (fun a b => a.b ≤ b.b) := by
  refine collect_cases x ?_ ?_ ?_ ?_
  · exact fun acc _ _ _ => ⟨[], (List.append_nil _).symm, nofun, nofun, List.Pairwise.nil⟩
  · intro o bo rest acc F fin hr ih hfin hsort hwf
    obtain ⟨hs1, hs2⟩ := List.pairwise_cons.mp hsort
    obtain ⟨r, e1, e2, e3, e4⟩ := ih hfin hs2 hwf
    refine ⟨r, e1, fun n hn => (e2 n hn).cons, fun o' bo' hm hre => ?_, e4⟩
    rcases List.mem_cons.mp hm with hm | hm
    · -- the skipped position stays without previous node: the later nodes begin after it and are not empty
      cases hm
      have hst := reachable_stable acc r o fun n hn => by
        obtain ⟨_, hp⟩ := (e2 n hn).pos
        exact Nat.lt_trans (hs1 _ hp) (hwf n (e1 ▸ List.mem_append_right _ hn))
      rw [e1, hst, hr] at hre; cases hre
    · exact e3 o' bo' hm hre
  · exact fun _ _ _ _ _ _ => nofun
  · intro o bo rest acc new F fin hr hc hne ih hfin hsort hwf
    obtain ⟨hs1, hs2⟩ := List.pairwise_cons.mp hsort
    obtain ⟨r, e1, e2, e3, e4⟩ := ih hfin hs2 hwf
    have hb := candsAt_b x o bo new hc
    refine ⟨new ++ r, by rw [e1, List.append_assoc], fun n hn => ?_, fun o' bo' hm hre => ?_, ?_⟩
    · rcases List.mem_append.mp hn with hn | hn
      · exact ⟨o, bo, new, List.mem_cons_self .., hc, hn⟩
      · exact (e2 n hn).cons
    · rcases List.mem_cons.mp hm with hm | hm
      · cases hm
        exact ⟨new, hc, fun n hn => e1 ▸ List.mem_append_left _ (List.mem_append_right _ hn)⟩
      · exact e3 o' bo' hm hre
    · refine List.pairwise_append.mpr ⟨?_, e4, fun a ha b hb' => ?_⟩
      · exact List.pairwise_of_forall_mem_list fun a ha b hb' => Nat.le_of_eq ((hb a ha).trans (hb b hb').symm)
      · obtain ⟨_, hp⟩ := (e2 b hb').pos
        exact hb a ha ▸ Nat.le_of_lt (hs1 _ hp)

/-! ### chains of dictionary/provider candidates -/

/-- a sequence of `Cand` nodes, each beginning where the previous one ended -/
def CandChain (x : BIn) (ps : List (Nat × Nat)) : Node → List Node → Prop
  | _, [] => True
  | prev, n :: rest => Cand x ps n ∧ n.b = prev.e ∧ CandChain x ps n rest

theorem candChain_isChain (x : BIn) (ps : List (Nat × Nat)) (F : List Node)
    (hcomp : ∀ o bo, (o, bo) ∈ ps → reachable F o = true → ∃ new, candsAt x o bo = some new ∧ ∀ n ∈ new, n ∈ F) :
    ∀ (ws : List Node) (prev : Node), (prev.e = 0 ∨ prev ∈ F) → CandChain x ps prev ws → IsChain F prev ws := by
  intro ws
  induction ws with
  | nil => intro _ _ _; trivial
  | cons n rest ih =>
    intro prev hprev h
    obtain ⟨⟨o, bo, new, m1, m2, m3⟩, hb, hrest⟩ := h
    have ho : o = prev.e := (candsAt_b x o bo new m2 n m3).symm.trans hb
    obtain ⟨new', c1, c2⟩ := hcomp o bo m1
      (reachable_iff.mpr (hprev.imp ho.trans fun hp => ⟨prev, hp, ho.symm⟩))
    cases m2.symm.trans c1
    exact ⟨c2 n m3, hb, ih n (Or.inr (c2 n m3)) hrest⟩

theorem isChain_candChain (x : BIn) (ps : List (Nat × Nat)) (F : List Node) (hsound : ∀ n ∈ F, Cand x ps n) :
    ∀ (ws : List Node) (prev : Node), IsChain F prev ws → CandChain x ps prev ws := by
  intro ws
  induction ws with
  | nil => intro _ _; trivial
  | cons n rest ih =>
    intro prev h
    exact ⟨hsound n h.1, h.2.1, ih n h.2.2⟩

/-! ### the look-up of the model IS the specification C04 proves of the trie walk -/

/-- the columns of a row the index builder reads -/
def toEntry (w : DWord) : Trie.Entry := ⟨w.key, w.left⟩

theorem idsOfKey_eq : ∀ (es : List DWord) (i : Nat) (key : List Nat),
    idsOfKey i es key = Trie.idsFrom i (es.map toEntry) key := by
  intro es
  induction es with
  | nil => intro i key; rfl
  | cons e es ih =>
    intro i key
    simp only [idsOfKey, List.map_cons, Trie.idsFrom, ih]
    rfl

theorem lexLookupD_eq (d : Nat) (es : List DWord) (off : Nat) (t : List Nat) :
    lexLookupD d es off t = Trie.specLex d (es.map toEntry) off t := by
  unfold lexLookupD Trie.specLex
  simp only [idsOfKey_eq]

theorem dictLookupFrom_eq_spec : ∀ (dicts : List (List DWord)) (d off : Nat) (t : List Nat),
    dictLookupFrom d dicts off t = Trie.specSetFrom d (dicts.map (·.map toEntry)) off t := by
  intro dicts
  induction dicts with
  | nil => intro d off t; rfl
  | cons es rest ih =>
    intro d off t
    simp only [dictLookupFrom, List.map_cons, Trie.specSetFrom, ih, lexLookupD_eq]

theorem dictLookup_eq_spec (x : BIn) (off : Nat) :
    dictLookup x off = Trie.specSetFrom 0 (x.dicts.map (·.map toEntry)) off (x.text.drop off) :=
  dictLookupFrom_eq_spec x.dicts 0 off _

end Vit
