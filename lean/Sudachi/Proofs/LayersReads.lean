import Sudachi.Proofs.Layers
import Sudachi.Model.LayersReads
/-!
# The dictionary builder's POS numbering, across several `read_lexicon` calls, failing ones included

The POS map of a reader only grows at its end and every value is the position of its key (`WF`); `Extends r r' kept` says
that `r'` is `r` after some more rows, the kept ones stored with ids that name their POS in the map of `r'`.  A rejected line
leaves the reader with a longer POS map and no new entry, an accepted one with exactly one entry: both are an `Extends`
(`readLineK_extends`), and a call, a sequence of calls and the compile after them (`finishBuild_pos_numbering`) compose.  The
reader of `Layers.build` is the same reader on the lines it accepts (`readRow_K`), so the single successful `read_lexicon` is
the special case `C12.builder_pos_numbering`.  The suffix `K` marks the functions of `Model/LayersReads.lean` that KEEP the
reader state a failing call leaves behind.  Also here: what the two versions of `new_user` preload (`preOf_sysOnly`).
-/
namespace Layers

/-! ## The POS map: every value is the position of its key -/

def keys (m : PosMap) : List Pos := m.map (·.1)

/-- 32768 = `MAX_POS_IDS + 1`: `pos_of` refuses a new key once the map is longer than `MAX_POS_IDS` -/
def WF (m : PosMap) : Prop := m = (keys m).zipIdx ∧ m.length ≤ 32768

theorem keys_length (m : PosMap) : (keys m).length = m.length := List.length_map _

theorem keys_append (m ext : PosMap) : keys (m ++ ext) = keys m ++ keys ext := List.map_append

theorem imGet_some {m : PosMap} (hm : WF m) {p : Pos} {id : Nat} (h : imGet m p = some id) :
    (keys m)[id]? = some p := by
  unfold imGet at h
  cases hkv : m.find? (fun kv => kv.1 == p) with
  | none => rw [hkv] at h; cases h
  | some kv =>
    rw [hkv] at h
    cases h
    have hmem := List.mem_of_find?_eq_some hkv
    rw [hm.1] at hmem
    have hk := List.find?_some hkv
    rw [← eq_of_beq hk]
    exact List.mem_zipIdx_iff_getElem?.1 hmem

theorem imGet_none {m : PosMap} {p : Pos} (h : imGet m p = none) : p ∉ keys m := by
  unfold imGet at h
  cases hkv : m.find? (fun kv => kv.1 == p) with
  | some kv => rw [hkv] at h; cases h
  | none =>
    intro hin
    obtain ⟨kv, hmem, rfl⟩ := List.mem_map.1 hin
    exact List.find?_eq_none.1 hkv kv hmem (beq_self_eq_true _)

theorem imInsert_new (p : Pos) (v : Nat) : ∀ (m : PosMap), p ∉ keys m → imInsert m p v = m ++ [(p, v)]
  | [], _ => rfl
  | (k', v') :: rest, h => by
    have hne : k' ≠ p := fun e => h (by rw [e]; exact List.mem_cons_self)
    rw [imInsert, beq_false_of_ne hne, if_neg Bool.false_ne_true,
      imInsert_new p v rest (fun hm => h (List.mem_cons_of_mem _ hm))]
    rfl

theorem WF_push {m : PosMap} (hm : WF m) (p : Pos) (hlen : m.length < 32768) : WF (m ++ [(p, m.length)]) := by
  refine ⟨?_, by rw [List.length_append]; exact hlen⟩
  rw [keys_append, List.zipIdx_append, ← hm.1, keys_length, Nat.zero_add]
  rfl

theorem posOf_spec {m m' : PosMap} {p : Pos} {id : Nat} (hm : WF m) (h : posOf m p = .ok (m', id)) :
    ∃ ext, m' = m ++ ext ∧ WF m' ∧ (keys m')[id]? = some p := by
  unfold posOf at h
  cases hget : imGet m p with
  | some id' =>
    rw [hget] at h
    cases h
    exact ⟨[], (List.append_nil m).symm, hm, imGet_some hm hget⟩
  | none =>
    rw [hget] at h
    by_cases hlen : m.length > MAX_POS_IDS
    · rw [if_pos hlen] at h; cases h
    · have hlt : m.length < 32768 := Nat.lt_succ_of_le (Nat.le_of_not_lt hlen)
      rw [if_neg hlen, asU16, Nat.mod_eq_of_lt (Nat.lt_trans hlt (by decide)),
        imInsert_new p m.length m (imGet_none hget)] at h
      cases h
      refine ⟨[(p, m.length)], rfl, WF_push hm p hlt, ?_⟩
      rw [keys_append, ← keys_length m, List.getElem?_append_right (Nat.le_refl _), Nat.sub_self]
      rfl

theorem keys_ext {m : PosMap} (ext : PosMap) {i : Nat} {p : Pos} (h : (keys m)[i]? = some p) :
    (keys (m ++ ext))[i]? = some p := by
  rw [keys_append, List.getElem?_append_left (List.getElem?_eq_some_iff.1 h).1]
  exact h

theorem parseSplit_grows {m m' : PosMap} {u : CsvUnit} {su : SUnit} (hm : WF m)
    (h : parseSplit m u = .ok (m', su)) : ∃ ext, m' = m ++ ext ∧ WF m' := by
  cases u with
  | ref user n =>
    rw [parseSplit] at h
    cases hw : parseWordId user n with
    | ok wid => rw [hw] at h; cases h; exact ⟨[], (List.append_nil m).symm, hm⟩
    | err e => rw [hw] at h; cases h
    | panic w => rw [hw] at h; cases h
  | inline s p r =>
    rw [parseSplit] at h
    cases hp : posOf m p with
    | ok mi =>
      rw [hp] at h
      cases h
      obtain ⟨ext, h1, h2, _⟩ := posOf_spec hm hp
      exact ⟨ext, h1, h2⟩
    | err e => rw [hp] at h; cases h
    | panic w => rw [hp] at h; cases h

/-! ## `Extends`: what a stretch of reading does to a reader -/

/-- the reader `r'` extends `r`: the entries appended are, in order, the kept rows `kept`, each stored with a POS id that
names the row's POS in the FINAL map -/
structure Extends (r r' : Reader) (kept : List Row) : Prop where
  pos : ∃ ext, r'.pos = r.pos ++ ext
  wf : WF r'.pos
  startPos : r'.startPos = r.startPos
  entries : ∃ es, r'.entries = r.entries ++ es ∧ es.length = kept.length ∧
    ∀ (i : Nat) (row : Row), kept[i]? = some row → ∃ e, es[i]? = some e ∧ (keys r'.pos)[e.pos]? = some row.pos

theorem Extends.none (r : Reader) (m ext : PosMap) (u : Nat) (he : m = r.pos ++ ext) (hw : WF m) :
    Extends r { r with pos := m, unresolved := u } [] :=
  ⟨⟨ext, he⟩, hw, rfl, [], (List.append_nil _).symm, rfl, fun _ _ hi => nomatch hi⟩

theorem Extends.refl (r : Reader) (hm : WF r.pos) : Extends r r [] :=
  Extends.none r r.pos [] r.unresolved (List.append_nil _).symm hm

theorem Extends.one (r : Reader) (m ext : PosMap) (u : Nat) (e : Entry) (row : Row) (he : m = r.pos ++ ext)
    (hw : WF m) (hid : (keys m)[e.pos]? = some row.pos) :
    Extends r { r with pos := m, entries := r.entries ++ [e], unresolved := u } [row] :=
  ⟨⟨ext, he⟩, hw, rfl, [e], rfl, rfl, fun i _ hi => match i, hi with | 0, rfl => ⟨e, rfl, hid⟩⟩

/-- ids handed out earlier keep their meaning when the builder goes on: the map only grows at the end -/
theorem Extends.trans {r r1 r2 : Reader} {k1 k2 : List Row} (h1 : Extends r r1 k1) (h2 : Extends r1 r2 k2) :
    Extends r r2 (k1 ++ k2) := by
  obtain ⟨x1, hp1⟩ := h1.pos
  obtain ⟨x2, hp2⟩ := h2.pos
  obtain ⟨es1, hent1, hl1, ha1⟩ := h1.entries
  obtain ⟨es2, hent2, hl2, ha2⟩ := h2.entries
  refine ⟨⟨x1 ++ x2, by rw [hp2, hp1, List.append_assoc]⟩, h2.wf, h2.startPos.trans h1.startPos, es1 ++ es2,
    by rw [hent2, hent1, List.append_assoc], by rw [List.length_append, List.length_append, hl1, hl2], ?_⟩
  intro i row hi
  by_cases hlt : i < k1.length
  · rw [List.getElem?_append_left hlt] at hi
    obtain ⟨e, he, hk⟩ := ha1 i row hi
    refine ⟨e, by rw [List.getElem?_append_left (hl1 ▸ hlt)]; exact he, ?_⟩
    rw [hp2]; exact keys_ext x2 hk
  · have hge : k1.length ≤ i := Nat.le_of_not_lt hlt
    rw [List.getElem?_append_right hge] at hi
    obtain ⟨e, he, hk⟩ := ha2 (i - k1.length) row hi
    exact ⟨e, by rw [List.getElem?_append_right (hl1 ▸ hge), hl1]; exact he, hk⟩

/-! ## `preload_pos` and `write_pos_table` -/

theorem preloadGo_spec (ps : List Pos) (m : PosMap) (i : Nat) (hm : WF m) (hlen : m.length = i)
    (hnd : (keys m ++ ps).Nodup) (hle : (keys m ++ ps).length ≤ 32768) :
    keys (preloadGo m i ps) = keys m ++ ps ∧ WF (preloadGo m i ps) := by
  induction ps generalizing m i with
  | nil => exact ⟨(List.append_nil _).symm, hm⟩
  | cons p ps ih =>
    unfold preloadGo
    have hnotin : p ∉ keys m := fun hin => (List.nodup_append.mp hnd).2.2 p hin p List.mem_cons_self rfl
    have hlt : m.length < 32768 := by
      rw [List.length_append, List.length_cons, keys_length] at hle
      exact Nat.lt_of_lt_of_le (Nat.lt_add_of_pos_right (Nat.succ_pos _)) hle
    subst hlen
    rw [asU16, Nat.mod_eq_of_lt (Nat.lt_trans hlt (by decide)), imInsert_new p _ m hnotin]
    have hk : keys (m ++ [(p, m.length)]) ++ ps = keys m ++ p :: ps := by
      rw [keys_append, List.append_assoc]; rfl
    have := ih (m ++ [(p, m.length)]) (m.length + 1) (WF_push hm p hlt) List.length_append
      (hk ▸ hnd) (hk ▸ hle)
    rw [hk] at this
    exact this

theorem preloadPos_spec {g : List Pos} (hnd : g.Nodup) (hle : g.length ≤ 32768) :
    keys (preloadPos g).pos = g ∧ WF (preloadPos g).pos ∧ (preloadPos g).startPos = g.length ∧
    (preloadPos g).entries = [] := by
  have h := preloadGo_spec g [] 0 ⟨rfl, Nat.zero_le _⟩ rfl hnd hle
  refine ⟨h.1, h.2, ?_, rfl⟩
  show (preloadGo [] 0 g).length = g.length
  rw [← keys_length, show keys (preloadGo [] 0 g) = g from h.1]

theorem filter_zipIdx (S : Nat) (l : List Pos) (n : Nat) :
    ((l.zipIdx n).filter (fun kv => decide (kv.2 ≥ S))).map (·.1) = l.drop (S - n) := by
  induction l generalizing n with
  | nil => exact (List.drop_nil).symm
  | cons a l ih =>
    rw [List.zipIdx_cons, List.filter_cons]
    by_cases h : n ≥ S
    · rw [if_pos (decide_eq_true h), List.map_cons, ih (n + 1), Nat.sub_eq_zero_of_le h,
        Nat.sub_eq_zero_of_le (Nat.le_succ_of_le h)]
      rfl
    · rw [if_neg (by rw [decide_eq_true_eq]; exact h), ih (n + 1), Nat.sub_succ S n,
        ← List.drop_succ_cons (a := a)]
      exact congrArg (List.drop · (a :: l)) (Nat.succ_pred_eq_of_pos (Nat.sub_pos_of_lt (Nat.lt_of_not_le h)))

theorem writePosTable_spec (r : Reader) (hm : WF r.pos) :
    writePosTable r = (r.pos.length - r.startPos, (keys r.pos).drop r.startPos) := by
  have hf := filter_zipIdx r.startPos (keys r.pos) 0
  rw [← hm.1] at hf
  unfold writePosTable
  rw [asU16, Nat.mod_eq_of_lt (Nat.lt_of_le_of_lt (Nat.sub_le _ _) (Nat.lt_of_le_of_lt hm.2 (by decide))), hf]
  rfl

/-! ## `resolve` + `compile` (`finishBuild`) in parts -/

theorem resolveEntries_pos {own sys : List IdxLine} {es es' : List Entry}
    (h : resolveEntries own sys es = .ok es') : es'.map (·.pos) = es.map (·.pos) := by
  induction es generalizing es' with
  | nil => cases h; rfl
  | cons e es ih =>
    unfold resolveEntries at h
    cases ha : mapO (resolveUnit own sys) e.a with
    | err x => rw [ha] at h; cases h
    | panic w => rw [ha] at h; cases h
    | ok a =>
      cases hb : mapO (resolveUnit own sys) e.b with
      | err x => simp only [ha, hb] at h; cases h
      | panic w => simp only [ha, hb] at h; cases h
      | ok b =>
        cases hr : resolveEntries own sys es with
        | err x => simp only [ha, hb, hr] at h; cases h
        | panic w => simp only [ha, hb, hr] at h; cases h
        | ok rest =>
          simp only [ha, hb, hr] at h
          cases h
          rw [List.map_cons, List.map_cons, ih hr]

theorem build_eq (pre : Option (List Pos × List SysWord)) (rows : List Row) :
    build pre rows = (readRows (startReader pre) rows).bind (finishBuild pre) := by
  show (match readRows (startReader pre) rows with
    | .err e => Outcome.err e | .panic w => Outcome.panic w | .ok r => finishBuild pre r) = _
  cases readRows (startReader pre) rows <;> rfl

theorem build_inv {pre : Option (List Pos × List SysWord)} {rows : List Row} {b : Built} (h : build pre rows = .ok b) :
    ∃ r, readRows (startReader pre) rows = .ok r ∧ finishBuild pre r = .ok b := by
  rw [build_eq] at h
  exact bind_eq_ok h

theorem finishBuild_inv {pre : Option (List Pos × List SysWord)} {r : Reader} {b : Built}
    (h : finishBuild pre r = .ok b) :
    ∃ es, es.map (·.pos) = r.entries.map (·.pos) ∧ validateEntries (pre.map (fun x => x.2.length)) es = .ok () ∧
      b = ⟨(writePosTable { r with entries := es }).1, (writePosTable { r with entries := es }).2,
        es.map entryWord⟩ := by
  unfold finishBuild at h
  dsimp only at h
  generalize hres : (if r.unresolved > 0 then resolveEntries _ _ r.entries else Outcome.ok r.entries) = res at h
  cases res with
  | err e => cases h
  | panic w => cases h
  | ok es =>
    dsimp only at h
    cases hval : validateEntries (pre.map (fun x => x.2.length)) es with
    | err e => rw [hval] at h; cases h
    | panic w => rw [hval] at h; cases h
    | ok u =>
      rw [hval] at h
      cases h
      refine ⟨es, ?_, hval, rfl⟩
      by_cases hu : r.unresolved > 0
      · rw [if_pos hu] at hres; exact resolveEntries_pos hres
      · rw [if_neg hu] at hres; cases hres; rfl

/-! ## The two versions of `new_user` -/

/-- the repaired `new_user` hands the reader the system POS only, whatever was registered in the base after them -/
theorem preOf_sysOnly (sys extra : List Pos) (sw : List SysWord) :
    preOf .sysOnly ⟨sys ++ extra, sys.length, sw⟩ = (sys, sw) := by
  unfold preOf; rw [List.take_left]

theorem buildUser_sysOnly (sys extra : List Pos) (sw : List SysWord) (rows : List Row) :
    buildUser .sysOnly ⟨sys ++ extra, sys.length, sw⟩ rows = build (some (sys, sw)) rows := by
  unfold buildUser; rw [preOf_sysOnly]

/-! ## The reader that survives failures (`…K` in the model: the state a failing call leaves is kept) -/

/-- the rows a `read_bytes` call leaves in the builder: the rows in front of the first rejected line -/
def keptSource : Reader → List Line → List Row
  | _, [] => []
  | r, l :: ls =>
    match readLineK r l with
    | (r', none) => l.row :: keptSource r' ls
    | (_, some _) => []

/-- the rows the builder keeps over a sequence of calls: the declared data of the compiled dictionary -/
def keptSources : Reader → List (List Line) → List Row
  | _, [] => []
  | r, s :: ss => keptSource r s ++ keptSources (readSourceK r s).1 ss

theorem keptSource_prefix : ∀ (ls : List Line) (r : Reader),
    ∃ k, keptSource r ls = (ls.take k).map (·.row) ∧
      ((readSourceK r ls).2 = none → k = ls.length) ∧ ((readSourceK r ls).2 ≠ none → k < ls.length)
  | [], r => ⟨0, rfl, fun _ => rfl, fun h => absurd rfl h⟩
  | l :: ls, r => by
    unfold keptSource readSourceK
    cases hrl : readLineK r l with
    | mk r1 f =>
      cases f with
      | none =>
        obtain ⟨k, hk, h1, h2⟩ := keptSource_prefix ls r1
        exact ⟨k + 1, congrArg (l.row :: ·) hk, fun h => congrArg (· + 1) (h1 h), fun h => Nat.succ_lt_succ (h2 h)⟩
      | some f => exact ⟨0, rfl, fun h => (nomatch h), fun _ => Nat.succ_pos _⟩

theorem parseSplitsGoK_grows (us : List CsvUnit) (m : PosMap) (hm : WF m) :
    ∃ ext, (parseSplitsGoK m us).1 = m ++ ext ∧ WF (parseSplitsGoK m us).1 := by
  induction us generalizing m with
  | nil => exact ⟨[], (List.append_nil m).symm, hm⟩
  | cons u us ih =>
    unfold parseSplitsGoK
    cases h1 : parseSplit m u with
    | err e => exact ⟨[], (List.append_nil m).symm, hm⟩
    | panic w => exact ⟨[], (List.append_nil m).symm, hm⟩
    | ok ms =>
      obtain ⟨m1, su⟩ := ms
      obtain ⟨e1, rfl, hw1⟩ := parseSplit_grows hm h1
      obtain ⟨e2, he2, hw2⟩ := ih _ hw1
      dsimp only
      cases h2 : parseSplitsGoK (m ++ e1) us with
      | mk m2 o2 =>
        rw [h2] at he2 hw2
        cases o2 <;> exact ⟨e1 ++ e2, he2.trans (List.append_assoc m e1 e2), hw2⟩

theorem parseSplitsK_grows (us : List CsvUnit) (m : PosMap) (hm : WF m) :
    ∃ ext, (parseSplitsK m us).1 = m ++ ext ∧ WF (parseSplitsK m us).1 := by
  obtain ⟨e, he, hw⟩ := parseSplitsGoK_grows us m hm
  unfold parseSplitsK
  cases h : parseSplitsGoK m us with
  | mk m1 o =>
    rw [h] at he hw
    cases o with
    | err x => exact ⟨e, he, hw⟩
    | panic w => exact ⟨e, he, hw⟩
    | ok sus =>
      by_cases hl : sus.length > MAX_ARRAY_LEN
      · simp only [if_pos hl]; exact ⟨e, he, hw⟩
      · simp only [if_neg hl]; exact ⟨e, he, hw⟩

/-- one line, accepted or rejected: both are an `Extends` (every leaf of `readLineK` is `Extends.none` or `Extends.one`) -/
theorem readLineK_extends (r : Reader) (l : Line) (hm : WF r.pos) :
    Extends r (readLineK r l).1 (match (readLineK r l).2 with | none => [l.row] | some _ => []) := by
  unfold readLineK
  by_cases hd : l.defect = 1
  · rw [if_pos hd]; exact Extends.refl r hm
  rw [if_neg hd]
  obtain ⟨e1, he1, hw1⟩ := parseSplitsK_grows l.row.a r.pos hm
  cases h1 : parseSplitsK r.pos l.row.a with
  | mk m1 o1 =>
  rw [h1] at he1 hw1
  cases o1 with
  | err e => exact Extends.none r m1 e1 _ he1 hw1
  | panic w => exact Extends.none r m1 e1 _ he1 hw1
  | ok sa =>
  dsimp only
  obtain ⟨e2, he2, hw2⟩ := parseSplitsK_grows l.row.b m1 hw1
  cases h2 : parseSplitsK m1 l.row.b with
  | mk m2 o2 =>
  rw [h2] at he2 hw2
  have he12 : m2 = r.pos ++ (e1 ++ e2) := by
    rw [← List.append_assoc, ← show m1 = r.pos ++ e1 from he1]; exact he2
  cases o2 with
  | err e => exact Extends.none r m2 _ _ he12 hw2
  | panic w => exact Extends.none r m2 _ _ he12 hw2
  | ok sb =>
  dsimp only
  cases h3 : parseWordIdList l.row.w with
  | err e => exact Extends.none r m2 _ _ he12 hw2
  | panic w => exact Extends.none r m2 _ _ he12 hw2
  | ok ws =>
  dsimp only
  cases h4 : posOf m2 l.row.pos with
  | err e => exact Extends.none r m2 _ _ he12 hw2
  | panic w => exact Extends.none r m2 _ _ he12 hw2
  | ok x3 =>
  obtain ⟨m3, pid⟩ := x3
  dsimp only
  obtain ⟨e3, he3, hw3, hid⟩ := posOf_spec hw2 h4
  have he123 : m3 = r.pos ++ (e1 ++ e2 ++ e3) := by
    rw [he3, he12]; simp only [List.append_assoc]
  -- the row's own POS is interned; what is left are the A-mode test and the surface test
  by_cases hmode : l.row.mode = 0 ∧ (!sa.isEmpty || !sb.isEmpty) = true
  · simp only [if_pos hmode]; exact Extends.none r m3 _ _ he123 hw3
  · by_cases hs : l.defect = 2
    · simp only [if_neg hmode, if_pos hs]; exact Extends.none r m3 _ _ he123 hw3
    · simp only [if_neg hmode, if_neg hs]; exact Extends.one r m3 _ _ _ l.row he123 hw3 hid

theorem readSourceK_extends (ls : List Line) (r : Reader) (hm : WF r.pos) :
    Extends r (readSourceK r ls).1 (keptSource r ls) := by
  induction ls generalizing r with
  | nil => exact Extends.refl r hm
  | cons l ls ih =>
    have h1 := readLineK_extends r l hm
    unfold readSourceK keptSource
    cases hrl : readLineK r l with
    | mk r1 f =>
      rw [hrl] at h1
      cases f with
      | none => exact h1.trans (ih r1 h1.wf)
      | some f => exact h1

/-! ## the reader of `Layers.build`: the same reader on the lines it accepts -/

/-- a result of the `K` readers (state kept, outcome beside it) as the plain readers report it -/
def lowerK {α : Type} (x : PosMap × Outcome α) : Outcome (PosMap × α) :=
  match x.2 with
  | .ok a => .ok (x.1, a)
  | .err e => .err e
  | .panic w => .panic w

theorem parseSplitsGo_lower : ∀ (us : List CsvUnit) (m : PosMap), parseSplitsGo m us = lowerK (parseSplitsGoK m us)
  | [], _ => rfl
  | u :: us, m => by
    unfold parseSplitsGo parseSplitsGoK
    cases parseSplit m u with
    | err e => rfl
    | panic w => rfl
    | ok ms =>
      dsimp only
      rw [parseSplitsGo_lower us ms.1]
      cases h : parseSplitsGoK ms.1 us with
      | mk m2 o => cases o <;> rfl

theorem parseSplits_lower (m : PosMap) (us : List CsvUnit) : parseSplits m us = lowerK (parseSplitsK m us) := by
  unfold parseSplits parseSplitsK
  rw [parseSplitsGo_lower]
  cases h : parseSplitsGoK m us with
  | mk m1 o =>
    cases o with
    | err e => rfl
    | panic w => rfl
    | ok sus =>
      dsimp only [lowerK]
      by_cases hl : sus.length > MAX_ARRAY_LEN
      · rw [if_pos hl, if_pos hl]
      · rw [if_neg hl, if_neg hl]

theorem readRow_K {r r' : Reader} {row : Row} (h : readRow r row = .ok r') :
    readLineK r ⟨row, 0⟩ = (r', none) ∧ r'.entries.length = r.entries.length + 1 := by
  unfold readRow at h
  unfold readLineK
  rw [if_neg (show ¬ (0 : Nat) = 1 by decide)]
  rw [parseSplits_lower] at h
  cases h1 : parseSplitsK r.pos row.a with
  | mk m1 o1 =>
    rw [h1] at h
    cases o1 with
    | err e => cases h
    | panic w => cases h
    | ok sa =>
      dsimp only [lowerK] at h ⊢
      rw [parseSplits_lower] at h
      cases h2 : parseSplitsK m1 row.b with
      | mk m2 o2 =>
        rw [h2] at h
        cases o2 with
        | err e => cases h
        | panic w => cases h
        | ok sb =>
          dsimp only [lowerK] at h ⊢
          cases h3 : parseWordIdList row.w with
          | err e => rw [h3] at h; cases h
          | panic w => rw [h3] at h; cases h
          | ok ws =>
            rw [h3] at h
            cases h4 : posOf m2 row.pos with
            | err e => rw [h4] at h; cases h
            | panic w => rw [h4] at h; cases h
            | ok x3 =>
              rw [h4] at h
              dsimp only at h ⊢
              by_cases hmode : row.mode = 0 ∧ (!sa.isEmpty || !sb.isEmpty) = true
              · rw [if_pos hmode] at h; cases h
              · rw [if_neg hmode] at h
                rw [if_neg hmode, if_neg (show ¬ (0 : Nat) = 2 by decide)]
                cases h
                exact ⟨rfl, List.length_append⟩

theorem readRows_K {rows : List Row} {r r' : Reader} (h : readRows r rows = .ok r') :
    readSourceK r (rows.map (⟨·, 0⟩)) = (r', none) ∧ keptSource r (rows.map (⟨·, 0⟩)) = rows ∧
      r'.entries.length = r.entries.length + rows.length := by
  induction rows generalizing r with
  | nil => cases h; exact ⟨rfl, rfl, rfl⟩
  | cons row rows ih =>
    unfold readRows at h
    cases h1 : readRow r row with
    | err e => rw [h1] at h; cases h
    | panic w => rw [h1] at h; cases h
    | ok r1 =>
      rw [h1] at h
      obtain ⟨a, b, c⟩ := ih h
      obtain ⟨k, kl⟩ := readRow_K h1
      rw [List.map_cons, readSourceK, keptSource, k]
      exact ⟨a, congrArg (row :: ·) b, by rw [c, kl, List.length_cons, Nat.add_assoc, Nat.add_comm 1]⟩

theorem readRows_extends {rows : List Row} {r r' : Reader} (hm : WF r.pos) (h : readRows r rows = .ok r') :
    Extends r r' rows := by
  have e := readSourceK_extends (rows.map (⟨·, 0⟩)) r hm
  rwa [(readRows_K h).1, (readRows_K h).2.1] at e

/-! ## Several calls, and the compile after them -/

theorem readSources_extends : ∀ (srcs : List (List Line)) (r : Reader), WF r.pos →
    Extends r (readSources r srcs).1 (keptSources r srcs)
  | [], r, hm => Extends.refl r hm
  | s :: ss, r, hm => by
    have h1 := readSourceK_extends s r hm
    have h2 := readSources_extends ss (readSourceK r s).1 h1.wf
    unfold readSources keptSources
    exact h1.trans h2

/-- `resolve` + `compile` on any reader state that extends the preloaded one: the written table reads back and the POS id
stored for the i-th kept row names that row's POS in `g ++ own` -/
theorem finishBuild_pos_numbering (g : List Pos) (sw : List SysWord) (r : Reader) (kept : List Row) (b : Built)
    (hnd : g.Nodup) (hle : g.length ≤ 32768) (hext : Extends (preloadPos g) r kept)
    (h : finishBuild (some (g, sw)) r = .ok b) :
    ∃ own, readPosTable b = .ok own ∧ b.words.length = kept.length ∧
      ∀ (i : Nat) (row : Row), kept[i]? = some row →
        ∃ wd, b.words[i]? = some wd ∧ (g ++ own)[wd.posId]? = some row.pos := by
  obtain ⟨es', hpos, _, rfl⟩ := finishBuild_inv h
  obtain ⟨hk0, _, hs0, he0⟩ := preloadPos_spec hnd hle
  obtain ⟨ext, hp⟩ := hext.pos
  obtain ⟨es, hent, hlen, hall⟩ := hext.entries
  rw [he0, List.nil_append] at hent
  -- the final map holds `g`, then the POS interned since; the table written is the second part
  have hkeys : keys r.pos = g ++ keys ext := by rw [hp, keys_append, hk0]
  have hstart : r.startPos = g.length := hext.startPos.trans hs0
  rw [writePosTable_spec { r with entries := es' } hext.wf]
  have hdrop : (keys r.pos).drop r.startPos = keys ext := by rw [hkeys, hstart, List.drop_left]
  have hlen' : es'.length = es.length := by
    have := congrArg List.length hpos
    rwa [List.length_map, List.length_map, hent] at this
  refine ⟨keys ext, ?_, by rw [List.length_map, hlen', hlen], ?_⟩
  · unfold readPosTable
    simp only [hdrop]
    rw [if_pos]
    rw [hstart, ← keys_length r.pos, hkeys, List.length_append, Nat.add_sub_cancel_left]
  · intro i row hi
    obtain ⟨e, he, hk⟩ := hall i row hi
    have hposi : (es'.map (·.pos))[i]? = some e.pos := by
      rw [hpos, hent, List.getElem?_map, he]; rfl
    rw [List.getElem?_map] at hposi
    obtain ⟨e', hes, hp'⟩ := Option.map_eq_some_iff.1 hposi
    refine ⟨entryWord e', by rw [List.getElem?_map, hes]; rfl, ?_⟩
    rw [show (entryWord e').posId = e.pos from hp', ← hkeys]
    exact hk

end Layers
