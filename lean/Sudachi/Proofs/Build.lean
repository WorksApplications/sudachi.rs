import Sudachi.Model.Build
/-! # The dictionary compiler (C06): the builder between calls, and what `compile` accepts

The sink sees only the sum of what is written, so `compile` succeeds exactly when the check of the `resolved` flag,
`validate_entries` and every step of the writer script pass; what `validate_entries` checked is then a fact about the
dictionary that is emitted.  Each call on the builder (`read_conn`, `read_lexicon`, `resolve`) has one case lemma that says
what it changes and what it leaves alone.  There is one induction over the calls, `runOps_induct`: a property that every
call maintains holds after the run, and the step for a `read_conn` may use that this call is one of those made (and that it
returned `Ok` where its `Err` would have ended the run).  Invariants ignore that (`runOps_preserves`); what depends on WHICH
calls were made — the sizes connection ids are validated against, the matrix buffer, which survives from one `read_conn`
to the next — uses it (`runOps_frame`, `runOps_stays_sized`, `runOps_sized`). -/
namespace Build

theorem bind_eq_ok {α β : Type} {x : Except ErrKind α} {f : α → Except ErrKind β} {b : β}
    (h : (x >>= f) = .ok b) : ∃ a, x = .ok a ∧ f a = .ok b := by
  cases x with
  | error e => cases h
  | ok a => exact ⟨a, rfl, h⟩

theorem toExcept_ok {α : Type} {s : Stage} {r : Res α} {a : α} : r.toExcept s = .ok a ↔ r = .ok a := by
  cases r <;> simp [Res.toExcept]

/-! ## the sink: a script is the bytes it writes before it stops, and what stops it -/

def Writes (l : List Step) : Prop := ∀ s ∈ l, ∃ m, s = .write m

theorem writes_cons {m : Nat} {rest : List Step} : Writes (.write m :: rest) ↔ Writes rest :=
  List.forall_mem_cons.trans (and_iff_right ⟨m, rfl⟩)

theorem writes_append {a b : List Step} : Writes (a ++ b) ↔ Writes a ∧ Writes b := List.forall_mem_append

/-- what ends a script before its last step: the first step that is not a write -/
def stop : List Step → Res Unit
  | [] => .ok ()
  | .write _ :: rest => stop rest
  | .abort k l :: _ => .err k l
  | .panic w :: _ => .panic w

/-- the bytes written before that step -/
def lead : List Step → Nat
  | [] => 0
  | .write n :: rest => n + lead rest
  | .abort .. :: _ => 0
  | .panic _ :: _ => 0

def fits : Option Nat → Nat → Bool
  | none, _ => true
  | some k, n => n ≤ k

theorem fits_zero (limit : Option Nat) : fits limit 0 = true := by cases limit <;> simp [fits]

/-- the outcome of a script whose writes fit -/
def outcome (steps : List Step) (pos : Nat) : Res Nat :=
  match stop steps with
  | .ok () => .ok (pos + lead steps)
  | .err k l => .err k l
  | .panic w => .panic w

/-- the sink sees only the sum of what is written: a script is an I/O error when what it writes before it stops does not
fit, otherwise whatever stops it, otherwise the sum -/
theorem exec_eq {limit : Option Nat} (steps : List Step) {pos : Nat} (hpos : fits limit pos = true) :
    exec limit steps pos = if fits limit (pos + lead steps) then outcome steps pos else .err .Io 0 := by
  induction steps generalizing pos with
  | nil => rw [lead, Nat.add_zero, if_pos hpos]; rfl
  | cons s rest ih =>
    cases s with
    | write m =>
      by_cases hm : m = 0
      · subst hm
        simp only [exec, lead, outcome, stop, if_true, Nat.zero_add, ih hpos]
      · simp only [exec, lead, outcome, stop, if_neg hm, ← Nat.add_assoc]
        cases limit with
        | none => exact ih rfl
        | some k =>
          by_cases hk : pos + m > k
          · have : ¬ fits (some k) (pos + m + lead rest) = true := by simp only [fits, decide_eq_true_eq]; omega
            simp only [if_pos hk, if_neg this]
          · simp only [if_neg hk]; exact ih (decide_eq_true (Nat.le_of_not_gt hk))
    | abort k l => rw [lead, Nat.add_zero, if_pos hpos]; rfl
    | panic w => rw [lead, Nat.add_zero, if_pos hpos]; rfl

theorem exec_limit (k : Nat) (steps : List Step) :
    exec (some k) steps 0 = if lead steps ≤ k then exec none steps 0 else .err .Io 0 := by
  rw [exec_eq _ (fits_zero _), exec_eq (limit := none) _ rfl, Nat.zero_add, if_pos (show fits none (lead steps) = true from rfl)]
  simp only [fits, decide_eq_true_eq]

theorem stop_ok_iff {steps : List Step} : stop steps = .ok () ↔ Writes steps := by
  induction steps with
  | nil => exact ⟨fun _ => nofun, fun _ => rfl⟩
  | cons s rest ih =>
    cases s with
    | write m => rw [stop, writes_cons]; exact ih
    | abort k l => exact ⟨nofun, fun h => nomatch h _ List.mem_cons_self⟩
    | panic w => exact ⟨nofun, fun h => nomatch h _ List.mem_cons_self⟩

theorem exec_ok_iff {limit : Option Nat} {steps : List Step} {n : Nat} :
    exec limit steps 0 = .ok n ↔ Writes steps ∧ n = lead steps ∧ fits limit n := by
  rw [exec_eq _ (fits_zero _), Nat.zero_add, outcome, ← stop_ok_iff]
  by_cases hf : fits limit (lead steps)
  · rw [if_pos hf]
    cases stop steps with
    | ok u => simp only [Res.ok.injEq, Nat.zero_add, true_and]; exact ⟨fun h => ⟨h.symm, h ▸ hf⟩, fun h => h.1.symm⟩
    | err k l => exact ⟨nofun, fun h => nomatch h.1⟩
    | panic w => exact ⟨nofun, fun h => nomatch h.1⟩
  · rw [if_neg hf]; exact ⟨nofun, fun h => absurd (h.2.1 ▸ h.2.2) hf⟩

theorem stop_panic_mem {steps : List Step} {w : PanicWhy} (h : stop steps = .panic w) : Step.panic w ∈ steps := by
  induction steps with
  | nil => cases h
  | cons s rest ih =>
    cases s with
    | write m => exact List.mem_cons_of_mem _ (ih h)
    | abort k l => cases h
    | panic w' => injection h with h; subst h; exact List.mem_cons_self

theorem exec_panic_mem {limit : Option Nat} {steps : List Step} {w : PanicWhy}
    (h : exec limit steps 0 = .panic w) : Step.panic w ∈ steps := by
  rw [exec_eq _ (fits_zero _), outcome] at h
  by_cases hf : fits limit (0 + lead steps)
  · rw [if_pos hf] at h
    cases hs : stop steps with
    | ok u => rw [hs] at h; cases h
    | err k l => rw [hs] at h; cases h
    | panic w' => rw [hs] at h; injection h with h; exact h ▸ stop_panic_mem hs
  · rw [if_neg hf] at h; cases h

theorem append_of_writes {a : List Step} (ha : stop a = .ok ()) (b : List Step) :
    stop (a ++ b) = stop b ∧ lead (a ++ b) = lead a + lead b := by
  induction a with
  | nil => exact ⟨rfl, (Nat.zero_add _).symm⟩
  | cons s a ih =>
    cases s with
    | write m => obtain ⟨i1, i2⟩ := ih ha; exact ⟨i1, by simp only [List.cons_append, lead, i2, Nat.add_assoc]⟩
    | abort k l => cases ha
    | panic w => cases ha

theorem exec_block {limit : Option Nat} {a : List Step} (ha : stop a = .ok ()) (rest : List Step) :
    exec limit (a ++ rest) 0 = exec limit (.write (lead a) :: rest) 0 := by
  obtain ⟨h1, h2⟩ := append_of_writes ha rest
  rw [exec_eq _ (fits_zero _), exec_eq _ (fits_zero _), outcome, outcome, h1, h2]; rfl

theorem padding (k : Nat) : stop (List.replicate k (.write 1)) = .ok () ∧ lead (List.replicate k (.write 1)) = k := by
  induction k with
  | zero => exact ⟨rfl, rfl⟩
  | succ k ih => rw [List.replicate_succ, stop, lead, ih.1, ih.2]; exact ⟨rfl, Nat.add_comm 1 k⟩

/-! ## `compile` and `build` taken apart; what `validate_entries` guarantees about an accepted dictionary -/

/-- 272 = 8 (version) + 8 (creation time) + 256 (the description field, padded to its full width) -/
theorem headerSteps_lead {dl : Nat} (h : dl ≤ 256) : stop (headerSteps dl) = .ok () ∧ lead (headerSteps dl) = 272 := by
  unfold headerSteps
  rw [if_neg (Nat.not_lt.2 h)]
  simp only [List.cons_append, List.nil_append, stop, lead, padding, true_and]
  omega

theorem compile_descLen {v : Variant} {b : Builder} {dl tl : Nat} {limit : Option Nat} (h : dl ≤ 256) :
    compile v b dl tl limit = compile v b 256 tl limit := by
  unfold compile compileSteps
  simp only [List.append_assoc]
  rw [exec_block (headerSteps_lead h).1, exec_block (headerSteps_lead (Nat.le_refl _)).1, (headerSteps_lead h).2,
    (headerSteps_lead (Nat.le_refl _)).2]

theorem build_descLen {v : Variant} {x : Ext} {inp : Input} {limit : Option Nat} (h : inp.descLen ≤ 256) :
    build v x inp limit = build v x { inp with descLen := 256 } limit := by
  unfold build finish
  simp only [compile_descLen h]
  rfl

/-- `Header::write_to` pads the description with single zero bytes: 251 one-byte writes for the 5-byte description of the
concrete runs in `Props/C06.lean`.  Run step by step through `exec` they are most of the work of evaluating `build` on
such an input, so those runs are evaluated with a description that needs no padding. -/
theorem build_of_desc {v : Variant} {x : Ext} {inp : Input} {limit : Option Nat} {o : Outcome} (hd : inp.descLen ≤ 256)
    (h : build v x { inp with descLen := 256 } limit = o) : build v x inp limit = o :=
  (build_descLen hd).trans h

/-- `write_index` is one refusal, one of the two panics of the trie builder (D4, D5), or four writes -/
theorem indexSteps_cases (v : Variant) (es : List Entry) (tl : Nat) :
    (∃ k l, indexSteps v es tl = [.abort k l]) ∨
    (indexSteps v es tl = [.panic .emptyKeys] ∧ v.d4 = false ∧ indexKeys es = []) ∨
    (indexSteps v es tl = [.panic .nulKey] ∧ (indexKeys es).any (fun k => hasNul k.1) = true) ∨
    (∃ n, indexSteps v es tl = [.write 4, .write tl, .write 4, .write n] ∧ wordIdTableSize (indexKeys es) = .ok n ∧
      indexKeys es ≠ [] ∧ (indexKeys es).any (fun k => hasNul k.1) = false) := by
  fun_cases indexSteps v es tl with
  | case1 => exact Or.inl ⟨_, _, rfl⟩
  | case2 =>
    fun_cases indexStepsK v (indexKeys es) tl with
    | case1 | case2 => exact Or.inl ⟨_, _, rfl⟩
    | case3 => rename_i hemp h4; exact Or.inr (Or.inl ⟨rfl, Bool.eq_false_iff.2 h4, List.isEmpty_iff.1 hemp⟩)
    | case4 => rename_i hany; exact Or.inr (Or.inr (Or.inl ⟨rfl, hany⟩))
    | case5 =>
      rename_i n hn hemp hany
      exact Or.inr (Or.inr (Or.inr ⟨n, rfl, hn, fun h => hemp (List.isEmpty_iff.2 h), Bool.not_eq_true _ ▸ hany⟩))

theorem compile_ok_iff (v : Variant) (b : Builder) (dl tl : Nat) (limit : Option Nat) (n : Nat) (d : Dict) :
    compile v b dl tl limit = .ok (n, d) ↔
      ¬ (b.lex.unresolved > 0 ∧ (!b.resolved) = true) ∧
      validateEntries v b.maxLeft b.maxRight b.base.numSystem b.lex.entries = .ok () ∧
      exec limit (compileSteps v b dl tl) 0 = .ok n ∧
      d = ⟨b.conn, b.lex.entries, b.lex.pos, b.base.numSystem, b.maxLeft, b.maxRight⟩ := by
  fun_cases compile v b dl tl limit with
  | case1 => rename_i hc; exact ⟨nofun, fun h => absurd hc h.1⟩
  | case2 | case3 => rename_i hv; exact ⟨nofun, fun h => nomatch hv.symm.trans h.2.1⟩
  | case4 =>
    rename_i hc hv m he
    rw [hv, he]
    exact ⟨fun h => by cases h; exact ⟨hc, rfl, rfl, rfl⟩, fun ⟨_, _, h1, h2⟩ => by cases h1; rw [h2]⟩
  | case5 | case6 => rename_i he; exact ⟨nofun, fun h => nomatch he.symm.trans h.2.2.1⟩

theorem compile_sink {v : Variant} {b : Builder} {dl tl n : Nat} {d : Dict}
    (h : compile v b dl tl none = .ok (n, d)) (k : Nat) :
    compile v b dl tl (some k) = if n ≤ k then .ok (n, d) else .err .Io 0 := by
  obtain ⟨hc, hv, he, hd⟩ := (compile_ok_iff ..).1 h
  unfold compile
  simp only [hc, ↓reduceIte, hv, exec_limit, ← (exec_ok_iff.1 he).2.1, he, ← hd]
  by_cases hk : n ≤ k
  · simp only [if_pos hk]
  · simp only [if_neg hk]

theorem compile_sink_ok (v : Variant) (b : Builder) (dl tl n k : Nat) (d : Dict)
    (h : compile v b dl tl (some k) = .ok (n, d)) :
    compile v b dl tl none = .ok (n, d) ∧ n ≤ k := by
  obtain ⟨hc, hv, he, hd⟩ := (compile_ok_iff ..).1 h
  rw [exec_limit] at he
  by_cases hk : lead (compileSteps v b dl tl) ≤ k
  · rw [if_pos hk] at he
    exact ⟨(compile_ok_iff ..).2 ⟨hc, hv, he, hd⟩, (exec_ok_iff.1 he).2.1 ▸ hk⟩
  · rw [if_neg hk] at he; cases he

theorem build_ok_iff (v : Variant) (x : Ext) (inp : Input) (limit : Option Nat) (n cnt : Nat) (d : Dict) :
    build v x inp limit = .ok n cnt d ↔
      ∃ b, prepare v x inp = .ok (b, cnt) ∧ compile v b inp.descLen inp.trieLen limit = .ok (n, d) := by
  unfold build
  cases hp : prepare v x inp with
  | error f => cases f <;> simp [Fail.toOutcome]
  | ok p =>
    obtain ⟨b, c⟩ := p
    simp only [finish, Except.ok.injEq, Prod.mk.injEq]
    cases hcmp : compile v b inp.descLen inp.trieLen limit with
    | err k l => simp [hcmp]
    | panic w => simp [hcmp]
    | ok r =>
      constructor
      · rintro ⟨⟩; exact ⟨b, ⟨rfl, rfl⟩, hcmp⟩
      · rintro ⟨_, ⟨rfl, rfl⟩, h2⟩; cases hcmp.symm.trans h2; rfl

theorem build_ok {v : Variant} {x : Ext} {inp : Input} {limit : Option Nat} {n cnt : Nat} {d : Dict}
    (h : build v x inp limit = .ok n cnt d) :
    ∃ b, prepare v x inp = .ok (b, cnt) ∧ compile v b inp.descLen inp.trieLen limit = .ok (n, d) ∧
      d = ⟨b.conn, b.lex.entries, b.lex.pos, b.base.numSystem, b.maxLeft, b.maxRight⟩ :=
  let ⟨b, hp, hc⟩ := (build_ok_iff ..).1 h
  ⟨b, hp, hc, ((compile_ok_iff ..).1 hc).2.2.2⟩

/-- a word reference points to an existing entry: of the dictionary itself (system dictionary),
of the system dictionary or of the user dictionary itself (user dictionary) -/
def RefOk (d : Dict) (w : Nat) : Prop :=
  match d.numSystem with
  | none => widDic w = 0 ∧ widWord w < d.entries.length
  | some n => (widDic w = 0 ∧ widWord w < n) ∨ (widDic w = 1 ∧ widWord w < d.entries.length)

def UnitRefOk (d : Dict) : SplitUnit → Prop
  | .ref w => RefOk d w
  | .inline .. => False

def IdsUpper (d : Dict) : Prop :=
  ∀ e ∈ d.entries, e.left < d.maxLeft ∧ e.right < d.maxRight

def RightNonneg (d : Dict) : Prop :=
  ∀ e ∈ d.entries, e.shouldIndex = true → 0 ≤ e.right

def RefsOk (d : Dict) : Prop :=
  ∀ e ∈ d.entries,
    (e.dicForm = WID_INVALID ∨ RefOk d e.dicForm) ∧
    (∀ u ∈ e.splitsA, UnitRefOk d u) ∧ (∀ u ∈ e.splitsB, UnitRefOk d u) ∧
    (∀ w ∈ e.wordStructure, RefOk d w)

theorem validateWid_ok {raw max0 max1 : Nat} (h : validateWid raw max0 max1 = .ok ()) :
    (widDic raw = 0 ∧ widWord raw < max0) ∨ (widDic raw = 1 ∧ widWord raw < max1) := by
  revert h
  fun_cases validateWid raw max0 max1 with
  | case2 => rename_i h0 hlt; exact fun _ => Or.inl ⟨h0, Nat.lt_of_not_ge hlt⟩
  | case4 => rename_i h1 hlt; exact fun _ => Or.inr ⟨h1, Nat.lt_of_not_ge hlt⟩
  | _ => nofun

theorem andThen_ok_iff {r n : Res Unit} : r.andThen n = .ok () ↔ r = .ok () ∧ n = .ok () := by
  cases r <;> simp [Res.andThen]

theorem validateWids_ok {max0 max1 : Nat} {ws : List Nat} (h : validateWids max0 max1 ws = .ok ()) :
    ∀ w ∈ ws, validateWid w max0 max1 = .ok () := by
  induction ws with
  | nil => simp
  | cons w ws ih =>
    simp only [validateWids, andThen_ok_iff] at h
    exact List.forall_mem_cons.2 ⟨h.1, ih h.2⟩

theorem validateUnits_ok {max0 max1 : Nat} {us : List SplitUnit} (h : validateUnits max0 max1 us = .ok ()) :
    ∀ u ∈ us, ∃ w, u = .ref w ∧ validateWid w max0 max1 = .ok () := by
  revert h
  fun_induction validateUnits max0 max1 us with
  | case1 => exact fun _ => nofun
  | case2 => rename_i ih; exact fun h => List.forall_mem_cons.2 ⟨⟨_, rfl, (andThen_ok_iff.1 h).1⟩, ih (andThen_ok_iff.1 h).2⟩
  | case3 => nofun

theorem atLine_ok {α : Type} {r : Res α} {n : Nat} {a : α} (h : r.atLine n = .ok a) : r = .ok a := by
  cases r <;> simp [Res.atLine] at h ⊢; exact h

theorem validateFrom_ok {v : Variant} {ml mr : Int} {max0 max1 : Nat} {es : List Entry} {line : Nat}
    (h : validateFrom v ml mr max0 max1 es line = .ok ()) :
    ∀ e ∈ es, validateEntry v ml mr max0 max1 e = .ok () := by
  induction es generalizing line with
  | nil => simp
  | cons e es ih =>
    simp only [validateFrom, andThen_ok_iff] at h
    exact List.forall_mem_cons.2 ⟨atLine_ok h.1, ih h.2⟩

theorem validateEntry_ok {v : Variant} {ml mr : Int} {max0 max1 : Nat} {e : Entry}
    (h : validateEntry v ml mr max0 max1 e = .ok ()) :
    e.left < ml ∧ e.right < mr ∧ (v.d3 = true → e.shouldIndex = true → 0 ≤ e.right) ∧
    (e.dicForm = WID_INVALID ∨ validateWid e.dicForm max0 max1 = .ok ()) ∧
    validateUnits max0 max1 e.splitsA = .ok () ∧ validateUnits max0 max1 e.splitsB = .ok () ∧
    validateWids max0 max1 e.wordStructure = .ok () := by
  revert h
  fun_cases validateEntry v ml mr max0 max1 e with
  | case3 =>
    rename_i hl hr
    intro h
    simp only [andThen_ok_iff] at h
    obtain ⟨hd, ha, hb, hw⟩ := h
    refine ⟨by omega, by omega, ?_, ?_, ha, hb, hw⟩
    · intro h3 hi
      by_cases hneg : e.right < 0
      · exact absurd (Or.inr ⟨h3, hi, hneg⟩) hr
      · omega
    · by_cases hinv : e.dicForm = WID_INVALID
      · exact Or.inl hinv
      · right; simpa [hinv] using hd
  | _ => nofun

theorem refOk_of_validateWid {d : Dict} {w : Nat}
    (h : validateWid w (match d.numSystem with | none => d.entries.length | some x => x)
            (match d.numSystem with | none => 0 | some _ => d.entries.length) = .ok ()) : RefOk d w := by
  have := validateWid_ok h
  unfold RefOk
  cases hn : d.numSystem with
  | none =>
    simp only [hn] at this
    rcases this with h0 | h1
    · exact h0
    · omega
  | some x =>
    simp only [hn] at this
    exact this

/-- 268435456 = `DIC_UNIT` = 2^28: the low 28 bits of a word id are the word, the bits above the dictionary -/
theorem RefOk.of_system {d : Dict} {w : Nat} (hn : d.numSystem = none) (h : RefOk d w) :
    widDic w = 0 ∧ w < d.entries.length ∧ w < 268435456 := by
  unfold RefOk at h
  rw [hn] at h
  obtain ⟨h1, h2⟩ := h
  refine ⟨h1, ?_⟩
  unfold widDic DIC_UNIT at h1
  unfold widWord DIC_UNIT at h2
  omega

theorem unitRefOk_of_validateUnits {d : Dict} {us : List SplitUnit}
    (h : validateUnits (match d.numSystem with | none => d.entries.length | some x => x)
            (match d.numSystem with | none => 0 | some _ => d.entries.length) us = .ok ()) :
    ∀ u ∈ us, UnitRefOk d u := by
  intro u hu
  obtain ⟨w, rfl, hw⟩ := validateUnits_ok h u hu
  exact refOk_of_validateWid hw

theorem compile_ok_valid {v : Variant} {b : Builder} {dl tl n : Nat} {limit : Option Nat} {d : Dict}
    (h : compile v b dl tl limit = .ok (n, d)) :
    IdsUpper d ∧ (v.d3 = true → RightNonneg d) ∧ RefsOk d := by
  obtain ⟨_, hv, _, hd⟩ := (compile_ok_iff ..).1 h
  have hall : ∀ e ∈ d.entries, validateEntry v d.maxLeft d.maxRight
      (match d.numSystem with | none => d.entries.length | some x => x)
      (match d.numSystem with | none => 0 | some _ => d.entries.length) e = .ok () := by
    subst hd
    unfold validateEntries at hv
    cases hn : b.base.numSystem with
    | none => simp only [hn] at hv ⊢; exact validateFrom_ok hv
    | some x => simp only [hn] at hv ⊢; exact validateFrom_ok hv
  refine ⟨?_, ?_, ?_⟩
  · intro e he
    have := validateEntry_ok (hall e he)
    exact ⟨this.1, this.2.1⟩
  · intro h3 e he hi
    exact (validateEntry_ok (hall e he)).2.2.1 h3 hi
  · intro e he
    obtain ⟨_, _, _, hdf, ha, hb, hw⟩ := validateEntry_ok (hall e he)
    exact ⟨hdf.imp_right refOk_of_validateWid, unitRefOk_of_validateUnits ha, unitRefOk_of_validateUnits hb,
      fun w hw' => refOk_of_validateWid (validateWids_ok hw w hw')⟩

theorem ids_within {d : Dict} (hu : IdsUpper d) {L R : Int} (hs : d.maxLeft = L ∧ d.maxRight = R) {e : Entry}
    (he : e ∈ d.entries) (hi : e.shouldIndex = true) : 0 ≤ e.left ∧ e.left < L ∧ e.right < R :=
  ⟨by simpa [Entry.shouldIndex] using hi, hs.1 ▸ (hu e he).1, hs.2 ▸ (hu e he).2⟩

/-! ## the three calls (`resolve`, `read_lexicon`, `read_conn`): what each changes and what it leaves alone -/

/-- `resolve_splits` keeps the surfaces in order; every resolved entry is an entry that was there with its two split lists
resolved unit by unit -/
theorem resolveEntries_ok {f : Str → Nat → Option Str → Option Nat} {es rs : List Entry} {line n : Nat}
    (h : resolveEntries f es line = .ok (rs, n)) :
    rs.map Entry.surface = es.map Entry.surface ∧
    ∀ r ∈ rs, ∃ e ∈ es, ∃ a na b nb, resolveUnits f e.splitsA = some (a, na) ∧
      resolveUnits f e.splitsB = some (b, nb) ∧ r = { e with splitsA := a, splitsB := b } := by
  revert h
  fun_induction resolveEntries f es line generalizing rs n with
  | case1 => exact fun h => by cases h; exact ⟨rfl, fun _ hr => nomatch hr⟩
  | case4 =>
    rename_i e _ _ a na ha b nb hb _ _ hr ih
    intro h; cases h
    obtain ⟨i1, i2⟩ := ih hr
    exact ⟨by simp only [List.map_cons, i1], List.forall_mem_cons.2 ⟨⟨e, List.mem_cons_self, a, na, b, nb, ha, hb, rfl⟩,
      fun r hm => let ⟨e', he', hx⟩ := i2 r hm; ⟨e', List.mem_cons_of_mem _ he', hx⟩⟩⟩
  | _ => nofun

theorem resolve_cases {b b' : Builder} {n : Nat} (h : resolve b = .ok (b', n)) :
    (b.lex.unresolved = 0 ∧ b' = { b with resolved := true }) ∨
    ∃ es, resolveEntries (resolveInline (if b.base.isUser then 1 else 0) b.lex.entries b.base.sysWords)
        b.lex.entries 0 = .ok (es, n) ∧
      b' = { b with lex := { b.lex with entries := es }, resolved := true } := by
  revert h
  fun_cases resolve b with
  | case1 => rename_i h0; exact fun h => by cases h; exact Or.inl ⟨h0, rfl⟩
  | case2 => rename_i hr; exact fun h => by cases h; exact Or.inr ⟨_, hr, rfl⟩
  | _ => nofun

theorem resolve_frame {b b' : Builder} {n : Nat} (h : resolve b = .ok (b', n)) :
    ∃ es, b' = { b with lex := { b.lex with entries := es }, resolved := true } := by
  rcases resolve_cases h with ⟨_, rfl⟩ | ⟨es, _, rfl⟩
  · exact ⟨b.lex.entries, rfl⟩
  · exact ⟨es, rfl⟩

/-- `read_bytes` seen through its result only is `readLexicon` -/
theorem readLexiconP_result (v : Variant) (x : Ext) (st : LexState) (recs : List (Nat × List Str)) :
    readLexicon v x st recs =
      (match readLexiconP v x st recs with
      | (st', .ok ()) => .ok st'
      | (_, .err k l) => .err k l
      | (_, .panic w) => .panic w) := by
  induction recs generalizing st with
  | nil => rfl
  | cons r rest ih =>
    obtain ⟨line, fs⟩ := r
    unfold readLexicon readLexiconP
    cases hp : parseRecord v x st fs with
    | error e => rfl
    | ok st' => exact ih st'

theorem readLexicon_ok_iff {v : Variant} {x : Ext} {st st' : LexState} {recs : List (Nat × List Str)} :
    readLexicon v x st recs = .ok st' ↔ readLexiconP v x st recs = (st', .ok ()) := by
  rw [readLexiconP_result]
  rcases readLexiconP v x st recs with ⟨s, u | _ | _⟩
  · exact ⟨fun h => by cases h; rfl, fun h => by cases h; rfl⟩
  · exact ⟨nofun, nofun⟩
  · exact ⟨nofun, nofun⟩

/-- `read_lexicon` touches the reader and the `resolved` flag only.  It succeeds when `read_bytes` did and the csv
reader did not fail; a failure is that of `read_bytes` or, after it, of the csv reader, and leaves the reader as
`read_bytes` left it or (S8 repaired) as it was -/
theorem readLexB_cases (v : Variant) (x : Ext) (b : Builder) (recs : List (Nat × List Str)) (ce : Option Nat) :
    ∃ L r, readLexB v x b recs ce = ({ b with lex := L, resolved := if v.rf then false else b.resolved }, r) ∧
      ((r = .ok () ∧ ce = none ∧ readLexiconP v x b.lex recs = (L, .ok ())) ∨
       (r ≠ .ok () ∧ L = (if v.la then b.lex else (readLexiconP v x b.lex recs).1) ∧
        (r = (readLexiconP v x b.lex recs).2 ∨
         ∃ line, ce = some line ∧ r = .err .Csv line ∧ (readLexiconP v x b.lex recs).2 = .ok ()))) := by
  unfold readLexB
  cases hr : readLexiconP v x b.lex recs with
  | mk st r =>
    cases r with
    | ok u =>
      cases u
      cases ce with
      | none => exact ⟨_, _, rfl, Or.inl ⟨rfl, rfl, rfl⟩⟩
      | some l => exact ⟨_, _, rfl, Or.inr ⟨nofun, rfl, Or.inr ⟨l, rfl, rfl, rfl⟩⟩⟩
    | err k l => exact ⟨_, _, rfl, Or.inr ⟨nofun, rfl, Or.inl rfl⟩⟩
    | panic w => exact ⟨_, _, rfl, Or.inr ⟨nofun, rfl, Or.inl rfl⟩⟩

theorem readLexB_frame (v : Variant) (x : Ext) (b : Builder) (recs : List (Nat × List Str)) (ce : Option Nat) :
    ∃ L, (readLexB v x b recs ce).1 = { b with lex := L, resolved := if v.rf then false else b.resolved } :=
  let ⟨L, _, h, _⟩ := readLexB_cases v x b recs ce
  ⟨L, congrArg Prod.fst h⟩

theorem readLexB_of_readLex {v : Variant} {x : Ext} {b b' : Builder} {recs : List (Nat × List Str)} {ce : Option Nat}
    (h : readLex v x b recs ce = .ok b') : readLexB v x b recs ce = (b', .ok ()) := by
  revert h
  fun_cases readLex v x b recs ce with
  | case2 => rename_i hst; exact fun h => by cases h; rw [readLexB, readLexicon_ok_iff.1 hst]
  | _ => nofun

/-- the builder after `read_conn`: the buffer is what `ConnBuffer::read` left, the sizes are
synchronised with it or left alone -/
theorem readConnB_cases (v : Variant) (b : Builder) (lines : List (Option Str)) :
    (readConnB v b lines).2 = (readConn v ⟨b.conn, b.connLine⟩ lines).2 ∧
    ((readConnB v b lines).1 =
        syncSizes v { b with conn := (readConn v ⟨b.conn, b.connLine⟩ lines).1.conn,
                             connLine := (readConn v ⟨b.conn, b.connLine⟩ lines).1.line } ∨
     ((readConnB v b lines).2 ≠ .ok () ∧ v.s6 = false ∧
      (readConnB v b lines).1 =
        { b with conn := (readConn v ⟨b.conn, b.connLine⟩ lines).1.conn,
                 connLine := (readConn v ⟨b.conn, b.connLine⟩ lines).1.line })) := by
  unfold readConnB
  cases hr : readConn v ⟨b.conn, b.connLine⟩ lines with
  | mk buf r =>
    cases r with
    | ok u => cases u; exact ⟨rfl, Or.inl rfl⟩
    | err k l =>
      refine ⟨rfl, ?_⟩
      cases h6 : v.s6 with
      | true => left; simp
      | false => right; exact ⟨by simp, rfl, by simp⟩
    | panic w =>
      refine ⟨rfl, ?_⟩
      cases h6 : v.s6 with
      | true => left; simp
      | false => right; exact ⟨by simp, rfl, by simp⟩

theorem readConnB_frame (v : Variant) (b : Builder) (lines : List (Option Str)) :
    ∃ ml mr, (readConnB v b lines).1 =
      { b with conn := (readConn v ⟨b.conn, b.connLine⟩ lines).1.conn,
               connLine := (readConn v ⟨b.conn, b.connLine⟩ lines).1.line, maxLeft := ml, maxRight := mr } := by
  rcases (readConnB_cases v b lines).2 with h | ⟨_, _, h⟩
  · rw [h]; unfold syncSizes; split <;> exact ⟨_, _, rfl⟩
  · exact ⟨_, _, h⟩

/-- the ids are validated against the sizes of the matrix that is written -/
def Sized (b : Builder) : Prop := b.maxLeft = b.conn.nl ∧ b.maxRight = b.conn.nr

theorem syncSizes_sized {v : Variant} {b : Builder} (h : v.n3 = false ∨ b.base.isUser = false) :
    Sized (syncSizes v b) := by
  unfold syncSizes
  rcases h with h | h <;> simp [h, Sized]

theorem syncSizes_keeps {v : Variant} {b : Builder} (h3 : v.n3 = true) (hu : b.base.isUser = true) :
    syncSizes v b = b := by
  unfold syncSizes; simp [h3, hu]

theorem readConnB_sized {v : Variant} {b : Builder} {lines : List (Option Str)}
    (hsys : v.n3 = false ∨ b.base.isUser = false)
    (hok : (readConnB v b lines).2 = .ok () ∨ v.s6 = true) : Sized (readConnB v b lines).1 := by
  rcases (readConnB_cases v b lines).2 with h | ⟨hne, h6, _⟩
  · rw [h]; exact syncSizes_sized hsys
  · rcases hok with hok | hok
    · exact absurd hok hne
    · rw [h6] at hok; cases hok

theorem readConnB_user_keeps {v : Variant} {b : Builder} {lines : List (Option Str)}
    (h3 : v.n3 = true) (hu : b.base.isUser = true) :
    (readConnB v b lines).1.maxLeft = b.maxLeft ∧ (readConnB v b lines).1.maxRight = b.maxRight := by
  rcases (readConnB_cases v b lines).2 with h | ⟨_, _, h⟩
  · rw [h, syncSizes_keeps h3 (by exact hu)]; exact ⟨rfl, rfl⟩
  · rw [h]; exact ⟨rfl, rfl⟩

/-- the result of the body loop and the line it leaves behind do not depend on the content of the
buffer; the content is the writes of this text on top of what was there -/
theorem readBody_cells (v : Variant) (c : Conn) (ls : List (Option Str)) (n : Nat) (cells : List (Nat × Int)) :
    (readBody v c ls n cells).2 = (readBody v c ls n []).2 ∧
    (readBody v c ls n cells).1.2 = (readBody v c ls n []).1.2 ∧
    (readBody v c ls n cells).1.1 = (readBody v c ls n []).1.1 ++ cells := by
  induction ls generalizing n cells with
  | nil => simp [readBody]
  | cons l ls ih =>
    cases l with
    | none => simp [readBody]
    | some l =>
      unfold readBody
      split
      · exact ih _ _
      · cases hp : (parseLine v c l).atLine (n + 1) with
        | ok w =>
          simp only []
          obtain ⟨a1, a2, a3⟩ := ih (n + 1) (w :: cells)
          obtain ⟨b1, b2, b3⟩ := ih (n + 1) [w]
          refine ⟨a1.trans b1.symm, a2.trans b2.symm, ?_⟩
          rw [a3, b3]; simp
        | err k ln => simp
        | panic w => simp

theorem readHead_panic {v : Variant} {lines : List (Option Str)} {acc : Str} {n : Nat} {w : PanicWhy}
    (h : (readHead v lines acc n).2 = .panic w) : w = .todoEmptyConn ∧ v.d1 = false := by
  revert h
  fun_induction readHead v lines acc n with
  | case1 =>
    intro h
    cases h1 : v.d1 with
    | true => rw [h1, if_pos rfl] at h; cases h
    | false => rw [h1, if_neg Bool.false_ne_true] at h; exact ⟨(Res.panic.inj h).symm, rfl⟩
  | case3 => rename_i ih; exact ih
  | _ => nofun

/-- `ConnBuffer::read` looks at the matrix `c` it is called on only when it resizes it: either it fails before
(D1 is the only panic there) and leaves `c` alone, or the header gives the sizes `l`, `r` and it is the body loop
over the resized cells -/
theorem readConn_cases (v : Variant) (line : Str) (lines : List (Option Str)) :
    (∃ hd r, r ≠ .ok () ∧ (∀ w, r = .panic w → w = .todoEmptyConn ∧ v.d1 = false) ∧
      ∀ c, readConn v ⟨c, line⟩ lines = (⟨c, hd⟩, r)) ∨
    (∃ hd l r n rest, parseHeader hd = .ok (l, r) ∧ 0 ≤ l ∧ 0 ≤ r ∧
      ∀ c, let p := readBody v ⟨l, r, l.toNat * r.toNat * 2, []⟩ rest n (resizeCells v c.cells (l.toNat * r.toNat))
        readConn v ⟨c, line⟩ lines = (⟨⟨l, r, l.toNat * r.toNat * 2, p.1.1⟩, p.1.2⟩, p.2)) := by
  have hp := fun w => readHead_panic (v := v) (lines := lines) (acc := if v.s5 then [] else line) (n := 0) (w := w)
  cases hh : readHead v lines (if v.s5 then [] else line) 0 with
  | mk hd res =>
    rw [hh] at hp
    cases res with
    | err k l => exact Or.inl ⟨hd, .err k l, nofun, nofun, fun c => by simp only [readConn, hh]⟩
    | panic w => exact Or.inl ⟨hd, .panic w, nofun, fun _ e => hp _ (by cases e; rfl), fun c => by simp only [readConn, hh]⟩
    | ok q =>
      obtain ⟨n, rest⟩ := q
      cases hph : parseHeader hd with
      | error e => exact Or.inl ⟨hd, .err e n, nofun, nofun, fun c => by simp only [readConn, hh, hph]⟩
      | ok lr =>
        obtain ⟨l, r⟩ := lr
        by_cases hl : l < 0
        · exact Or.inl ⟨hd, .err .InvalidConnSize 0, nofun, nofun, fun c => by simp only [readConn, hh, hph, if_pos hl]⟩
        · by_cases hr : r < 0
          · exact Or.inl ⟨hd, .err .InvalidConnSize 0, nofun, nofun,
              fun c => by simp only [readConn, hh, hph, if_neg hl, if_pos hr]⟩
          · exact Or.inr ⟨hd, l, r, n, rest, hph, Int.not_lt.1 hl, Int.not_lt.1 hr,
              fun c => by simp only [readConn, hh, hph, if_neg hl, if_neg hr]⟩

theorem readConn_line {v : Variant} (h5 : v.s5 = true) (buf : ConnBuf) (lines : List (Option Str)) :
    readConn v buf lines = readConn v ⟨buf.conn, []⟩ lines := by
  simp only [readConn, h5, if_true]

/-! ## a sequence of calls: the builder a call that does not end the run leaves (`runOp_*`), and what every sequence
maintains (`runOps_induct` and its readings for the base, the frame and the sizes) -/

theorem runOp_conn {v : Variant} {x : Ext} {s s' : Builder × Nat} {lines : List (Option Str)}
    (h : runOp v x s (.conn lines) = .ok s') :
    (readConnB v s.1 lines).2 = .ok () ∧ s' = ((readConnB v s.1 lines).1, s.2) := by
  simp only [runOp] at h
  rcases hc : readConnB v s.1 lines with ⟨b, u | _ | _⟩ <;> rw [hc] at h <;> cases h
  exact ⟨rfl, rfl⟩

theorem runOp_connIgn {v : Variant} {x : Ext} {s s' : Builder × Nat} {lines : List (Option Str)}
    (h : runOp v x s (.connIgn lines) = .ok s') : s' = ((readConnB v s.1 lines).1, s.2) := by
  simp only [runOp] at h
  rcases hc : readConnB v s.1 lines with ⟨b, u | _ | _⟩ <;> rw [hc] at h <;> cases h <;> rfl

theorem runOp_lex {v : Variant} {x : Ext} {s s' : Builder × Nat} {recs : List (Nat × List Str)} {ce : Option Nat}
    (h : runOp v x s (.lex recs ce) = .ok s') : s' = ((readLexB v x s.1 recs ce).1, s.2) := by
  simp only [runOp] at h
  rcases hc : readLex v x s.1 recs ce with b | _ | _ <;> rw [hc] at h <;> cases h
  rw [readLexB_of_readLex hc]

theorem runOp_lexIgn {v : Variant} {x : Ext} {s s' : Builder × Nat} {recs : List (Nat × List Str)} {ce : Option Nat}
    (h : runOp v x s (.lexIgn recs ce) = .ok s') : s' = ((readLexB v x s.1 recs ce).1, s.2) := by
  simp only [runOp] at h
  rcases hc : readLexB v x s.1 recs ce with ⟨b, u | _ | _⟩ <;> rw [hc] at h <;> cases h <;> rfl

theorem runOp_resolve {v : Variant} {x : Ext} {s s' : Builder × Nat}
    (h : runOp v x s .resolve = .ok s') :
    ∃ b n, resolve s.1 = .ok (b, n) ∧ s' = (b, s.2 + n) := by
  simp only [runOp] at h
  rcases hc : resolve s.1 with ⟨b, n⟩ | _ | _ <;> rw [hc] at h <;> cases h
  exact ⟨b, n, rfl, rfl⟩

theorem runOps_cons {v : Variant} {x : Ext} {s s'' : Builder × Nat} {op : Op} {ops : List Op}
    (h : runOps v x s (op :: ops) = .ok s'') :
    ∃ s', runOp v x s op = .ok s' ∧ runOps v x s' ops = .ok s'' := by
  simp only [runOps] at h
  cases ho : runOp v x s op with
  | error f => simp [ho] at h
  | ok s' => simp only [ho] at h; exact ⟨s', rfl, h⟩

theorem runOps_append {v : Variant} {x : Ext} {s s'' : Builder × Nat} {ops1 ops2 : List Op}
    (h : runOps v x s (ops1 ++ ops2) = .ok s'') :
    ∃ s', runOps v x s ops1 = .ok s' ∧ runOps v x s' ops2 = .ok s'' := by
  induction ops1 generalizing s with
  | nil => exact ⟨s, rfl, h⟩
  | cons op ops ih =>
    obtain ⟨s1, h1, h2⟩ := runOps_cons (ops := ops ++ ops2) h
    obtain ⟨s', h3, h4⟩ := ih h2
    refine ⟨s', ?_, h4⟩
    simp only [runOps, h1]; exact h3

def Untouched (b : Builder) : Prop := b.conn = Conn.empty ∧ b.connLine = []

/-- the step for `read_conn` is told that the call is one of `ops` and, where its `Err` would have ended the run, that it
returned `Ok`; nothing that depends on which calls were made needs more than that -/
theorem runOps_induct {v : Variant} {x : Ext} {P : Builder → Prop} {ops : List Op}
    (hconn : ∀ b lines, Op.conn lines ∈ ops → (readConnB v b lines).2 = .ok () → P b → P (readConnB v b lines).1)
    (hign : ∀ b lines, Op.connIgn lines ∈ ops → P b → P (readConnB v b lines).1)
    (hlex : ∀ b recs ce, P b → P (readLexB v x b recs ce).1)
    (hres : ∀ b b' n, P b → resolve b = .ok (b', n) → P b')
    {s s' : Builder × Nat} (h : runOps v x s ops = .ok s') (hi : P s.1) : P s'.1 := by
  induction ops generalizing s with
  | nil => injection h with h; subst h; exact hi
  | cons op ops ih =>
    obtain ⟨s1, h1, h2⟩ := runOps_cons h
    refine ih (fun b l hm => hconn b l (List.mem_cons_of_mem _ hm)) (fun b l hm => hign b l (List.mem_cons_of_mem _ hm)) h2 ?_
    cases op with
    | conn lines => obtain ⟨hok, rfl⟩ := runOp_conn h1; exact hconn _ _ List.mem_cons_self hok hi
    | connIgn lines => obtain rfl := runOp_connIgn h1; exact hign _ _ List.mem_cons_self hi
    | lex recs ce => obtain rfl := runOp_lex h1; exact hlex _ _ _ hi
    | lexIgn recs ce => obtain rfl := runOp_lexIgn h1; exact hlex _ _ _ hi
    | resolve => obtain ⟨b, n, hb, rfl⟩ := runOp_resolve h1; exact hres _ _ _ hi hb

theorem runOps_preserves {v : Variant} {x : Ext} {P : Builder → Prop}
    (hconn : ∀ b lines, P b → P (readConnB v b lines).1)
    (hlex : ∀ b recs ce, P b → P (readLexB v x b recs ce).1)
    (hres : ∀ b b' n, P b → resolve b = .ok (b', n) → P b')
    {s s' : Builder × Nat} {ops : List Op} (h : runOps v x s ops = .ok s') (hi : P s.1) : P s'.1 :=
  runOps_induct (fun b l _ _ => hconn b l) (fun b l _ => hconn b l) hlex hres h hi

theorem readConnB_base (v : Variant) (b : Builder) (lines : List (Option Str)) : (readConnB v b lines).1.base = b.base := by
  obtain ⟨_, _, e⟩ := readConnB_frame v b lines; rw [e]

theorem runOps_base {v : Variant} {x : Ext} {s s' : Builder × Nat} {ops : List Op}
    (h : runOps v x s ops = .ok s') : s'.1.base = s.1.base :=
  runOps_preserves (P := fun b => b.base = s.1.base)
    (fun b lines hb => (readConnB_base v b lines).trans hb)
    (fun b recs ce hb => by obtain ⟨_, e⟩ := readLexB_frame v x b recs ce; rw [e]; exact hb)
    (fun _ _ _ hb hr => by obtain ⟨_, rfl⟩ := resolve_frame hr; exact hb) h rfl

theorem runOps_frame {v : Variant} {x : Ext} {s s' : Builder × Nat} {ops : List Op}
    (h : runOps v x s ops = .ok s') (hops : ∀ lines, Op.conn lines ∉ ops ∧ Op.connIgn lines ∉ ops) :
    ∃ L r, s'.1 = { s.1 with lex := L, resolved := r } :=
  runOps_induct (P := fun b => ∃ L r, b = { s.1 with lex := L, resolved := r })
    (fun _ l hm => absurd hm (hops l).1) (fun _ l hm => absurd hm (hops l).2)
    (fun b recs ce hb => by obtain ⟨_, _, rfl⟩ := hb; obtain ⟨L, e⟩ := readLexB_frame v x _ recs ce; exact ⟨L, _, e⟩)
    (fun b b' n hb hr => by obtain ⟨_, _, rfl⟩ := hb; obtain ⟨_, rfl⟩ := resolve_frame hr; exact ⟨_, _, rfl⟩) h ⟨_, _, rfl⟩

/-- the sizes are those of the matrix and stay so: every later `read_conn` replaces both together.  Needs: the builder is
not a user builder with the repair N3 (there the sizes are those of the system matrix on purpose), and no `Err` of a
`read_conn` was ignored unless S6 is repaired. -/
theorem runOps_stays_sized {v : Variant} {x : Ext} {s s' : Builder × Nat} {ops : List Op}
    (h : runOps v x s ops = .ok s') (hsys : v.n3 = false ∨ s.1.base.isUser = false)
    (hign : v.s6 = true ∨ ∀ lines, Op.connIgn lines ∉ ops) (hs : Sized s.1) : Sized s'.1 :=
  (runOps_induct (P := fun b => b.base = s.1.base ∧ Sized b)
    (fun b l _ hok ⟨hb, _⟩ => ⟨(readConnB_base v b l).trans hb, readConnB_sized (hb ▸ hsys) (Or.inl hok)⟩)
    (fun b l hm ⟨hb, _⟩ => ⟨(readConnB_base v b l).trans hb,
      readConnB_sized (hb ▸ hsys) (Or.inr (hign.resolve_right fun hh => hh l hm))⟩)
    (fun b recs ce hp => by obtain ⟨_, e⟩ := readLexB_frame v x b recs ce; rw [e]; exact hp)
    (fun _ _ _ hp hr => by obtain ⟨_, rfl⟩ := resolve_frame hr; exact hp) h ⟨rfl, hs⟩).2

/-- the sizes are those of the matrix if the builder started that way or a `read_conn` returned `Ok` (from such a call
on, `runOps_stays_sized`) -/
theorem runOps_sized {v : Variant} {x : Ext} {s s' : Builder × Nat} {ops : List Op}
    (h : runOps v x s ops = .ok s') (hsys : v.n3 = false ∨ s.1.base.isUser = false)
    (hign : v.s6 = true ∨ ∀ lines, Op.connIgn lines ∉ ops)
    (hs : Sized s.1 ∨ ∃ lines, Op.conn lines ∈ ops) : Sized s'.1 := by
  rcases hs with hs | ⟨lines, hm⟩
  · exact runOps_stays_sized h hsys hign hs
  · obtain ⟨pre, post, rfl⟩ := List.append_of_mem hm
    obtain ⟨s1, h1, h2⟩ := runOps_append h
    obtain ⟨s2, h3, h4⟩ := runOps_cons h2
    obtain ⟨hok, rfl⟩ := runOp_conn h3
    have hsys1 : v.n3 = false ∨ s1.1.base.isUser = false := runOps_base h1 ▸ hsys
    exact runOps_stays_sized h4 (readConnB_base v s1.1 lines ▸ hsys1)
      (hign.imp id fun hh l hl => hh l (List.mem_append_right _ (List.mem_cons_of_mem _ hl)))
      (readConnB_sized hsys1 (Or.inl hok))

theorem runOps_keeps {v : Variant} {x : Ext} {s s' : Builder × Nat} {ops : List Op}
    (h : runOps v x s ops = .ok s')
    (hops : (v.n3 = true ∧ s.1.base.isUser = true) ∨ ∀ lines, Op.conn lines ∉ ops ∧ Op.connIgn lines ∉ ops) :
    s'.1.maxLeft = s.1.maxLeft ∧ s'.1.maxRight = s.1.maxRight := by
  rcases hops with ⟨h3, hu⟩ | hops
  · refine runOps_preserves (P := fun b => b.base = s.1.base ∧ b.maxLeft = s.1.maxLeft ∧ b.maxRight = s.1.maxRight)
      ?_ ?_ ?_ h ⟨rfl, rfl, rfl⟩ |>.2
    · intro b lines ⟨hb, hl, hr⟩
      obtain ⟨k1, k2⟩ := readConnB_user_keeps (lines := lines) h3 (hb ▸ hu)
      exact ⟨(readConnB_base v b lines).trans hb, k1.trans hl, k2.trans hr⟩
    · intro b recs ce hp
      obtain ⟨_, e⟩ := readLexB_frame v x b recs ce
      rw [e]; exact hp
    · intro b b' n hp hres
      obtain ⟨_, rfl⟩ := resolve_frame hres
      exact hp
  · obtain ⟨_, _, e⟩ := runOps_frame h hops
    rw [e]; exact ⟨rfl, rfl⟩

/-! ## the calls of an `Input`: which sizes the connection ids were validated against (`SizesFollowMatrix`, `SizesStay`),
and the matrix that is written -/

theorem init_sized {v : Variant} {base : Base} (h1 : v.n1 = true) (hu : base.isUser = false) :
    Sized (Builder.init v base) := by
  simp [Sized, Builder.init, Base.initLeft, Base.initRight, hu, h1, Conn.empty]

/-- the connection ids are validated against the sizes of the matrix that is written: the builder
is not a user-dictionary builder with the repair N3 (there they are validated against the system
matrix, on purpose); no `Err` of a `read_conn` was ignored, or S6 is repaired; and a matrix was
read, or it is a system-dictionary builder and N1 is repaired -/
def SizesFollowMatrix (v : Variant) (inp : Input) : Prop :=
  (v.n3 = false ∨ inp.base.isUser = false) ∧ (v.s6 = true ∨ ∀ lines, Op.connIgn lines ∉ inp.ops) ∧
  ((v.n1 = true ∧ inp.base.isUser = false) ∨ ∃ lines, Op.conn lines ∈ inp.ops)

/-- the connection ids are validated against the sizes the builder started with (for a user
dictionary: those of the system dictionary's matrix): no `read_conn` was made, or N3 is repaired
and the builder is a user-dictionary builder -/
def SizesStay (v : Variant) (inp : Input) : Prop :=
  (v.n3 = true ∧ inp.base.isUser = true) ∨ ∀ lines, Op.conn lines ∉ inp.ops ∧ Op.connIgn lines ∉ inp.ops

theorem sizesFollow_repaired (v : Variant) (inp : Input) (hn1 : v.n1 = true) (hs6 : v.s6 = true)
    (hsys : inp.base.isUser = false) : SizesFollowMatrix v inp :=
  ⟨Or.inr hsys, Or.inl hs6, Or.inl ⟨hn1, hsys⟩⟩

/-- the hypothesis is `n3 = false`, which holds for `Variant.current`, `staleFlag` and `repaired` alike -/
theorem sizesFollow_pinned (v : Variant) (inp : Input) (hn3 : v.n3 = false) (lines : List (Option Str))
    (hconn : Op.conn lines ∈ inp.ops) (hplain : ∀ lines, Op.connIgn lines ∉ inp.ops) : SizesFollowMatrix v inp :=
  ⟨Or.inl hn3, Or.inr hplain, Or.inr ⟨lines, hconn⟩⟩

theorem prepare_conn {v : Variant} {x : Ext} {inp : Input} {b : Builder} {cnt : Nat}
    (h : prepare v x inp = .ok (b, cnt)) :
    b.base = inp.base ∧ (SizesFollowMatrix v inp → Sized b) ∧
    (SizesStay v inp → b.maxLeft = inp.base.initLeft v ∧ b.maxRight = inp.base.initRight v) ∧
    ((∀ lines, Op.conn lines ∉ inp.ops ∧ Op.connIgn lines ∉ inp.ops) → b.conn = Conn.empty) := by
  unfold prepare at h
  exact ⟨runOps_base h, fun ⟨hsys, hign, hc⟩ => runOps_sized h hsys hign (hc.imp (fun ⟨h1, hu⟩ => init_sized h1 hu) id),
    runOps_keeps h, fun hn => let ⟨_, _, e⟩ := runOps_frame h hn; congrArg Builder.conn e⟩

theorem prepare_last_conn {v : Variant} {x : Ext} {inp : Input} {b : Builder} {cnt : Nat}
    {pre post : List Op} {lines : List (Option Str)}
    (h : prepare v x inp = .ok (b, cnt)) (hops : inp.ops = pre ++ Op.conn lines :: post)
    (hpost : ∀ l, Op.conn l ∉ post ∧ Op.connIgn l ∉ post) :
    ∃ buf : ConnBuf, (readConn v buf lines).2 = .ok () ∧ b.conn = (readConn v buf lines).1.conn := by
  unfold prepare at h
  rw [hops] at h
  obtain ⟨s1, _, h2⟩ := runOps_append h
  obtain ⟨s2, h3, h4⟩ := runOps_cons h2
  obtain ⟨hok, rfl⟩ := runOp_conn h3
  obtain ⟨_, _, e⟩ := runOps_frame h4 hpost
  refine ⟨⟨s1.1.conn, s1.1.connLine⟩, ?_, ?_⟩
  · rw [← (readConnB_cases v s1.1 lines).1]; exact hok
  · obtain ⟨_, _, e'⟩ := readConnB_frame v s1.1 lines
    rw [show b = _ from e, e']

end Build
