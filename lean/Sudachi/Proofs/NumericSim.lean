import Sudachi.Proofs.NumericLang
/-!
# The parser against the numeral written so far (C15)

The numeral AST `Numeral` with its rendering, the positional number of each of its terms (`termPN` …
`numeralPN`) and the positional rule, on positions (`Numeral.Fits`) and on positional numbers
(`FitsPN`, `fitsPN_iff`).  The refinement: `Acc` says which terms `subtotal` and `total` hold,
`Closed` that a coefficient stands complete in `tmp`; under both a small unit, a large unit and
`done()` are accepted exactly when the term fits, for every variant.  `Sim` adds the number being
written (`Cur`, `CurInv`); with the repairs F1–F4 every accepted character extends the partial numeral
(`sim_step`), so what is accepted is the rendering of a well-formed numeral whose terms fit
(`wellformed_of_feed_done`, `accepted_wellformed`); what `total` then holds is `Acc.done`.
-/
namespace Numeric

variable (v : Variant)

/-! ## the numeral AST and its rendering -/

/-- a written number: integer part (plain or with thousands separators) and fraction digits
(`frac = []`: no point is written) -/
structure Run where
  int : IntPart
  frac : List Dg

def Run.WF (r : Run) : Prop := r.int.WF
def renderRun (r : Run) : List Char :=
  renderInt r.int ++ (if r.frac.isEmpty then [] else '.' :: renderDigits r.frac)

def renderCoef : Option Run → List Char
  | none => []
  | some r => renderRun r
def coefWF : Option Run → Prop
  | none => True
  | some r => r.WF

/-- the part below a large unit: terms `coefficient? small-unit`, then an optional plain number -/
structure Group where
  smalls : List (Option Run × SmallU)
  last : Option Run

def renderSmalls (l : List (Option Run × SmallU)) : List Char :=
  l.flatMap (fun t => renderCoef t.1 ++ [t.2.char])
def renderGroup (g : Group) : List Char := renderSmalls g.smalls ++ renderCoef g.last
def Group.WF (g : Group) : Prop := (∀ t ∈ g.smalls, coefWF t.1) ∧ coefWF g.last
def Group.Nonempty (g : Group) : Prop := g.smalls ≠ [] ∨ g.last ≠ none

structure Numeral where
  larges : List (Group × LargeU)
  rest : Group

def renderLarges (l : List (Group × LargeU)) : List Char :=
  l.flatMap (fun t => renderGroup t.1 ++ [t.2.char])
def render (a : Numeral) : List Char := renderLarges a.larges ++ renderGroup a.rest

/-- syntactic well-formedness: every written number obeys the separator rules (`IntPart.WF`; a
fraction, if any, has digits and no separators by construction), every large unit has something in
front of it, and the large units strictly decrease -/
def Numeral.WF (a : Numeral) : Prop :=
  (∀ t ∈ a.larges, t.1.WF ∧ t.1.Nonempty) ∧ (a.larges.map (fun t => t.2.exp)).Pairwise (· > ·) ∧ a.rest.WF

def IntPart.len (i : IntPart) : Nat := i.g1.length + i.gs.flatten.length
/-- integer digits / fraction digits written -/
def Run.il (r : Run) : Nat := r.int.len
def Run.fl (r : Run) : Nat := r.frac.length

theorem canonInt_length (i : IntPart) : (canonInt i).length = i.len := by
  simp only [canonInt, canonDigits, List.length_map, List.length_append, IntPart.len]

/-- `(hi, avail)` of the term `coefficient × 10^e`: with `L` written integer digits and `F` fraction
digits it occupies the decimal positions below `L + e` and leaves free those below `e - F`; a unit
without coefficient counts as `1` -/
def termSpan (c : Option Run) (e : Nat) : Int × Int :=
  match c with
  | none => (1 + (e : Int), (e : Int))
  | some r => ((r.il : Int) + e, (e : Int) - r.fl)

def smallSpans (S : List (Option Run × SmallU)) : List (Int × Int) := S.map (fun t => termSpan t.1 t.2.exp)
def lastSpans : Option Run → List (Int × Int)
  | none => []
  | some r => [termSpan (some r) 0]
def groupSpans (g : Group) : List (Int × Int) := smallSpans g.smalls ++ lastSpans g.last
/-- an empty group (no span) contributes nothing; under `Numeral.WF` there is none in front of a large unit -/
def largeSpans (L : List (Group × LargeU)) : List (Int × Int) :=
  L.filterMap (fun t => (spanOf (groupSpans t.1)).map (fun s => (s.1 + (t.2.exp : Int), s.2 + (t.2.exp : Int))))

/-- positional well-formedness: inside every group, and from group to group, each term fits
entirely into the positions the previous one leaves free (no two terms overlap; in particular the
small units of a group strictly decrease) -/
def Numeral.Fits (a : Numeral) : Prop :=
  (∀ t ∈ a.larges, Fit (groupSpans t.1)) ∧ Fit (groupSpans a.rest) ∧
  Fit (largeSpans a.larges ++ (spanOf (groupSpans a.rest)).toList)

/-! ## the positional numbers of the terms, and the positional rule on them -/

def runPN (r : Run) : PN := ⟨canonInt r.int ++ canonDigits r.frac, -(r.frac.length : Int)⟩

def termPN (c : Option Run) (e : Nat) : PN :=
  match c with
  | none => ⟨['1'], (e : Int)⟩
  | some r => (runPN r).shift e

def smallsPN (S : List (Option Run × SmallU)) : List PN := S.map (fun t => termPN t.1 t.2.exp)
def groupList (g : Group) : List PN := smallsPN g.smalls ++ (g.last.map runPN).toList
def groupPN (g : Group) : Option PN := joinList none (groupList g)

/-- each group times its unit; a group that holds nothing (`groupPN = none`) contributes no term — under
`Numeral.WF` the groups here are `Nonempty` and hold one (`groupPN_some`) -/
def largesPN (L : List (Group × LargeU)) : List PN :=
  L.filterMap (fun t => (groupPN t.1).map (fun x => x.shift t.2.exp))

theorem groupPN_some (g : Group) (h : g.Nonempty) : ∃ x, groupPN g = some x := by
  unfold groupPN
  cases hl : groupList g with
  | nil =>
    exfalso
    simp only [groupList, List.append_eq_nil_iff, smallsPN, List.map_eq_nil_iff] at hl
    rcases h with h | h
    · exact h hl.1
    · cases hg : g.last with
      | none => exact h hg
      | some r => rw [hg] at hl; simp at hl
  | cons y ys => rw [joinList_cons]; exact joinList_some _ _

/-- the numeral as a positional number (`none`: nothing written) -/
def numeralPN (a : Numeral) : Option PN := joinOO (joinList none (largesPN a.larges)) (groupPN a.rest)

def Numeral.hasUnit (a : Numeral) : Bool := !a.larges.isEmpty || !a.rest.smalls.isEmpty

/-- positional well-formedness on the positional numbers: every term fits below what is written
when it is added (equivalent to `Numeral.Fits`, see `fitsPN_iff`) -/
structure Numeral.FitsPN (a : Numeral) : Prop where
  larges : ∀ t ∈ a.larges, FitL none (groupList t.1)
  rest : FitL none (groupList a.rest)
  chain : FitL none (largesPN a.larges ++ (groupPN a.rest).toList)

theorem termSpan_eq (c : Option Run) (e : Nat) : termSpan c e = (termPN c e).span := by
  cases c with
  | none => simp [termSpan, termPN, PN.span, PN.hi]
  | some r =>
    simp only [termSpan, termPN, PN.span, PN.hi, PN.shift, runPN, List.length_append, canonInt_length,
      canonDigits_length, Run.il, Run.fl]
    refine Prod.ext ?_ ?_ <;> simp only <;> omega

theorem groupSpans_eq (g : Group) : groupSpans g = (groupList g).map PN.span := by
  simp only [groupSpans, groupList, smallSpans, smallsPN, List.map_append, List.map_map]
  congr 1
  · apply List.map_congr_left
    intro t _
    exact termSpan_eq t.1 t.2.exp
  · cases g.last with
    | none => rfl
    | some r =>
      simp only [lastSpans, Option.map_some, Option.toList, List.map_cons, List.map_nil]
      rw [termSpan_eq]
      simp [termPN, PN.shift]

theorem largeSpans_eq (L : List (Group × LargeU)) (h : ∀ t ∈ L, FitL none (groupList t.1)) :
    largeSpans L = (largesPN L).map PN.span := by
  induction L with
  | nil => rfl
  | cons t L ih =>
    have ih' := ih (fun t ht => h t (by simp [ht]))
    have hg := joinList_span none (groupList t.1) (h t (by simp))
    simp only [Option.map_none, Option.toList, List.nil_append, ← groupSpans_eq] at hg
    simp only [largeSpans, largesPN, List.filterMap_cons] at ih' ⊢
    rw [← hg]
    cases hx : groupPN t.1 with
    | none =>
      simp only [groupPN] at hx
      simp only [hx, Option.map_none]
      exact ih'
    | some x =>
      simp only [groupPN] at hx
      simp only [hx, Option.map_some, List.map_cons, shift_span]
      rw [ih']

/-- **the positional rule on the positions (`Numeral.Fits`, as `reject_malformed` states it) and on the
positional numbers (`FitsPN`, as the parser meets it) is the same** -/
theorem fitsPN_iff (a : Numeral) : a.FitsPN ↔ a.Fits := by
  have e1 : ∀ g : Group, FitL none (groupList g) ↔ Fit (groupSpans g) := fun g => by
    rw [groupSpans_eq]; exact fitL_none _
  -- the chain of the groups, given that every group fits in itself
  have key : (∀ t ∈ a.larges, FitL none (groupList t.1)) → FitL none (groupList a.rest) →
      (FitL none (largesPN a.larges ++ (groupPN a.rest).toList) ↔
        Fit (largeSpans a.larges ++ (spanOf (groupSpans a.rest)).toList)) := by
    intro hl hr
    have hg := joinList_span none (groupList a.rest) hr
    simp only [Option.map_none, Option.toList, List.nil_append, ← groupSpans_eq] at hg
    have : (groupPN a.rest).toList.map PN.span = (spanOf (groupSpans a.rest)).toList := by
      rw [← hg]
      unfold groupPN
      cases joinList none (groupList a.rest) <;> rfl
    rw [fitL_none, List.map_append, ← largeSpans_eq a.larges hl, this]
  constructor
  · rintro ⟨hl, hr, hc⟩
    exact ⟨fun t ht => (e1 _).1 (hl t ht), (e1 _).1 hr, (key hl hr).1 hc⟩
  · rintro ⟨h1, h2, h3⟩
    have hl := fun t ht => (e1 _).2 (h1 t ht)
    exact ⟨hl, (e1 _).2 h2, (key hl ((e1 _).2 h2)).2 h3⟩

/-! ## helpers: the start state of a number, the term in front of a unit -/

/-- the parser at the start of a number: the flags as `clear()` leaves them, `tmp` cleared and not marked -/
structure AtStart (p : Parser) : Prop where
  first : p.isFirstDigit = true
  comma : p.hasComma = false
  hanging : p.hasHangingPoint = false
  digitLength : p.digitLength = 0
  sig : p.tmp.sig = []
  point : p.tmp.point = none
  scale : p.tmp.scale = 0
  allZero : p.tmp.allZero = true
  bad : p.tmp.bad = false

theorem atStart_new : AtStart Parser.new := ⟨rfl, rfl, rfl, rfl, rfl, rfl, rfl, rfl, rfl⟩

theorem shift_repO (s : SN) (c : Option Run) (e : Nat) (h : s.RepO (c.map runPN)) :
    (s.shiftScale e).Rep (termPN c e) := by
  cases c with
  | none => exact rep_shift_zero s e h
  | some r => exact rep_shift s (runPN r) e h

theorem forall_mem_snoc {α : Type} {P : α → Prop} {l : List α} {x : α} (h : ∀ t ∈ l, P t) (hx : P x) :
    ∀ t ∈ l ++ [x], P t := by
  intro t ht
  rcases List.mem_append.1 ht with ht | ht
  · exact h t ht
  · rw [List.mem_singleton.1 ht]; exact hx

/-! ## the refinement: what the parser holds against what has been written

`Acc`: the accumulators hold the terms written, one below the other.  `Closed p c`: the coefficient
`c` stands complete in `tmp`.  Under both, a small unit, a large unit and `done()` are accepted when the
term fits (`Acc.small`, `Acc.large`, `Acc.done`) and only then (`_guard`), for every variant; the
repairs only matter for knowing `Closed` and the order of the large units. -/

/-- the coefficient `c` (`none`: nothing written) stands complete in `tmp`: no point is hanging, an
open separator group has its three digits, and `tmp` holds the number written -/
structure Closed (p : Parser) (c : Option Run) : Prop where
  hanging : p.hasHangingPoint = false
  comma : p.hasComma = true → p.digitLength = 3
  wf : coefWF c
  rep : p.tmp.RepO (c.map runPN)

/-- the accumulators against the terms written: `subtotal` holds the small-unit terms `S` of the open
group, `total` the closed groups `L`, each times its large unit -/
structure Acc (v : Variant) (p : Parser) (L : List (Group × LargeU)) (S : List (Option Run × SmallU)) : Prop where
  sub : p.subtotal.Holds (smallsPN S)
  tot : p.total.Holds (largesPN L)
  smallsWF : ∀ t ∈ S, coefWF t.1
  largesWF : ∀ t ∈ L, t.1.WF ∧ t.1.Nonempty
  largesFit : ∀ t ∈ L, FitL none (groupList t.1)
  order : (L.map (fun t => t.2.exp)).Pairwise (· > ·)
  /-- `last_large_unit` (written under repair F4 only) is the unit of one group and bounds all of them -/
  bound : v.f4 = true → match p.lastLarge with
    | none => L = []
    | some l => (∀ t ∈ L, -(t.2.exp : Int) ≤ l) ∧ ∃ t ∈ L, l = -(t.2.exp : Int)
  unit : p.hasUnit = (v.f5 && (!L.isEmpty || !S.isEmpty))

variable {v}

theorem acc_new : Acc v Parser.new [] [] := by
  refine ⟨holds_nil ?_, holds_nil ?_, nofun, nofun, nofun, List.Pairwise.nil, fun _ => rfl, ?_⟩ <;>
    simp [Parser.new, SN.Zero]

structure Frame (p q : Parser) : Prop where
  subtotal : q.subtotal = p.subtotal
  total : q.total = p.total
  lastLarge : q.lastLarge = p.lastLarge
  hasUnit : q.hasUnit = p.hasUnit

theorem Acc.frame {p q : Parser} {L : List (Group × LargeU)} {S : List (Option Run × SmallU)} (h : Acc v p L S)
    (hf : Frame p q) : Acc v q L S := by
  obtain ⟨a, b, c, d, e, f, g, i⟩ := h
  obtain ⟨h1, h2, h3, h4⟩ := hf
  exact ⟨h1 ▸ a, h2 ▸ b, c, d, e, f, by rw [h3]; exact g, by rw [h4]; exact i⟩

theorem largesPN_snoc (L : List (Group × LargeU)) (g : Group) (u : LargeU) (x : PN) (hx : groupPN g = some x) :
    largesPN (L ++ [(g, u)]) = largesPN L ++ [x.shift u.exp] := by
  simp [largesPN, List.filterMap_append, hx]

theorem nonempty_of_groupPN {g : Group} {x : PN} (h : groupPN g = some x) : g.Nonempty := by
  cases hs : g.smalls with
  | cons => exact .inl (by rw [hs]; nofun)
  | nil =>
    refine .inr fun hl => ?_
    rw [groupPN, groupList, hs, hl] at h
    cases h

theorem Acc.small {p : Parser} {L : List (Group × LargeU)} {S : List (Option Run × SmallU)} {c : Option Run}
    (u : SmallU) (h : Acc v p L S) (hc : Closed p c)
    (hfit : FitO (joinList none (smallsPN S)) (termPN c u.exp)) :
    p.append v u.char = (true, p.afterSmall v u) ∧ Acc v (p.afterSmall v u) L (S ++ [(c, u)]) ∧
      AtStart (p.afterSmall v u) := by
  obtain ⟨k1, k2⟩ := h.sub.add (o := some (termPN c u.exp)) (shift_repO _ c u.exp hc.rep)
  have hok := k1.2 ⟨hfit, trivial⟩
  obtain ⟨hs, ht⟩ := k2 hok
  refine ⟨(append_small_iff v p _ u).2 ⟨fun _ => hc.hanging, fun _ => hc.comma, hok, rfl⟩, ?_, ?_⟩
  · exact { h with
      sub := by simpa [smallsPN, Parser.afterSmall] using hs
      smallsWF := forall_mem_snoc h.smallsWF hc.wf
      unit := by
        have := h.unit
        simp only [Parser.afterSmall, this]
        cases v.f5 <;> simp }
  · refine ⟨rfl, rfl, hc.hanging, rfl, ?_, ?_, ?_, ?_, ?_⟩ <;> simp [Parser.afterSmall, SN.clear, repO_bad _ _ ht]

theorem Acc.small_guard {p p' : Parser} {L : List (Group × LargeU)} {S : List (Option Run × SmallU)} {c : Option Run}
    (u : SmallU) (h : Acc v p L S) (hc : Closed p c) (ha : p.append v u.char = (true, p')) :
    FitO (joinList none (smallsPN S)) (termPN c u.exp) :=
  ((h.sub.add (o := some (termPN c u.exp)) (shift_repO _ c u.exp hc.rep)).1.1
    ((append_small_iff v p p' u).1 ha).2.2.1).1

/-- **a large unit** after a complete group that fits, is not empty and, times the unit, fits below the
total; the unit smaller than those before -/
theorem Acc.large {p : Parser} {L : List (Group × LargeU)} {S : List (Option Run × SmallU)} {c : Option Run}
    (u : LargeU) (h : Acc v p L S) (hc : Closed p c)
    (hfg : FitL (joinList none (smallsPN S)) (c.map runPN).toList) (x : PN) (hx : groupPN ⟨S, c⟩ = some x)
    (hfit : FitO (joinList none (largesPN L)) (x.shift u.exp)) (hord : ∀ t ∈ L, t.2.exp > u.exp) :
    p.append v u.char = (true, p.afterLarge v u) ∧ Acc v (p.afterLarge v u) (L ++ [(⟨S, c⟩, u)]) [] ∧
      AtStart (p.afterLarge v u) := by
  -- the group: `subtotal + tmp`
  obtain ⟨g1, g2⟩ := h.sub.add hc.rep
  have hgrp := g1.2 hfg
  obtain ⟨hg, htmp⟩ := g2 hgrp
  have hrep : (p.subtotal.add p.tmp).2.1.Rep x := by
    have := hg.2
    rwa [show joinList none (smallsPN S ++ (c.map runPN).toList) = groupPN ⟨S, c⟩ from rfl, hx] at this
  -- times the unit, below the total
  obtain ⟨t1, t2⟩ := h.tot.add (o := some (x.shift u.exp)) (rep_shift _ x u.exp hrep)
  have hadd := t1.2 ⟨hfit, trivial⟩
  obtain ⟨htot, hsub⟩ := t2 hadd
  have hl : v.f4 = true → ∀ l, p.lastLarge = some l → l < -(u.exp : Int) := by
    intro h4 l hl
    have hb := h.bound h4
    rw [hl] at hb
    obtain ⟨t, ht, rfl⟩ := hb.2
    have := hord t ht
    omega
  refine ⟨(append_large_iff v p _ u).2 ⟨fun _ => hc.hanging, fun _ => hc.comma, hl, hgrp, hrep.1.1, hadd, rfl⟩, ?_, ?_⟩
  · exact {
      sub := holds_nil (clear_zero _ (repO_bad _ _ hsub))
      tot := by rw [largesPN_snoc L _ u x hx]; exact htot
      smallsWF := nofun
      largesWF := forall_mem_snoc h.largesWF ⟨⟨h.smallsWF, hc.wf⟩, nonempty_of_groupPN hx⟩
      largesFit := forall_mem_snoc h.largesFit hg.1
      order := by
        rw [List.map_append, List.pairwise_append]
        refine ⟨h.order, List.pairwise_singleton _ _, fun a ha b hb => ?_⟩
        obtain ⟨t, ht, rfl⟩ := List.mem_map.1 ha
        rw [List.mem_singleton.1 hb]
        exact hord t ht
      bound := fun h4 => by
        simp only [Parser.afterLarge, h4, if_true]
        exact ⟨forall_mem_snoc (fun t ht => by have := hord t ht; omega) (Int.le_refl _), (⟨S, c⟩, u),
          List.mem_append_right _ (List.mem_singleton.2 rfl), rfl⟩
      unit := by
        have := h.unit
        simp only [Parser.afterLarge, this]
        cases v.f5 <;> simp }
  · refine ⟨rfl, rfl, hc.hanging, rfl, ?_, ?_, ?_, ?_, ?_⟩ <;> simp [Parser.afterLarge, SN.clear, repO_bad _ _ htmp]

theorem Acc.large_guard {p p' : Parser} {L : List (Group × LargeU)} {S : List (Option Run × SmallU)} {c : Option Run}
    (u : LargeU) (h : Acc v p L S) (hc : Closed p c) (ha : p.append v u.char = (true, p')) :
    FitL (joinList none (smallsPN S)) (c.map runPN).toList ∧
    (∃ x, groupPN ⟨S, c⟩ = some x ∧ FitO (joinList none (largesPN L)) (x.shift u.exp)) ∧
    (v.f4 = true → ∀ t ∈ L, t.2.exp > u.exp) := by
  obtain ⟨-, -, a3, hgrp, anz, hadd, -⟩ := (append_large_iff v p p' u).1 ha
  obtain ⟨g1, g2⟩ := h.sub.add hc.rep
  obtain ⟨hg, -⟩ := g2 hgrp
  have hrep : (p.subtotal.add p.tmp).2.1.RepO (groupPN ⟨S, c⟩) := hg.2
  refine ⟨g1.1 hgrp, ?_, fun h4 t ht => ?_⟩
  · -- the sum is not zero, so the group holds a number
    cases hx : groupPN ⟨S, c⟩ with
    | none => exact absurd ((repO_sig_nil_iff hrep).2 hx) anz
    | some x =>
      rw [hx] at hrep
      exact ⟨x, rfl, ((h.tot.add (o := some (x.shift u.exp)) (rep_shift _ x u.exp hrep)).1.1 hadd).1⟩
  · have hb := h.bound h4
    cases hl : p.lastLarge with
    | none => rw [hl] at hb; rw [hb] at ht; cases ht
    | some l =>
      rw [hl] at hb
      have := hb.1 t ht
      have := a3 h4 l hl
      omega

/-- **`done()`** after a complete group that fits and fits below the total: `total` then holds the
positional number of the numeral -/
theorem Acc.done {p : Parser} {L : List (Group × LargeU)} {S : List (Option Run × SmallU)} {c : Option Run}
    (h : Acc v p L S) (hc : Closed p c) (hfg : FitL (joinList none (smallsPN S)) (c.map runPN).toList)
    (hfit : FitL (joinList none (largesPN L)) (groupPN ⟨S, c⟩).toList) :
    (p.done v).1 = true ∧ (p.done v).2.total.RepO (numeralPN ⟨L, ⟨S, c⟩⟩) ∧ (p.done v).2.anyBad = false ∧
      (p.done v).2.hasUnit = p.hasUnit := by
  obtain ⟨g1, g2⟩ := h.sub.add hc.rep
  have e1 := g1.2 hfg
  obtain ⟨hg, htmp⟩ := g2 e1
  have hrep : (p.subtotal.add p.tmp).2.1.RepO (groupPN ⟨S, c⟩) := hg.2
  obtain ⟨t1, t2⟩ := h.tot.add hrep
  have e2 := t1.2 hfit
  obtain ⟨htot, hsub⟩ := t2 e2
  have d1 : (p.done v).1 = true := (done_ok v p).2 ⟨(sums_ok p).2 ⟨e1, e2⟩, hc.hanging, hc.comma⟩
  rw [done_snd v p d1, sums_snd p e1]
  refine ⟨d1, ?_, ?_, rfl⟩
  · have := htot.2
    rwa [joinList_append, joinList_toList] at this
  · simp only [Parser.anyBad, repO_bad _ _ htot.2, repO_bad _ _ hsub, repO_bad _ _ htmp, Bool.or_self]

theorem Acc.done_guard {p : Parser} {L : List (Group × LargeU)} {S : List (Option Run × SmallU)} {c : Option Run}
    (h : Acc v p L S) (hc : Closed p c) (hd : (p.done v).1 = true) :
    FitL (joinList none (smallsPN S)) (c.map runPN).toList ∧
    FitL (joinList none (largesPN L)) (groupPN ⟨S, c⟩).toList := by
  obtain ⟨e1, e2⟩ := (sums_ok p).1 ((done_ok v p).1 hd).1
  obtain ⟨g1, g2⟩ := h.sub.add hc.rep
  have hrep : (p.subtotal.add p.tmp).2.1.RepO (groupPN ⟨S, c⟩) := (g2 e1).1.2
  exact ⟨g1.1 e1, (h.tot.add hrep).1.1 e2⟩

variable (v)

/-! ## the simulation: parser state ↔ partial AST -/

/-- the number being written: nothing yet; a first group; `grp g1 gs g` = first group, the COMPLETE
three-digit groups `gs`, the open group `g`; `frac i fs` = integer part and fraction digits (`fs = []`:
the point is hanging) -/
inductive Cur
  | start
  | first (g1 : List Dg)
  | grp (g1 : List Dg) (gs : List (List Dg)) (g : List Dg)
  | frac (i : IntPart) (fs : List Dg)

def Cur.render : Cur → List Char
  | .start => []
  | .first g1 => renderDigits g1
  | .grp g1 gs g => renderDigits g1 ++ renderGroups gs ++ ',' :: renderDigits g
  | .frac i fs => renderInt i ++ '.' :: renderDigits fs

/-- the partial numeral read so far (the AST side of the simulation, not the parser's state): the closed
groups, the small-unit terms of the open group, the number being written -/
structure PState where
  larges : List (Group × LargeU)
  smalls : List (Option Run × SmallU)
  cur : Cur

def PState.render (σ : PState) : List Char := renderLarges σ.larges ++ renderSmalls σ.smalls ++ σ.cur.render

namespace Cur

def isStart : Cur → Bool
  | .start => true
  | _ => false

def inGroup : Cur → Bool
  | .grp .. => true
  | _ => false

def hanging : Cur → Bool
  | .frac _ fs => fs.isEmpty
  | _ => false

def digits : Cur → List Dg
  | .start => []
  | .first g1 => g1
  | .grp g1 gs g => g1 ++ gs.flatten ++ g
  | .frac i fs => i.g1 ++ i.gs.flatten ++ fs

def point : Cur → Option Nat
  | .frac i _ => some i.len
  | _ => none

/-- the digits of the integer part since the last separator -/
def openLen : Cur → Nat
  | .first g1 => g1.length
  | .grp _ _ g => g.length
  | _ => 0

/-- whether only zeros have been written, while there is neither separator nor point -/
def headZero : Cur → Bool
  | .first g1 => allZeroDigits g1
  | _ => true

def WF : Cur → Prop
  | .start => True
  | .first g1 => g1 ≠ []
  | .grp g1 gs _ => g1 ≠ [] ∧ g1.length ≤ 3 ∧ allZeroDigits g1 = false ∧ ∀ x ∈ gs, x.length = 3
  | .frac i _ => i.WF

end Cur

/-- the parser's flags and `tmp` against the number being written; `digit_length` counts only in the
integer part, `all_zero` is read only before the first separator -/
structure CurInv (p : Parser) (cur : Cur) : Prop where
  wf : cur.WF
  first : p.isFirstDigit = cur.isStart
  comma : p.hasComma = cur.inGroup
  hanging : p.hasHangingPoint = cur.hanging
  sig : p.tmp.sig = canonDigits cur.digits
  point : p.tmp.point = cur.point
  scale : p.tmp.scale = 0
  digitLength : cur.point = none → p.digitLength = cur.openLen
  allZero : cur.point = none → cur.inGroup = false → p.tmp.allZero = cur.headZero

theorem renderGroups_snoc (gs : List (List Dg)) (g : List Dg) :
    renderGroups (gs ++ [g]) = renderGroups gs ++ ',' :: renderDigits g := by
  simp [renderGroups]

def Cur.push : Cur → Dg → Cur
  | .start, g => .first [g]
  | .first g1, g => .first (g1 ++ [g])
  | .grp g1 gs x, g => .grp g1 gs (x ++ [g])
  | .frac i fs, g => .frac i (fs ++ [g])

theorem Cur.digits_push (cur : Cur) (g : Dg) : (cur.push g).digits = cur.digits ++ [g] := by
  cases cur <;> simp [Cur.push, Cur.digits]

theorem CurInv.push {p : Parser} {cur : Cur} (h : CurInv p cur) (g : Dg) :
    CurInv (p.pushDigit g) (cur.push g) where
  wf := by
    cases cur
    case grp | frac => exact h.wf
    all_goals simp [Cur.push, Cur.WF]
  first := by cases cur <;> rfl
  comma := by cases cur <;> exact h.comma
  hanging := by cases cur <;> simp [Parser.pushDigit, Cur.push, Cur.hanging]
  sig := by
    show p.tmp.sig ++ [SN.digitChar g.d.val] = _
    rw [Cur.digits_push, h.sig]
    simp [canonDigits, Dg.ascii]
  point := by cases cur <;> exact h.point
  scale := h.scale
  digitLength hp := by
    have := h.digitLength
    cases cur <;> simp [Parser.pushDigit, Cur.push, Cur.openLen, Cur.point] at this hp ⊢ <;> omega
  allZero hp hg := by
    have hz : (p.pushDigit g).tmp.allZero = (p.tmp.allZero && g.d.val == 0) := by
      by_cases hd : g.d.val = 0 <;> simp [Parser.pushDigit, SN.append, hd]
    rw [hz]
    cases cur with
    | start => rw [h.allZero rfl rfl]; simp [Cur.push, Cur.headZero, allZeroDigits]
    | first g1 => rw [h.allZero rfl rfl]; simp [Cur.push, Cur.headZero, allZeroDigits]
    | grp => cases hg
    | frac => cases hp

/-- `check_comma` on a state that passed the first-digit test, in terms of the number being written -/
theorem checkComma_iff {p : Parser} {cur : Cur} (h : CurInv p cur) (hp : cur.point = none) (hs : cur.isStart = false) :
    p.checkComma v = true ↔ if cur.inGroup then cur.openLen = 3
      else cur.openLen ≤ 3 ∧ p.tmp.isZero = false ∧ cur.headZero = false := by
  have hp' := h.point
  rw [hp] at hp'
  cases hg : cur.inGroup
  · simp [Parser.checkComma, h.first, hs, hp', h.comma, hg, h.digitLength hp, h.allZero hp hg, and_assoc]
  · simp [Parser.checkComma, h.first, hs, hp', h.comma, hg, h.digitLength hp]

/-- an accepted separator (repair F1) extends the number being written: the group before it was complete -/
theorem curInv_comma (hv : v.f1 = true) {p : Parser} {cur : Cur} (hcur : CurInv p cur) (hc : p.checkComma v = true) :
    ∃ cur', CurInv p.pushComma cur' ∧ cur'.render = cur.render ++ [','] := by
  cases cur with
  | start => simp [Parser.checkComma, hcur.first, Cur.isStart] at hc
  | first g1 =>
    rw [checkComma_iff v hcur rfl rfl] at hc
    simp only [Cur.inGroup, Cur.openLen, Cur.headZero, Bool.false_eq_true, if_false] at hc
    refine ⟨.grp g1 [] [], ?_, by simp [Cur.render, renderGroups, renderDigits]⟩
    exact { hcur with
      wf := ⟨hcur.wf, hc.1, hc.2.2, nofun⟩
      comma := rfl
      sig := by simpa [Parser.pushComma, Cur.digits] using hcur.sig
      digitLength := fun _ => rfl
      allZero := nofun }
  | grp g1 gs x =>
    rw [checkComma_iff v hcur rfl rfl] at hc
    simp only [Cur.inGroup, Cur.openLen, if_true] at hc
    obtain ⟨w1, w2, w3, w4⟩ := hcur.wf
    refine ⟨.grp g1 (gs ++ [x]) [], ?_, by simp [Cur.render, renderGroups_snoc, renderDigits]⟩
    exact { hcur with
      wf := ⟨w1, w2, w3, forall_mem_snoc w4 hc⟩
      comma := rfl
      sig := by simpa [Parser.pushComma, Cur.digits, List.append_assoc] using hcur.sig
      digitLength := fun _ => rfl }
  | frac i fs => simp [Parser.checkComma, hcur.first, hv, hcur.point, Cur.isStart, Cur.point] at hc

/-- an accepted point extends the number being written: the integer part before it was complete -/
theorem curInv_point {p : Parser} {cur : Cur} (hcur : CurInv p cur) (h1 : p.isFirstDigit = false)
    (h2 : p.hasComma = true → p.checkComma v = true) (h3 : p.tmp.point = none) :
    ∃ cur', CurInv p.pushPoint cur' ∧ cur'.render = cur.render ++ ['.'] := by
  cases cur with
  | start => rw [hcur.first] at h1; cases h1
  | first g1 =>
    refine ⟨.frac ⟨g1, []⟩ [], ?_, by simp [Cur.render, renderInt, renderGroups, renderDigits]⟩
    exact { hcur with
      wf := ⟨hcur.wf, by simp, by simp⟩
      comma := rfl
      hanging := rfl
      sig := by simpa [Parser.pushPoint, Cur.digits] using hcur.sig
      point := by
        show some p.tmp.sig.length = _
        rw [hcur.sig, canonDigits_length]
        simp [Cur.point, Cur.digits, IntPart.len]
      digitLength := nofun
      allZero := nofun }
  | grp g1 gs x =>
    have hc := h2 hcur.comma
    rw [checkComma_iff v hcur rfl rfl] at hc
    simp only [Cur.inGroup, Cur.openLen, if_true] at hc
    obtain ⟨w1, w2, w3, w4⟩ := hcur.wf
    refine ⟨.frac ⟨g1, gs ++ [x]⟩ [], ?_, by simp [Cur.render, renderInt, renderGroups_snoc, renderDigits]⟩
    exact { hcur with
      wf := ⟨w1, fun _ => ⟨w2, w3⟩, forall_mem_snoc w4 hc⟩
      comma := rfl
      hanging := rfl
      sig := by simpa [Parser.pushPoint, Cur.digits, List.append_assoc] using hcur.sig
      point := by
        show some p.tmp.sig.length = _
        rw [hcur.sig, canonDigits_length]
        simp [Cur.point, Cur.digits, IntPart.len]
      digitLength := nofun
      allZero := nofun }
  | frac i fs => rw [hcur.point] at h3; cases h3

theorem curInv_of_atStart {p : Parser} (hs : AtStart p) : CurInv p .start := by
  exact ⟨trivial, hs.first, hs.comma, hs.hanging, hs.sig, hs.point, hs.scale, fun _ => hs.digitLength, fun _ _ => hs.allZero⟩

def Cur.complete : Cur → Option Run
  | .start => none
  | .first g1 => some ⟨⟨g1, []⟩, []⟩
  | .grp g1 gs g => some ⟨⟨g1, gs ++ [g]⟩, []⟩
  | .frac i fs => some ⟨i, fs⟩

/-- a number is complete when no point is hanging and the open separator group has three digits;
`tmp` then holds it -/
theorem CurInv.closed {p : Parser} {cur : Cur} (h : CurInv p cur) (hb : p.tmp.bad = false)
    (hh : p.hasHangingPoint = false) (hc : p.hasComma = true → p.digitLength = 3) :
    Closed p cur.complete ∧ renderCoef cur.complete = cur.render := by
  have hs := h.scale
  have hint : ∀ i : IntPart, i.g1 ≠ [] → cur.digits = i.g1 ++ i.gs.flatten → cur.point = none →
      p.tmp.Rep (runPN ⟨i, []⟩) := fun i h1 hd hp => by
    have e : runPN ⟨i, []⟩ = ⟨canonInt i, 0⟩ := by simp [runPN, canonDigits]
    rw [e]
    refine rep_plain p.tmp _ ?_ (by rw [h.sig, hd]; rfl) (h.point.trans hp) hs hb
    exact canonDigits_ne _ (by simp [h1])
  cases cur with
  | start => exact ⟨⟨hh, hc, trivial, by rw [h.sig]; rfl, h.point, hs, hb⟩, rfl⟩
  | first g1 =>
    refine ⟨⟨hh, hc, ⟨h.wf, by simp, by simp⟩, hint ⟨g1, []⟩ h.wf (by simp [Cur.digits]) rfl⟩, ?_⟩
    simp [Cur.complete, renderCoef, renderRun, renderInt, renderGroups, Cur.render]
  | grp g1 gs x =>
    obtain ⟨w1, w2, w3, w4⟩ := h.wf
    have hx : x.length = 3 := (h.digitLength rfl).symm.trans (hc h.comma)
    refine ⟨⟨hh, hc, ⟨w1, fun _ => ⟨w2, w3⟩, forall_mem_snoc w4 hx⟩,
      hint ⟨g1, gs ++ [x]⟩ w1 (by simp [Cur.digits]) rfl⟩, ?_⟩
    simp [Cur.complete, renderCoef, renderRun, renderInt, renderGroups_snoc, Cur.render]
  | frac i fs =>
    have hfs : fs ≠ [] := by
      intro hn
      have := h.hanging
      rw [hh, hn] at this
      cases this
    have hpos : 0 < i.len := by
      have : 0 < i.g1.length := List.length_pos_iff.mpr h.wf.1
      simp only [IntPart.len]; omega
    have hsig : p.tmp.sig = canonInt i ++ canonDigits fs := by
      rw [h.sig]; simp [Cur.digits, canonInt, canonDigits]
    have hl : p.tmp.sig.length = i.len + fs.length := by
      rw [hsig, List.length_append, canonInt_length, canonDigits_length]
    have hp : p.tmp.point = some i.len := h.point
    refine ⟨⟨hh, hc, h.wf, ⟨?_, ?_⟩, hb, hsig, ?_⟩, ?_⟩
    · intro hn; rw [hn] at hl; simp at hl; omega
    · intro q hq
      rw [hp] at hq
      cases hq
      omega
    · simp only [SN.avail, SN.fracLen, hp, hs, hl, runPN]; omega
    · simp [Cur.complete, renderCoef, renderRun, Cur.render, hfs]

structure Sim (v : Variant) (p : Parser) (σ : PState) : Prop extends Acc v p σ.larges σ.smalls where
  cur : CurInv p σ.cur
  tmpBad : p.tmp.bad = false

theorem sim_new : Sim v Parser.new ⟨[], [], .start⟩ := ⟨acc_new, curInv_of_atStart atStart_new, rfl⟩

theorem sim_step (h1 : v.f1 = true) (h2 : v.f2 = true) (h3 : v.f3 = true) (h4 : v.f4 = true)
    (p p' : Parser) (σ : PState) (c : Char) (h : Sim v p σ) (ha : p.append v c = (true, p')) :
    ∃ σ', Sim v p' σ' ∧ σ'.render = σ.render ++ [c] := by
  obtain ⟨L, S, cur⟩ := σ
  have hacc : Acc v p L S := h.toAcc
  rcases accepted_cases v p p' c ha with ⟨rfl, rfl⟩ | ⟨rfl, rfl⟩ | ⟨g, rfl, rfl⟩ | ⟨u, rfl, rfl⟩ | ⟨u, rfl, rfl⟩
  · obtain ⟨-, b1, b2, -, b4⟩ := (append_point_iff v p _).1 ha
    obtain ⟨cur', hc', hr⟩ := curInv_point v h.cur b1 b2 b4
    exact ⟨⟨L, S, cur'⟩, ⟨hacc.frame ⟨rfl, rfl, rfl, rfl⟩, hc', h.tmpBad⟩, by simp [PState.render, hr]⟩
  · obtain ⟨cur', hc', hr⟩ := curInv_comma v h1 h.cur ((append_comma_iff v p _).1 ha).2
    exact ⟨⟨L, S, cur'⟩, ⟨hacc.frame ⟨rfl, rfl, rfl, rfl⟩, hc', h.tmpBad⟩, by simp [PState.render, hr]⟩
  · refine ⟨⟨L, S, cur.push g⟩, ⟨hacc.frame ⟨rfl, rfl, rfl, rfl⟩, h.cur.push g, h.tmpBad⟩, ?_⟩
    cases cur <;> simp [PState.render, Cur.push, Cur.render, renderDigits]
  · -- a small unit closes the number being written and opens a new term
    obtain ⟨a1, a2, -, -⟩ := (append_small_iff v p _ u).1 ha
    obtain ⟨hc, hr⟩ := h.cur.closed h.tmpBad (a1 h2) (a2 h3)
    obtain ⟨-, hacc', hst⟩ := hacc.small u hc (hacc.small_guard u hc ha)
    exact ⟨⟨L, S ++ [(cur.complete, u)], .start⟩, ⟨hacc', curInv_of_atStart hst, hst.bad⟩,
      by simp [PState.render, renderSmalls, Cur.render, hr]⟩
  · -- a large unit closes the group
    obtain ⟨a1, a2, -⟩ := (append_large_iff v p _ u).1 ha
    obtain ⟨hc, hr⟩ := h.cur.closed h.tmpBad (a1 h2) (a2 h3)
    obtain ⟨g1, ⟨x, hx, g2⟩, g3⟩ := hacc.large_guard u hc ha
    obtain ⟨-, hacc', hst⟩ := hacc.large u hc g1 x hx g2 (g3 h4)
    exact ⟨⟨L ++ [(⟨S, cur.complete⟩, u)], [], .start⟩, ⟨hacc', curInv_of_atStart hst, hst.bad⟩,
      by simp [PState.render, renderLarges, renderGroup, renderSmalls, Cur.render, hr]⟩

theorem sim_feed (h1 : v.f1 = true) (h2 : v.f2 = true) (h3 : v.f3 = true) (h4 : v.f4 = true)
    (text : List Char) (p : Parser) (σ : PState) (q : Parser) (h : Sim v p σ)
    (hf : p.run v text = some q) : ∃ σ', Sim v q σ' ∧ σ'.render = σ.render ++ text := by
  refine run_induct v (fun pre q => ∃ σ', Sim v q σ' ∧ σ'.render = σ.render ++ pre) text p q hf
    ⟨σ, h, (List.append_nil _).symm⟩ ?_
  rintro pre c p1 p2 - ⟨σ1, i1, r1⟩ ha
  obtain ⟨σ2, i2, r2⟩ := sim_step v h1 h2 h3 h4 p1 p2 σ1 c i1 ha
  exact ⟨σ2, i2, by rw [r2, r1, List.append_assoc]⟩

/-- **accepted ⇒ rendering of a well-formed numeral** (parser with the repairs F1–F4): the text is
the rendering of an AST that obeys the separator rules, whose large units strictly decrease, and
whose terms fit positionally (no overlap) -/
theorem wellformed_of_feed_done (h1 : v.f1 = true) (h2 : v.f2 = true) (h3 : v.f3 = true)
    (h4 : v.f4 = true) (text : List Char) (q : Parser)
    (hf : Parser.new.run v text = some q) (hd : (q.done v).1 = true) :
    ∃ a : Numeral, a.WF ∧ a.Fits ∧ render a = text := by
  obtain ⟨σ, hi, hr⟩ := sim_feed v h1 h2 h3 h4 text Parser.new ⟨[], [], .start⟩ q (sim_new v) hf
  obtain ⟨-, d1, d2⟩ := (done_ok v q).1 hd
  obtain ⟨hc, hrc⟩ := hi.cur.closed hi.tmpBad d1 d2
  obtain ⟨g1, g2⟩ := hi.toAcc.done_guard hc hd
  refine ⟨⟨σ.larges, ⟨σ.smalls, σ.cur.complete⟩⟩, ⟨hi.largesWF, hi.order, hi.smallsWF, hc.wf⟩,
    (fitsPN_iff _).1 ⟨hi.largesFit, (fitL_append none _ _).2 ⟨hi.sub.1, g1⟩, (fitL_append none _ _).2 ⟨hi.tot.1, g2⟩⟩, ?_⟩
  rw [show text = σ.render from by simpa [PState.render, renderLarges, renderSmalls, Cur.render] using hr.symm]
  simp [render, renderGroup, PState.render, hrc]

theorem accepted_wellformed (h1 : v.f1 = true) (h2 : v.f2 = true) (h3 : v.f3 = true)
    (h4 : v.f4 = true) (text s : List Char) (h : parse v text = some s) :
    ∃ a : Numeral, a.WF ∧ a.Fits ∧ render a = text := by
  obtain ⟨q, hf, hd, _, _⟩ := parse_some v text s h
  exact wellformed_of_feed_done v h1 h2 h3 h4 text q hf hd

/-! ## a consequence of the positional fit -/

theorem termSpan_bounds (c : Option Run) (h : coefWF c) (e : Nat) : (e : Int) + 1 ≤ (termSpan c e).1 ∧ (termSpan c e).2 ≤ e := by
  cases c with
  | none => simp [termSpan]; omega
  | some r =>
    have : 0 < r.int.g1.length := List.length_pos_iff.mpr h.1
    simp only [termSpan, Run.il, IntPart.len, Run.fl]
    omega

theorem fit_small_order (S : List (Option Run × SmallU)) (hw : ∀ t ∈ S, coefWF t.1) (h : Fit (smallSpans S)) :
    (S.map (fun t => t.2.exp)).Pairwise (· > ·) := by
  induction S with
  | nil => simp
  | cons a S ih =>
    have ih' := ih (fun t ht => hw t (by simp [ht]))
    cases S with
    | nil => simp
    | cons b S =>
      simp only [smallSpans, List.map_cons, Fit] at h
      have hab : b.2.exp < a.2.exp := by
        have h1 := (termSpan_bounds b.1 (hw b (by simp)) b.2.exp).1
        have h2 := (termSpan_bounds a.1 (hw a (by simp)) a.2.exp).2
        have := h.1
        omega
      have ihb := ih' (by simpa [smallSpans] using h.2)
      simp only [List.map_cons, List.pairwise_cons] at ihb ⊢
      refine ⟨?_, ihb⟩
      intro x hx
      simp only [List.mem_cons] at hx
      rcases hx with rfl | hx
      · exact hab
      · have := ihb.1 x hx
        omega

theorem fit_group_smalls (g : Group) (h : Fit (groupSpans g)) : Fit (smallSpans g.smalls) := by
  unfold groupSpans at h
  cases hl : g.last with
  | none => simpa [hl, lastSpans] using h
  | some r => rw [hl] at h; exact ((fit_snoc _ _).1 h).1

end Numeric
