import Sudachi.Proofs.Sentence
/-!
# `SentenceIter::next` iterated (property C16)

The statements about one run of the iteration are inductions along `splitFuel` itself, by the induction principle Lean
generates for the function (`fun_induction`: one case per branch of its definition, with the statement for the recursive
call as hypothesis).  The branches, in the order of the definition: the text is used up | no call of `next` left | `get_eos`
panics | answers negatively | cuts off `e` characters, and the rest.  So are proved the partition (`splitFuel_ok`); every
sentence with its place in the text, its byte range and what its call saw of `get_eos` (`splitFuel_steps`); termination
within `text.length` calls — every call consumes a character (`getEos_pos_bounds`) — and, with valid UTF-8 keys, totality.
`splitFuel_ok` and `splitFuel_steps` ask only that the run ended with `.ok`, not that `text.length` calls were allowed.
That more calls change nothing (`splitFuel_fuel_irrelevant`) compares two runs and is an induction on the number of calls.
-/
namespace Sentence

/-- the ranges are contiguous from `p` to `q`, every range is as long as its (non-empty) chunk -/
def Contig : Nat → List Sent → Nat → Prop
  | p, [], q => p = q
  | p, x :: xs, q => x.b = p ∧ x.e = p + blen x.chunk ∧ x.chunk ≠ [] ∧ Contig x.e xs q

theorem cons_eq_ok {x : Sent} {r : SplitRes} {l : List Sent} (h : SplitRes.cons x r = .ok l) :
    ∃ l', r = .ok l' ∧ l = x :: l' := by
  cases r with
  | ok l' => simp [SplitRes.cons] at h; exact ⟨l', rfl, h.symm⟩
  | panic => simp [SplitRes.cons] at h
  | fuelOut => simp [SplitRes.cons] at h

theorem take_ne_nil {t : Text} {e : Nat} (h1 : 1 ≤ e) (hne : t ≠ []) : t.take e ≠ [] := by
  cases t with
  | nil => exact absurd rfl hne
  | cons c cs =>
    cases e with
    | zero => omega
    | succ e => exact List.cons_ne_nil _ _

theorem splitFuel_ok {limit : Nat} {v : CkVariant} {ck : Option (List (List (List Nat)))} (hl : 1 ≤ limit) :
    ∀ (fuel pos : Nat) (rest : Text) (l : List Sent), splitFuel v limit ck fuel pos rest = .ok l →
      Contig pos l (pos + blen rest) ∧ (l.map (·.chunk)).flatten = rest := by
  intro fuel pos rest
  -- Lean's induction principle of `splitFuel`: `case1` … `case5` are the branches of its definition in order, `case5`
  -- comes with `hg : getEos … = .ok (.pos e)` and the statement for the recursive call as `ih`
  fun_induction splitFuel v limit ck fuel pos rest with
  | case1 => rintro _ ⟨⟩; exact ⟨rfl, rfl⟩
  | case2 => exact fun _ h => nomatch h
  | case3 => exact fun _ h => nomatch h
  | case4 _ pos c cs => rintro _ ⟨⟩; exact ⟨⟨rfl, rfl, List.cons_ne_nil c cs, rfl⟩, List.append_nil _⟩
  | case5 fuel pos c cs rest e hg endB ih =>
    intro l h
    obtain ⟨l', hr, rfl⟩ := cons_eq_ok h
    obtain ⟨hc, hf⟩ := ih l' hr
    have h1 := (getEos_pos_bounds hl (List.cons_ne_nil c cs) hg).1
    refine ⟨⟨rfl, rfl, take_ne_nil h1 (List.cons_ne_nil c cs), ?_⟩, ?_⟩
    · rw [Nat.add_assoc, ← blen_append, List.take_append_drop] at hc
      exact hc
    · rw [List.map_cons, List.flatten_cons, hf, List.take_append_drop]

theorem splitFuel_terminates {limit : Nat} {v : CkVariant} {ck : Option (List (List (List Nat)))} (hl : 1 ≤ limit) :
    ∀ (fuel pos : Nat) (rest : Text), rest.length ≤ fuel → splitFuel v limit ck fuel pos rest ≠ .fuelOut := by
  intro fuel pos rest
  fun_induction splitFuel v limit ck fuel pos rest with
  | case1 => exact fun _ h => nomatch h
  | case2 => exact fun h => nomatch h
  | case3 => exact fun _ h => nomatch h
  | case4 => exact fun _ h => nomatch h
  | case5 fuel pos c cs rest e hg endB ih =>
    intro hlen hc
    have hb := getEos_pos_bounds hl (List.cons_ne_nil c cs) hg
    have hrec := ih (by simp only [rest, List.length_drop, List.length_cons] at hlen ⊢; omega)
    generalize splitFuel v limit ck fuel endB (rest.drop e) = r at hrec hc
    cases r <;> simp [SplitRes.cons] at hc hrec

/-- **Every sentence by its position in the produced list**: where it lies in the text (between the chunks before and
behind it), its byte range, and what the call of `next` that produced it saw — a non-negative answer of `get_eos` that cut
it off the rest of the text, or, only for the last one, a negative answer on the whole rest -/
theorem splitFuel_steps {limit : Nat} {v : CkVariant} {ck : Option (List (List (List Nat)))} (hl : 1 ≤ limit) :
    ∀ (fuel pos : Nat) (rest : Text) (l : List Sent), splitFuel v limit ck fuel pos rest = .ok l →
      ∀ (l₁ : List Sent) (x : Sent) (l₂ : List Sent), l = l₁ ++ x :: l₂ →
        rest = (l₁.map (·.chunk)).flatten ++ x.chunk ++ (l₂.map (·.chunk)).flatten ∧ x.chunk ≠ [] ∧
        x.b = pos + blen (l₁.map (·.chunk)).flatten ∧ x.e = x.b + blen x.chunk ∧
          (getEos v limit ck (x.chunk ++ (l₂.map (·.chunk)).flatten) = .ok (.pos x.chunk.length) ∨
           (l₂ = [] ∧ ∃ e, getEos v limit ck x.chunk = .ok (.neg e))) := by
  have hnil : ∀ (l₁ : List Sent) (x : Sent) (l₂ : List Sent), [] ≠ l₁ ++ x :: l₂ := fun l₁ _ _ => by
    cases l₁ <;> exact fun h => nomatch h
  intro fuel pos rest
  fun_induction splitFuel v limit ck fuel pos rest with
  | case1 => rintro _ ⟨⟩ l₁ x l₂ hd; exact absurd hd (hnil l₁ x l₂)
  | case2 => exact fun _ h => nomatch h
  | case3 => exact fun _ h => nomatch h
  | case4 _ pos c cs rest e hg =>
    rintro _ ⟨⟩ l₁ x l₂ hd
    cases l₁ with
    | nil =>
      cases hd
      exact ⟨(List.append_nil _).symm, List.cons_ne_nil c cs, rfl, rfl, Or.inr ⟨rfl, e, hg⟩⟩
    | cons a l₁ => exact absurd (List.cons.inj hd).2 (hnil l₁ x l₂)
  | case5 fuel pos c cs rest e hg endB ih =>
    intro l h l₁ x l₂ hd
    obtain ⟨l', hr, rfl⟩ := cons_eq_ok h
    obtain ⟨h1, h2⟩ := getEos_pos_bounds hl (List.cons_ne_nil c cs) hg
    cases l₁ with
    | nil =>
      cases hd
      have hrest := (splitFuel_ok hl _ _ _ _ hr).2
      refine ⟨?_, take_ne_nil h1 (List.cons_ne_nil c cs), rfl, rfl, Or.inl ?_⟩
      · rw [hrest]; exact (List.take_append_drop ..).symm
      · rw [hrest, List.take_append_drop, List.length_take, Nat.min_eq_left h2]
        exact hg
    | cons a l₁ =>
      obtain ⟨rfl, hd'⟩ := List.cons.inj hd
      obtain ⟨hsplit, hne', hb, he, hge⟩ := ih l' hr l₁ x l₂ hd'
      refine ⟨?_, hne', ?_, he, hge⟩
      · rw [List.map_cons, List.flatten_cons, List.append_assoc, List.append_assoc, ← List.append_assoc _ x.chunk,
          ← hsplit, List.take_append_drop]
      · rw [hb, List.map_cons, List.flatten_cons, blen_append, Nat.add_assoc]

/-- `splitFuel_steps` for a sentence that is not the last: it was cut off by a non-negative answer of `get_eos` -/
theorem splitFuel_link {limit : Nat} {v : CkVariant} {ck : Option (List (List (List Nat)))} (hl : 1 ≤ limit)
    (fuel pos : Nat) (rest : Text) (l : List Sent) (h : splitFuel v limit ck fuel pos rest = .ok l) :
    ∀ x ∈ l.dropLast, ∃ pre post, rest = pre ++ x.chunk ++ post ∧ x.chunk ≠ [] ∧
      getEos v limit ck (x.chunk ++ post) = .ok (.pos x.chunk.length) := by
  intro x hx
  obtain ⟨s, t, hst⟩ := List.mem_iff_append.mp hx
  have hne : l ≠ [] := by rintro rfl; cases hx
  have hd := (List.dropLast_concat_getLast hne).symm
  rw [hst, List.append_assoc, List.cons_append] at hd
  obtain ⟨h1, h2, _, _, h3 | ⟨h3, _⟩⟩ := splitFuel_steps hl _ _ _ _ h _ _ _ hd
  · exact ⟨_, _, h1, h2, h3⟩
  · cases t <;> cases h3

/-! ## totality -/

theorem splitFuel_no_panic {v : CkVariant} {ck : Option (List (List (List Nat)))} (hv : ValidChecker ck)
    (limit : Nat) : ∀ (fuel position : Nat) (rest : Text), splitFuel v limit ck fuel position rest ≠ .panic := by
  intro fuel pos rest
  fun_induction splitFuel v limit ck fuel pos rest with
  | case1 => exact fun h => nomatch h
  | case2 => exact fun h => nomatch h
  | case3 _ _ _ _ _ hp => exact absurd hp (getEos_no_panic hv limit _)
  | case4 => exact fun h => nomatch h
  | case5 fuel pos c cs rest e hg endB ih =>
    generalize splitFuel v limit ck fuel endB (rest.drop e) = r at ih
    cases r <;> simp [SplitRes.cons] at ih ⊢

theorem split_total {v : CkVariant} {limit : Nat} (hl : 1 ≤ limit) {ck : Option (List (List (List Nat)))}
    (hv : ValidChecker ck) (text : Text) : ∃ l, split v limit ck text = .ok l := by
  have h1 := splitFuel_terminates (v := v) (ck := ck) hl text.length 0 text (Nat.le_refl _)
  have h2 := splitFuel_no_panic (v := v) hv limit text.length 0 text
  unfold split
  cases h : splitFuel v limit ck text.length 0 text with
  | ok l => exact ⟨l, rfl⟩
  | panic => exact absurd h h2
  | fuelOut => exact absurd h h1

theorem splitFuel_fuel_irrelevant {v : CkVariant} {limit : Nat} (hl : 1 ≤ limit) {ck : Option (List (List (List Nat)))} :
    ∀ (fuel fuel' position : Nat) (rest : Text), rest.length ≤ fuel → rest.length ≤ fuel' →
      splitFuel v limit ck fuel position rest = splitFuel v limit ck fuel' position rest := by
  intro fuel
  induction fuel with
  | zero =>
    intro fuel' p rest h h'
    have : rest = [] := by cases rest with
      | nil => rfl
      | cons _ _ => simp at h
    subst this
    cases fuel' <;> simp [splitFuel]
  | succ fuel ih =>
    intro fuel' p rest h h'
    cases rest with
    | nil => cases fuel' <;> simp [splitFuel]
    | cons c cs =>
      cases fuel' with
      | zero => simp at h'
      | succ fuel' =>
        simp only [splitFuel]
        split
        · rfl
        · rfl
        · rename_i e he
          have hb := getEos_pos_bounds hl (by simp) he
          have hlen : ((c :: cs).drop e).length ≤ fuel ∧ ((c :: cs).drop e).length ≤ fuel' := by
            simp only [List.length_drop, List.length_cons] at *
            omega
          rw [ih fuel' _ _ hlen.1 hlen.2]

end Sentence
