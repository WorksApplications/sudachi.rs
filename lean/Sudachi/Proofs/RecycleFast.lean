import Sudachi.Model.RecycleFast
import Sudachi.Model.RecycleIO
import Sudachi.Proofs.RecycleWorld
/-!
# The executed array representation equals the list model (C10)

`Rows.toL` / `LatA.toL` / `XWorld.abs` map the executed state to the state of `Model/Recycle.lean`; every executed
function commutes with the abstraction, so the answer line the driver prints is the answer of the list model
(`Recycle.IO.handle_eq`).
-/
namespace Recycle
variable {E : Type}

theorem Rows.toL_pushRowA (rows : Rows E) (k : Nat) (x : E) : (pushRowA rows k x).toL = pushRow rows.toL k x := by
  unfold pushRowA Rows.toL
  rw [Array.toList_modify, map_modify (f' := fun r => r ++ [x]) _ _ (fun _ => Array.toList_push), pushRow_eq_modify]

theorem Rows.toL_resetVecA (rows : Rows E) (n : Nat) : (resetVecA rows n).toL = resetVec rows.toL n := by
  unfold resetVecA resetVec Rows.toL
  simp only [Array.size_map, List.length_map, Array.length_toList]
  split
  · simp [Array.toList_append, Array.toList_map, Array.toList_replicate, List.map_map, Function.comp_def]
  · simp [Array.toList_map, List.map_map, Function.comp_def]

theorem rowAtA_eq (rows : Rows E) (k : Nat) : rowAtA rows k = rowAt rows.toL k := by
  rw [rowAt_eq_getElem?]
  unfold rowAtA Rows.toL
  rw [List.getElem?_map, Array.getElem?_toList]
  cases rows[k]? <;> rfl

theorem rowEmptyA_eq (rows : Rows E) (k : Nat) : rowEmptyA rows k = (rowAt rows.toL k).isEmpty := by
  rw [rowAt_eq_getElem?]
  unfold rowEmptyA Rows.toL
  rw [List.getElem?_map, Array.getElem?_toList]
  cases h : rows[k]? with
  | none => rfl
  | some r => simp [Array.isEmpty]

theorem LatA.reset_toL (P : Payload E) (l : LatA E) (n : Nat) : (LatA.reset P l n).toL = Lattice.reset P l.toL n := by
  simp [LatA.reset, LatA.toL, Lattice.reset, Rows.toL_pushRowA, Rows.toL_resetVecA]

theorem LatA.insert_toL (P : Payload E) (l : LatA E) (b : Nat) (c : Nat × E) :
    (LatA.insert P l b c).toL = Lattice.insert P l.toL b c := by
  simp [LatA.insert, LatA.toL, Lattice.insert, Rows.toL_pushRowA, rowAtA_eq]

theorem foldl_insert_toL (P : Payload E) (b : Nat) (cs : List (Nat × E)) (l : LatA E) :
    (cs.foldl (fun l c => LatA.insert P l b c) l).toL = cs.foldl (fun l c => Lattice.insert P l b c) l.toL := by
  induction cs generalizing l with
  | nil => rfl
  | cons c cs ih => simp only [List.foldl_cons]; rw [ih, LatA.insert_toL]

def absSt (r : (List E × LatA E) × Outcome) : (List E × Lattice E) × Outcome := ((r.1.1, r.1.2.toL), r.2)

theorem buildStepA_abs (P : Payload E) (inp : Input E) (st : List E × LatA E) (off : Nat) :
    absSt (buildStepA P inp st off) = buildStep P inp (st.1, st.2.toL) off := by
  unfold buildStepA buildStep absSt Lattice.hasPrev
  have h : rowEmptyA st.2.ends off = (rowAt st.2.toL.ends off).isEmpty := rowEmptyA_eq _ _
  simp only [Bool.not_not]
  rw [h]
  split
  · rfl
  · split <;> simp [foldl_insert_toL]

theorem buildLoopA_abs (P : Payload E) (inp : Input E) (offs : List Nat) (st : List E × LatA E) :
    absSt (buildLoopA P inp offs st) = buildLoop P inp offs (st.1, st.2.toL) := by
  induction offs generalizing st with
  | nil => rfl
  | cons off rest ih =>
    have hs := buildStepA_abs P inp st off
    unfold buildLoopA buildLoop
    rcases hb : buildStepA P inp st off with ⟨⟨oov, la⟩, o⟩
    rw [hb] at hs
    rw [← hs]
    cases o with
    | ok => simp only [absSt]; exact ih (oov, la)
    | err e => rfl
    | panic => rfl

theorem LatA.connectEos_toL (P : Payload E) (l : LatA E) :
    ((LatA.connectEos P l).1.toL, (LatA.connectEos P l).2) = Lattice.connectEos P l.toL := by
  unfold LatA.connectEos Lattice.connectEos
  rw [rowAtA_eq]
  show _ = match P.eosOf (rowAt l.ends.toL (l.size - 1)) with | none => _ | some e => _
  cases P.eosOf (rowAt l.ends.toL (l.size - 1)) <;> rfl

def absT (r : (Tok E × LatA E) × Outcome) : Tok E × Outcome := ({ r.1.1 with lattice := r.1.2.toL }, r.2)

theorem buildLatticeA_abs (P : Payload E) (t : Tok E) (la : LatA E) :
    absT (Tok.buildLatticeA P t la) = Tok.buildLattice P { t with lattice := la.toL } := by
  have hl := buildLoopA_abs P t.input (List.range (t.input.modC2b.length - 1)) (t.oov, LatA.reset P la t.input.modChars.length)
  unfold Tok.buildLatticeA Tok.buildLattice
  dsimp only at hl ⊢
  rw [LatA.reset_toL] at hl
  rw [← hl]
  rcases hb : buildLoopA P t.input (List.range (t.input.modC2b.length - 1)) (t.oov, LatA.reset P la t.input.modChars.length)
    with ⟨⟨oov, lat⟩, o⟩
  cases o with
  | ok =>
    have he := LatA.connectEos_toL P lat
    simp only [absSt, absT]
    rw [← he]
  | err e => rfl
  | panic => rfl

theorem doTokenizeA_abs (P : Payload E) (t : Tok E) (la : LatA E) :
    absT (Tok.doTokenizeA P t la) = Tok.doTokenize P { t with lattice := la.toL } := by
  unfold Tok.doTokenizeA Tok.doTokenize
  dsimp only
  rcases hp : Input.prepare P t.input with ⟨i, o⟩
  cases o with
  | err e => rfl
  | panic => rfl
  | ok =>
    dsimp only
    split
    · rfl
    · have hb := buildLatticeA_abs P { t with input := i } la
      rcases hbl : Tok.buildLatticeA P { t with input := i } la with ⟨⟨u, la'⟩, o⟩
      rw [hbl] at hb
      simp only [absT] at hb
      rw [← hb]
      cases o with
      | err e => rfl
      | panic => rfl
      | ok =>
        -- the path phase does not write the lattice
        obtain ⟨p, e⟩ := resolve_frame P { u with lattice := la'.toL }
        refine Prod.ext ?_ rfl
        simp only [absT]
        rw [e]

theorem XWorld.abs_eq (x : XWorld E) : x.abs = x.w.setLat x.lat.toL := rfl

theorem XWorld.step_abs (v : ResetVariant) (P : Payload E) (x : XWorld E) (op : Op E) :
    ((x.step v P op).1.abs, (x.step v P op).2) = x.abs.step v P op := by
  cases op with
  | analyse text =>
    have h := doTokenizeA_abs P (x.w.tok.resetWith v text) x.lat
    show (_, _) = (_, _)
    simp only [XWorld.step, XWorld.abs, Tok.analyse]
    have h2 : ({ x.w.tok with lattice := x.lat.toL } : Tok E).resetWith v text
        = { x.w.tok.resetWith v text with lattice := x.lat.toL } := rfl
    rw [h2, ← h]
    rfl
  | setMode m => rfl
  | setSubset s => rfl
  | newList => rfl
  | collect j =>
    show (_, _) = (x.w.setLat x.lat.toL).collect j
    rw [collect_setLat]; rfl
  | emptyClone j | clear j =>
    show (_, _) = World.step v P (x.w.setLat x.lat.toL) _
    simp only [XWorld.step, World.step, XWorld.abs, World.setLat]
    cases x.w.lists[j]? <;> rfl
  | splitInto i idx m j =>
    show (_, _) = (x.w.setLat x.lat.toL).splitInto P i idx m j
    rw [splitInto_setLat]; rfl
  | lookup j q =>
    show (_, _) = (x.w.setLat x.lat.toL).lookup P j q Subset.all
    rw [lookup_setLat]; rfl

theorem XWorld.run_abs (v : ResetVariant) (x : XWorld E) (ops : List (Payload E × Op E)) :
    (x.run v ops).abs = x.abs.run v ops := by
  induction ops generalizing x with
  | nil => rfl
  | cons a rest ih =>
    obtain ⟨P, op⟩ := a
    show ((x.step v P op).1.run v rest).abs = World.run v (x.abs.step v P op).1 rest
    rw [ih, ← XWorld.step_abs]

theorem XWorld.init_abs (m : Mode) : (XWorld.init (E := E) m).abs = World.init m := rfl

namespace IO

theorem replayX_eq (v : ResetVariant) (x : XWorld Nat) (ops : List (Payload Nat × Op Nat)) (acc : List String) :
    replayX v x ops acc = replay v x.abs ops acc := by
  induction ops generalizing x acc with
  | nil => rfl
  | cons a rest ih =>
    obtain ⟨P, op⟩ := a
    unfold replayX replay
    dsimp only
    rw [ih, ← XWorld.step_abs]

theorem payloadOfA_eq (plugs : List PlugFact) (cands : List (List Nat)) (eos : Bool) (tail : Tail)
    (splitK lookK : Nat) (lookOk : Bool) :
    payloadOfA plugs cands eos tail splitK lookK lookOk = payloadOf plugs cands eos tail splitK lookK lookOk := by
  unfold payloadOfA payloadOf
  dsimp only
  congr 1
  funext off
  unfold nthD
  rw [List.getElem?_toArray]
  cases cands[off]? <;> rfl

theorem parseOpWith_eq (fast : Bool) (s : List Char) : parseOpWith fast s = parseOp s := by
  cases fast with
  | false => rfl
  | true =>
    -- the two parsers differ in the alternative of `A:` only, and there by `payloadOfA_eq`
    unfold parseOp parseOpWith
    congr 1
    funext text plugs eos tail cands
    simp only [payloadOfA_eq, ite_self]

theorem handle_eq (toks : List (List Char)) : handle toks = handleL toks := by
  unfold handle handleL
  have hp : (parseOpWith true) = parseOp := funext (parseOpWith_eq true)
  rw [hp]
  split
  · split
    · rw [replayX_eq]; rfl
    · rfl
  · rfl

end IO
end Recycle
