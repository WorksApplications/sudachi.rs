import Sudachi.Proofs.Normalize
/-!
# The recycled `InputBuffer` of the input-text plugins (C07, clause "a pure function of the input")

`RBuf` (`Model/Normalize.lean`) transcribes `reset`, `start_build`, `refresh_chars`, `commit`, `build` and the
tokenizer/list buffer swap.  Three things are shown of it.  The rewrite does not depend on what the buffer held before:
every operation maps buffers that agree outside the scratch pair (`RBuf.view`) to such buffers (`…_congr`), and `reset`
makes every buffer agree with a new one.  The character cache, recomputed only when empty, is empty or current
(`RBuf.Coherent`), so the default plugin chooses its path from the current text (`RBuf.rewrite_default`).  End to end: on a
started buffer `commit` writes `applyEdits` of the plugin's edits, hence `normSpec` (`RBuf.default_on_recycled_eq_spec`).
-/
namespace Normalize

/-- everything but the scratch pair `modified_2` / `m2o_2` (no accessor reads them between `reset` and `build`) -/
def RBuf.view (b : RBuf) : RBuf := { b with modified2 := [], m2o2 := [] }

theorem RBuf.view_eq_iff {b b' : RBuf} : b.view = b'.view ↔
    b.original = b'.original ∧ b.modified = b'.modified ∧ b.m2o = b'.m2o ∧ b.chars = b'.chars ∧ b.state = b'.state := by
  cases b; cases b'
  simp [RBuf.view]

/-- two buffers that agree outside the scratch pair are one buffer with two scratch pairs -/
theorem RBuf.view_eq_elim {b b' : RBuf} (h : b.view = b'.view) :
    b' = { b with modified2 := b'.modified2, m2o2 := b'.m2o2 } := by
  obtain ⟨h1, h2, h3, h4, h5⟩ := RBuf.view_eq_iff.mp h
  cases b; cases b'
  simp only at h1 h2 h3 h4 h5
  subst h1 h2 h3 h4 h5
  rfl

/-- `reset` makes every buffer look new: the fields it clears are all the fields a later operation reads
before writing -/
theorem RBuf.reset_view (b : RBuf) : (b.reset .cur).view = RBuf.new := rfl

theorem RBuf.fill_congr {b b' : RBuf} (h : b.view = b'.view) (t : List Nat) : (b.fill t).view = (b'.fill t).view := by
  rw [RBuf.view_eq_elim h]; rfl

theorem RBuf.startBuild_congr {b b' : RBuf} (h : b.view = b'.view) :
    (∀ f, b.startBuild = .error f → b'.startBuild = .error f) ∧
    (∀ c, b.startBuild = .ok c → ∃ c', b'.startBuild = .ok c' ∧ c.view = c'.view) := by
  rw [RBuf.view_eq_elim h]
  unfold RBuf.startBuild
  by_cases hl : bytes b.original > 49149
  · rw [if_pos hl, if_pos hl]; exact ⟨fun f hf => hf, nofun⟩
  · rw [if_neg hl, if_neg hl]
    by_cases hs : (b.state != .clean) = true
    · rw [if_pos hs, if_pos hs]; exact ⟨fun f hf => hf, nofun⟩
    · rw [if_neg hs, if_neg hs]; exact ⟨nofun, fun c hc => ⟨_, rfl, by cases hc; rfl⟩⟩

theorem RBuf.refreshChars_congr {b b' : RBuf} (h : b.view = b'.view) : b.refreshChars.view = b'.refreshChars.view := by
  rw [RBuf.view_eq_elim h]
  unfold RBuf.refreshChars
  cases b.chars.isEmpty <;> rfl

/-- what a non-empty `commit` computes from the text and the offset map alone: the failure, or the new
text and offset map -/
def commitCore (modified m2o : List Nat) (es : List Edit) : Except Fail (List Nat × List Nat) :=
  if newLen modified es > 65535 then .error .tooLong
  else match pair? modified m2o with
    | none => .error .panic
    | some (body, endOff) =>
      match applyGoP endOff 0 es body with
      | none => .error .panic
      | some l => .ok ((force0 ⟨l, endOff⟩).text, (force0 ⟨l, endOff⟩).body.map (·.2) ++ [(force0 ⟨l, endOff⟩).endOff])

theorem RBuf.commit_eq (b : RBuf) (es : List Edit) :
    b.commit es = if es.isEmpty then (b, none) else
      match commitCore b.modified b.m2o es with
      | .error f => ({ b with chars := [], modified2 := [], m2o2 := [] }, some f)
      | .ok (m, o) => ({ b with chars := [], modified := m, m2o := o, modified2 := b.modified, m2o2 := b.m2o }, none) := by
  unfold RBuf.commit commitCore
  cases es.isEmpty
  · by_cases hl : newLen b.modified es > 65535
    · simp only [if_pos hl]
    · simp only [if_neg hl]
      cases pair? b.modified b.m2o with
      | none => rfl
      | some r => obtain ⟨body, endOff⟩ := r; simp only []; cases applyGoP endOff 0 es body <;> rfl
  · rfl

theorem RBuf.commit_congr {b b' : RBuf} (h : b.view = b'.view) (es : List Edit) :
    (b.commit es).1.view = (b'.commit es).1.view ∧ (b.commit es).2 = (b'.commit es).2 := by
  rw [RBuf.view_eq_elim h, RBuf.commit_eq, RBuf.commit_eq]
  cases es.isEmpty
  · simp only []
    cases commitCore b.modified b.m2o es <;> exact ⟨rfl, rfl⟩
  · exact ⟨rfl, rfl⟩

theorem RBuf.congr_elim {α : Type} {r r' : RBuf × α} (h : r.1.view = r'.1.view ∧ r.2 = r'.2) :
    ∃ c c' x, r = (c, x) ∧ r' = (c', x) ∧ c.view = c'.view :=
  ⟨r.1, r'.1, r.2, rfl, by rw [h.2], h.1⟩

theorem RBuf.rewrite_congr (p : Plug) {b b' : RBuf} (h : b.view = b'.view) :
    (b.rewrite p).1.view = (b'.rewrite p).1.view ∧ (b.rewrite p).2 = (b'.rewrite p).2 := by
  unfold RBuf.rewrite
  have hr : (if p.usesChars then b.refreshChars else b).view = (if p.usesChars then b'.refreshChars else b').view := by
    cases p.usesChars
    · exact h
    · exact RBuf.refreshChars_congr h
  obtain ⟨h1, h2, h3, h4, _⟩ := RBuf.view_eq_iff.mp hr
  simp only
  rw [h1, h2, h3, h4]
  exact RBuf.commit_congr hr _

theorem RBuf.rewriteAll_congr (ps : List Plug) : ∀ {b b' : RBuf}, b.view = b'.view → ∀ acc,
    (RBuf.rewriteAll ps b acc).1.view = (RBuf.rewriteAll ps b' acc).1.view ∧
    (RBuf.rewriteAll ps b acc).2 = (RBuf.rewriteAll ps b' acc).2 := by
  induction ps with
  | nil => intro b b' h acc; exact ⟨h, rfl⟩
  | cons p ps ih =>
    intro b b' h acc
    obtain ⟨c, c', f, hr, hr', hv⟩ := RBuf.congr_elim (RBuf.rewrite_congr p h)
    unfold RBuf.rewriteAll
    rw [hr, hr']
    cases f with
    | some f => exact ⟨hv, rfl⟩
    | none =>
      obtain ⟨_, g2, g3, _, _⟩ := RBuf.view_eq_iff.mp hv
      simp only
      rw [g2, g3]
      exact ih hv _

theorem RBuf.build_congr {b b' : RBuf} (h : b.view = b'.view) : b.build.view = b'.build.view := by
  rw [RBuf.view_eq_elim h]; rfl

theorem RBuf.analyse_congr (v : ResetV) (ps : List Plug) {b b' : RBuf} (h : (b.reset v).view = (b'.reset v).view)
    (t : List Nat) :
    (b.analyse v ps t).1.view = (b'.analyse v ps t).1.view ∧ (b.analyse v ps t).2 = (b'.analyse v ps t).2 := by
  unfold RBuf.analyse
  have hf := RBuf.fill_congr h t
  obtain ⟨he, ho⟩ := RBuf.startBuild_congr hf
  simp only
  cases hs : ((b.reset v).fill t).startBuild with
  | error f => rw [he f hs]; exact ⟨hf, rfl⟩
  | ok c =>
    obtain ⟨c', hc', hv⟩ := ho c hs
    rw [hc']
    simp only
    obtain ⟨d, d', r, hr, hr', hd⟩ := RBuf.congr_elim (RBuf.rewriteAll_congr ps hv [])
    rw [hr, hr']
    obtain ⟨st, f⟩ := r
    cases f with
    | some f => exact ⟨hd, rfl⟩
    | none => exact ⟨RBuf.build_congr hd, rfl⟩

/-! ## the character cache is coherent

`refresh_chars` recomputes `mod_chars` only when it is empty; that is sound because every operation that
changes `modified` (`reset`, a non-empty `commit`) empties the cache and `start_build` happens on an empty one. -/

def RBuf.Coherent (b : RBuf) : Prop := b.chars = [] ∨ b.chars = b.modified

theorem RBuf.coherent_after_start (b : RBuf) {t : List Nat} (h1 : bytes t ≤ 49149) :
    ∃ c, ((b.reset .cur).fill t).startBuild = .ok c ∧ c.Coherent ∧ c.modified = t ∧ c.m2o = identMap t :=
  ⟨_, by unfold RBuf.startBuild; rw [if_neg (by exact Nat.not_lt.mpr h1), if_neg (by exact Bool.false_ne_true)],
    Or.inl rfl, List.nil_append t, congrArg identMap (List.nil_append _)⟩

theorem RBuf.refreshChars_modified (b : RBuf) : b.refreshChars.modified = b.modified := by
  unfold RBuf.refreshChars; cases b.chars.isEmpty <;> rfl

theorem RBuf.refreshChars_m2o (b : RBuf) : b.refreshChars.m2o = b.m2o := by
  unfold RBuf.refreshChars; cases b.chars.isEmpty <;> rfl

theorem RBuf.refreshChars_chars {b : RBuf} (h : b.Coherent) : b.refreshChars.chars = b.modified := by
  unfold RBuf.refreshChars
  rcases h with h | h
  · rw [h]; rfl
  · cases b.chars.isEmpty
    · exact h
    · rfl

theorem RBuf.commit_coherent {b : RBuf} (h : b.Coherent) (es : List Edit) : (b.commit es).1.Coherent := by
  rw [RBuf.commit_eq]
  cases es.isEmpty
  · cases commitCore b.modified b.m2o es <;> exact Or.inl rfl
  · exact h

theorem RBuf.refreshChars_coherent {b : RBuf} (h : b.Coherent) : b.refreshChars.Coherent :=
  Or.inr ((RBuf.refreshChars_chars h).trans b.refreshChars_modified.symm)

theorem RBuf.rewrite_coherent (p : Plug) {b : RBuf} (h : b.Coherent) : (b.rewrite p).1.Coherent := by
  unfold RBuf.rewrite
  cases p.usesChars
  · exact RBuf.commit_coherent h _
  · exact RBuf.commit_coherent (RBuf.refreshChars_coherent h) _

theorem RBuf.rewrite_default {b : RBuf} (h : b.Coherent) (U : Uni) (T : Table) (e : Bool) :
    b.rewrite (defaultPlug U T e) = b.refreshChars.commit (defaultEdits U T e b.modified) := by
  simp only [RBuf.rewrite, defaultPlug, if_true, defaultEditsOn, defaultEdits, RBuf.refreshChars_chars h,
    b.refreshChars_modified]

/-! ## end to end: the default plugin on a recycled buffer

After `start_build` the offset map is `identMap t`, which `pair?` reads back as `initGo 0 t`; the text column of
`applyGoP` is `applyGo` (`applyGoP_text`), so the commit writes `applyEdits` of the plugin's edits, which is `normSpec t`. -/

theorem initGo_text : ∀ (s : List Nat) (off : Nat), (initGo off s).1.map (·.1) = s := by
  intro s
  induction s with
  | nil => intro off; rfl
  | cons c cs ih => intro off; simp [initGo, ih]

theorem pair_initGo : ∀ (s : List Nat) (off : Nat),
    pair? s ((initGo off s).1.map (·.2) ++ [(initGo off s).2]) = some ((initGo off s).1, (initGo off s).2) := by
  intro s
  induction s with
  | nil => intro off; rfl
  | cons c cs ih => intro off; simp [initGo, pair?, ih]

theorem replP_text (o1 o2 : Nat) (r : List Nat) : (replP o1 o2 r).map (·.1) = r := by
  cases r with
  | nil => rfl
  | cons x xs => simp [replP, Function.comp_def]

theorem applyGoP_text (endOff : Nat) : ∀ (es : List Edit) (pos : Nat) (l : List (Nat × Nat)),
    (applyGoP endOff pos es l).map (·.map (·.1)) = applyGo pos es (l.map (·.1)) := by
  intro es
  induction es with
  | nil => intro pos l; rfl
  | cons e es ih =>
    intro pos l
    simp only [applyGoP, applyGo]
    have hl : lenLt (l.map (·.1)) (e.e - pos) = lenLt l (e.e - pos) := by
      rw [Bool.eq_iff_iff, lenLt_iff, lenLt_iff, List.length_map]
    rw [hl]
    split
    · rfl
    · rw [← List.map_drop, ← ih, Option.map_map, Option.map_map]
      congr 1
      funext t
      simp only [Function.comp_apply, List.map_append, List.map_take, replP_text]

theorem force0_text (b : Buf) : (force0 b).text = b.text := by
  unfold force0 Buf.text
  cases hb : b.body with
  | nil => rfl
  | cons p r => rfl

theorem RBuf.analyse_of_start {v : ResetV} {p : Plug} {b c : RBuf} {t : List Nat}
    (h : ((b.reset v).fill t).startBuild = .ok c) :
    b.analyse v [p] t = (match c.rewrite p with
      | (b', some f) => (b', [], some f)
      | (b', none) => (b'.build, [(b'.modified, b'.m2o)], none)) := by
  simp only [RBuf.analyse, h, RBuf.rewriteAll]
  cases c.rewrite p with
  | mk b' f => cases f <;> rfl

theorem commitCore_started {t : List Nat} {es : List Edit} {out : List Nat} (happ : applyEdits es t = some out)
    (hlen : newLen t es ≤ 65535) : ∃ o, commitCore t (identMap t) es = .ok (out, o) := by
  have htext := applyGoP_text (initGo 0 t).2 es 0 (initGo 0 t).1
  rw [initGo_text, show applyGo 0 es t = some out from happ] at htext
  unfold commitCore identMap
  rw [if_neg (Int.not_lt.mpr hlen), pair_initGo]
  cases ha : applyGoP (initGo 0 t).2 0 es (initGo 0 t).1 with
  | none => rw [ha] at htext; cases htext
  | some l =>
    rw [ha] at htext
    have htext : (force0 ⟨l, (initGo 0 t).2⟩).text = out := (force0_text _).trans (Option.some.inj htext)
    exact ⟨_, by simp only [ha]; rw [htext]⟩

theorem RBuf.commit_started {c : RBuf} {t : List Nat} (hm : c.modified = t) (ho : c.m2o = identMap t)
    (es : List Edit) (out : List Nat) (happ : applyEdits es t = some out) (hlen : newLen t es ≤ 65535) :
    ∃ b', c.commit es = (b', none) ∧ b'.modified = out := by
  rw [RBuf.commit_eq, hm, ho]
  cases es with
  | nil => exact ⟨c, rfl, hm.trans (Option.some.inj happ)⟩
  | cons e es =>
    obtain ⟨o, hc⟩ := commitCore_started happ hlen
    rw [hc]
    exact ⟨_, rfl, rfl⟩

theorem RBuf.default_on_recycled_eq_spec (U : Uni) (hC : CharOk U) (T : Table) (b : RBuf) (t : List Nat)
    (h1 : bytes t ≤ 49149) (h2 : newLen t (defaultEdits U T false t) ≤ 65535) :
    ∃ m, (b.analyse .cur [defaultPlug U T false] t).2 = ([(normSpec U T t, m)], none) ∧
         (b.analyse .cur [defaultPlug U T false] t).1.modified = normSpec U T t := by
  obtain ⟨c, hc, hcc, hcm, hco⟩ := b.coherent_after_start h1
  rw [RBuf.analyse_of_start hc, RBuf.rewrite_default hcc, hcm]
  obtain ⟨b', hb', g2⟩ := RBuf.commit_started (c.refreshChars_modified.trans hcm) (c.refreshChars_m2o.trans hco) _ _
    (defaultEdits_spec U hC T t) h2
  rw [hb']
  exact ⟨_, by rw [← g2], g2⟩

end Normalize
