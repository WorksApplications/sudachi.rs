import Sudachi.Model.Oov
import Sudachi.Proofs.Basic
/-!
# C13: run tables, the created-length mask, the fallback length, the three providers, the built buffer

Every part of the model below the lattice builder is characterised here, each in its own section: the run table of the
forward pass is the declarative one and does not depend on what follows a run; the created-length mask of a node list in
closed form; the fallback length reaches the next word start (`NextStart`); membership in the MeCab candidates is the
declarative `MecabSpec`; the regex provider ends in one of five ways; every node any provider returns has one shape
(`provide_shape`); a buffer the model builds is well formed (`Buf.WF`: run tables of all three variants, the `can_bow`
chain, `mkBufV_wf`); dictionary and provider candidates start at their position and end inside the text (`NodeOk`).
`CategoryType::iter` (`flagsIter`) is in `Proofs/OovIter.lean`, the byte tables of a recycled buffer in
`Proofs/OovTables.lean`.
-/
namespace Oov

/-! ## class runs: the forward pass computes the declarative left-to-right runs -/

theorem scan_zero (l : List Nat) : scan 0 l = 0 := by
  cases l <;> simp [scan]

/-- the hinge between `scan` (the loop of the code) and `hasCommon` (the declarative test): the first `k` of `rest` keep a
class in common with `cat` iff `scan` gets that far -/
theorem foldl_take_ne_zero_iff (rest : List Nat) (cat k : Nat) (hk : k ≤ rest.length) :
    (rest.take k).foldl (· &&& ·) cat ≠ 0 ↔ (cat ≠ 0 ∧ k ≤ scan cat rest) := by
  induction rest generalizing cat k with
  | nil =>
    have : k = 0 := by simpa using hk
    subst this; simp [scan]
  | cons c r ih =>
    cases k with
    | zero => simp
    | succ k' =>
      have hk' : k' ≤ r.length := by simpa using hk
      simp only [List.take_succ_cons, List.foldl_cons]
      rw [ih (cat &&& c) k' hk']
      by_cases h : cat &&& c = 0
      · simp [scan, h]
      · have hc : cat ≠ 0 := by
          intro h0; apply h; simp [h0]
        simp only [scan, h, if_false]
        constructor
        · rintro ⟨_, h2⟩; exact ⟨hc, by omega⟩
        · rintro ⟨_, h2⟩; exact ⟨by simpa using h, by omega⟩

/-- the hinge read on `hasCommon`: a prefix of `j` characters keeps a class in common iff the scan gets that far -/
theorem hasCommon_take_iff (c : Nat) (rest : List Nat) (j : Nat) (h1 : 1 ≤ j) (hj : j ≤ rest.length + 1) :
    hasCommon ((c :: rest).take j) = true ↔ c ≠ 0 ∧ j ≤ scan c rest + 1 := by
  obtain ⟨k, rfl⟩ : ∃ k, j = k + 1 := ⟨j - 1, by omega⟩
  rw [List.take_succ_cons, hasCommon, bne_iff_ne, foldl_take_ne_zero_iff rest c k (Nat.le_of_succ_le_succ hj),
    Nat.succ_le_succ_iff]

/-- what `largestCommon` denotes: the largest prefix length up to `k` that keeps a class in common, 1 when there is none -/
theorem largestCommon_spec (cats : List Nat) (k : Nat) :
    largestCommon cats k ≤ max k 1 ∧
    ((∃ j, 1 ≤ j ∧ j ≤ k ∧ hasCommon (cats.take j) = true) → hasCommon (cats.take (largestCommon cats k)) = true) ∧
    (∀ j, largestCommon cats k < j → j ≤ k → hasCommon (cats.take j) = false) ∧
    ((∀ j, 1 ≤ j → j ≤ k → hasCommon (cats.take j) = false) → largestCommon cats k = 1) := by
  induction k with
  | zero =>
    exact ⟨Nat.le_refl 1, fun ⟨j, h1, h2, _⟩ => absurd (Nat.le_trans h1 h2) (by decide),
      fun j h1 h2 => absurd (Nat.lt_of_lt_of_le h1 h2) (Nat.not_lt_zero _), fun _ => rfl⟩
  | succ k ih =>
    obtain ⟨i1, i2, i3, i4⟩ := ih
    rw [largestCommon]
    by_cases hk : hasCommon (cats.take (k + 1)) = true
    · rw [if_pos hk]
      exact ⟨Nat.le_max_left _ _, fun _ => hk, fun j h1 h2 => absurd h2 (Nat.not_le_of_gt h1),
        fun h => absurd hk (by rw [h (k + 1) (Nat.succ_pos k) (Nat.le_refl _)]; nofun)⟩
    · rw [if_neg hk]
      have below : ∀ j, j ≤ k + 1 → j ≠ k + 1 → j ≤ k := fun j h2 hj => Nat.le_of_lt_succ (Nat.lt_of_le_of_ne h2 hj)
      refine ⟨by omega, fun ⟨j, h1, h2, h3⟩ => i2 ⟨j, h1, below j h2 fun hj => hk (hj ▸ h3), h3⟩, fun j h1 h2 => ?_,
        fun h => i4 fun j h1 h2 => h j h1 (Nat.le_succ_of_le h2)⟩
      by_cases hj : j = k + 1
      · rw [hj]; simpa using hk
      · exact i3 j h1 (below j h2 hj)

/-- the run the loop finds is the declarative one: the largest prefix with a common class ends where the scan stops -/
theorem runLen_cons (c : Nat) (rest : List Nat) : runLen (c :: rest) = scan c rest + 1 := by
  obtain ⟨hle, hcommon, hmax, hnone⟩ := largestCommon_spec (c :: rest) (c :: rest).length
  have hpos := largestCommon_pos (c :: rest) (c :: rest).length
  have hs := scan_le c rest
  unfold runLen
  rw [List.length_cons] at *
  by_cases hc : c = 0
  · rw [hnone fun j h1 h2 => Bool.eq_false_iff.mpr fun h => ((hasCommon_take_iff c rest j h1 h2).mp h).1 hc, hc, scan_zero]
  · have h1 := (hasCommon_take_iff c rest 1 (Nat.le_refl 1) (Nat.le_add_left 1 _)).mpr ⟨hc, Nat.le_add_left 1 _⟩
    have hL := ((hasCommon_take_iff c rest _ hpos (by omega)).mp (hcommon ⟨1, Nat.le_refl 1, Nat.le_add_left 1 _, h1⟩)).2
    refine Nat.le_antisymm hL (Nat.not_lt.mp fun hlt => ?_)
    have := hmax _ hlt (Nat.succ_le_succ hs)
    rw [(hasCommon_take_iff c rest _ (Nat.le_add_left 1 _) (Nat.succ_le_succ hs)).mpr ⟨hc, Nat.le_refl _⟩] at this
    cases this

theorem forward_eq_spec (cats : List Nat) : fillCatContinuityForward cats = runsSpec cats := by
  fun_induction fillCatContinuityForward cats with
  | case1 => simp [runsSpec]
  | case2 c rest ih =>
    rw [runsSpec, runLen_cons, ih]; simp

/-! ### the forward pass does not look beyond the end of a run -/

theorem scan_append (cat : Nat) (l ys : List Nat) :
    scan cat (l ++ ys) = if scan cat l < l.length then scan cat l else l.length + scan (l.foldl (· &&& ·) cat) ys := by
  induction l generalizing cat with
  | nil => simp [scan]
  | cons c r ih =>
    simp only [List.cons_append, scan, List.length_cons, List.foldl_cons]
    by_cases h : cat &&& c = 0
    · simp [h]
    · simp only [h, if_false]
      rw [ih (cat &&& c)]
      have := scan_le (cat &&& c) r
      split <;> split <;> omega

theorem countdown_length (k : Nat) : (countdown k).length = k := by
  induction k with
  | zero => rfl
  | succ k ih => simp [countdown, ih]

theorem countdown_getElem? (k i : Nat) : (countdown k)[i]? = if i < k then some (k - i) else none := by
  induction k generalizing i with
  | zero => simp [countdown]
  | succ k ih =>
    cases i with
    | zero => simp [countdown]
    | succ i =>
      simp only [countdown, List.getElem?_cons_succ, ih]
      by_cases h : i < k
      · rw [if_pos h, if_pos (Nat.succ_lt_succ h), Nat.succ_sub_succ]
      · rw [if_neg h, if_neg fun h' => h (Nat.lt_of_succ_lt_succ h')]

theorem countdown_append_getElem? (k : Nat) (l : List Nat) (i : Nat) :
    (countdown k ++ l)[i]? = if i < k then some (k - i) else l[i - k]? := by
  by_cases h : i < k
  · rw [if_pos h, List.getElem?_append_left (by rw [countdown_length]; exact h), countdown_getElem?, if_pos h]
  · rw [if_neg h, List.getElem?_append_right (by rw [countdown_length]; exact Nat.not_lt.mp h), countdown_length]

theorem forward_boundary_stable (xs ys : List Nat) (i : Nat) (hi : i + 1 < xs.length) :
    (fillCatContinuityForward xs)[i]? = some 1 ↔ (fillCatContinuityForward (xs ++ ys))[i]? = some 1 := by
  fun_induction fillCatContinuityForward xs generalizing i with
  | case1 => simp at hi
  | case2 c rest ih =>
    have hle := scan_le c rest
    rw [List.length_cons] at hi
    rw [List.cons_append, fillCatContinuityForward, scan_append, countdown_append_getElem?, countdown_append_getElem?]
    by_cases hm : scan c rest < rest.length
    · -- the first run ends inside `rest`: the same run in both texts, the rest by induction
      rw [if_pos hm, List.drop_append_of_le_length (Nat.le_of_lt hm)]
      by_cases hlt : i < scan c rest + 1
      · rw [if_pos hlt, if_pos hlt]
      · rw [if_neg hlt, if_neg hlt]
        exact ih (i - (scan c rest + 1)) (by rw [List.length_drop]; omega)
    · -- the whole of `c :: rest` is one run, which appending can only extend: position `i` is inside it
      rw [if_neg hm, if_pos (by omega), if_pos (by omega), Option.some.injEq, Option.some.injEq]
      omega

/-! ## `CreatedWords` -/

theorem and_two_pow_eq_zero_iff (m k : Nat) : m &&& 2 ^ k = 0 ↔ m.testBit k = false := by
  constructor
  · intro h
    have := congrArg (fun x => x.testBit k) h
    simpa [Nat.testBit_and, Nat.testBit_two_pow_self] using this
  · intro h
    apply Nat.eq_of_testBit_eq
    intro i
    rw [Nat.testBit_and, Nat.testBit_two_pow]
    by_cases hki : k = i
    · subst hki; simp [h]
    · simp [hki]

theorem and_two_pow_ne_zero_iff (m k : Nat) : m &&& 2 ^ k ≠ 0 ↔ m.testBit k = true := by
  rw [Ne, and_two_pow_eq_zero_iff]; simp

theorem and_two_pow_eq_self (m k : Nat) (h : m.testBit k = true) : m &&& 2 ^ k = 2 ^ k := by
  apply Nat.eq_of_testBit_eq
  intro j
  rw [Nat.testBit_and, Nat.testBit_two_pow]
  by_cases hkj : k = j
  · subst hkj; simp [h]
  · simp [hkj]

def bitOf (len : Nat) : Nat := min (len - 1) 63

theorem single_eq (len : Nat) : single len = 2 ^ bitOf len := by
  simp [single, bitOf, Nat.one_shiftLeft]

theorem single_ne_zero (len : Nat) : single len ≠ 0 := by
  rw [single_eq]; exact Nat.pos_iff_ne_zero.mp (Nat.two_pow_pos _)

theorem testBit_addAll (m : Nat) (nodes : List Node) (k : Nat) :
    (addAll m nodes).testBit k = (m.testBit k || nodes.any (fun x => bitOf (x.e - x.b) == k)) := by
  induction nodes generalizing m with
  | nil => simp [addAll]
  | cons x rest ih =>
    have : addAll m (x :: rest) = addAll (addWord m (x.e - x.b)) rest := rfl
    rw [this, ih, addWord, single_eq, Nat.testBit_or, Nat.testBit_two_pow]
    -- both sides are `m.testBit k || (the bit of x is k) || (some node of rest has bit k)`: after re-bracketing they differ
    -- only in how "the bit of x is k" is spelt (`decide (… = k)` against `… == k`), which `congr` closes
    simp [Bool.or_assoc]
    congr 2

theorem addAll_append (m : Nat) (a b : List Node) : addAll m (a ++ b) = addAll (addAll m a) b := by
  simp [addAll, List.foldl_append]

theorem addAll_zero_iff (l : List Node) : addAll 0 l = 0 ↔ l = [] := by
  cases l with
  | nil => exact ⟨fun _ => rfl, fun _ => rfl⟩
  | cons x rest =>
    refine ⟨fun h => ?_, nofun⟩
    have h1 := congrArg (fun v => v.testBit (bitOf (x.e - x.b))) h
    simp [testBit_addAll] at h1

theorem hasWord_addAll (nodes : List Node) (len : Nat) :
    hasWord (addAll 0 nodes) len =
      if nodes.any (fun x => bitOf (x.e - x.b) == bitOf len) then (if len ≥ 64 then .maybe else .yes) else .no := by
  have hbit := testBit_addAll 0 nodes (bitOf len)
  rw [Nat.zero_testBit, Bool.false_or] at hbit
  rw [hasWord, single_eq, ← hbit]
  cases ht : (addAll 0 nodes).testBit (bitOf len)
  · rw [if_pos ((and_two_pow_eq_zero_iff _ _).mpr ht)]; rfl
  · rw [if_neg (mt (and_two_pow_eq_zero_iff _ _).mp (by rw [ht]; nofun))]; rfl

theorem hasWord_no_sound (nodes : List Node) (len : Nat) (h : hasWord (addAll 0 nodes) len = .no) :
    ∀ x ∈ nodes, x.e - x.b ≠ len := by
  intro x hx heq
  rw [hasWord_addAll, if_pos (List.any_eq_true.mpr ⟨x, hx, by rw [heq]; exact beq_self_eq_true _⟩)] at h
  split at h <;> cases h

theorem hasWord_exact_below_64 (nodes : List Node) (len : Nat) (h1 : 1 ≤ len) (h64 : len < 64)
    (hpos : ∀ x ∈ nodes, 1 ≤ x.e - x.b) :
    (hasWord (addAll 0 nodes) len = .yes ↔ ∃ x ∈ nodes, x.e - x.b = len) ∧
    (hasWord (addAll 0 nodes) len = .no ↔ ∀ x ∈ nodes, x.e - x.b ≠ len) ∧
    hasWord (addAll 0 nodes) len ≠ .maybe := by
  -- below 64 different lengths have different bits
  have hbit : nodes.any (fun x => bitOf (x.e - x.b) == bitOf len) = true ↔ ∃ x ∈ nodes, x.e - x.b = len := by
    rw [List.any_eq_true]
    exact ⟨fun ⟨x, hx, hb⟩ => ⟨x, hx, by have hb' := beq_iff_eq.mp hb; have := hpos x hx; unfold bitOf at hb'; omega⟩,
      fun ⟨x, hx, he⟩ => ⟨x, hx, by rw [he]; exact beq_self_eq_true _⟩⟩
  rw [hasWord_addAll, if_neg (Nat.not_le.mpr h64),
    show (∀ x ∈ nodes, x.e - x.b ≠ len) ↔ ¬ ∃ x ∈ nodes, x.e - x.b = len from
      ⟨fun h ⟨x, hx, e⟩ => h x hx e, fun h x hx e => h ⟨x, hx, e⟩⟩, ← hbit]
  cases nodes.any (fun x => bitOf (x.e - x.b) == bitOf len) <;> simp

theorem hasWord_maybe (nodes : List Node) (len : Nat) (h : hasWord (addAll 0 nodes) len = .maybe) :
    64 ≤ len ∧ ∃ x ∈ nodes, 64 ≤ x.e - x.b := by
  rw [hasWord_addAll] at h
  cases hbit : nodes.any (fun x => bitOf (x.e - x.b) == bitOf len) with
  | false => rw [hbit] at h; cases h
  | true =>
    rw [hbit, if_pos rfl] at h
    by_cases h64 : len ≥ 64
    · obtain ⟨x, hx, hb⟩ := List.any_eq_true.mp hbit
      have := beq_iff_eq.mp hb
      exact ⟨h64, x, hx, by unfold bitOf at this; omega⟩
    · rw [if_neg h64] at h; cases h

/-! ## fallback length and the Simple provider -/

theorem nextBow_spec (l : List Bool) :
    nextBow l ≤ l.length ∧ (∀ j, j < nextBow l → l[j]? = some false) ∧
    (nextBow l = l.length ∨ l[nextBow l]? = some true) := by
  induction l with
  | nil => exact ⟨Nat.le_refl 0, fun j hj => absurd hj (Nat.not_lt_zero j), .inl rfl⟩
  | cons b bs ih =>
    obtain ⟨i1, i2, i3⟩ := ih
    cases b with
    | true => exact ⟨Nat.zero_le _, fun j hj => absurd hj (Nat.not_lt_zero j), .inr rfl⟩
    | false =>
      have e : nextBow (false :: bs) = nextBow bs + 1 := by rw [nextBow, Nat.add_comm]; rfl
      rw [e]
      refine ⟨Nat.succ_le_succ i1, fun j hj => ?_, i3.imp (congrArg (· + 1)) (by rw [List.getElem?_cons_succ]; exact id)⟩
      cases j with
      | zero => rfl
      | succ j => rw [List.getElem?_cons_succ]; exact i2 j (Nat.lt_of_succ_lt_succ hj)

/-- "reaching to the next permissible word start": `k` characters from `idx` -/
def NextStart (bow : List Bool) (idx k : Nat) : Prop :=
  1 ≤ k ∧ idx + k ≤ bow.length ∧ (∀ j, idx < j → j < idx + k → bow[j]? = some false) ∧
  (idx + k = bow.length ∨ bow[idx + k]? = some true)

theorem wordCandidateLength_spec (bow : List Bool) (idx : Nat) (h : idx < bow.length) :
    ∃ k, wordCandidateLength bow idx = some k ∧ NextStart bow idx k := by
  refine ⟨1 + nextBow (bow.drop (idx + 1)), by simp [wordCandidateLength, h], ?_⟩
  obtain ⟨hle, hbefore, hat⟩ := nextBow_spec (bow.drop (idx + 1))
  simp only [List.length_drop, List.getElem?_drop] at hle hbefore hat
  refine ⟨by omega, by omega, fun j h1 h2 => ?_, ?_⟩
  · have := hbefore (j - (idx + 1)) (by omega)
    rwa [show idx + 1 + (j - (idx + 1)) = j by omega] at this
  · rcases hat with h1 | h1
    · exact .inl (by omega)
    · exact .inr (by rwa [Nat.add_assoc] at h1)

theorem simpleProvide_spec (cfg : SimpleCfg) (buf : Buf) (o created : Nat) (ho : o < buf.bow.length) :
    (created ≠ 0 → simpleProvide cfg buf o created = .ok []) ∧
    (created = 0 → ∃ k, NextStart buf.bow o k ∧
      simpleProvide cfg buf o created = .ok [⟨o, o + k, cfg.l, cfg.r, cfg.c, true, cfg.pos⟩]) := by
  constructor
  · intro h; simp [simpleProvide, h]
  · intro h
    obtain ⟨k, hk, hs⟩ := wordCandidateLength_spec buf.bow o ho
    exact ⟨k, hs, by simp [simpleProvide, h, hk]⟩

theorem simpleProvide_ne_err (cfg : SimpleCfg) (buf : Buf) (o c : Nat) (k : String) :
    simpleProvide cfg buf o c ≠ .err k := by
  unfold simpleProvide; intro h; split at h
  · cases h
  · split at h <;> cases h

/-! ## MeCab provider -/

/-- the test of the 1..n loop is monotone: once a length fails it, every greater length fails it -/
theorem lenLoop_test_anti {stop : Bool} {o n ll i0 i : Nat} (h : i0 ≤ i)
    (hc : min (o + i) n - o ≤ ll ∧ (stop = true → i ≤ min (o + i) n - o)) :
    min (o + i0) n - o ≤ ll ∧ (stop = true → i0 ≤ min (o + i0) n - o) :=
  ⟨Nat.le_trans (Nat.sub_le_sub_right (Nat.le_min.mpr
      ⟨Nat.le_trans (Nat.min_le_left _ _) (Nat.add_le_add_left h o), Nat.min_le_right _ _⟩) o) hc.1,
    fun hs => by have := hc.2 hs; omega⟩

theorem mem_lenLoop (stop : Bool) (oovs : List OovDef) (offset n ll cnt i0 : Nat) (x : Node) :
    x ∈ lenLoop stop oovs offset n ll cnt i0 ↔
    ∃ d ∈ oovs, ∃ i, i0 ≤ i ∧ i < i0 + cnt ∧
      (min (offset + i) n - offset ≤ ll ∧ (stop = true → i ≤ min (offset + i) n - offset)) ∧
      x = mkNode offset (offset + (min (offset + i) n - offset)) d := by
  induction cnt generalizing i0 with
  | zero =>
    simp only [lenLoop, List.not_mem_nil, false_iff]
    rintro ⟨d, _, i, h1, h2, _⟩
    exact absurd h2 (Nat.not_lt.mpr h1)
  | succ cnt ih =>
    simp only [lenLoop]
    split
    · rename_i hgt
      simp only [List.not_mem_nil, false_iff]
      rintro ⟨d, _, i, h1, _, h3, _⟩
      obtain ⟨a1, a2⟩ := lenLoop_test_anti h1 h3
      simp only [Bool.or_eq_true, decide_eq_true_eq, Bool.and_eq_true] at hgt
      rcases hgt with hgt | ⟨hs, hgt⟩
      · exact absurd a1 (Nat.not_le.mpr hgt)
      · exact absurd (a2 hs) (Nat.not_le.mpr hgt)
    · rename_i hle
      simp only [Bool.or_eq_true, decide_eq_true_eq, Bool.and_eq_true, not_or, not_and, Nat.not_lt] at hle
      rw [List.mem_append, ih (i0 + 1), List.mem_map]
      constructor
      · rintro (⟨d, hd, rfl⟩ | ⟨d, hd, i, h1, h2, h3, rfl⟩)
        · exact ⟨d, hd, i0, Nat.le_refl _, Nat.lt_add_of_pos_right (Nat.succ_pos cnt), ⟨hle.1, hle.2⟩, rfl⟩
        · exact ⟨d, hd, i, Nat.le_of_succ_le h1, by rwa [Nat.add_right_comm] at h2, h3, rfl⟩
      · rintro ⟨d, hd, i, h1, h2, h3, rfl⟩
        by_cases hi : i = i0
        · subst hi; exact Or.inl ⟨d, hd, rfl⟩
        · exact Or.inr ⟨d, hd, i, Nat.lt_of_le_of_ne h1 (Ne.symm hi), by rwa [Nat.add_right_comm], h3, rfl⟩

theorem lenLoop_stop_succ (oovs : List OovDef) (o n ll cnt i : Nat) (hi : 1 ≤ i) :
    lenLoop true oovs o n ll (cnt + 1) i =
      if i ≤ min ll (n - o) then oovs.map (mkNode o (o + i)) ++ lenLoop true oovs o n ll cnt (i + 1) else [] := by
  simp only [lenLoop, Bool.true_and, Bool.or_eq_true, decide_eq_true_eq]
  by_cases h : o + i ≤ n
  · rw [Nat.min_eq_left h, Nat.add_sub_cancel_left]
    by_cases h2 : i ≤ ll
    · rw [if_neg (by omega), if_pos (Nat.le_min.mpr ⟨h2, by omega⟩)]
    · rw [if_pos (by omega), if_neg (fun hc => h2 (Nat.le_min.mp hc).1)]
  · rw [if_pos (by omega), if_neg (fun hc => h (by have := (Nat.le_min.mp hc).2; omega))]

theorem lenLoop_stop_eq (oovs : List OovDef) (o n ll cnt i0 : Nat) (hi0 : 1 ≤ i0) :
    lenLoop true oovs o n ll cnt i0 =
      (List.range' i0 (min cnt (min ll (n - o) + 1 - i0))).flatMap (fun i => oovs.map (mkNode o (o + i))) := by
  induction cnt generalizing i0 with
  | zero => rw [Nat.zero_min]; rfl
  | succ cnt ih =>
    rw [lenLoop_stop_succ oovs o n ll cnt i0 hi0, ih (i0 + 1) (by omega)]
    generalize min ll (n - o) = m
    by_cases h : i0 ≤ m
    · rw [if_pos h, show min (cnt + 1) (m + 1 - i0) = min cnt (m + 1 - (i0 + 1)) + 1 by omega, List.range'_succ,
        List.flatMap_cons]
    · rw [if_neg h, show min (cnt + 1) (m + 1 - i0) = 0 by omega]; rfl

/-- the candidates the definition files prescribe at `offset` for class `ct` of the character:
the class has a behaviour line `ci` and unknown-word lines `oovs`; it is always invoked or nothing exists
yet; for every line `d` a grouped candidate over the whole run (if grouping) and candidates of
`1..length` characters that stay inside the text and inside the run (one less when grouping, the whole
run being the grouped candidate); for the repaired loop (`cfg.stopAtEnd`) a candidate of `i` characters exists only
where `i` characters are left -/
def MecabSpec (cfg : MecabCfg) (n offset charLen created ct : Nat) (x : Node) : Prop :=
  ∃ ci oovs d, findKey ct cfg.cats = some ci ∧ (ci.invoke = true ∨ created = 0) ∧
    findKey ci.ctype cfg.oovs = some oovs ∧ d ∈ oovs ∧
    ((ci.group = true ∧ x = mkNode offset (offset + charLen) d) ∨
     (∃ i, 1 ≤ i ∧ i ≤ ci.length ∧
        (min (offset + i) n - offset ≤ (if ci.group then charLen - 1 else charLen) ∧
          (cfg.stopAtEnd = true → i ≤ min (offset + i) n - offset)) ∧
        x = mkNode offset (offset + (min (offset + i) n - offset)) d))

theorem mem_mecabClass (cfg : MecabCfg) (n offset charLen created ct : Nat) (x : Node) :
    x ∈ mecabClass cfg n offset charLen created ct ↔ MecabSpec cfg n offset charLen created ct x := by
  unfold mecabClass MecabSpec
  cases h1 : findKey ct cfg.cats with
  | none => simp
  | some ci =>
    simp only [Option.some.injEq]
    have hcond : (!ci.invoke && decide (created ≠ 0)) = true ↔ ¬ (ci.invoke = true ∨ created = 0) := by
      cases ci.invoke <;> simp
    by_cases hinv : ci.invoke = true ∨ created = 0
    · rw [if_neg (mt hcond.mp (not_not_intro hinv))]
      cases h2 : findKey ci.ctype cfg.oovs with
      | none =>
        simp only [List.not_mem_nil, false_iff]
        rintro ⟨ci', oovs, d, rfl, _, h, _⟩
        rw [h2] at h; cases h
      | some oovs =>
        simp only [List.mem_append, mem_lenLoop]
        constructor
        · rintro (h | ⟨d, hd, i, h1', h2', h3, rfl⟩)
          · split at h
            · rename_i hg
              obtain ⟨d, hd, rfl⟩ := List.mem_map.mp h
              exact ⟨ci, oovs, d, rfl, hinv, h2, hd, Or.inl ⟨hg, rfl⟩⟩
            · cases h
          · exact ⟨ci, oovs, d, rfl, hinv, h2, hd, Or.inr ⟨i, h1', by omega, h3, rfl⟩⟩
        · rintro ⟨ci', oovs', d, rfl, _, h, hd, hx⟩
          rw [h2] at h; cases h
          rcases hx with ⟨hg, rfl⟩ | ⟨i, h1', h2', h3, rfl⟩
          · left; simp only [hg, if_true]; exact List.mem_map.mpr ⟨d, hd, rfl⟩
          · right; exact ⟨d, hd, i, h1', by omega, h3, rfl⟩
    · rw [if_pos (hcond.mpr hinv)]
      simp only [List.not_mem_nil, false_iff]
      rintro ⟨ci', oovs, d, rfl, h, _⟩
      exact hinv h

theorem MecabSpec_created_congr (cfg : MecabCfg) (n o cl c1 c2 ct : Nat) (x : Node) (h : c1 = 0 ↔ c2 = 0) :
    MecabSpec cfg n o cl c1 ct x ↔ MecabSpec cfg n o cl c2 ct x := by
  unfold MecabSpec
  constructor
  · rintro ⟨ci, oovs, d, h1, h2, h3⟩
    exact ⟨ci, oovs, d, h1, h2.imp id h.mp, h3⟩
  · rintro ⟨ci, oovs, d, h1, h2, h3⟩
    exact ⟨ci, oovs, d, h1, h2.imp id h.mpr, h3⟩

theorem mecabClass_congr (cfg cfg' : MecabCfg) (n o cl created ct : Nat)
    (h1 : findKey ct cfg.cats = findKey ct cfg'.cats)
    (h2 : ∀ ci, findKey ct cfg.cats = some ci → findKey ci.ctype cfg.oovs = findKey ci.ctype cfg'.oovs)
    (h3 : cfg.stopAtEnd = cfg'.stopAtEnd) :
    mecabClass cfg n o cl created ct = mecabClass cfg' n o cl created ct := by
  unfold mecabClass
  rw [← h1, ← h3]
  cases h : findKey ct cfg.cats with
  | none => rfl
  | some ci => simp only []; rw [← h2 ci h]

theorem mem_mecabClass_full_run (cfg : MecabCfg) (n o cl created ct : Nat) (ci : CatInfo) (oovs : List OovDef) (d : OovDef)
    (hci : findKey ct cfg.cats = some ci) (hinv : ci.invoke = true ∨ created = 0) (hg : ci.group = false)
    (hoovs : findKey ci.ctype cfg.oovs = some oovs) (hd : d ∈ oovs) (hcl : 1 ≤ cl) (hlen : cl ≤ ci.length) (hin : o + cl ≤ n) :
    mkNode o (o + cl) d ∈ mecabClass cfg n o cl created ct := by
  rw [mem_mecabClass]
  refine ⟨ci, oovs, d, hci, hinv, hoovs, hd, Or.inr ⟨cl, hcl, hlen, ⟨?_, fun _ => by omega⟩, ?_⟩⟩
  · simp only [hg, Bool.false_eq_true, if_false]; omega
  · have : min (o + cl) n - o = cl := by omega
    rw [this]

theorem mecabClass_grouped_lengths (cfg : MecabCfg) (n o cl created ct : Nat) (ci : CatInfo) (x : Node)
    (hci : findKey ct cfg.cats = some ci) (hg : ci.group = true) (hcl : 1 ≤ cl)
    (hx : x ∈ mecabClass cfg n o cl created ct) : x.b = o ∧ (x.e = o + cl ∨ x.e < o + cl) := by
  rw [mem_mecabClass] at hx
  obtain ⟨ci', oovs, d, hci', _, _, _, h⟩ := hx
  rw [hci] at hci'; cases hci'
  rcases h with ⟨_, rfl⟩ | ⟨i, _, _, h3, rfl⟩
  · exact ⟨rfl, Or.inl rfl⟩
  · simp only [hg, if_true] at h3
    refine ⟨rfl, Or.inr ?_⟩
    simp only [mkNode]; omega

/-- classes without a behaviour line contribute nothing (`None => continue`) -/
theorem mecabClass_no_line (cfg : MecabCfg) (n o cl created ct : Nat) (h : findKey ct cfg.cats = none) :
    mecabClass cfg n o cl created ct = [] := by
  simp [mecabClass, h]

theorem mecabProvide_eq (cfg : MecabCfg) (buf : Buf) (o created charLen cat : Nat)
    (h1 : buf.cont[o]? = some charLen) (h2 : buf.cats[o]? = some cat) :
    mecabProvide cfg buf o created =
      .ok (if charLen = 0 then [] else (flagsIter cat).flatMap (mecabClass cfg buf.chars.length o charLen created)) := by
  simp only [mecabProvide, h1, h2]
  exact (apply_ite Outcome.ok _ _ _).symm

theorem mecabProvide_spec (cfg : MecabCfg) (buf : Buf) (offset created : Nat) (nodes : List Node)
    (h : mecabProvide cfg buf offset created = .ok nodes) :
    ∃ charLen cat, buf.cont[offset]? = some charLen ∧ buf.cats[offset]? = some cat ∧
      ∀ x, x ∈ nodes ↔ (charLen ≠ 0 ∧ ∃ ct ∈ flagsIter cat, MecabSpec cfg buf.chars.length offset charLen created ct x) := by
  cases h1 : buf.cont[offset]? with
  | none => simp [mecabProvide, h1] at h
  | some charLen =>
    cases h2 : buf.cats[offset]? with
    | none => simp [mecabProvide, h1, h2] at h
    | some cat =>
      rw [mecabProvide_eq cfg buf offset created charLen cat h1 h2] at h
      cases h
      refine ⟨charLen, cat, rfl, rfl, fun x => ?_⟩
      by_cases h0 : charLen = 0
      · simp [h0]
      · rw [if_neg h0]; simp only [List.mem_flatMap, mem_mecabClass, ne_eq, h0, not_false_eq_true, true_and]

theorem mecabProvide_ne_err (cfg : MecabCfg) (buf : Buf) (o c : Nat) (k : String) :
    mecabProvide cfg buf o c ≠ .err k := by
  unfold mecabProvide; intro h; split at h
  · split at h <;> cases h
  · cases h

theorem mecabProvide_no_lines (cfg : MecabCfg) (buf : Buf) (o created charLen cat : Nat)
    (h1 : buf.cont[o]? = some charLen) (h2 : buf.cats[o]? = some cat)
    (hno : ∀ ct ∈ flagsIter cat, findKey ct cfg.cats = none) : mecabProvide cfg buf o created = .ok [] := by
  rw [mecabProvide_eq cfg buf o created charLen cat h1 h2,
    List.flatMap_eq_nil_iff.mpr fun ct hct => mecabClass_no_line cfg _ o charLen created ct (hno ct hct), ite_self]

theorem mecabProvide_total (cfg : MecabCfg) (buf : Buf) (o created : Nat) (h1 : o < buf.cont.length) (h2 : o < buf.cats.length) :
    ∃ nodes, mecabProvide cfg buf o created = .ok nodes :=
  ⟨_, mecabProvide_eq cfg buf o created _ _ (List.getElem?_eq_getElem h1) (List.getElem?_eq_getElem h2)⟩

/-! ## Regex provider -/

theorem greedy_le (set : List Nat) (mx : Option Nat) (s : List Nat) : greedy set mx s ≤ s.length := by
  induction s generalizing mx with
  | nil => cases mx with
    | none => simp [greedy]
    | some m => cases m <;> simp [greedy]
  | cons c rest ih =>
    cases mx with
    | none =>
      simp only [greedy]; split
      · have := ih (Option.map (· - 1) none); simp only [List.length_cons]; omega
      · omega
    | some m =>
      cases m with
      | zero => simp [greedy]
      | succ m' =>
        simp only [greedy]; split
        · have := ih (Option.map (· - 1) (some (m' + 1))); simp only [List.length_cons]; omega
        · omega

theorem regexFind_le (alts : List Alt) (s : List Nat) (k : Nat) (h : regexFind alts s = some k) : k ≤ s.length := by
  unfold regexFind at h
  obtain ⟨a, _, ha⟩ := List.exists_of_findSome?_eq_some h
  unfold altMatch at ha
  simp only at ha
  split at ha
  · cases ha; exact greedy_le _ _ _
  · cases ha

/-- the five ways `RegexOovProvider::provide_oov` ends: the three panics (a `cat_continuous_len` read out of range, the
slice start beyond the text, `CreatedWords::single(0)` in the pinned provider), no node, or the one node of a non-empty
match inside the slice of at most `max_length` characters whose length the created-length test (with the scan of
`existing` for `Maybe`) does not find -/
theorem regexProvide_cases (cfg : RegexCfg) (buf : Buf) (o created : Nat) (ex : List Node) :
    (regexAtBoundary cfg buf o = none ∧ regexProvide cfg buf o created ex = .panic "index") ∨
    (buf.chars.length < o ∧ regexProvide cfg buf o created ex = .panic "slice") ∨
    (cfg.skipEmpty = false ∧ regexProvide cfg buf o created ex = .panic "CreatedWords::single(0)") ∨
    regexProvide cfg buf o created ex = .ok [] ∨
    ∃ k, k ≠ 0 ∧ o + k ≤ buf.chars.length ∧ k ≤ cfg.maxLength ∧
      (hasWord created k = .no ∨ hasWord created k = .maybe ∧ ex.any (fun x => x.e == o + k) = false) ∧
      regexProvide cfg buf o created ex = .ok [regexNode cfg o k] := by
  unfold regexProvide
  rcases hb : regexAtBoundary cfg buf o with _ | _ | _
  · exact .inl ⟨rfl, rfl⟩
  · exact .inr (.inr (.inr (.inl rfl)))
  · unfold regexCore
    by_cases ho : o > buf.chars.length
    · exact .inr (.inl ⟨ho, if_pos ho⟩)
    · simp only [if_neg ho]
      cases hf : regexFind cfg.alts ((buf.chars.take (min buf.chars.length (o + cfg.maxLength))).drop o) with
      | none => exact .inr (.inr (.inr (.inl rfl)))
      | some k =>
        by_cases hk : k = 0
        · simp only [if_pos hk]
          cases hs : cfg.skipEmpty
          · exact .inr (.inr (.inl ⟨rfl, rfl⟩))
          · exact .inr (.inr (.inr (.inl rfl)))
        · simp only [if_neg hk]
          have hkl := regexFind_le _ _ _ hf
          rw [List.length_drop, List.length_take] at hkl
          have hin : o + k ≤ buf.chars.length ∧ k ≤ cfg.maxLength := by omega
          cases hw : hasWord created k with
          | yes => exact .inr (.inr (.inr (.inl rfl)))
          | no => exact .inr (.inr (.inr (.inr ⟨k, hk, hin.1, hin.2, .inl hw, rfl⟩)))
          | maybe =>
            cases ha : ex.any (fun x => x.e == o + k) with
            | true => exact .inr (.inr (.inr (.inl rfl)))
            | false => exact .inr (.inr (.inr (.inr ⟨k, hk, hin.1, hin.2, .inr ⟨hw, ha⟩, rfl⟩)))

theorem regexProvide_ne_err (cfg : RegexCfg) (buf : Buf) (o c : Nat) (ex : List Node) (k : String) :
    regexProvide cfg buf o c ex ≠ .err k := by
  rcases regexProvide_cases cfg buf o c ex with ⟨_, h⟩ | ⟨_, h⟩ | ⟨_, h⟩ | h | ⟨k, _, _, _, _, h⟩ <;> rw [h] <;> nofun

/-- the created-length test is exact, including the scan of the buffer for `Maybe` -/
theorem regexProvide_no_duplicate (cfg : RegexCfg) (buf : Buf) (o : Nat) (existing new : List Node)
    (hb : ∀ x ∈ existing, x.b = o ∧ x.b < x.e)
    (h : regexProvide cfg buf o (addAll 0 existing) existing = .ok new) :
    ∀ y ∈ new, ∀ x ∈ existing, x.e ≠ y.e := by
  rcases regexProvide_cases cfg buf o (addAll 0 existing) existing with
    ⟨_, hp⟩ | ⟨_, hp⟩ | ⟨_, hp⟩ | hp | ⟨k, _, _, _, hw, hp⟩ <;> rw [hp] at h <;> cases h
  · nofun
  · intro y hy x hx heq
    obtain rfl := List.mem_singleton.mp hy
    have heq : x.e = o + k := heq
    rcases hw with hw | ⟨_, ha⟩
    · have := hasWord_no_sound existing k hw x hx
      have := hb x hx
      omega
    · exact absurd (beq_iff_eq.mpr heq) (List.any_eq_false.mp ha x hx)

theorem provide_ne_err (p : Provider) (buf : Buf) (o c : Nat) (ex : List Node) (k : String) :
    provide p buf o c ex ≠ .err k := by
  cases p with
  | mecab cfg => exact mecabProvide_ne_err cfg buf o c k
  | simple cfg => exact simpleProvide_ne_err cfg buf o c k
  | regex cfg => exact regexProvide_ne_err cfg buf o c ex k

theorem findKey_mem {α : Type} (k : Nat) : ∀ (l : List (Nat × α)) (v : α), findKey k l = some v → ∃ k', (k', v) ∈ l
  | [], v, h => by simp [findKey] at h
  | (k', v') :: rest, v, h => by
    simp only [findKey] at h
    split at h
    · cases h; exact ⟨k', List.mem_cons_self⟩
    · obtain ⟨k'', hk⟩ := findKey_mem k rest v h
      exact ⟨k'', List.mem_cons_of_mem _ hk⟩

/-! ## what any provider returns

The quadruples a provider is configured with (`Total.providerDefs`) stand in namespace `Total`, whose statements (C03) name them. -/

end Oov

namespace Total

/-- the (left id, right id, cost, POS id) quadruples a provider is configured with: the `unk.def` lines of the MeCab
provider, the one `leftId/rightId/cost/oovPOS` setting of the Simple and of the Regex provider — what the loader
validates (`check_params`, `read_oov`: ids against the matrix, cost parsed into an `i16`, POS looked up / registered) -/
def providerDefs : Oov.Provider → List Oov.OovDef
  | .mecab c => c.oovs.flatMap (fun kv => kv.2)
  | .simple c => [⟨c.l, c.r, c.c, c.pos⟩]
  | .regex c => [⟨c.l, c.r, c.c, c.pos⟩]

end Total

namespace Oov

/-- **what a provider returns**: every node is `get_oov_node` of one of the configured quadruples, from the position asked
over `k` characters; in a buffer with one word-start flag per character and the run of `o` inside the text, at a position
inside the text, `1 ≤ k` and the node ends inside the text -/
theorem provide_shape (p : Provider) (buf : Buf) (o c : Nat) (ex out : List Node) (h : provide p buf o c ex = .ok out) :
    ∀ x ∈ out, ∃ d ∈ Total.providerDefs p, ∃ k, x = mkNode o (o + k) d ∧
      (buf.bow.length = buf.chars.length → (∀ cl, buf.cont[o]? = some cl → o + cl ≤ buf.chars.length) →
        o < buf.chars.length → 1 ≤ k ∧ o + k ≤ buf.chars.length) := by
  intro x hx
  cases p with
  | mecab cfg =>
    obtain ⟨charLen, cat, hcl, _, hspec⟩ := mecabProvide_spec cfg buf o c out h
    obtain ⟨h0, ct, _, ci, oovs, d, _, _, hf, hd, hcase⟩ := (hspec x).mp hx
    obtain ⟨k', hk'⟩ := findKey_mem _ _ _ hf
    refine ⟨d, List.mem_flatMap.mpr ⟨(k', oovs), hk', hd⟩, ?_⟩
    rcases hcase with ⟨_, rfl⟩ | ⟨i, hi1, _, _, rfl⟩
    · exact ⟨charLen, rfl, fun _ hcont _ => ⟨Nat.pos_of_ne_zero h0, hcont charLen hcl⟩⟩
    · exact ⟨min (o + i) buf.chars.length - o, rfl, fun _ _ ho => by omega⟩
  | simple cfg =>
    rw [provide, simpleProvide] at h
    by_cases hc : c ≠ 0
    · rw [if_pos hc] at h; cases h; cases hx
    · rw [if_neg hc] at h
      cases hl : wordCandidateLength buf.bow o with
      | none => rw [hl] at h; cases h
      | some len =>
        rw [hl] at h; cases h
        obtain rfl := List.mem_singleton.mp hx
        refine ⟨⟨cfg.l, cfg.r, cfg.c, cfg.pos⟩, List.mem_singleton.mpr rfl, len, rfl, fun hbow _ ho => ?_⟩
        obtain ⟨k, hk, h1, h2, _⟩ := wordCandidateLength_spec buf.bow o (hbow ▸ ho)
        obtain rfl : len = k := Option.some.inj (hl.symm.trans hk)
        exact ⟨h1, hbow ▸ h2⟩
  | regex cfg =>
    rcases regexProvide_cases cfg buf o c ex with ⟨_, hp⟩ | ⟨_, hp⟩ | ⟨_, hp⟩ | hp | ⟨k, hk, hle, _, _, hp⟩ <;>
      rw [provide, hp] at h <;> cases h
    · cases hx
    · obtain rfl := List.mem_singleton.mp hx
      exact ⟨⟨cfg.l, cfg.r, cfg.c, cfg.pos⟩, List.mem_singleton.mpr rfl, k, rfl,
        fun _ _ _ => ⟨Nat.pos_of_ne_zero hk, hle⟩⟩

/-! ## well-formed buffers: what `InputBuffer::build` guarantees about its tables -/

structure Buf.WF (buf : Buf) : Prop where
  cats_len : buf.cats.length = buf.chars.length
  cont_len : buf.cont.length = buf.chars.length
  bow_len : buf.bow.length = buf.chars.length
  cont_bound : ∀ i c, buf.cont[i]? = some c → 1 ≤ c ∧ i + c ≤ buf.chars.length

/-- the part of `Buf.WF` about a run table, for a bare list of `n` entries -/
def ContOk (cont : List Nat) (n : Nat) : Prop :=
  cont.length = n ∧ ∀ i c, cont[i]? = some c → 1 ≤ c ∧ i + c ≤ n

/-- one step of the `can_bow` chain: a character after a ban is no word start; in the repaired chain a NOOOVBOW2
character is no word start and bans its successor -/
theorem bowGoV_cons (cb : Bool) (cat : Nat) (rest : List Nat) (nb : Bool) (prev : Nat) :
    ∃ b nb', bowGoV cb (cat :: rest) nb prev = b :: bowGoV cb rest nb' cat ∧
      (nb = false → b = false) ∧ (cb = true → cat &&& NOOOVBOW2 ≠ 0 → b = false ∧ nb' = false) := by
  cases nb with
  | false =>
    refine ⟨false, _, rfl, fun _ => rfl, fun hcb h2 => ⟨rfl, ?_⟩⟩
    subst hcb; simpa using h2
  | true =>
    by_cases h2 : cat &&& NOOOVBOW2 ≠ 0
    · exact ⟨false, false, by simp only [bowGoV, Bool.not_true, Bool.false_eq_true, if_false, if_pos h2], nofun, fun _ _ => ⟨rfl, rfl⟩⟩
    · by_cases h1 : cat &&& NOOOVBOW ≠ 0
      · exact ⟨false, true, by simp only [bowGoV, Bool.not_true, Bool.false_eq_true, if_false, if_neg h2, if_pos h1], nofun, fun _ h => absurd h h2⟩
      · by_cases h0 : cat &&& nonStarting ≠ 0
        · exact ⟨cat &&& prev == 0, true, by simp only [bowGoV, Bool.not_true, Bool.false_eq_true, if_false, if_neg h2, if_neg h1, if_pos h0], nofun, fun _ h => absurd h h2⟩
        · exact ⟨true, true, by simp only [bowGoV, Bool.not_true, Bool.false_eq_true, if_false, if_neg h2, if_neg h1, if_neg h0], nofun, fun _ h => absurd h h2⟩

theorem bowGoV_length (cb : Bool) (cats : List Nat) (nb : Bool) (prev : Nat) : (bowGoV cb cats nb prev).length = cats.length := by
  induction cats generalizing nb prev with
  | nil => rfl
  | cons c rest ih =>
    obtain ⟨b, nb', e, _⟩ := bowGoV_cons cb c rest nb prev
    rw [e, List.length_cons, ih, List.length_cons]

theorem bowGoV_noovbow2 (cats : List Nat) (nb : Bool) (prev i c : Nat) (hc : cats[i]? = some c) (h2 : c &&& NOOOVBOW2 ≠ 0) :
    (bowGoV true cats nb prev)[i]? = some false ∧ (i + 1 < cats.length → (bowGoV true cats nb prev)[i + 1]? = some false) := by
  induction cats generalizing nb prev i with
  | nil => simp at hc
  | cons x rest ih =>
    obtain ⟨b, nb', e, _, hx⟩ := bowGoV_cons true x rest nb prev
    rw [e]
    cases i with
    | succ j =>
      have := ih nb' x j (by simpa using hc)
      simpa using this
    | zero =>
      obtain rfl : x = c := by simpa using hc
      obtain ⟨rfl, rfl⟩ := hx rfl h2
      refine ⟨rfl, fun hlt => ?_⟩
      cases rest with
      | nil => simp at hlt
      | cons y ys =>
        obtain ⟨b', _, e', hb', _⟩ := bowGoV_cons true y ys false x
        rw [e', hb' rfl]; rfl

theorem countdown_contOk (k : Nat) (rest : List Nat) (m : Nat) (h : ContOk rest m) : ContOk (countdown k ++ rest) (k + m) := by
  obtain ⟨hl, hb⟩ := h
  refine ⟨by simp [countdown_length, hl], ?_⟩
  intro i c hc
  rw [countdown_append_getElem?] at hc
  by_cases hi : i < k
  · rw [if_pos hi, Option.some.injEq] at hc
    omega
  · rw [if_neg hi] at hc
    have := hb _ _ hc
    omega

theorem forward_contOk (cats : List Nat) : ContOk (fillCatContinuityForward cats) cats.length := by
  fun_induction fillCatContinuityForward cats with
  | case1 => exact ⟨rfl, by intro i c h; simp at h⟩
  | case2 c rest ih =>
    have hle := scan_le c rest
    have := countdown_contOk (scan c rest + 1) _ _ ih
    have e : scan c rest + 1 + (rest.drop (scan c rest)).length = (c :: rest).length := by
      simp only [List.length_drop, List.length_cons]; omega
    rw [e] at this; exact this

/-- the backward loop: `acc` is a run table for its own length whose head is `k` -/
theorem bwdLoop_contOk (more : List Nat) (cat k : Nat) (acc : List Nat) (h : ContOk acc acc.length)
    (hk : acc[0]? = some k) : ContOk (bwdLoop more cat k acc) (more.length + acc.length) := by
  induction more generalizing cat k acc with
  | nil => simpa [bwdLoop] using h
  | cons cur more ih =>
    have hk1 := (h.2 0 k hk)
    have step : ∀ v, 1 ≤ v → v ≤ acc.length + 1 → ContOk (v :: acc) (v :: acc).length := by
      intro v h1 h2
      refine ⟨rfl, ?_⟩
      intro i c hc
      cases i with
      | zero => simp at hc; subst hc; simp; omega
      | succ j =>
        simp only [List.getElem?_cons_succ] at hc
        have := h.2 j c hc
        simp only [List.length_cons]; omega
    -- either way the loop goes on with a table one entry longer whose head `v` is 1 or `k + 1`
    have next : ∀ cat' v, 1 ≤ v → v ≤ k + 1 →
        ContOk (bwdLoop more cat' v (v :: acc)) ((cur :: more).length + acc.length) := by
      intro cat' v h1 h2
      have := ih cat' v (v :: acc) (step v h1 (by omega)) rfl
      rwa [List.length_cons, ← Nat.add_assoc, Nat.add_right_comm, ← List.length_cons (a := cur)] at this
    simp only [bwdLoop]
    split
    · exact next _ _ (by omega) (Nat.le_refl _)
    · exact next _ _ (Nat.le_refl 1) (by omega)

theorem backward_contOk (cats : List Nat) : ContOk (fillCatContinuityBackward cats) cats.length := by
  unfold fillCatContinuityBackward
  cases h : cats.reverse with
  | nil =>
    have : cats = [] := by simpa using h
    subst this; exact ⟨rfl, by intro i c h; simp at h⟩
  | cons last revRest =>
    have hl : cats.length = revRest.length + 1 := by
      have := congrArg List.length h; simpa using this
    have := bwdLoop_contOk revRest last 1 [1] ⟨rfl, by intro i c hc; cases i <;> simp at hc; subst hc; simp⟩ (by simp)
    simp only [List.length_cons, List.length_nil] at this
    rw [hl]; exact this

theorem fillCatContinuity_contOk (v : Variant) (cats : List Nat) : ContOk (fillCatContinuity v cats) cats.length := by
  cases v with
  | backward => exact backward_contOk cats
  | forward => exact forward_contOk cats
  | spec => simp only [fillCatContinuity]; rw [← forward_eq_spec]; exact forward_contOk cats

theorem mkBufV_wf (v : Variant) (bf : Bool) (tab : List (Nat × Nat)) (chars : List Nat) (buf : Buf)
    (h : mkBufV v bf tab chars = some buf) : buf.WF := by
  unfold mkBufV at h
  cases hc : Wire.allSome (chars.map (CharCat.lookup tab)) with
  | none => simp [hc] at h
  | some cats =>
    simp only [hc, Option.some.injEq] at h
    subst h
    have hl : cats.length = chars.length := by
      have := Wire.allSome_length _ _ hc; simpa using this
    have hco := fillCatContinuity_contOk v cats
    refine ⟨hl, by rw [hco.1, hl], ?_, ?_⟩
    · simp only
      split <;> simp [bowTableFix, bowTable, bowGo, bowGoV_length, hl]
    · intro i c hic
      have := hco.2 i c hic
      rw [hl] at this; exact this

/-! ## candidates of a dictionary look-up or a provider: at their position, non-empty, inside the text -/

def NodeOk (o n : Nat) (x : Node) : Prop := x.b = o ∧ o < x.e ∧ x.e ≤ n

theorem isPrefix_length (a b : List Nat) (h : isPrefix a b = true) : a.length ≤ b.length := by
  induction a generalizing b with
  | nil => simp
  | cons x xs ih =>
    cases b with
    | nil => simp [isPrefix] at h
    | cons y ys =>
      simp only [isPrefix, Bool.and_eq_true] at h
      have := ih ys h.2
      simp only [List.length_cons]; omega

/-- a dictionary node at `o` starts there, is non-empty and ends inside the text, at the end of the text or where a word
may start (the `can_bow(e.end)` filter) -/
theorem lexNodes_spec {lex : List Word} {buf : Buf} {o : Nat} {x : Node} (hx : x ∈ lexNodes lex buf o) :
    NodeOk o buf.chars.length x ∧
    (buf.bow.length = buf.chars.length → x.e = buf.chars.length ∨ buf.bow[x.e]? = some true) := by
  unfold lexNodes at hx
  simp only [List.mem_filterMap, List.mem_filter, Bool.and_eq_true, Bool.not_eq_true'] at hx
  obtain ⟨w, ⟨_, hne, hpre⟩, hw⟩ := hx
  have hlen := isPrefix_length _ _ hpre
  rw [List.length_drop] at hlen
  have hpos : 0 < w.surface.length := by
    cases hs : w.surface with
    | nil => simp [hs] at hne
    | cons a r => simp
  have hok : NodeOk o buf.chars.length ⟨o, o + w.surface.length, w.l, w.r, w.c, false, 0⟩ :=
    ⟨rfl, Nat.lt_add_of_pos_right hpos, by simp only; omega⟩
  by_cases hlt : o + w.surface.length < buf.chars.length
  · rw [if_pos hlt] at hw
    cases hb : buf.bow[o + w.surface.length]? with
    | none =>
      rw [hb] at hw; cases hw
      exact ⟨hok, fun hbl => by rw [List.getElem?_eq_none_iff] at hb; omega⟩
    | some v =>
      cases v with
      | false => rw [hb] at hw; cases hw
      | true => rw [hb] at hw; cases hw; exact ⟨hok, fun _ => .inr hb⟩
  · rw [if_neg hlt] at hw; cases hw
    exact ⟨hok, fun _ => .inl (Nat.le_antisymm hok.2.2 (Nat.not_lt.mp hlt))⟩

theorem simpleProvide_ok (cfg : SimpleCfg) (buf : Buf) (o created : Nat) (nodes : List Node)
    (hbow : buf.bow.length = buf.chars.length) (ho : o < buf.chars.length) (h : simpleProvide cfg buf o created = .ok nodes) :
    ∀ x ∈ nodes, NodeOk o buf.chars.length x ∧ (x.e = buf.chars.length ∨ buf.bow[x.e]? = some true) := by
  obtain ⟨h1, h2⟩ := simpleProvide_spec cfg buf o created (hbow ▸ ho)
  by_cases hc : created = 0
  · obtain ⟨k, ⟨hk1, hk2, _, hk4⟩, hs⟩ := h2 hc
    rw [hs] at h; cases h
    intro x hx
    obtain rfl := List.mem_singleton.mp hx
    rw [hbow] at hk2 hk4
    exact ⟨⟨rfl, by simp only; omega, hk2⟩, hk4⟩
  · rw [h1 hc] at h; cases h; nofun

theorem provide_nodeOk (p : Provider) (buf : Buf) (o created : Nat) (ex nodes : List Node)
    (hbow : buf.bow.length = buf.chars.length) (hcont : ∀ c, buf.cont[o]? = some c → o + c ≤ buf.chars.length)
    (ho : o < buf.chars.length) (h : provide p buf o created ex = .ok nodes) :
    ∀ x ∈ nodes, NodeOk o buf.chars.length x := by
  intro x hx
  obtain ⟨d, _, k, rfl, hk⟩ := provide_shape p buf o created ex nodes h x hx
  exact ⟨rfl, Nat.lt_add_of_pos_right (hk hbow hcont ho).1, (hk hbow hcont ho).2⟩

theorem regexProvide_ok (cfg : RegexCfg) (buf : Buf) (o created : Nat) (ex nodes : List Node)
    (h : regexProvide cfg buf o created ex = .ok nodes) : ∀ x ∈ nodes, NodeOk o buf.chars.length x := by
  rcases regexProvide_cases cfg buf o created ex with ⟨_, hp⟩ | ⟨_, hp⟩ | ⟨_, hp⟩ | hp | ⟨k, hk, hle, _, _, hp⟩ <;>
    rw [hp] at h <;> cases h
  · nofun
  · intro x hx
    obtain rfl := List.mem_singleton.mp hx
    exact ⟨rfl, Nat.lt_add_of_pos_right (Nat.pos_of_ne_zero hk), hle⟩

/-- `provide_nodeOk` with the hypotheses about the buffer packed into `buf.WF` -/
theorem provide_ok (p : Provider) (buf : Buf) (o created : Nat) (ex nodes : List Node) (hwf : buf.WF)
    (ho : o < buf.chars.length) (h : provide p buf o created ex = .ok nodes) :
    ∀ x ∈ nodes, NodeOk o buf.chars.length x :=
  provide_nodeOk p buf o created ex nodes hwf.bow_len (fun c hc => (hwf.cont_bound o c hc).2) ho h

/-! ## OOV word id -/

theorem wid_oov (pos : Nat) (h : pos < 65536) :
    widIsOov (wordIdOov pos) = true ∧ widDic (wordIdOov pos) = 15 ∧ widWord (wordIdOov pos) % 65536 = pos := by
  unfold widIsOov widDic widWord wordIdOov
  have hlt : pos < 268435456 := Nat.lt_trans h (by decide)
  have hd : (15 * 268435456 + pos % 268435456) / 268435456 = 15 := by
    rw [Nat.mod_eq_of_lt hlt, Nat.mul_comm, Nat.mul_add_div (by decide), Nat.div_eq_of_lt hlt]
  have hm : (15 * 268435456 + pos % 268435456) % 268435456 = pos := by
    rw [Nat.mod_eq_of_lt hlt, Nat.mul_comm, Nat.mul_add_mod, Nat.mod_eq_of_lt hlt]
  exact ⟨by rw [hd]; rfl, hd, by rw [hm, Nat.mod_eq_of_lt h]⟩

end Oov
