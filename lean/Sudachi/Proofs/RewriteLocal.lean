import Sudachi.Proofs.RewriteStep
/-!
# C14: locality of the numeral loop (a building block for "the plugins commute")

The numeral joiner can be cut at a node that resets it (`joinNumeric_split`, `joinNumeric_reset_last`).  Two facts about
the loop: run on `L ++ q ++ R` from a state inside `q`, it does what it does on `q`, shifted by `L.length`, as long as it
stays inside `q` (`emb`, `nstep_emb`, `nloop_shift`); and left of the cutting node it never looks past that node
(`nstep_left`, `nloop_left`).  The katakana joiner has the same two facts: `RewriteLocalKatakana`.
-/
namespace Rewrite

/-- a node that is not a numeral candidate under any flags and re-arms both separator flags -/
def Resets (cat : List Nat) (x : Node) : Prop :=
  ∃ ct, catOfRange cat x.b x.e = some ct ∧ isNumericCat ct = false ∧ normForm x ≠ [','] ∧ normForm x ≠ ['.']

theorem resets_not_cand {cat : List Nat} {y : Node} (hy : Resets cat y) (c p : Bool) :
    ∃ ct, catOfRange cat y.b y.e = some ct ∧ isCand c p ct (normForm y) = false := by
  obtain ⟨ct, h1, h2, h3, h4⟩ := hy
  refine ⟨ct, h1, ?_⟩
  unfold isCand
  simp [h2, h3, h4]

/-! ## more fuel does not change a result that is not "out of fuel" -/

theorem nloop_fuel_mono (v : NVariant) (cfg : NCfg) (cat : List Nat) (P : List Char → POut) (fuel : Nat) (st : NState)
    (h : nloop v cfg cat P fuel st ≠ .fuel) (k : Nat) :
    nloop v cfg cat P (fuel + k) st = nloop v cfg cat P fuel st := by
  fun_induction nloop v cfg cat P fuel st with
  | case1 => exact absurd rfl h
  | case2 fuel st hg st' hs ih => rw [Nat.succ_add, nloop, if_pos hg, hs]; exact ih h
  | case3 fuel st hg hs | case4 fuel st hg hs | case5 fuel st hg hs => rw [Nat.succ_add, nloop, if_pos hg, hs]
  | case6 fuel st hg => rw [Nat.succ_add, nloop, if_neg hg]

theorem nloop_fuel_indep (v : NVariant) (cfg : NCfg) (cat : List Nat) (P : List Char → POut)
    (st : NState) (f1 f2 : Nat) (h1 : nloop v cfg cat P f1 st ≠ .fuel)
    (h2 : nloop v cfg cat P f2 st ≠ .fuel) : nloop v cfg cat P f1 st = nloop v cfg cat P f2 st := by
  rcases Nat.le_total f1 f2 with h | h
  · have := nloop_fuel_mono v cfg cat P f1 st h1 (f2 - f1)
    rw [← this]; congr 1; omega
  · have := nloop_fuel_mono v cfg cat P f2 st h2 (f1 - f2)
    rw [← this]; congr 1; omega

theorem joinNumeric_fix_of_nloop {cfg : NCfg} {cat : List Nat} {P : List Char → POut} {path q : List Node} {F : Nat}
    (h : nloop .fix cfg cat P F (nInit path) = .ok q) : joinNumeric .fix cfg cat P path = .ok q := by
  unfold joinNumeric
  rw [← h]
  exact nloop_fuel_indep .fix cfg cat P _ _ _ (joinNumeric_fix_ne_fuel cfg cat P _) (by rw [h]; intro hh; cases hh)

/-! ## embedding a state over `q` into a state over `L ++ q ++ R` -/

/-- the state `st` over `q`, seen as a state over `L ++ q ++ R`: indices shifted by `L.length`, "no run" kept -/
def emb (L R : List Node) (st : NState) : NState :=
  { path := L ++ st.path ++ R, i := st.i + L.length, beginIdx := (if st.beginIdx < 0 then st.beginIdx else st.beginIdx + L.length), comma := st.comma, period := st.period, acc := st.acc }

theorem nconcat_emb (cfg : NCfg) (P : List Char → POut) (L q R : List Node) (b e : Nat) (acc : List Char)
    (hb : b < q.length) (he : e ≤ q.length) :
    nconcat cfg P (L ++ q ++ R) (L.length + b) (L.length + e) acc =
      (nconcat cfg P q b e acc).bind fun p => .ok (L ++ p ++ R) := by
  have hf : q[b]? = some q[b] := List.getElem?_eq_getElem hb
  rw [nconcat_at ((getElem?_mid L q R b hb).trans hf), nconcat_at hf,
    show L.length + e - (L.length + b) = e - b by omega, concatNodes_emb L q R b e _ he]
  simp only [Outcome.ite_bind, Outcome.ok_bind, Nat.add_lt_add_iff_left]
  rfl

theorem emb_beginIdx_neg (L R : List Node) (st : NState) :
    (emb L R st).beginIdx < 0 ↔ st.beginIdx < 0 := by
  unfold emb
  simp only
  split <;> omega

theorem feedAcc_emb (L R : List Node) (st : NState) (node : Node) :
    feedAcc (emb L R st) node = feedAcc st node := by
  unfold feedAcc
  by_cases h : st.beginIdx < 0
  · rw [if_pos h, if_pos ((emb_beginIdx_neg L R st).mpr h)]
  · rw [if_neg h, if_neg (fun h' => h ((emb_beginIdx_neg L R st).mp h'))]; rfl

theorem runStart_emb (L R : List Node) (st : NState) :
    runStart (emb L R st) = runStart st + L.length := by
  unfold runStart
  by_cases h : st.beginIdx < 0
  · rw [if_pos h, if_pos ((emb_beginIdx_neg L R st).mpr h)]
    simp only [emb]; omega
  · rw [if_neg h, if_neg (fun h' => h ((emb_beginIdx_neg L R st).mp h'))]
    simp only [emb, if_neg h]

theorem nfeed_emb (v : NVariant) (P : List Char → POut) (L R : List Node) (st : NState) (node : Node)
    (hs : 0 ≤ runStart st) : nfeed v P (emb L R st) node = emb L R (nfeed v P st node) := by
  have e1 : ∀ x : Int, x + (L.length : Int) - 1 = x - 1 + L.length := fun x => by omega
  have e2 : (if (-1 : Int) < 0 then (-1 : Int) else -1 + L.length) = -1 := if_pos (by decide)
  have e3 : (if runStart st < 0 then runStart st else runStart st + L.length) = runStart st + L.length :=
    if_neg (by omega)
  have hc : (emb L R st).comma = st.comma := rfl
  have hp : (emb L R st).period = st.period := rfl
  unfold nfeed
  simp only [feedAcc_emb, runStart_emb, hc, hp]
  cases v <;> simp only [apply_ite (emb L R)] <;>
    simp only [emb, e1, e2, e3, Int.add_right_comm _ (1 : Int)]

theorem finState_emb (L R : List Node) (st : NState) (s : List Char) (p : List Node) (i : Int) :
    finState (emb L R st) s (L ++ p ++ R) (i + L.length) = emb L R (finState st s p i) := by
  simp only [finState, emb]
  rfl

theorem nclose_emb (cfg : NCfg) (P : List Char → POut) (L R : List Node) (st : NState) (j : Nat)
    (hb : st.beginIdx < j) (hj : j ≤ st.path.length) :
    nclose cfg P (emb L R st) ((j : Int) + L.length) =
      (nclose cfg P st j).bind fun r => .ok (L ++ r.1 ++ R, r.2 + L.length) := by
  by_cases hneg : st.beginIdx < 0
  · rw [nclose_no_run hneg, nclose_no_run ((emb_beginIdx_neg L R st).mpr hneg)]
    rfl
  · unfold nclose
    obtain ⟨b, hbe⟩ : ∃ b : Nat, st.beginIdx = (b : Int) := ⟨st.beginIdx.toNat, by omega⟩
    have eB : (emb L R st).beginIdx = ((L.length + b : Nat) : Int) := by
      simp only [emb, hbe]; omega
    have h1 : ((L.length + b : Nat) : Int) ≥ 0 := by omega
    have h2 : (b : Int) ≥ 0 := by omega
    have h3 : ¬ (L.length + j < 1) := by omega
    have h4 : ¬ j < 1 := by omega
    have ej : ((j : Int) + L.length).toNat = L.length + j := by omega
    have e5 : L.length + j - 1 = L.length + (j - 1) := by omega
    have ep : (emb L R st).path = L ++ st.path ++ R := rfl
    have ea : (emb L R st).acc = st.acc := rfl
    have hse : ∀ prev, sepErr P (emb L R st) prev = sepErr P st prev := fun _ => rfl
    have c1 := nconcat_emb cfg P L st.path R b j st.acc (by omega) hj
    have c2 := nconcat_emb cfg P L st.path R b (j - 1) st.acc (by omega) (by omega)
    simp only [eB, hbe, if_pos h1, if_pos h2, ej, Int.toNat_natCast, ep, ea, if_neg h3, if_neg h4, e5, c1, c2,
      getElem?_mid L st.path R (j - 1) (by omega), hse]
    -- the same tree of tests on both sides; the shift goes through it by the monad laws
    have ea1 : ((L.length + b : Nat) : Int) + 1 = (b : Int) + 1 + L.length := by omega
    have ea2 : ((L.length + b : Nat) : Int) + 2 = (b : Int) + 2 + L.length := by omega
    cases st.path[j - 1]? with
    | none =>
      simp only [Outcome.ite_bind, Outcome.bind_assoc, Outcome.ok_bind, ea1]
      rfl
    | some prev => simp only [Outcome.ite_bind, Outcome.bind_assoc, Outcome.ok_bind, ea1, ea2]

theorem nstep_emb (v : NVariant) (cfg : NCfg) (cat : List Nat) (P : List Char → POut) (L R : List Node)
    (st : NState) (hi : -1 ≤ st.i) (hb : st.beginIdx ≤ st.i) (hg : st.i + 1 < st.path.length) :
    nstep v cfg cat P (emb L R st) = (nstep v cfg cat P st).bind fun s => .ok (emb L R s) := by
  obtain ⟨j, hj⟩ : ∃ j : Nat, st.i + 1 = (j : Int) := ⟨(st.i + 1).toNat, by omega⟩
  have hjl : j < st.path.length := by omega
  have hn : st.path[(st.i + 1).toNat]? = some st.path[j] := by
    rw [hj, Int.toNat_natCast]; exact getElem?_pos ..
  have ei : (emb L R st).i + 1 = (j : Int) + L.length := by simp only [emb]; omega
  have hn' : (emb L R st).path[((emb L R st).i + 1).toNat]? = some st.path[j] := by
    rw [ei, show ((j : Int) + L.length).toNat = L.length + j by omega]
    exact (getElem?_mid L st.path R j hjl).trans (getElem?_pos ..)
  cases hc : catOfRange cat st.path[j].b st.path[j].e with
  | none => rw [nstep_cat_none v cfg cat P hn' hc, nstep_cat_none v cfg cat P hn hc]; rfl
  | some ct =>
    rw [nstep_at v cfg cat P (by omega) hn' hc, nstep_at v cfg cat P (by omega) hn hc]
    show (if isCand st.comma st.period ct _ = true then _ else _) = _
    by_cases hcand : isCand st.comma st.period ct (normForm st.path[j]) = true
    · rw [if_pos hcand, if_pos hcand, nfeed_emb v P L R st _ (by unfold runStart; split <;> omega)]
      rfl
    · rw [if_neg hcand, if_neg hcand, ei, hj, nclose_emb cfg P L R st j (by omega) (by omega)]
      cases nclose cfg P st j with
      | ok r => exact congrArg Outcome.ok (finState_emb L R st _ r.1 r.2)
      | err => rfl
      | panic => rfl
      | fuel => rfl

theorem ntail_emb (cfg : NCfg) (P : List Char → POut) (L : List Node) (st : NState) (hinv : NInv2 st) :
    ntail cfg P (emb L [] st) = (ntail cfg P st).bind fun p => .ok (L ++ p ++ []) := by
  obtain ⟨hi, hb, hl⟩ := hinv
  have el : (((emb L [] st).path.length : Nat) : Int) = (st.path.length : Int) + L.length := by
    simp only [emb, List.length_append, List.length_nil]; omega
  rw [ntail_eq, ntail_eq, el, nclose_emb cfg P L [] st st.path.length (by omega) (Nat.le_refl _)]
  cases nclose cfg P st st.path.length <;> rfl

theorem emb_guard (L : List Node) (st : NState) :
    ((emb L [] st).i < ((emb L [] st).path.length : Int) - 1) ↔ (st.i < (st.path.length : Int) - 1) := by
  simp only [emb, List.length_append, List.length_nil]
  omega

theorem nloop_shift (v : NVariant) (cfg : NCfg) (cat : List Nat) (P : List Char → POut) (L : List Node) :
    ∀ (fuel : Nat) (st : NState), NInv2 st →
      nloop v cfg cat P fuel (emb L [] st) = (nloop v cfg cat P fuel st).bind fun p => .ok (L ++ p) := by
  intro fuel
  induction fuel with
  | zero => intro st _; rfl
  | succ fuel ih =>
    intro st hinv
    unfold nloop
    by_cases hg : st.i < (st.path.length : Int) - 1
    · simp only [if_pos hg, if_pos ((emb_guard L st).mpr hg)]
      rw [nstep_emb v cfg cat P L [] st hinv.1 hinv.2.1 (by omega)]
      cases hs : nstep v cfg cat P st with
      | ok st' => exact ih st' (nstep_inv2 hs hinv.inv (by omega))
      | err => rfl
      | panic => rfl
      | fuel => rfl
    · simp only [if_neg hg, if_neg (fun h => hg ((emb_guard L st).mp h))]
      rw [ntail_emb cfg P L st hinv]
      cases ntail cfg P st <;> simp [Outcome.bind]

/-! ## the accumulated characters are irrelevant while no run is open -/

/-- the accumulated characters replaced: what a state carries over from a closed run -/
def setAcc (a : List Char) (st : NState) : NState := { st with acc := a }

theorem nstep_acc (v : NVariant) (cfg : NCfg) (cat : List Nat) (P : List Char → POut) (st : NState)
    (a' : List Char) (hneg : st.beginIdx < 0) :
    nstep v cfg cat P (setAcc a' st) = nstep v cfg cat P st ∨
      ∃ s, nstep v cfg cat P st = .ok s ∧ s.beginIdx < 0 ∧
        nstep v cfg cat P (setAcc a' st) = .ok (setAcc a' s) := by
  by_cases hi : st.i + 1 < 0
  · exact .inl ((nstep_no_node (st := setAcc a' st) v cfg cat P (.inl hi)).trans
      (nstep_no_node v cfg cat P (.inl hi)).symm)
  cases hn : st.path[(st.i + 1).toNat]? with
  | none =>
    exact .inl ((nstep_no_node (st := setAcc a' st) v cfg cat P (.inr hn)).trans
      (nstep_no_node v cfg cat P (.inr hn)).symm)
  | some node =>
    cases hc : catOfRange cat node.b node.e with
    | none =>
      exact .inl ((nstep_cat_none (st := setAcc a' st) v cfg cat P hn hc).trans
        (nstep_cat_none v cfg cat P hn hc).symm)
    | some ct =>
      have h0 : 0 ≤ st.i + 1 := by omega
      have hs' : nstep v cfg cat P (setAcc a' st) =
          if isCand st.comma st.period ct (normForm node) then .ok (nfeed v P (setAcc a' st) node)
          else (nclose cfg P (setAcc a' st) (st.i + 1)).bind fun r =>
            .ok (finState (setAcc a' st) (normForm node) r.1 r.2) :=
        nstep_at (st := setAcc a' st) v cfg cat P h0 hn hc
      rw [hs', nstep_at v cfg cat P h0 hn hc]
      by_cases hcand : isCand st.comma st.period ct (normForm node) = true
      · -- a run starts here: the parser is cleared, the old characters are dropped
        left
        rw [if_pos hcand, if_pos hcand]
        have e : feedAcc (setAcc a' st) node = feedAcc st node := by
          unfold feedAcc
          rw [if_pos hneg, if_pos (show (setAcc a' st).beginIdx < 0 from hneg)]
        unfold nfeed
        rw [e]
        rfl
      · -- nothing to close: the characters are carried along untouched
        right
        rw [if_neg hcand, if_neg hcand]
        rw [nclose_no_run hneg, nclose_no_run (show (setAcc a' st).beginIdx < 0 from hneg)]
        exact ⟨_, rfl, (by decide : (-1 : Int) < 0), rfl⟩

theorem nloop_acc (v : NVariant) (cfg : NCfg) (cat : List Nat) (P : List Char → POut) :
    ∀ (fuel : Nat) (st : NState) (a' : List Char), st.beginIdx < 0 →
      nloop v cfg cat P fuel (setAcc a' st) = nloop v cfg cat P fuel st := by
  intro fuel
  induction fuel with
  | zero => intro st a' _; rfl
  | succ fuel ih =>
    intro st a' hneg
    unfold nloop
    have e1 : (setAcc a' st).i = st.i := rfl
    have e2 : (setAcc a' st).path = st.path := rfl
    rw [e1, e2]
    by_cases hg : st.i < (st.path.length : Int) - 1
    · simp only [if_pos hg]
      rcases nstep_acc v cfg cat P st a' hneg with h | ⟨s, hs, hsn, hs'⟩
      · rw [h]
      · rw [hs, hs']
        exact ih s a' hsn
    · simp only [if_neg hg]
      rw [ntail_no_run hneg, ntail_no_run (show (setAcc a' st).beginIdx < 0 from hneg)]
      rfl

/-! ## the index never jumps over an unprocessed node -/

/-- closing makes the index fall back by no more than the path gets shorter — unless the run is the separator alone
that the parser is stuck on, which `NOne` excludes for a parser that rejects a leading separator -/
theorem nstep_noskip {v : NVariant} {cfg : NCfg} {cat : List Nat} {P : List Char → POut} {st st' : NState}
    (hP : SepNotFirst P) (h : nstep v cfg cat P st = .ok st') (hinv : NInv st) (hone : NOne P st) :
    (st.path.length : Int) - st.i - 1 ≤ (st'.path.length : Int) - st'.i := by
  obtain ⟨hi, hb⟩ := hinv
  have hs : 0 ≤ runStart st ∧ runStart st ≤ st.i + 1 := runStart_bounds ⟨hi, hb⟩
  rcases nstep_cases h with h | ⟨node, hn, h | h⟩
  · cases h
  · cases h
    rw [nfeed_path]
    rcases nfeed_cases v P st node with ⟨-, e1, -⟩ | ⟨-, -, ⟨e1, -⟩ | ⟨e1, -⟩ | ⟨e1, -⟩⟩ <;> omega
  · obtain ⟨r, hc, hr⟩ := Outcome.bind_eq_ok h.symm
    cases hr
    show _ ≤ (r.1.length : Int) - r.2
    rcases nclose_cases hc with hc | ⟨h0, -, hc⟩ | ⟨h0, -, h1, prev, hp, hse, hc⟩ | ⟨hc, -⟩
    · cases hc; simp only; omega
    · obtain ⟨p', hq, hr⟩ := Outcome.bind_eq_ok hc.symm
      cases hr
      have := nconcat_length hq
      simp only; omega
    · obtain ⟨p', hq, hr⟩ := Outcome.bind_eq_ok hc.symm
      cases hr
      have := nconcat_length hq
      have hne : st.beginIdx ≠ st.i := fun heq => by
        rw [show (st.i + 1).toNat - 1 = st.i.toNat by omega] at hp
        obtain ⟨node, hn', hacc, hlen⟩ := hone h0 heq
        rw [hp] at hn'
        cases hn'
        exact sep_not_accepted hP hse hacc hlen
      simp only; omega
    · cases hc

/-! ## the left segment: a state over `p`, run over `p ++ R` -/

/-- `emb [] R` (`emb_nil_left`): the same state over a path with `R` appended -/
def ext (R : List Node) (st : NState) : NState := { st with path := st.path ++ R }

theorem emb_nil_left (R : List Node) (st : NState) : emb [] R st = ext R st := by
  obtain ⟨path, i, bi, comma, period, acc⟩ := st
  simp only [emb, ext, List.nil_append, List.length_nil, NState.mk.injEq, true_and, and_true]
  constructor
  · omega
  · split <;> omega

theorem nstep_ext (v : NVariant) (cfg : NCfg) (cat : List Nat) (P : List Char → POut) (R : List Node)
    (st : NState) (hi : -1 ≤ st.i) (hb : st.beginIdx ≤ st.i) (hg : st.i + 1 < st.path.length) :
    nstep v cfg cat P (ext R st) = (nstep v cfg cat P st).bind fun s => .ok (ext R s) := by
  have := nstep_emb v cfg cat P [] R st hi hb hg
  simp only [emb_nil_left] at this
  exact this

theorem nclose_ext (cfg : NCfg) (P : List Char → POut) (R : List Node) (st : NState) (j : Nat)
    (hb : st.beginIdx < j) (hj : j ≤ st.path.length) :
    nclose cfg P (ext R st) j = (nclose cfg P st j).bind fun r => .ok (r.1 ++ R, r.2) := by
  have := nclose_emb cfg P [] R st j hb hj
  simp only [emb_nil_left, List.nil_append, List.length_nil, Int.natCast_zero, Int.add_zero] at this
  exact this

/-! ## after a resetting node both separator flags are armed -/

theorem foldl_utf8Width_ge (s : List Char) : ∀ a, a + s.length ≤ s.foldl (fun a c => a + utf8Width c) a := by
  induction s with
  | nil => intro a; simp
  | cons c t ih =>
    intro a
    simp only [List.foldl_cons, List.length_cons]
    have := ih (a + utf8Width c)
    have hw : 1 ≤ utf8Width c := by
      unfold utf8Width
      repeat' split
      all_goals omega
    omega

theorem rearm_char (s : List Char) (ch : Char) (hs : s ≠ [ch]) :
    (if utf8Len s == 1 then s.head? else none) ≠ some ch := by
  intro h
  split at h
  · rename_i h1
    have h1' : utf8Len s = 1 := by simpa using h1
    cases s with
    | nil => cases h
    | cons c t =>
      simp only [List.head?_cons, Option.some.injEq] at h
      subst h
      have := foldl_utf8Width_ge (c :: t) 0
      unfold utf8Len at h1'
      rw [h1'] at this
      simp only [List.length_cons] at this
      have : t = [] := List.eq_nil_of_length_eq_zero (by omega)
      subst this
      exact hs rfl
  · cases h

theorem rearm_flag (f : Bool) (c : Option Char) (ch : Char) (hc : c ≠ some ch) :
    (if (!f && c != some ch) = true then true else f) = true := by
  cases f
  · simp [hc]
  · simp

theorem finState_resets (st : NState) {s : List Char} (hs1 : s ≠ [',']) (hs2 : s ≠ ['.']) (p : List Node)
    (i : Int) :
    finState st s p i = { path := p, i := i, beginIdx := -1, comma := true, period := true, acc := st.acc } := by
  simp only [finState, rearm_flag st.comma _ ',' (rearm_char s ',' hs1),
    rearm_flag st.period _ '.' (rearm_char s '.' hs2)]

/-- what the loop does when it processes a resetting node that directly follows the path of `st`: the open
run is closed -/
def xstep (cfg : NCfg) (P : List Char → POut) (st : NState) : Outcome NState :=
  (nclose cfg P st (st.i + 1)).bind fun r =>
    .ok { path := r.1, i := r.2, beginIdx := -1, comma := true, period := true, acc := st.acc }

theorem xstep_flags {cfg : NCfg} {P : List Char → POut} {st s : NState} (h : xstep cfg P st = .ok s) :
    s.beginIdx = -1 ∧ s.comma = true ∧ s.period = true := by
  obtain ⟨r, -, hr⟩ := Outcome.bind_eq_ok h
  cases hr
  exact ⟨rfl, rfl, rfl⟩

theorem nstep_at_resetting (v : NVariant) (cfg : NCfg) (cat : List Nat) (P : List Char → POut) (y : Node)
    (T : List Node) (st : NState) (hy : Resets cat y) (hb : st.beginIdx ≤ st.i)
    (hlen : st.i + 1 = st.path.length) :
    nstep v cfg cat P (ext (y :: T) st) = (xstep cfg P st).bind fun s => .ok (ext (y :: T) s) := by
  obtain ⟨ct, hct, hnum, hs1, hs2⟩ := hy
  have hn : (ext (y :: T) st).path[((ext (y :: T) st).i + 1).toNat]? = some y := by
    show (st.path ++ y :: T)[(st.i + 1).toNat]? = some y
    rw [hlen, Int.toNat_natCast, List.getElem?_append_right (Nat.le_refl _), Nat.sub_self]
    rfl
  have hcand : isCand st.comma st.period ct (normForm y) = false := by
    simp [isCand, hnum, hs1, hs2]
  rw [nstep_at v cfg cat P (by show 0 ≤ st.i + 1; omega) hn hct]
  show (if isCand st.comma st.period ct (normForm y) = true then _ else
    (nclose cfg P (ext (y :: T) st) (st.i + 1)).bind _) = _
  unfold xstep
  rw [hcand, if_neg (by decide), hlen,
    nclose_ext cfg P (y :: T) st st.path.length (by omega) (Nat.le_refl _)]
  rw [Outcome.bind_assoc, Outcome.bind_assoc]
  exact Outcome.bind_congr fun r _ => congrArg Outcome.ok (finState_resets _ hs1 hs2 _ _)

/-- invariant of the run over the left segment (`st` is the state without the resetting node) -/
def LInv (P : List Char → POut) (st : NState) : Prop :=
  -1 ≤ st.i ∧ st.beginIdx ≤ st.i ∧ st.i ≤ st.path.length ∧
    (st.i = st.path.length → st.beginIdx = -1 ∧ st.comma = true ∧ st.period = true) ∧ NOne P st

theorem NOne.ext {P : List Char → POut} (R : List Node) (st : NState) (hone : NOne P st)
    (hi : st.i < st.path.length) : NOne P (ext R st) := by
  intro h0 h1
  -- `h0'`, `h1'` are for `omega` below: the index is not negative
  have h0' : 0 ≤ st.beginIdx := h0
  have h1' : st.beginIdx = st.i := h1
  obtain ⟨node, hn, ha⟩ := hone h0 h1
  refine ⟨node, ?_, ha⟩
  show (st.path ++ R)[st.i.toNat]? = some node
  rw [List.getElem?_append_left (by omega)]
  exact hn

theorem ext_guard (y : Node) (T : List Node) (st : NState) (h : st.i < st.path.length) :
    (ext (y :: T) st).i < ((ext (y :: T) st).path.length : Int) - 1 := by
  simp only [ext, List.length_append, List.length_cons]
  omega

theorem handoff_eq (path : List Node) (acc : List Char) (x' : Node) (B' : List Node) :
    ext (x' :: B') { path := path, i := path.length, beginIdx := -1, comma := true, period := true, acc := acc } =
      setAcc acc (emb (path ++ [x']) [] (nInit B')) := by
  simp only [ext, setAcc, emb, nInit, NState.mk.injEq, List.length_append, List.length_singleton,
    List.append_nil, List.append_assoc, List.singleton_append, true_and, and_true]
  constructor
  · omega
  · simp

/-- one iteration at a node left of the resetting node or at the resetting node itself: the new state is
the same whichever resetting node stands there and whatever follows it, and it keeps the invariant -/
theorem nstep_left {v : NVariant} {cfg : NCfg} {cat : List Nat} {P : List Char → POut} (hP : SepNotFirst P)
    {x : Node} (hx : Resets cat x) {st t : NState} (hinv : LInv P st) (hlt : st.i < st.path.length)
    (h : nstep v cfg cat P (ext [x] st) = .ok t) :
    ∃ s, t = ext [x] s ∧ LInv P s ∧ ∀ (x' : Node) (B' : List Node), Resets cat x' →
      nstep v cfg cat P (ext (x' :: B') st) = .ok (ext (x' :: B') s) := by
  obtain ⟨hi, hb, hle, hfl, hone⟩ := hinv
  by_cases hin : st.i + 1 < st.path.length
  · -- a node strictly left of the resetting node
    rw [nstep_ext v cfg cat P [x] st hi hb hin] at h
    obtain ⟨s, hs, ht⟩ := Outcome.bind_eq_ok h
    cases ht
    have hi2 := nstep_inv2 hs ⟨hi, hb⟩ hin
    have kk := nstep_noskip hP hs ⟨hi, hb⟩ hone
    have hone' := nstep_one v cfg cat P st s ⟨hi, hb⟩ hs
    refine ⟨s, rfl, ⟨hi2.1, hi2.2.1, by omega, by intro hh; omega, hone'⟩, fun x' B' _ => ?_⟩
    rw [nstep_ext v cfg cat P (x' :: B') st hi hb hin, hs]
    rfl
  · -- the resetting node itself: the step on `ext [x] st` gives the bounds, `xstep` the flags
    have hlen : st.i + 1 = st.path.length := by omega
    have hpl : ∀ u : NState, ((ext [x] u).path.length : Int) = u.path.length + 1 := fun u => by
      simp only [ext, List.length_append, List.length_singleton]; omega
    have hinv2 : NInv2 (ext [x] st) := ⟨hi, hb, fun _ => by rw [hpl]; show st.i < _; omega⟩
    have hi2 := nstep_inv2 h hinv2.inv (by rw [hpl]; show st.i + 1 < _; omega)
    have kk := nstep_noskip hP h hinv2.inv (NOne.ext [x] st hone hlt)
    rw [nstep_at_resetting v cfg cat P x [] st hx hb hlen] at h
    obtain ⟨s, hs, ht⟩ := Outcome.bind_eq_ok h
    cases ht
    have flags := xstep_flags hs
    rw [hpl, hpl] at kk
    have kk : (st.path.length : Int) + 1 - st.i - 1 ≤ (s.path.length : Int) + 1 - s.i := kk
    have hsi : -1 ≤ s.i := hi2.1
    refine ⟨s, rfl, ⟨hsi, by have := flags.1; omega, by omega, fun _ => flags,
      by intro h0; have := flags.1; omega⟩, fun x' B' hx' => ?_⟩
    rw [nstep_at_resetting v cfg cat P x' B' st hx' hb hlen, hs]
    rfl

/-- LEFT: the run over `p ++ [x]` and the run over `p ++ x' :: B'` do the same up to the resetting node;
after it the second one is the run over `B'`, shifted -/
theorem nloop_left (v : NVariant) (cfg : NCfg) (cat : List Nat) (P : List Char → POut)
    (hP : SepNotFirst P) (x : Node) (hx : Resets cat x) :
    ∀ (fuel : Nat) (st : NState) (a : List Node), LInv P st →
      nloop v cfg cat P fuel (ext [x] st) = .ok a →
      ∃ a0, a = a0 ++ [x] ∧ ∀ (x' : Node) (B' : List Node) (K : Nat) (b : List Node), Resets cat x' →
        nloop v cfg cat P K (nInit B') = .ok b →
        nloop v cfg cat P (fuel + K) (ext (x' :: B') st) = .ok (a0 ++ x' :: b) := by
  intro fuel
  induction fuel with
  | zero => intro st a _ h; simp [nloop] at h
  | succ fuel ih =>
    intro st a hinv h
    by_cases hend : st.i = st.path.length
    · -- the resetting node has been processed: hand over
      obtain ⟨hbi, hcm, hpd⟩ := hinv.2.2.2.1 hend
      have ng : ¬ ((ext [x] st).i < ((ext [x] st).path.length : Int) - 1) := by
        simp only [ext, List.length_append, List.length_singleton]; omega
      have hnb : (ext [x] st).beginIdx < 0 := by
        show st.beginIdx < 0
        omega
      unfold nloop at h
      rw [if_neg ng, ntail_no_run hnb] at h
      cases h
      obtain ⟨path, i, bi, comma, period, acc⟩ := st
      simp only at hend hbi hcm hpd
      subst hend hbi hcm hpd
      refine ⟨path, rfl, ?_⟩
      intro x' B' K b _ hb'
      rw [handoff_eq]
      have hval : nloop v cfg cat P K (setAcc acc (emb (path ++ [x']) [] (nInit B'))) =
          .ok (path ++ x' :: b) := by
        rw [nloop_acc v cfg cat P K _ acc (by simp [emb, nInit]),
          nloop_shift v cfg cat P (path ++ [x']) K (nInit B') (nInit_inv2 B'), hb']
        simp [Outcome.bind]
      rw [Nat.add_comm (fuel + 1) K,
        nloop_fuel_mono v cfg cat P K _ (by rw [hval]; intro hh; cases hh) (fuel + 1), hval]
    · have hlt : st.i < st.path.length := by have := hinv.2.2.1; omega
      unfold nloop at h
      simp only [if_pos (ext_guard x [] st hlt)] at h
      cases hs : nstep v cfg cat P (ext [x] st) with
      | ok t =>
        rw [hs] at h
        obtain ⟨s, rfl, hinv', hstep⟩ := nstep_left hP hx hinv hlt hs
        obtain ⟨a0, ha, hrest⟩ := ih s a hinv' h
        refine ⟨a0, ha, fun x' B' K b hx' hb' => ?_⟩
        rw [show fuel + 1 + K = (fuel + K) + 1 by omega]
        unfold nloop
        simp only [if_pos (ext_guard x' B' st hlt)]
        rw [hstep x' B' hx']
        exact hrest x' B' K b hx' hb'
      | err => rw [hs] at h; cases h
      | panic => rw [hs] at h; cases h
      | fuel => rw [hs] at h; cases h

theorem LInv_init (P : List Char → POut) (A : List Node) : LInv P (nInit A) := by
  refine ⟨by simp [nInit], by simp [nInit], by simp only [nInit]; omega, ?_, ?_⟩
  · intro h; simp only [nInit] at h; omega
  · intro h0; simp only [nInit] at h0; omega

theorem ext_init (A R : List Node) : ext R (nInit A) = nInit (A ++ R) := rfl

theorem nloop_split (v : NVariant) (cfg : NCfg) (cat : List Nat) (P : List Char → POut)
    (hP : SepNotFirst P) (A B : List Node) (x : Node) (hx : Resets cat x) (a b : List Node)
    (F1 F2 : Nat) (ha : nloop v cfg cat P F1 (nInit (A ++ [x])) = .ok a)
    (hb : nloop v cfg cat P F2 (nInit B) = .ok b) :
    nloop v cfg cat P (F1 + F2) (nInit (A ++ x :: B)) = .ok (a ++ b) := by
  rw [← ext_init] at ha
  obtain ⟨a0, rfl, hrest⟩ := nloop_left v cfg cat P hP x hx F1 (nInit A) a (LInv_init P A) ha
  have := hrest x B F2 b hx hb
  rw [ext_init] at this
  rw [this]
  simp

theorem nloop_reset_last (v : NVariant) (cfg : NCfg) (cat : List Nat) (P : List Char → POut)
    (hP : SepNotFirst P) (A : List Node) (x : Node) (hx : Resets cat x) (a : List Node) (F : Nat)
    (ha : nloop v cfg cat P F (nInit (A ++ [x])) = .ok a) :
    ∃ a0, a = a0 ++ [x] ∧ ∀ x', Resets cat x' →
      nloop v cfg cat P (F + 1) (nInit (A ++ [x'])) = .ok (a0 ++ [x']) := by
  rw [← ext_init] at ha
  obtain ⟨a0, rfl, hrest⟩ := nloop_left v cfg cat P hP x hx F (nInit A) a (LInv_init P A) ha
  refine ⟨a0, rfl, ?_⟩
  intro x' hx'
  have h1 : nloop v cfg cat P 1 (nInit []) = .ok [] := by
    unfold nloop
    rw [if_neg (by simp [nInit]), ntail_no_run (by simp [nInit])]
    rfl
  have := hrest x' [] 1 [] hx' h1
  rw [ext_init] at this
  exact this

/-- without `SepNotFirst P` (the parser rejects a separator as first character) the statement is false:
`C14.numeral_cut_needs_sep_not_first_counterexample` -/
theorem joinNumeric_split (cfg : NCfg) (cat : List Nat) (P : List Char → POut) (hP : SepNotFirst P)
    (A B : List Node) (x : Node) (hx : Resets cat x) (a b : List Node)
    (ha : joinNumeric .fix cfg cat P (A ++ [x]) = .ok a) (hb : joinNumeric .fix cfg cat P B = .ok b) :
    joinNumeric .fix cfg cat P (A ++ x :: B) = .ok (a ++ b) :=
  joinNumeric_fix_of_nloop (nloop_split .fix cfg cat P hP A B x hx a b _ _ ha hb)

theorem joinNumeric_reset_last (cfg : NCfg) (cat : List Nat) (P : List Char → POut) (hP : SepNotFirst P)
    (A : List Node) (x : Node) (hx : Resets cat x) (a : List Node)
    (ha : joinNumeric .fix cfg cat P (A ++ [x]) = .ok a) :
    ∃ a0, a = a0 ++ [x] ∧ ∀ x', Resets cat x' →
      joinNumeric .fix cfg cat P (A ++ [x']) = .ok (a0 ++ [x']) := by
  obtain ⟨a0, ha0, hrest⟩ := nloop_reset_last .fix cfg cat P hP A x hx a _ ha
  exact ⟨a0, ha0, fun x' hx' => joinNumeric_fix_of_nloop (hrest x' hx')⟩

/-! ## why `SepNotFirst` is needed: a parser that accepts a lone `,` makes the loop jump over a node (the data of
`C14.numeral_cut_needs_sep_not_first_counterexample`) -/

def cxNode (b : Nat) (s : List Char) : Node :=
  { b := b, e := b + 1, bb := b, eb := b + 1, wid := 0, tc := 0, left := 0, right := 0, cost := 0, pos := 0, hwl := 0, dfw := -1, aSplit := [], bSplit := [], wStruct := [], syn := [], surface := s, norm := [], reading := [], dform := [] }

def cxP (s : List Char) : POut :=
  if s == [','] then { n := 1, err := E_COMMA, done := false, norm := [] }
  else { n := s.length, err := 0, done := true, norm := s }

def cxCfg : NCfg := { numPos := 0, enableNormalize := false }
def cxCat : List Nat := [0, 0, 16, 16]
def cxLen (o : Outcome (List Node)) : Option Nat :=
  match o with
  | .ok p => some p.length
  | _ => none

end Rewrite
