import Sudachi.Proofs.RewriteCoarsens
/-!
# C14: what the two loops share — the `Outcome` monad, blocks of a path, the concatenation functions

`block path b e` is the slice both concatenation functions replace.  `concat_nodes` and `concat_oov_nodes` are one
function `concatWith mk` up to the node they build (`Merges mk`: what both constructors agree on), and a successful call is a
coarsening for any block relation the new node satisfies; `RN` and `RK` are the relations of the two plugins.
-/
namespace Rewrite

variable {R : List Node → Node → Prop}

/-! ## the `Outcome` monad -/

theorem Outcome.bind_eq_ok {α β : Type} {x : Outcome α} {f : α → Outcome β} {b : β}
    (h : x.bind f = .ok b) : ∃ a, x = .ok a ∧ f a = .ok b := by
  cases x with
  | ok a => exact ⟨a, rfl, h⟩
  | err => cases h
  | panic => cases h
  | fuel => cases h

theorem Outcome.bind_ne_fuel {α β : Type} (x : Outcome α) (f : α → Outcome β) (hx : x ≠ .fuel)
    (hf : ∀ a, f a ≠ .fuel) : x.bind f ≠ .fuel := by
  cases x with
  | ok a => exact hf a
  | err => intro h; cases h
  | panic => intro h; cases h
  | fuel => exact absurd rfl hx

theorem Outcome.bind_assoc {α β γ : Type} (x : Outcome α) (f : α → Outcome β) (g : β → Outcome γ) :
    (x.bind f).bind g = x.bind fun a => (f a).bind g := by
  cases x <;> rfl

theorem Outcome.ok_bind {α β : Type} (a : α) (f : α → Outcome β) : (Outcome.ok a).bind f = f a := rfl

theorem Outcome.ite_bind {α β : Type} (c : Prop) [Decidable c] (x y : Outcome α) (g : α → Outcome β) :
    (if c then x else y).bind g = if c then x.bind g else y.bind g := by
  split <;> rfl

theorem Outcome.bind_congr {α β : Type} {x : Outcome α} {f g : α → Outcome β}
    (h : ∀ a, x = .ok a → f a = g a) : x.bind f = x.bind g := by
  cases x with
  | ok a => exact h a rfl
  | err => rfl
  | panic => rfl
  | fuel => rfl

theorem Outcome.bind_ok_eq_err {α β : Type} {x : Outcome α} {g : α → β}
    (h : (x.bind fun a => .ok (g a)) = .err) : x = .err := by
  cases x with
  | err => rfl
  | ok a => cases h
  | panic => cases h
  | fuel => cases h

/-! ## blocks of a path -/

theorem block_decomp (path : List Node) (b e : Nat) (hbe : b ≤ e) :
    path = path.take b ++ block path b e ++ path.drop e := by
  unfold block
  have h1 : (path.drop b).take (e - b) ++ path.drop e = path.drop b := by
    have : path.drop e = (path.drop b).drop (e - b) := by
      rw [List.drop_drop]; congr 1; omega
    rw [this, List.take_append_drop]
  rw [List.append_assoc, h1, List.take_append_drop]

theorem block_head (path : List Node) (b e : Nat) (hbe : b < e) (f : Node) (hf : path[b]? = some f) :
    (block path b e).head? = some f := by
  unfold block
  rw [List.head?_take, if_neg (by omega), List.head?_drop, hf]

theorem block_getLast (path : List Node) (b e : Nat) (hbe : b < e) (l : Node) (hl : path[e - 1]? = some l) :
    (block path b e).getLast? = some l := by
  have hlen : e - 1 < path.length := (List.getElem?_eq_some_iff.mp hl).1
  unfold block
  rw [List.getLast?_eq_getElem?, List.length_take, List.length_drop,
    List.getElem?_take, if_pos (by omega), List.getElem?_drop]
  have : b + (min (e - b) (path.length - b) - 1) = e - 1 := by omega
  rw [this, hl]

theorem block_first (path : List Node) (b e : Nat) (hbe : b < e) (f : Node) (hf : path[b]? = some f) :
    firstB (block path b e) = some (f.b, f.bb) := by
  rw [firstB, block_head path b e hbe f hf]
  rfl

theorem block_last (path : List Node) (b e : Nat) (hbe : b < e) (l : Node) (hl : path[e - 1]? = some l) :
    lastE (block path b e) = some (l.e, l.eb) := by
  rw [lastE, block_getLast path b e hbe l hl]
  rfl

theorem block_length (path : List Node) (b e : Nat) (he : e ≤ path.length) :
    (block path b e).length = e - b := by
  unfold block
  rw [List.length_take, List.length_drop]
  omega

theorem block_single (path : List Node) (k : Nat) (n : Node) (h : path[k]? = some n) :
    block path k (k + 1) = [n] := by
  unfold block
  rw [show k + 1 - k = 1 by omega, List.take_one, List.head?_drop, h]
  rfl

theorem block_snoc (path : List Node) (b e : Nat) (n : Node) (hbe : b ≤ e) (h : path[e]? = some n) :
    block path b (e + 1) = block path b e ++ [n] := by
  unfold block
  have hlen : e < path.length := (List.getElem?_eq_some_iff.mp h).1
  rw [show e + 1 - b = (e - b) + 1 by omega, List.take_add_one, List.getElem?_drop,
    show b + (e - b) = e by omega, h]
  rfl

theorem block_past (path : List Node) (b e : Nat) (he : path.length ≤ e) :
    block path b e = block path b path.length := by
  unfold block
  rw [List.take_of_length_le (by simp; omega), List.take_of_length_le (by simp)]

theorem block_head_run (f : Node) (run rest : List Node) :
    block (f :: run ++ rest) 0 (run.length + 1) = f :: run := by
  unfold block
  simp

theorem mem_block {path : List Node} {b e : Nat} {n : Node} (h : n ∈ block path b e) : n ∈ path :=
  List.mem_of_mem_drop (List.mem_of_mem_take h)

theorem block_of_decomp (a m c : List Node) {b e : Nat} (hb : b = a.length) (he : e = b + m.length) :
    block (a ++ m ++ c) b e = m := by
  subst hb he
  unfold block
  rw [List.append_assoc, List.drop_left', Nat.add_sub_cancel_left, List.take_left']
  · rfl
  · rfl

theorem getElem?_mid (a m c : List Node) (k : Nat) (hk : k < m.length) :
    (a ++ m ++ c)[a.length + k]? = m[k]? := by
  rw [List.getElem?_append_left (by simp only [List.length_append]; omega),
    List.getElem?_append_right (by omega)]
  congr 1
  omega

theorem block_append_left (pre r : List Node) (b0 e : Nat) (he : e ≤ pre.length) :
    block (pre ++ r) b0 e = block pre b0 e := by
  unfold block
  by_cases hb : b0 ≤ e
  · rw [List.drop_append_of_le_length (by omega), List.take_append_of_le_length]
    simp only [List.length_drop]; omega
  · have : e - b0 = 0 := by omega
    rw [this]; rfl

theorem block_shift (pre q : List Node) (b e : Nat) :
    block (pre ++ q) (pre.length + b) (pre.length + e) = block q b e := by
  unfold block
  rw [List.drop_length_add_append, Nat.add_sub_add_left]

/-! ## the summed head-word length of a block -/

theorem foldl_hwl (l : List Node) : ∀ x : Nat, l.foldl (fun a n => a + n.hwl) x = x + sumHwl l := by
  unfold sumHwl
  induction l with
  | nil => intro x; rfl
  | cons a l ih =>
    intro x
    simp only [List.foldl_cons]
    rw [ih (x + a.hwl), ih (0 + a.hwl)]
    omega

theorem sumHwl_cons (a : Node) (l : List Node) : sumHwl (a :: l) = a.hwl + sumHwl l := by
  have := foldl_hwl l (0 + a.hwl)
  unfold sumHwl at this ⊢
  simp only [List.foldl_cons]
  omega

theorem sumHwl_append (a b : List Node) : sumHwl (a ++ b) = sumHwl a + sumHwl b := by
  induction a with
  | nil => simp [sumHwl]
  | cons x a ih => rw [List.cons_append, sumHwl_cons, sumHwl_cons, ih]; omega

theorem sumHwl_split (p : List Node) {b e : Nat} (hbe : b ≤ e) :
    sumHwl p = sumHwl (p.take b) + (sumHwl (block p b e) + sumHwl (p.drop e)) := by
  rw [← sumHwl_append, ← sumHwl_append, ← List.append_assoc, ← block_decomp p b e hbe]

theorem sumHwl_block_le (p : List Node) {b e : Nat} (hbe : b ≤ e) : sumHwl (block p b e) ≤ sumHwl p := by
  rw [sumHwl_split p hbe]
  exact Nat.le_trans (Nat.le_add_right _ _) (Nat.le_add_left _ _)

/-- replacing a block by one node that carries the block's sum keeps the total -/
theorem sumHwl_splice (p : List Node) {b e : Nat} (hbe : b ≤ e) {n : Node} (hn : n.hwl = sumHwl (block p b e)) :
    sumHwl (p.take b ++ n :: p.drop e) = sumHwl p := by
  rw [sumHwl_split p hbe, sumHwl_append, sumHwl_cons, hn]

/-! ## the two concatenation functions -/

/-- `concat_nodes` and `concat_oov_nodes` are one function up to the node they put in place of the block,
built from its first node, its last node and the block itself -/
def concatWith (mk : Node → Node → List Node → Node) (path : List Node) (b e : Nat) : Outcome (List Node) :=
  if b ≥ e then .err
  else match path[e - 1]?, path[b]? with
    | some l, some f =>
      if l.eb < f.bb then .panic
      else if sumHwl (block path b e) ≥ 65536 then .panic
      else .ok (path.take b ++ mk f l (block path b e) :: path.drop e)
    | _, _ => .panic

theorem concatNodes_eq (path : List Node) (b e : Nat) (nf : Option (List Char)) :
    concatNodes path b e nf = concatWith (mergedNode · · · nf) path b e := rfl

theorem concatOovNodes_eq (path : List Node) (b e posId : Nat) :
    concatOovNodes path b e posId = concatWith (mergedOovNode · · · posId) path b e := rfl

theorem concatWith_at {mk : Node → Node → List Node → Node} {path : List Node} {b e : Nat} {f l : Node}
    (hbe : b < e) (hf : path[b]? = some f) (hl : path[e - 1]? = some l) :
    concatWith mk path b e =
      if l.eb < f.bb ∨ sumHwl (block path b e) ≥ 65536 then .panic
      else .ok (path.take b ++ mk f l (block path b e) :: path.drop e) := by
  unfold concatWith
  rw [if_neg (by omega), hl, hf]
  by_cases h1 : l.eb < f.bb
  · simp only [if_pos h1, if_pos (Or.inl h1 : _ ∨ sumHwl (block path b e) ≥ 65536)]
  · simp only [h1, false_or, if_false]

theorem concatWith_cases (mk : Node → Node → List Node → Node) (path : List Node) (b e : Nat) :
    concatWith mk path b e = .err ∨ concatWith mk path b e = .panic ∨
      ∃ f l, b < e ∧ e ≤ path.length ∧ path[b]? = some f ∧ path[e - 1]? = some l ∧
        concatWith mk path b e = .ok (path.take b ++ mk f l (block path b e) :: path.drop e) := by
  by_cases hbe : b ≥ e
  · exact .inl (if_pos hbe)
  · cases hl : path[e - 1]? with
    | none => right; left; rw [concatWith, if_neg hbe, hl]
    | some l =>
      cases hf : path[b]? with
      | none => right; left; rw [concatWith, if_neg hbe, hl, hf]
      | some f =>
        rw [concatWith_at (by omega) hf hl]
        have := (List.getElem?_eq_some_iff.mp hl).1
        split
        · exact .inr (.inl rfl)
        · exact .inr (.inr ⟨f, l, by omega, by omega, rfl, rfl, rfl⟩)

theorem concatWith_ok {mk : Node → Node → List Node → Node} {path : List Node} {b e : Nat} {q : List Node}
    (h : concatWith mk path b e = .ok q) :
    ∃ f l, b < e ∧ e ≤ path.length ∧ path[b]? = some f ∧ path[e - 1]? = some l ∧
      q = path.take b ++ mk f l (block path b e) :: path.drop e := by
  rcases concatWith_cases mk path b e with h' | h' | ⟨f, l, h1, h2, h3, h4, h'⟩ <;> rw [h'] at h
  · cases h
  · cases h
  · exact ⟨f, l, h1, h2, h3, h4, (Outcome.ok.inj h).symm⟩

theorem concatWith_shape {mk : Node → Node → List Node → Node} {path : List Node} {b e : Nat}
    {q : List Node} (h : concatWith mk path b e = .ok q) :
    ∃ f l, b < e ∧ e ≤ path.length ∧ path[b]? = some f ∧ path[e - 1]? = some l ∧
      q[b]? = some (mk f l (block path b e)) ∧ (∀ k, k < b → q[k]? = path[k]?) ∧
      (∀ k, q[b + 1 + k]? = path[e + k]?) ∧ q.length + (e - b) = path.length + 1 := by
  obtain ⟨f, l, hbe, he, hf, hl, rfl⟩ := concatWith_ok h
  have hl' : (path.take b).length = b := by rw [List.length_take]; omega
  refine ⟨f, l, hbe, he, hf, hl, ?_, fun k hk => ?_, fun k => ?_, ?_⟩
  · rw [List.getElem?_append_right (by omega), hl', Nat.sub_self]; rfl
  · rw [List.getElem?_append_left (by omega), List.getElem?_take, if_pos hk]
  · rw [List.getElem?_append_right (by omega), hl', show b + 1 + k - b = k + 1 by omega,
      List.getElem?_cons_succ, List.getElem?_drop]
  · simp only [List.length_append, List.length_take, List.length_cons, List.length_drop]
    omega

theorem concatNodes_ok {path : List Node} {b e : Nat} {nf : Option (List Char)} {q : List Node}
    (h : concatNodes path b e nf = .ok q) :
    ∃ f l, b < e ∧ e ≤ path.length ∧ path[b]? = some f ∧ path[e - 1]? = some l ∧
      q = path.take b ++ mergedNode f l (block path b e) nf :: path.drop e :=
  concatWith_ok (mk := (mergedNode · · · nf)) h

theorem concatOovNodes_ok {path : List Node} {b e posId : Nat} {q : List Node}
    (h : concatOovNodes path b e posId = .ok q) :
    ∃ f l, b < e ∧ e ≤ path.length ∧ path[b]? = some f ∧ path[e - 1]? = some l ∧
      q = path.take b ++ mergedOovNode f l (block path b e) posId :: path.drop e :=
  concatWith_ok (mk := (mergedOovNode · · · posId)) h

theorem concatWith_ne_fuel (mk : Node → Node → List Node → Node) (path : List Node) (b e : Nat) :
    concatWith mk path b e ≠ .fuel := by
  rcases concatWith_cases mk path b e with h | h | ⟨_, _, -, -, -, -, h⟩ <;> rw [h] <;> exact nofun

theorem coarsens_replace_block (path : List Node) (b e : Nat) (hbe : b < e)
    (m : Node) (hs : Spans (block path b e) m) (hr : R (block path b e) m) :
    Coarsens R path (path.take b ++ m :: path.drop e) := by
  have hd := block_decomp path b e (by omega)
  have : Coarsens R (path.take b ++ (block path b e ++ path.drop e)) (path.take b ++ m :: path.drop e) :=
    (Coarsens.refl _).append (.merge _ m hs hr (Coarsens.refl _))
  rw [← List.append_assoc, ← hd] at this
  exact this

/-- what the two merged-node constructors share: the node begins where the first node begins, ends where
the last one ends, and carries the block's surface and summed head-word length -/
def Merges (mk : Node → Node → List Node → Node) : Prop :=
  ∀ f l blk, (fun m : Node => (m.b, m.bb, m.e, m.eb, m.surface, m.hwl)) (mk f l blk) =
    (f.b, f.bb, l.e, l.eb, catSurface blk, sumHwl blk)

theorem merges_mergedNode (nf : Option (List Char)) : Merges (mergedNode · · · nf) := fun _ _ _ => rfl

theorem merges_mergedOovNode (posId : Nat) : Merges (mergedOovNode · · · posId) := fun _ _ _ => rfl

theorem Merges.spans {mk : Node → Node → List Node → Node} (hm : Merges mk) {path : List Node} {b e : Nat}
    {f l : Node} (hbe : b < e) (hf : path[b]? = some f) (hl : path[e - 1]? = some l) :
    Spans (block path b e) (mk f l (block path b e)) := by
  have := hm f l (block path b e)
  simp only [Prod.mk.injEq] at this
  obtain ⟨h1, h2, h3, h4, h5, -⟩ := this
  exact ⟨by rw [h1, h2]; exact block_first path b e hbe f hf,
    by rw [h3, h4]; exact block_last path b e hbe l hl, h5.symm⟩

theorem concatWith_coarsens {mk : Node → Node → List Node → Node} (hm : Merges mk) {path : List Node}
    {b e : Nat} {q : List Node} (h : concatWith mk path b e = .ok q)
    (hr : ∀ f l, b < e → e ≤ path.length → path[b]? = some f →
      R (block path b e) (mk f l (block path b e))) : Coarsens R path q := by
  obtain ⟨f, l, hbe, he, hf, hl, rfl⟩ := concatWith_ok h
  exact coarsens_replace_block path b e hbe _ (hm.spans hbe hf hl) (hr f l hbe he hf)

/-! ## a concatenation inside `q` is the same concatenation inside `L ++ q ++ T` -/

theorem block_emb (L q T : List Node) (b e : Nat) (he : e ≤ q.length) :
    block (L ++ q ++ T) (L.length + b) (L.length + e) = block q b e := by
  rw [block_append_left _ _ _ _ (by simp only [List.length_append]; omega), block_shift]

theorem concatWith_emb (mk : Node → Node → List Node → Node) (L q T : List Node) (b e : Nat)
    (he : e ≤ q.length) :
    concatWith mk (L ++ q ++ T) (L.length + b) (L.length + e) =
      (concatWith mk q b e).bind fun p => .ok (L ++ p ++ T) := by
  unfold concatWith
  by_cases hbe : b ≥ e
  · rw [if_pos (by omega), if_pos hbe]; rfl
  · rw [if_neg (by omega), if_neg hbe]
    have e1 : L.length + e - 1 = L.length + (e - 1) := by omega
    rw [e1, getElem?_mid L q T _ (by omega), getElem?_mid L q T _ (by omega), block_emb L q T b e he]
    have ht : (L ++ q ++ T).take (L.length + b) = L ++ q.take b := by
      rw [List.append_assoc, List.take_length_add_append, List.take_append_of_le_length (by omega)]
    have hd : (L ++ q ++ T).drop (L.length + e) = q.drop e ++ T := by
      rw [List.append_assoc, List.drop_length_add_append, List.drop_append_of_le_length he]
    rw [ht, hd]
    cases q[e - 1]? with
    | none => rfl
    | some l =>
      cases q[b]? with
      | none => rfl
      | some f =>
        simp only [Outcome.ite_bind, Outcome.ok_bind, List.append_assoc, List.cons_append]
        rfl

theorem concatOovNodes_emb (L q T : List Node) (b e pos : Nat) (he : e ≤ q.length) :
    concatOovNodes (L ++ q ++ T) (L.length + b) (L.length + e) pos =
      (concatOovNodes q b e pos).bind fun p => .ok (L ++ p ++ T) :=
  concatWith_emb (mergedOovNode · · · pos) L q T b e he

theorem concatNodes_emb (L q T : List Node) (b e : Nat) (nf : Option (List Char)) (he : e ≤ q.length) :
    concatNodes (L ++ q ++ T) (L.length + b) (L.length + e) nf =
      (concatNodes q b e nf).bind fun p => .ok (L ++ p ++ T) :=
  concatWith_emb (mergedNode · · · nf) L q T b e he

/-! ## plugin-specific relations -/

/-- a merged node is a NEW word: no A/B units, no word structure, no synonym groups, no dictionary-form
reference, no connection ids (`..Default::default()`, `dictionary_form_word_id: -1`,
`Node::new(.., u16::MAX, u16::MAX, i16::MAX, ..)`) -/
def NewWord (m : Node) : Prop :=
  m.aSplit = [] ∧ m.bSplit = [] ∧ m.wStruct = [] ∧ m.syn = [] ∧ m.dfw = -1 ∧
    m.left = 65535 ∧ m.right = 65535 ∧ m.cost = 32767

/-- katakana joining: configured OOV part of speech; normalised and dictionary form = surface; at
least two tokens are joined; the merged node is a new word -/
def RK (cfg : KCfg) (blk : List Node) (m : Node) : Prop :=
  m.pos = cfg.oovPos ∧ m.norm = m.surface ∧ m.dform = m.surface ∧ 2 ≤ blk.length ∧ NewWord m

/-- numeral joining: numeral part of speech, which is the part of speech of the first joined token;
the merged node has no word id; without `enableNormalize` at least two tokens are joined; the merged
node is a new word -/
def RN (cfg : NCfg) (blk : List Node) (m : Node) : Prop :=
  m.pos = cfg.numPos ∧ (∃ f, blk.head? = some f ∧ f.pos = cfg.numPos) ∧ m.wid = WID_INVALID ∧
    (cfg.enableNormalize = false → 2 ≤ blk.length) ∧ NewWord m

theorem RK_compositional (cfg : KCfg) : Compositional (RK cfg) := by
  intro p blk m hc _ h
  have := hc.length_le
  exact ⟨h.1, h.2.1, h.2.2.1, by have := h.2.2.2.1; omega, h.2.2.2.2⟩

theorem RN_compositional (cfg : NCfg) : Compositional (RN cfg) := by
  intro p blk m hc _ hr
  have hlen := hc.length_le
  refine ⟨hr.1, ?_, hr.2.2.1, fun hn => by have := hr.2.2.2.1 hn; omega, hr.2.2.2.2⟩
  obtain ⟨f, hf, hpos⟩ := hr.2.1
  cases hc with
  | nil => simp at hf
  | keep n _ =>
    simp only [List.head?_cons, Option.some.injEq] at hf
    exact ⟨n, rfl, by rw [hf]; exact hpos⟩
  | merge blk' m' hs' hr' _ =>
    simp only [List.head?_cons, Option.some.injEq] at hf
    subst hf
    obtain ⟨f', hf', hpos'⟩ := hr'.2.1
    refine ⟨f', ?_, hpos'⟩
    cases blk' with
    | nil => simp at hf'
    | cons a l => simpa using hf'

theorem concatOovNodes_coarsens (cfg : KCfg) {path : List Node} {b e : Nat} {q : List Node}
    (h : concatOovNodes path b e cfg.oovPos = .ok q) (h2 : 1 < e - b) : Coarsens (RK cfg) path q :=
  concatWith_coarsens (merges_mergedOovNode _) h fun _ _ _ he _ =>
    ⟨rfl, rfl, rfl, by rw [block_length path b e he]; omega, rfl, rfl, rfl, rfl, rfl, rfl, rfl, rfl⟩

theorem concatNodes_coarsens (cfg : NCfg) {path : List Node} {b e : Nat} {nf : Option (List Char)}
    {q : List Node} (h : concatNodes path b e nf = .ok q)
    (hpos : ∀ f, path[b]? = some f → f.pos = cfg.numPos)
    (h2 : cfg.enableNormalize = false → 1 < e - b) : Coarsens (RN cfg) path q :=
  concatWith_coarsens (merges_mergedNode nf) h fun f _ hbe he hf =>
    ⟨hpos f hf, ⟨f, block_head path b e hbe f hf, hpos f hf⟩, rfl,
      fun hn => by rw [block_length path b e he]; have := h2 hn; omega,
      rfl, rfl, rfl, rfl, rfl, rfl, rfl, rfl⟩

end Rewrite
