import Sudachi.Proofs.RewriteF3
import Sudachi.Proofs.RewriteLocal
/-!
# The numeral joiner on a run of candidate nodes that the parser accepts and closes with `done()` (generic in `P`)

`concat` on a run at the head of the path (`nconcat_head`, the token `joinedTok`), and the loop on such a run:
`joinNumeric_run_reset` (the run is followed by a node that resets the loop) and `joinNumeric_run_end` (the run ends the
path).  With `Rewrite.joinNumeric_split` these give what the joiner does with a run between two resetting nodes; `Props/C15`
instantiates them with the parser model (`RewriteNumericTrace`).
-/
namespace RewriteNumeric
open Rewrite

/-! ## `concat` on a run at the head of the path -/

/-- last node of the non-empty run `f :: R` -/
def lastOf (f : Node) (R : List Node) : Node :=
  match R.getLast? with
  | some l => l
  | none => f

theorem getElem?_lastOf (f : Node) (R rest : List Node) :
    (f :: R ++ rest)[R.length]? = some (lastOf f R) := by
  unfold lastOf
  cases R with
  | nil => rfl
  | cons a R' =>
    have h1 : (f :: (a :: R') ++ rest)[(a :: R').length]? = (a :: R')[(a :: R').length - 1]? := by
      simp only [List.length_cons, List.cons_append, List.getElem?_cons_succ, Nat.add_sub_cancel]
      rw [← List.cons_append, List.getElem?_append_left (by simp)]
    rw [h1, ← List.getLast?_eq_getElem?]
    cases hl : (a :: R').getLast? with
    | none => simp at hl
    | some l => rfl

theorem concatNodes_head (f : Node) (R rest : List Node) (nf : Option (List Char))
    (hb : f.bb ≤ (lastOf f R).eb) (hh : sumHwl (f :: R) < 65536) :
    concatNodes (f :: R ++ rest) 0 (R.length + 1) nf =
      .ok (mergedNode f (lastOf f R) (f :: R) nf :: rest) := by
  rw [concatNodes_eq, concatWith_at (Nat.succ_pos _) rfl (getElem?_lastOf f R rest), block_head_run,
    if_neg (by omega)]
  simp

/-- the token `concat` puts in the place of the run `f :: R` (or `f` itself when nothing is to do) -/
def joinedTok (cfg : NCfg) (P : List Char → POut) (f : Node) (R : List Node) : Node :=
  if cfg.enableNormalize then
    if R ≠ [] ∨ (P (accOf (f :: R))).norm ≠ normForm f then
      mergedNode f (lastOf f R) (f :: R) (some (P (accOf (f :: R))).norm)
    else f
  else if R ≠ [] then mergedNode f (lastOf f R) (f :: R) none
  else f

/-- `JoinNumericPlugin::concat` on a run at the head of the path whose first node has the numeral
part of speech -/
theorem nconcat_head (cfg : NCfg) (P : List Char → POut) (f : Node) (R rest : List Node)
    (hpos : f.pos = cfg.numPos) (hb : f.bb ≤ (lastOf f R).eb) (hh : sumHwl (f :: R) < 65536) :
    nconcat cfg P (f :: R ++ rest) 0 (R.length + 1) (accOf (f :: R)) =
      .ok (joinedTok cfg P f R :: rest) := by
  rw [nconcat_at (f := f) rfl, if_neg (fun h => h hpos), if_neg (by omega), concatNodes_head f R rest _ hb hh]
  unfold joinedTok
  -- `1 < e - b` reads `R ≠ []`; then the `if` tree of `nconcat_at` is that of `joinedTok`, case by case
  cases R <;> cases hen : cfg.enableNormalize <;> simp
  split <;> rfl

/-! ## closing a run with `done()` -/

/-- the hypotheses on a run of nodes, generic in the parser: every node is a candidate (numeric class,
or a separator by normalised form), the parser accepts the characters node by node and is `done()` at
the end; the head has the numeral part of speech; the two arithmetic side conditions of
`concat_nodes` (byte range, `u16` head-word length) -/
structure RunOK (cfg : NCfg) (cat : List Nat) (P : List Char → POut) (f : Node) (R : List Node) : Prop where
  cand : ∀ n ∈ f :: R, ∃ ct, catOfRange cat n.b n.e = some ct ∧ isCand true true ct (normForm n) = true
  acc : ∀ k, k < (f :: R).length →
    ¬ (P (accOf ((f :: R).take (k + 1)))).n < (accOf ((f :: R).take (k + 1))).length
  done : (P (accOf (f :: R))).done = true
  pos : f.pos = cfg.numPos
  bytes : f.bb ≤ (lastOf f R).eb
  hwl : sumHwl (f :: R) < 65536

theorem nloop_run_reset (v : NVariant) (cfg : NCfg) (cat : List Nat) (P : List Char → POut)
    (f : Node) (R : List Node) (y : Node) (h : RunOK cfg cat P f R) (hy : Resets cat y) :
    nloop v cfg cat P (2 + (f :: R).length) (nInit (f :: R ++ [y])) = .ok [joinedTok cfg P f R, y] := by
  obtain ⟨ct, hct, hnc⟩ := resets_not_cand hy true true
  -- the run is closed in front of `y` with `done()`: `concat` on the whole run; then `y` is the last node
  rw [show 2 + (f :: R).length = 1 + 1 + (f :: R).length by omega,
    nloop_run_close v cfg cat P f R y [] 1 ct h.cand h.acc hct hnc, nclose_done (Int.le_refl 0) h.done,
    Int.toNat_natCast]
  show ((nconcat cfg P (f :: R ++ [y]) 0 (R.length + 1) (accOf (f :: R))).bind _).bind _ = _
  rw [nconcat_head cfg P f R [y] h.pos h.bytes h.hwl, Outcome.ok_bind, Outcome.ok_bind, nloop,
    if_neg (by simp [finState, headRun]), ntail_no_run (by simp [finState])]
  rfl

theorem nloop_run_end (v : NVariant) (cfg : NCfg) (cat : List Nat) (P : List Char → POut)
    (f : Node) (R : List Node) (h : RunOK cfg cat P f R) :
    nloop v cfg cat P (1 + (f :: R).length) (nInit (f :: R)) = .ok [joinedTok cfg P f R] := by
  have h0 := nloop_run_init v cfg cat P f R [] 1 h.cand h.acc
  rw [List.append_nil] at h0
  rw [h0, nloop, if_neg (by simp [headRun])]
  have hc := nconcat_head cfg P f R [] h.pos h.bytes h.hwl
  rw [List.append_nil] at hc
  simp only [headRun, List.append_nil, ntail, ge_iff_le, Int.le_refl, if_true, h.done, Int.toNat_zero,
    List.length_cons, hc]

theorem joinNumeric_run_reset (cfg : NCfg) (cat : List Nat) (P : List Char → POut)
    (f : Node) (R : List Node) (y : Node) (h : RunOK cfg cat P f R) (hy : Resets cat y) :
    joinNumeric .fix cfg cat P (f :: R ++ [y]) = .ok [joinedTok cfg P f R, y] :=
  joinNumeric_fix_of_nloop (nloop_run_reset .fix cfg cat P f R y h hy)

theorem joinNumeric_run_end (cfg : NCfg) (cat : List Nat) (P : List Char → POut)
    (f : Node) (R : List Node) (h : RunOK cfg cat P f R) :
    joinNumeric .fix cfg cat P (f :: R) = .ok [joinedTok cfg P f R] :=
  joinNumeric_fix_of_nloop (nloop_run_end .fix cfg cat P f R h)

end RewriteNumeric
