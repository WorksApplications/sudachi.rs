import Sudachi.Model.LayersLoad
import Sudachi.Proofs.Layers
/-!
# The order of the load steps (`Model/LayersLoad.lean`, property C12)

The four merge loops (`mergeAll`, `mergeAllV`, `mergeAllFull`, `mergeAllFullV`) are one loop, `foldO`, over four step
functions, so what relates two of them is proved once about `foldO`.  The full load projects to `Layers.load`
(`mergeAllFull_proj`), and cutting its loop at a step (`foldO_split`) shows on which state an estimate was taken.
-/
namespace Layers

/-! ## `update_cost` -/

theorem clampI16_range (c : Int) : -32768 ≤ clampI16 c ∧ clampI16 c ≤ 32767 := by
  unfold clampI16; omega

theorem clampI16_id (c : Int) (h1 : -32768 ≤ c) (h2 : c ≤ 32767) : clampI16 c = c := by
  unfold clampI16; omega

theorem updateCost_spec {est : Nat → Outcome (Int × Nat)} {ps : List Param} {cs : List Int}
    (h : updateCost est ps = .ok cs) :
    cs.length = ps.length ∧ ∀ (w : Nat) (p : Param), ps[w]? = some p →
      (p.cost ≠ COST_MIN → cs[w]? = some p.cost) ∧
      (p.cost = COST_MIN → ∃ ic n, est p.surface = .ok (ic, n) ∧
        cs[w]? = some (clampI16 (ic + USER_DICT_COST_PER_MORPH * (n : Int)))) := by
  obtain ⟨hl, hall⟩ := mapO_ok_inv _ ps cs h
  refine ⟨hl, fun w p hp => ?_⟩
  obtain ⟨b, hb, hcs⟩ := hall w p hp
  constructor
  · intro hne
    rw [if_pos hne] at hb
    cases hb
    exact hcs
  · intro heq
    rw [if_neg (fun hne => hne heq)] at hb
    cases he : est p.surface with
    | err e => rw [he] at hb; cases hb
    | panic w => rw [he] at hb; cases hb
    | ok r =>
      rw [he] at hb
      cases hb
      exact ⟨r.1, r.2, rfl, hcs⟩

/-! ## the merge loops as one loop -/

/-- `step` over the list, stopping at the first failure -/
def foldO {σ α : Type} (step : σ → α → Outcome σ) : σ → List α → Outcome σ
  | s, [] => .ok s
  | s, a :: as => (step s a).bind (fun s' => foldO step s' as)

theorem eq_foldO {σ α : Type} {loop : σ → List α → Outcome σ} {step : σ → α → Outcome σ}
    (hnil : ∀ s, loop s [] = .ok s) (hcons : ∀ s a as, loop s (a :: as) = (step s a).bind (fun s' => loop s' as)) :
    ∀ (as : List α) (s : σ), loop s as = foldO step s as
  | [], s => hnil s
  | a :: as, s => by rw [hcons, foldO]; exact congrArg _ (funext (eq_foldO hnil hcons as))

theorem foldO_split {σ α : Type} (f : σ → α → Outcome σ) {l : List α} {s F : σ} {j : Nat} {a : α}
    (h : foldO f s l = .ok F) (hj : l[j]? = some a) :
    ∃ Sj S', foldO f s (l.take j) = .ok Sj ∧ f Sj a = .ok S' ∧ foldO f S' (l.drop (j + 1)) = .ok F := by
  induction l generalizing s j with
  | nil => cases hj
  | cons a0 l ih =>
    obtain ⟨s', hs', h'⟩ := bind_eq_ok h
    cases j with
    | zero => cases hj; exact ⟨s, s', rfl, hs', h'⟩
    | succ j =>
      obtain ⟨Sj, S', h1, h2, h3⟩ := ih h' hj
      exact ⟨Sj, S', by rw [List.take_succ_cons, foldO, hs']; exact h1, h2, h3⟩

theorem mergeAll_foldO (us : List (List Pos × Lexicon)) (d : Dict) :
    mergeAll d us = foldO (fun d u => mergeUser d u.1 u.2) d us :=
  eq_foldO (fun _ => rfl) (fun d u _ => by rw [mergeAll]; cases mergeUser d u.1 u.2 <;> rfl) us d

theorem mergeAllV_foldO (v : MergeVariant) (us : List (List Pos × Lexicon)) (d : Dict) :
    mergeAllV v d us = foldO (fun d u => mergeUserV v d u.1 u.2) d us :=
  eq_foldO (fun _ => rfl) (fun d u _ => by rw [mergeAllV]; cases mergeUserV v d u.1 u.2 <;> rfl) us d

/-- the user dictionaries as `Layers.load` sees them -/
def UserDic.proj (u : UserDic) : List Pos × Lexicon := (u.own, u.lex)

section mergeFull
variable {est : LoadState → Nat → Outcome (Int × Nat)} {st F : LoadState}

theorem mergeAllFull_foldO (us : List UserDic) (st : LoadState) :
    mergeAllFull est st us = foldO (mergeUserFull est) st us :=
  eq_foldO (fun _ => rfl) (fun st u _ => by rw [mergeAllFull]; cases mergeUserFull est st u <;> rfl) us st

theorem mergeAllFullV_foldO (v : MergeVariant) (us : List UserDic) (st : LoadState) :
    mergeAllFullV v est st us = foldO (mergeUserFullV v est) st us :=
  eq_foldO (fun _ => rfl) (fun st u _ => by rw [mergeAllFullV]; cases mergeUserFullV v est st u <;> rfl) us st

theorem mergeAllFullV_unbounded (us : List UserDic) (st : LoadState) :
    mergeAllFullV .unbounded est st us = mergeAllFull est st us :=
  (mergeAllFullV_foldO .unbounded us st).trans (mergeAllFull_foldO us st).symm

end mergeFull

/-! ## the full merge loop against `mergeAll` -/

section mergeFullProj
variable {est : LoadState → Nat → Outcome (Int × Nat)} {st F : LoadState}

theorem mergeUserFull_inv {st' : LoadState} {u : UserDic} (h : mergeUserFull est st u = .ok st') :
    ∃ cs d, updateCost (est st) u.params = .ok cs ∧ mergeUser st.dict u.own u.lex = .ok d ∧
      st' = ⟨d, st.inhibited, st.costs ++ [cs]⟩ := by
  unfold mergeUserFull at h
  cases hcs : updateCost (est st) u.params with
  | err e => rw [hcs] at h; cases h
  | panic w => rw [hcs] at h; cases h
  | ok cs =>
    cases hd : mergeUser st.dict u.own u.lex with
    | err e => rw [hcs, hd] at h; cases h
    | panic w => rw [hcs, hd] at h; cases h
    | ok d =>
      rw [hcs, hd] at h
      cases h
      exact ⟨cs, d, rfl, rfl, rfl⟩

theorem mergeAllFull_proj {us : List UserDic} (h : mergeAllFull est st us = .ok F) :
    mergeAll st.dict (us.map UserDic.proj) = .ok F.dict ∧ F.inhibited = st.inhibited ∧
    ∃ css : List (List Int), css.length = us.length ∧ F.costs = st.costs ++ css := by
  induction us generalizing st with
  | nil =>
    cases h
    exact ⟨rfl, rfl, [], rfl, (List.append_nil _).symm⟩
  | cons u rest ih =>
    rw [mergeAllFull_foldO] at h
    obtain ⟨st1, h1, h⟩ := bind_eq_ok h
    obtain ⟨cs, d, _, hd, rfl⟩ := mergeUserFull_inv h1
    rw [← mergeAllFull_foldO] at h
    obtain ⟨r1, r2, css, r3, r4⟩ := ih h
    refine ⟨?_, r2, cs :: css, congrArg (· + 1) r3, by rw [r4, List.append_assoc]; rfl⟩
    rw [List.map_cons, mergeAll, show mergeUser st.dict u.proj.1 u.proj.2 = .ok d from hd]
    exact r1

/-- the estimate for the (j+1)-th user dictionary is taken on the state reached after merging the first j -/
theorem mergeAllFull_prefix {us : List UserDic} (h : mergeAllFull est st us = .ok F) {j : Nat} {u : UserDic}
    (hj : us[j]? = some u) :
    ∃ Sj cs, mergeAllFull est st (us.take j) = .ok Sj ∧ updateCost (est Sj) u.params = .ok cs ∧
      F.costs[st.costs.length + j]? = some cs := by
  rw [mergeAllFull_foldO] at h
  obtain ⟨Sj, S', h1, h2, h3⟩ := foldO_split _ h hj
  rw [← mergeAllFull_foldO] at h1 h3
  obtain ⟨cs, d, hcs, _, rfl⟩ := mergeUserFull_inv h2
  obtain ⟨_, _, css, hlen, hc⟩ := mergeAllFull_proj h1
  obtain ⟨_, _, css', _, hc'⟩ := mergeAllFull_proj h3
  -- the cost columns: those at the start, one per dictionary of the prefix, then the one of `u`
  have hl : (st.costs ++ css).length = st.costs.length + j := by
    rw [List.length_append, hlen, List.length_take, Nat.min_eq_left (Nat.le_of_lt (List.getElem?_eq_some_iff.1 hj).1)]
  refine ⟨Sj, cs, h1, hcs, ?_⟩
  rw [hc', hc, List.append_assoc _ [cs], ← hl, List.getElem?_append_right (Nat.le_refl _), Nat.sub_self]
  rfl

end mergeFullProj

/-! ## `loadFullV` around its merge loop (`loadFull` is the case `unbounded`) -/

section loadFull
variable {est : LoadState → Nat → Outcome (Int × Nat)} {sys : List Pos} {sysLex : Lexicon} {sysCosts : List Int}
  {nl nr : Nat} {conn : List (List (Nat × Nat))} {plugs : List (Bool × Pos)} {nOov : Nat} {users : List UserDic}
  {F : LoadState} {g : List Pos} {ids : List Nat}

theorem loadFullV_unbounded : loadFullV .unbounded est sys sysLex sysCosts nl nr conn plugs nOov users =
    loadFull est sys sysLex sysCosts nl nr conn plugs nOov users := by
  unfold loadFullV loadFull
  simp only [mergeAllFullV_unbounded]

/-- `loadFullV` as a chain of its tests: pairs inside the matrix, plugin POS, an OOV plugin, then the merges -/
theorem loadFullV_bind (v : MergeVariant) : loadFullV v est sys sysLex sysCosts nl nr conn plugs nOov users =
    if !conn.all (pairsValid nl nr) then .err .invalidData
    else (loadPlugins sys plugs).bind fun gi =>
      if nOov = 0 then .err .noOovPlugin
      else mergeAllFullV v est ⟨⟨gi.1, ⟨[{ sysLex with lexId := 0 }], [0], sys.length⟩⟩, conn.flatten, [sysCosts]⟩ users := by
  unfold loadFullV
  cases conn.all (pairsValid nl nr) with
  | false => rfl
  | true => cases loadPlugins sys plugs <;> rfl

theorem loadFullV_of (v : MergeVariant) (h2 : conn.all (pairsValid nl nr) = true)
    (h3 : loadPlugins sys plugs = .ok (g, ids)) (h4 : nOov ≠ 0) :
    loadFullV v est sys sysLex sysCosts nl nr conn plugs nOov users =
      mergeAllFullV v est ⟨⟨g, ⟨[{ sysLex with lexId := 0 }], [0], sys.length⟩⟩, conn.flatten, [sysCosts]⟩ users := by
  rw [loadFullV_bind, h2, h3, Bool.not_true, if_neg Bool.false_ne_true]
  exact if_neg h4

theorem loadFullV_inv {v : MergeVariant} (h : loadFullV v est sys sysLex sysCosts nl nr conn plugs nOov users = .ok F) :
    ∃ g ids, conn.all (pairsValid nl nr) = true ∧ loadPlugins sys plugs = .ok (g, ids) ∧ nOov ≠ 0 ∧
      mergeAllFullV v est ⟨⟨g, ⟨[{ sysLex with lexId := 0 }], [0], sys.length⟩⟩, conn.flatten, [sysCosts]⟩ users =
        .ok F := by
  rw [loadFullV_bind] at h
  cases hv : conn.all (pairsValid nl nr) with
  | false => rw [hv, Bool.not_false, if_pos rfl] at h; cases h
  | true =>
    rw [hv, Bool.not_true, if_neg Bool.false_ne_true] at h
    obtain ⟨⟨g, ids⟩, hp, h⟩ := bind_eq_ok h
    by_cases h4 : nOov = 0
    · rw [if_pos h4] at h; cases h
    · rw [if_neg h4] at h
      exact ⟨g, ids, rfl, hp, h4, h⟩

theorem loadFull_of (h2 : conn.all (pairsValid nl nr) = true) (h3 : loadPlugins sys plugs = .ok (g, ids))
    (h4 : nOov ≠ 0) :
    loadFull est sys sysLex sysCosts nl nr conn plugs nOov users =
      mergeAllFull est ⟨⟨g, ⟨[{ sysLex with lexId := 0 }], [0], sys.length⟩⟩, conn.flatten, [sysCosts]⟩ users := by
  rw [← loadFullV_unbounded, loadFullV_of _ h2 h3 h4, mergeAllFullV_unbounded]

theorem loadFull_inv (h : loadFull est sys sysLex sysCosts nl nr conn plugs nOov users = .ok F) :
    ∃ g ids, conn.all (pairsValid nl nr) = true ∧ loadPlugins sys plugs = .ok (g, ids) ∧ nOov ≠ 0 ∧
      mergeAllFull est ⟨⟨g, ⟨[{ sysLex with lexId := 0 }], [0], sys.length⟩⟩, conn.flatten, [sysCosts]⟩ users =
        .ok F := by
  rw [← loadFullV_unbounded] at h
  obtain ⟨g, ids, h2, h3, h4, h⟩ := loadFullV_inv h
  rw [mergeAllFullV_unbounded] at h
  exact ⟨g, ids, h2, h3, h4, h⟩

end loadFull

end Layers
