import Sudachi.Proofs.LayersReads
/-!
# The references a compiled dictionary stores (`validate_entries`, `resolve_inline`), property C12

A compiled user dictionary passed `validate_entries`, so each stored reference is in range (`RefInRange`).  The two resolver
indexes are `map` over `zipIdx` of the entries, so a hit of `resolve_inline` is an entry together with its position.
-/
namespace Layers

theorem allO_ok_inv {α : Type} (f : α → Outcome Unit) (l : List α) (h : allO f l = .ok ()) :
    ∀ a ∈ l, f a = .ok () := by
  intro a ha
  induction l with
  | nil => cases ha
  | cons x xs ih =>
    unfold allO at h
    cases hx : f x with
    | err e => rw [hx] at h; cases h
    | panic w => rw [hx] at h; cases h
    | ok u =>
      rw [hx] at h
      rcases List.mem_cons.1 ha with rfl | hm
      · exact hx
      · exact ih h hm

/-- a stored reference points into the prebuilt (system) dictionary or into the dictionary being compiled -/
def RefInRange (t max0 max1 : Nat) : Prop :=
  (dicOf t = 0 ∧ wordOf t < max0) ∨ (dicOf t = 1 ∧ wordOf t < max1)

theorem validateWid_ok {w m0 m1 : Nat} (h : validateWid w m0 m1 = .ok ()) : RefInRange w m0 m1 := by
  unfold validateWid at h
  by_cases h0 : dicOf w = 0
  · rw [if_pos h0] at h
    by_cases hge : wordOf w ≥ m0
    · rw [if_pos hge] at h; cases h
    · exact Or.inl ⟨h0, Nat.lt_of_not_le hge⟩
  · rw [if_neg h0] at h
    by_cases h1 : dicOf w = 1
    · rw [if_pos h1] at h
      by_cases hge : wordOf w ≥ m1
      · rw [if_pos hge] at h; cases h
      · exact Or.inr ⟨h1, Nat.lt_of_not_le hge⟩
    · rw [if_neg h1] at h; cases h

theorem validateUnit_ok {u : SUnit} {m0 m1 : Nat} (h : validateUnit m0 m1 u = .ok ()) :
    RefInRange (unitWid u) m0 m1 := by
  cases u with
  | ref w => exact validateWid_ok h
  | inline s p r => cases h

theorem validateEntries_ok {ns : Nat} {es : List Entry} (h : validateEntries (some ns) es = .ok ()) :
    ∀ e ∈ es, ∀ t ∈ (entryWord e).a ++ (entryWord e).b ++ (entryWord e).w, RefInRange t ns es.length := by
  intro e he t ht
  unfold validateEntries at h
  have h1 := allO_ok_inv _ es h e he
  dsimp only at h1
  cases ha : allO (validateUnit ns es.length) e.a with
  | err x => rw [ha] at h1; cases h1
  | panic w => rw [ha] at h1; cases h1
  | ok _ =>
    cases hb : allO (validateUnit ns es.length) e.b with
    | err x => rw [ha, hb] at h1; cases h1
    | panic w => rw [ha, hb] at h1; cases h1
    | ok _ =>
      rw [ha, hb] at h1
      simp only [entryWord, List.mem_append, List.mem_map] at ht
      rcases ht with (⟨u, hu, rfl⟩ | ⟨u, hu, rfl⟩) | hw
      · exact validateUnit_ok (allO_ok_inv _ e.a ha u hu)
      · exact validateUnit_ok (allO_ok_inv _ e.b hb u hu)
      · exact validateWid_ok (allO_ok_inv _ e.w h1 t hw)

/-- `validate_entries` at work, for a USER dictionary: dictionary 0 is the dictionary it was compiled against, dictionary 1
itself (whether the reference was written `U<n>`, `<n>` or inline) -/
theorem build_refs_in_range {g : List Pos} {sw : List SysWord} {rows : List Row} {b : Built}
    (h : build (some (g, sw)) rows = .ok b) :
    b.words.length = rows.length ∧
    ∀ wd ∈ b.words, ∀ t ∈ wd.a ++ wd.b ++ wd.w, RefInRange t sw.length rows.length := by
  obtain ⟨r, hr, h⟩ := build_inv h
  obtain ⟨es, hpos, hval, rfl⟩ := finishBuild_inv h
  have hlen : es.length = rows.length := by
    have := congrArg List.length hpos
    rw [List.length_map, List.length_map, (readRows_K hr).2.2] at this
    exact this.trans (Nat.zero_add _)
  refine ⟨(List.length_map _).trans hlen, fun wd hwd t ht => ?_⟩
  obtain ⟨e, he, rfl⟩ := List.mem_map.1 hwd
  have := validateEntries_ok hval e he t ht
  rwa [hlen] at this

section resolve
variable {idx : List IdxLine} {s p : Nat} {r : Option Nat}

theorem resolveIn_sound {w : Nat} (h : resolveIn idx s p r = some w) :
    ∃ l ∈ idx, l.surface = s ∧ l.pos = p ∧ l.reading = r ∧ l.wid = w := by
  unfold resolveIn at h
  cases hl : idx.find? (fun l => l.surface == s && l.pos == p && l.reading == r) with
  | none => rw [hl] at h; cases h
  | some l =>
    rw [hl] at h
    cases h
    have hp := List.find?_some hl
    simp only [Bool.and_eq_true, beq_iff_eq] at hp
    exact ⟨l, List.mem_of_find?_eq_some hl, hp.1.1, hp.1.2, hp.2, rfl⟩

theorem resolveIn_none (h : resolveIn idx s p r = none) :
    ∀ l ∈ idx, ¬ (l.surface = s ∧ l.pos = p ∧ l.reading = r) := by
  unfold resolveIn at h
  cases hl : idx.find? (fun l => l.surface == s && l.pos == p && l.reading == r) with
  | some l => rw [hl] at h; cases h
  | none =>
    intro l hmem hm
    have := List.find?_eq_none.1 hl l hmem
    rw [hm.1, hm.2.1, hm.2.2] at this
    simp only [beq_self_eq_true, Bool.and_self, not_true_eq_false] at this

end resolve

theorem rawIndexGo_eq (dic : Nat) : ∀ (es : List Entry) (n : Nat), rawIndexGo dic es n =
    (es.zipIdx n).map (fun x => ⟨x.1.surface, x.1.pos, noneIfEqual x.1.surface x.1.reading, mkRaw dic x.2⟩)
  | [], _ => rfl
  | e :: es, n => by rw [rawIndexGo, rawIndexGo_eq dic es (n + 1), List.zipIdx_cons, List.map_cons]

theorem binIndexGo_eq : ∀ (ws : List SysWord) (n : Nat), binIndexGo ws n =
    (ws.zipIdx n).map (fun x => ⟨x.1.headword, x.1.pos, noneIfEqual x.1.headword x.1.reading, mkRaw 0 x.2⟩)
  | [], _ => rfl
  | e :: ws, n => by rw [binIndexGo, binIndexGo_eq ws (n + 1), List.zipIdx_cons, List.map_cons]

/-- `ChainedResolver::resolve_inline`: an own entry if ANY own entry matches (the first such), otherwise the first matching word
of the prebuilt dictionary, compared on its headword; readings equal to the surface compare as `None`.  `dic` is the dictionary
number the own entries are indexed under (1 for a user dictionary, 0 for a system dictionary). -/
theorem resolveChained_sound (dic : Nat) {es : List Entry} {ws : List SysWord} {s p : Nat} {r : Option Nat} {w : Nat}
    (h : resolveChained (rawIndexGo dic es 0) (binIndex ws) s p r = some w) :
    (∃ i e, es[i]? = some e ∧ e.surface = s ∧ e.pos = p ∧ noneIfEqual e.surface e.reading = r ∧ w = mkRaw dic i) ∨
    ((∀ e ∈ es, ¬ (e.surface = s ∧ e.pos = p ∧ noneIfEqual e.surface e.reading = r)) ∧
      ∃ i x, ws[i]? = some x ∧ x.headword = s ∧ x.pos = p ∧ noneIfEqual x.headword x.reading = r ∧ w = mkRaw 0 i) := by
  unfold resolveChained binIndex at h
  rw [rawIndexGo_eq, binIndexGo_eq] at h
  cases hown : resolveIn ((es.zipIdx 0).map _) s p r with
  | some w' =>
    rw [hown] at h
    cases h
    obtain ⟨l, hl, h1, h2, h3, h4⟩ := resolveIn_sound hown
    obtain ⟨⟨e, i⟩, hx, rfl⟩ := List.mem_map.1 hl
    exact Or.inl ⟨i, e, List.mem_zipIdx_iff_getElem?.1 hx, h1, h2, h3, h4.symm⟩
  | none =>
    rw [hown] at h
    obtain ⟨l, hl, h1, h2, h3, h4⟩ := resolveIn_sound h
    obtain ⟨⟨x, i⟩, hx, rfl⟩ := List.mem_map.1 hl
    refine Or.inr ⟨fun e he hm => ?_, i, x, List.mem_zipIdx_iff_getElem?.1 hx, h1, h2, h3, h4.symm⟩
    obtain ⟨k, hk⟩ := List.getElem?_of_mem he
    exact resolveIn_none hown _ (List.mem_map.2 ⟨(e, k), List.mk_mem_zipIdx_iff_getElem?.2 hk, rfl⟩) hm

end Layers
