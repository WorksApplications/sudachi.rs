import Sudachi.Proofs.RewriteConcat
/-!
# The numeral loop of `JoinNumericPlugin::rewrite_gen`

One iteration in parts.  `Rewrite.nstep` does one of two things with the node after the index.  A CANDIDATE (numeric
class, or a separator whose flag is armed) is given to the parser: `nfeed`, which never touches the path.  Any other
node CLOSES the open run, if there is one (`nclose`: `concat` on the run, or on the run without its last node when
that node is the separator the parser is stuck on), and re-arms the separator flags (`finState`).
`// process last part` (`ntail`) is the same closing at the end of the path.  `nstep_at` (with `nstep_no_node`,
`nstep_cat_none` for the two panics) and `ntail_eq` express the two model functions through these parts; the proofs about
the loop go through them, `nstep_cases`, and the case lemmas on `nfeed`, `nclose` and `nconcat`.  `nstep_eq` is the
same as one unconditional equation, for proofs that relate the iteration on two states (`Proofs/SubsetRw`).

Then what needs no more than that: every iteration, hence every run, is a coarsening (the index logic is not looked
at); the invariants of the loop state (`NInv`, `NInv2` for the indices, `NOne` for a run of one node); and the repaired
loop terminates — each iteration decreases a lexicographic measure (last section).
-/
namespace Rewrite

/-! ## `JoinNumericPlugin::concat` -/

theorem nconcat_at {cfg : NCfg} {P : List Char → POut} {path : List Node} {b e : Nat} {acc : List Char}
    {f : Node} (hf : path[b]? = some f) :
    nconcat cfg P path b e acc =
      if f.pos ≠ cfg.numPos then .ok path
      else if e < b then .panic
      else if 1 < e - b ∨ (cfg.enableNormalize = true ∧ (P acc).norm ≠ normForm f) then
        concatNodes path b e (if cfg.enableNormalize then some (P acc).norm else none)
      else .ok path := by
  unfold nconcat
  rw [hf]
  by_cases hp : f.pos = cfg.numPos
  · by_cases hlt : e < b
    · simp only [hp, bne_self_eq_false, Bool.false_eq_true, if_false, ne_eq, not_true_eq_false, if_pos hlt]
    · cases hen : cfg.enableNormalize <;>
        simp only [hp, bne_self_eq_false, Bool.false_eq_true, if_false, ne_eq, not_true_eq_false, if_neg hlt,
          false_and, or_false, true_and, if_true, Bool.or_eq_true, decide_eq_true_eq, bne_iff_ne, gt_iff_lt]
  · simp only [ne_eq, hp, not_false_eq_true, if_true, bne_iff_ne]

theorem nconcat_gate_open (cfg : NCfg) (P : List Char → POut) (path : List Node) (b e : Nat)
    (acc : List Char) (f : Node) (hf : path[b]? = some f) (hpos : f.pos = cfg.numPos) (hlen : 1 < e - b) :
    nconcat cfg P path b e acc =
      concatNodes path b e (if cfg.enableNormalize then some (P acc).norm else none) := by
  rw [nconcat_at hf, if_neg (fun h => h hpos), if_neg (by omega), if_pos (.inl hlen)]

theorem nconcat_cases (cfg : NCfg) (P : List Char → POut) (path : List Node) (b e : Nat)
    (acc : List Char) :
    nconcat cfg P path b e acc = .panic ∨ nconcat cfg P path b e acc = .ok path ∨
      ∃ f, path[b]? = some f ∧ f.pos = cfg.numPos ∧ b ≤ e ∧
        (cfg.enableNormalize = false → 1 < e - b) ∧
        nconcat cfg P path b e acc =
          concatNodes path b e (if cfg.enableNormalize then some (P acc).norm else none) := by
  cases hf : path[b]? with
  | none => left; unfold nconcat; rw [hf]
  | some f =>
    rw [nconcat_at hf]
    by_cases hp : f.pos ≠ cfg.numPos
    · rw [if_pos hp]; exact .inr (.inl rfl)
    · rw [if_neg hp]
      by_cases hlt : e < b
      · rw [if_pos hlt]; exact .inl rfl
      · rw [if_neg hlt]
        split
        · rename_i hg
          exact .inr (.inr ⟨f, rfl, Decidable.not_not.mp hp, by omega,
            fun hn => hg.resolve_right (fun h => by rw [hn] at h; cases h.1), rfl⟩)
        · exact .inr (.inl rfl)

/-! ## one iteration -/

/-- candidate test of `rewrite_gen` under the current flags -/
def isCand (comma period : Bool) (ct : Nat) (s : List Char) : Bool :=
  isNumericCat ct || (comma && s == [',']) || (period && s == ['.'])

/-- index of the node where the current run started, or of the next node if no run is open -/
def runStart (st : NState) : Int := if st.beginIdx < 0 then st.i + 1 else st.beginIdx

/-- the characters the parser has seen once `node` is appended (it is cleared when a run starts) -/
def feedAcc (st : NState) (node : Node) : List Char :=
  (if st.beginIdx < 0 then [] else st.acc) ++ normForm node

/-- the characters of a run of nodes, as they are fed to the parser -/
def accOf (run : List Node) : List Char := run.flatMap normForm

theorem accOf_nil : accOf [] = [] := rfl

theorem accOf_cons (n : Node) (run : List Node) : accOf (n :: run) = normForm n ++ accOf run := by
  simp [accOf]

theorem accOf_append (a b : List Node) : accOf (a ++ b) = accOf a ++ accOf b := by
  simp [accOf]

/-- the state after the candidate `node` was given to the parser -/
def nfeed (v : NVariant) (P : List Char → POut) (st : NState) (node : Node) : NState :=
  let acc := feedAcc st node
  if (P acc).n < acc.length then
    match v with
    | .cur =>
      if (P acc).err == E_COMMA then
        { st with i := runStart st - 1, beginIdx := -1, comma := false, acc := acc }
      else if (P acc).err == E_POINT then
        { st with i := runStart st - 1, beginIdx := -1, period := false, acc := acc }
      else { st with i := st.i + 1, beginIdx := -1, acc := acc }
    | .fix =>
      if (P acc).err == E_COMMA && st.comma then
        { st with i := runStart st - 1, beginIdx := -1, comma := false, acc := acc }
      else if (P acc).err == E_POINT && st.period then
        { st with i := runStart st - 1, beginIdx := -1, period := false, acc := acc }
      else { st with i := st.i + 1, beginIdx := -1, acc := acc }
  else { st with i := st.i + 1, beginIdx := runStart st, acc := acc }

/-- the parser is stuck on the separator `prev` -/
def sepErr (P : List Char → POut) (st : NState) (prev : Node) : Bool :=
  ((P st.acc).err == E_COMMA && normForm prev == [',']) ||
    ((P st.acc).err == E_POINT && normForm prev == ['.'])

/-- closing the open run, if there is one, when the loop stands in front of node `i` (or the end of the
path): the path after it and the index the loop goes on from -/
def nclose (cfg : NCfg) (P : List Char → POut) (st : NState) (i : Int) : Outcome (List Node × Int) :=
  if st.beginIdx ≥ 0 then
    if (P st.acc).done then
      (nconcat cfg P st.path st.beginIdx.toNat i.toNat st.acc).bind fun p' => .ok (p', st.beginIdx + 1)
    else if i.toNat < 1 then .panic
    else match st.path[i.toNat - 1]? with
      | none => .panic
      | some prev =>
        if sepErr P st prev then
          (nconcat cfg P st.path st.beginIdx.toNat (i.toNat - 1) st.acc).bind fun p' =>
            .ok (p', st.beginIdx + 2)
        else .ok (st.path, i)
  else .ok (st.path, i)

/-- the state in which `rewrite_gen` goes on after a node with normalised form `s` that is not a
candidate: no run open, a separator flag re-armed unless `s` is that separator -/
def finState (st : NState) (s : List Char) (path : List Node) (i : Int) : NState :=
  let c : Option Char := if utf8Len s == 1 then s.head? else none
  { path := path, i := i, beginIdx := -1,
    comma := if !st.comma && c != some ',' then true else st.comma,
    period := if !st.period && c != some '.' then true else st.period,
    acc := st.acc }

/-- one iteration when the node after the index exists and its class look-up is in range -/
theorem nstep_at (v : NVariant) (cfg : NCfg) (cat : List Nat) (P : List Char → POut) {st : NState}
    {node : Node} {ct : Nat} (hi : 0 ≤ st.i + 1) (hn : st.path[(st.i + 1).toNat]? = some node)
    (hc : catOfRange cat node.b node.e = some ct) :
    nstep v cfg cat P st =
      if isCand st.comma st.period ct (normForm node) then .ok (nfeed v P st node)
      else (nclose cfg P st (st.i + 1)).bind fun r => .ok (finState st (normForm node) r.1 r.2) := by
  unfold nstep
  simp only [show ¬ (st.i + 1 < 0) by omega, if_false, hn, hc]
  unfold isCand
  by_cases hcand : (isNumericCat ct || st.comma && normForm node == [','] ||
      st.period && normForm node == ['.']) = true
  · rw [if_pos hcand, if_pos hcand]
    unfold nfeed feedAcc runStart
    cases v <;> simp only [apply_ite Outcome.ok]
  · rw [if_neg hcand, if_neg hcand]
    unfold nclose sepErr finState
    by_cases hb : st.beginIdx ≥ 0
    · simp only [if_pos hb]
      by_cases hd : (P st.acc).done = true
      · simp only [if_pos hd]
        cases nconcat cfg P st.path st.beginIdx.toNat (st.i + 1).toNat st.acc <;> rfl
      · simp only [if_neg hd]
        by_cases h1 : (st.i + 1).toNat < 1
        · simp only [if_pos h1]; rfl
        · simp only [if_neg h1]
          cases st.path[(st.i + 1).toNat - 1]? with
          | none => rfl
          | some prev =>
            simp only []
            split
            · cases nconcat cfg P st.path st.beginIdx.toNat ((st.i + 1).toNat - 1) st.acc <;> rfl
            · rfl
    · simp only [if_neg hb]; rfl

/-- there is no node after the index: `path[i as usize]` panics -/
theorem nstep_no_node (v : NVariant) (cfg : NCfg) (cat : List Nat) (P : List Char → POut) {st : NState}
    (h : st.i + 1 < 0 ∨ st.path[(st.i + 1).toNat]? = none) : nstep v cfg cat P st = .panic := by
  unfold nstep
  by_cases hi : st.i + 1 < 0
  · simp only [hi, if_true]
  · simp only [hi, if_false, h.resolve_left hi]

theorem nstep_cat_none (v : NVariant) (cfg : NCfg) (cat : List Nat) (P : List Char → POut) {st : NState}
    {node : Node} (hn : st.path[(st.i + 1).toNat]? = some node)
    (hc : catOfRange cat node.b node.e = none) : nstep v cfg cat P st = .panic := by
  unfold nstep
  simp only [hn, hc]
  split <;> rfl

/-- `path[(i + 1) as usize]`: the node an iteration looks at -/
def nodeAt (st : NState) : Outcome Node :=
  if st.i + 1 < 0 then .panic
  else match st.path[(st.i + 1).toNat]? with
    | none => .panic
    | some node => .ok node

/-- `cat_of_range` of a node -/
def catOf (cat : List Nat) (node : Node) : Outcome Nat :=
  match catOfRange cat node.b node.e with
  | none => .panic
  | some ct => .ok ct

/-- one iteration in full: the node, its class, then `nfeed` for a candidate and `nclose`, `finState` for any other
node.  `nstep_at`, `nstep_no_node`, `nstep_cat_none` are its evaluations; the equation itself serves proofs that
relate the iteration on two states. -/
theorem nstep_eq (v : NVariant) (cfg : NCfg) (cat : List Nat) (P : List Char → POut) (st : NState) :
    nstep v cfg cat P st =
      (nodeAt st).bind fun node => (catOf cat node).bind fun ct =>
        if isCand st.comma st.period ct (normForm node) then .ok (nfeed v P st node)
        else (nclose cfg P st (st.i + 1)).bind fun r => .ok (finState st (normForm node) r.1 r.2) := by
  unfold nodeAt
  by_cases hi : st.i + 1 < 0
  · rw [if_pos hi, nstep_no_node v cfg cat P (.inl hi)]; rfl
  · rw [if_neg hi]
    cases hn : st.path[(st.i + 1).toNat]? with
    | none => rw [nstep_no_node v cfg cat P (.inr hn)]; rfl
    | some node =>
      show _ = (catOf cat node).bind _
      unfold catOf
      cases hc : catOfRange cat node.b node.e with
      | none => rw [nstep_cat_none v cfg cat P hn hc]; rfl
      | some ct => exact nstep_at v cfg cat P (by omega) hn hc

theorem nodeAt_map (f : Node → Node) (st : NState) :
    nodeAt { st with path := st.path.map f } = (nodeAt st).bind fun node => .ok (f node) := by
  unfold nodeAt
  simp only [List.getElem?_map]
  split
  · rfl
  · cases st.path[(st.i + 1).toNat]? <;> rfl

theorem nstep_cases {v : NVariant} {cfg : NCfg} {cat : List Nat} {P : List Char → POut} {st : NState}
    {r : Outcome NState} (h : nstep v cfg cat P st = r) :
    r = .panic ∨ ∃ node, st.path[(st.i + 1).toNat]? = some node ∧
      (r = .ok (nfeed v P st node) ∨
        r = (nclose cfg P st (st.i + 1)).bind fun r => .ok (finState st (normForm node) r.1 r.2)) := by
  by_cases hi : st.i + 1 < 0
  · exact .inl (h ▸ nstep_no_node v cfg cat P (.inl hi))
  · cases hn : st.path[(st.i + 1).toNat]? with
    | none => exact .inl (h ▸ nstep_no_node v cfg cat P (.inr hn))
    | some node =>
      cases hc : catOfRange cat node.b node.e with
      | none => exact .inl (h ▸ nstep_cat_none v cfg cat P hn hc)
      | some ct =>
        refine .inr ⟨node, rfl, ?_⟩
        rw [nstep_at v cfg cat P (by omega) hn hc] at h
        split at h
        · exact .inl h.symm
        · exact .inr h.symm

theorem ntail_eq (cfg : NCfg) (P : List Char → POut) (st : NState) :
    ntail cfg P st = (nclose cfg P st st.path.length).bind fun r => .ok r.1 := by
  unfold ntail nclose sepErr
  simp only [Int.toNat_natCast]
  by_cases hb : st.beginIdx ≥ 0
  · simp only [if_pos hb]
    by_cases hd : (P st.acc).done = true
    · simp only [if_pos hd]
      cases nconcat cfg P st.path st.beginIdx.toNat st.path.length st.acc <;> rfl
    · simp only [if_neg hd]
      by_cases h1 : st.path.length < 1
      · simp only [if_pos h1]; rfl
      · simp only [if_neg h1]
        cases st.path[st.path.length - 1]? with
        | none => rfl
        | some last =>
          simp only []
          split
          · cases nconcat cfg P st.path st.beginIdx.toNat (st.path.length - 1) st.acc <;> rfl
          · rfl
  · simp only [if_neg hb]; rfl

/-! ## `nfeed` -/

@[simp] theorem nfeed_path (v : NVariant) (P : List Char → POut) (st : NState) (node : Node) :
    (nfeed v P st node).path = st.path := by
  unfold nfeed
  cases v <;> simp only [apply_ite NState.path, ite_self]

@[simp] theorem nfeed_acc (v : NVariant) (P : List Char → POut) (st : NState) (node : Node) :
    (nfeed v P st node).acc = feedAcc st node := by
  unfold nfeed
  cases v <;> simp only [apply_ite NState.acc, ite_self]

theorem nfeed_with_path (v : NVariant) (P : List Char → POut) (st : NState) (node : Node) (p : List Node) :
    nfeed v P { st with path := p } node = { nfeed v P st node with path := p } := by
  unfold nfeed feedAcc runStart
  cases v <;> simp only [apply_ite (fun s : NState => { s with path := p })]

theorem nfeed_accept (v : NVariant) {P : List Char → POut} {st : NState} {node : Node}
    (h : ¬ (P (feedAcc st node)).n < (feedAcc st node).length) :
    nfeed v P st node = { st with i := st.i + 1, beginIdx := runStart st, acc := feedAcc st node } :=
  if_neg h

/-- index, run start and flags after a candidate: ACCEPTED (the run goes on), RESTART at the run start
with one separator flag cleared (the variant `fix` does so only if the flag was set), or the run is
given up -/
theorem nfeed_cases (v : NVariant) (P : List Char → POut) (st : NState) (node : Node) :
    (¬ (P (feedAcc st node)).n < (feedAcc st node).length ∧ (nfeed v P st node).i = st.i + 1 ∧
      (nfeed v P st node).beginIdx = runStart st ∧
      (nfeed v P st node).comma = st.comma ∧ (nfeed v P st node).period = st.period) ∨
    ((P (feedAcc st node)).n < (feedAcc st node).length ∧ (nfeed v P st node).beginIdx = -1 ∧
      (((nfeed v P st node).i = runStart st - 1 ∧ (v = .fix → st.comma = true) ∧
          (nfeed v P st node).comma = false ∧ (nfeed v P st node).period = st.period) ∨
        ((nfeed v P st node).i = runStart st - 1 ∧ (v = .fix → st.period = true) ∧
          (nfeed v P st node).comma = st.comma ∧ (nfeed v P st node).period = false) ∨
        ((nfeed v P st node).i = st.i + 1 ∧
          (nfeed v P st node).comma = st.comma ∧ (nfeed v P st node).period = st.period))) := by
  unfold nfeed
  simp only []
  split
  · right
    refine ⟨by assumption, ?_⟩
    cases v <;> simp only []
    · split
      · exact ⟨rfl, .inl ⟨rfl, nofun, rfl, rfl⟩⟩
      · split
        · exact ⟨rfl, .inr (.inl ⟨rfl, nofun, rfl, rfl⟩)⟩
        · exact ⟨rfl, .inr (.inr ⟨rfl, rfl, rfl⟩)⟩
    · split
      · rename_i hc
        exact ⟨rfl, .inl ⟨rfl, fun _ => (Bool.and_eq_true_iff.mp hc).2, rfl, rfl⟩⟩
      · split
        · rename_i hc
          exact ⟨rfl, .inr (.inl ⟨rfl, fun _ => (Bool.and_eq_true_iff.mp hc).2, rfl, rfl⟩)⟩
        · exact ⟨rfl, .inr (.inr ⟨rfl, rfl, rfl⟩)⟩
  · exact .inl ⟨by assumption, rfl, rfl, rfl, rfl⟩

/-! ## `nclose` -/

theorem nclose_no_run {cfg : NCfg} {P : List Char → POut} {st : NState} {i : Int}
    (h : st.beginIdx < 0) : nclose cfg P st i = .ok (st.path, i) :=
  if_neg (by omega)

theorem ntail_no_run {cfg : NCfg} {P : List Char → POut} {st : NState} (h : st.beginIdx < 0) :
    ntail cfg P st = .ok st.path := by
  rw [ntail_eq, nclose_no_run h]
  rfl

theorem nclose_done {cfg : NCfg} {P : List Char → POut} {st : NState} {i : Int}
    (hb : 0 ≤ st.beginIdx) (hd : (P st.acc).done = true) :
    nclose cfg P st i =
      (nconcat cfg P st.path st.beginIdx.toNat i.toNat st.acc).bind fun p' => .ok (p', st.beginIdx + 1) := by
  rw [nclose, if_pos hb, if_pos hd]

theorem nclose_sep {cfg : NCfg} {P : List Char → POut} {st : NState} {i : Int} {prev : Node}
    (hb : 0 ≤ st.beginIdx) (hd : (P st.acc).done = false) (h1 : 1 ≤ i.toNat)
    (hp : st.path[i.toNat - 1]? = some prev) (hs : sepErr P st prev = true) :
    nclose cfg P st i =
      (nconcat cfg P st.path st.beginIdx.toNat (i.toNat - 1) st.acc).bind fun p' => .ok (p', st.beginIdx + 2) := by
  rw [nclose, if_pos hb, hd, if_neg (by decide), if_neg (by omega), hp]
  exact if_pos hs

theorem nclose_cases {cfg : NCfg} {P : List Char → POut} {st : NState} {i : Int}
    {r : Outcome (List Node × Int)} (h : nclose cfg P st i = r) :
    r = .ok (st.path, i) ∨
    (0 ≤ st.beginIdx ∧ (P st.acc).done = true ∧
      r = (nconcat cfg P st.path st.beginIdx.toNat i.toNat st.acc).bind fun p' =>
        .ok (p', st.beginIdx + 1)) ∨
    (0 ≤ st.beginIdx ∧ (P st.acc).done = false ∧ 1 ≤ i.toNat ∧
      ∃ prev, st.path[i.toNat - 1]? = some prev ∧ sepErr P st prev = true ∧
        r = (nconcat cfg P st.path st.beginIdx.toNat (i.toNat - 1) st.acc).bind fun p' =>
          .ok (p', st.beginIdx + 2)) ∨
    (r = .panic ∧ 0 ≤ st.beginIdx ∧ (i.toNat < 1 ∨ st.path.length ≤ i.toNat - 1)) := by
  unfold nclose at h
  split at h
  · rename_i hb
    split at h
    · rename_i hd
      exact .inr (.inl ⟨hb, hd, h.symm⟩)
    · rename_i hd
      split at h
      · rename_i h1
        exact .inr (.inr (.inr ⟨h.symm, hb, .inl h1⟩))
      · split at h
        · rename_i hnone
          exact .inr (.inr (.inr ⟨h.symm, hb, .inr (List.getElem?_eq_none_iff.mp hnone)⟩))
        · rename_i prev hp
          split at h
          · rename_i hs
            exact .inr (.inr (.inl ⟨hb, by simpa using hd, by omega, prev, hp, hs, h.symm⟩))
          · exact .inl h.symm
  · exact .inl h.symm

/-! ## `concat`, closing a run, an iteration, the loop: each is a coarsening -/

theorem nconcat_ok {cfg : NCfg} {P : List Char → POut} {path : List Node} {b e : Nat} {acc : List Char}
    {q : List Node} (h : nconcat cfg P path b e acc = .ok q) :
    q = path ∨ ∃ f l, path[b]? = some f ∧ f.pos = cfg.numPos ∧ path[e - 1]? = some l ∧ b < e ∧ e ≤ path.length ∧
      (cfg.enableNormalize = false → 1 < e - b) ∧
      q = path.take b ++ mergedNode f l (block path b e)
        (if cfg.enableNormalize then some (P acc).norm else none) :: path.drop e := by
  rcases nconcat_cases cfg P path b e acc with hp | hs | ⟨f, hf, hpos, -, h2, hc⟩
  · rw [hp] at h; cases h
  · rw [hs] at h; cases h; exact .inl rfl
  · rw [hc] at h
    obtain ⟨f', l, hbe, he, hf', hl, rfl⟩ := concatNodes_ok h
    rw [hf] at hf'; cases hf'
    exact .inr ⟨f, l, hf, hpos, hl, hbe, he, h2, rfl⟩

theorem nconcat_coarsens (cfg : NCfg) (P : List Char → POut) {path : List Node} {b e : Nat}
    {acc : List Char} {q : List Node} (h : nconcat cfg P path b e acc = .ok q) :
    Coarsens (RN cfg) path q := by
  rcases nconcat_cases cfg P path b e acc with hp | hs | ⟨f, hf, hpos, -, h2, hc⟩
  · rw [hp] at h; cases h
  · rw [hs] at h; cases h; exact Coarsens.refl _
  · rw [hc] at h
    exact concatNodes_coarsens cfg h (fun f' hf' => by rw [hf] at hf'; cases hf'; exact hpos) h2

theorem nclose_ok {cfg : NCfg} {P : List Char → POut} {st : NState} {i : Int} {r : List Node × Int}
    (h : nclose cfg P st i = .ok r) :
    r = (st.path, i) ∨ (0 ≤ st.beginIdx ∧ ∃ e, nconcat cfg P st.path st.beginIdx.toNat e st.acc = .ok r.1 ∧
      (r.2 = st.beginIdx + 1 ∨ r.2 = st.beginIdx + 2)) := by
  rcases nclose_cases h with h | ⟨h0, -, h⟩ | ⟨h0, -, -, _, -, -, h⟩ | ⟨h, -⟩
  · cases h; exact .inl rfl
  · obtain ⟨p', hc, hr⟩ := Outcome.bind_eq_ok h.symm
    cases hr; exact .inr ⟨h0, _, hc, .inl rfl⟩
  · obtain ⟨p', hc, hr⟩ := Outcome.bind_eq_ok h.symm
    cases hr; exact .inr ⟨h0, _, hc, .inr rfl⟩
  · cases h

theorem nclose_coarsens {cfg : NCfg} {P : List Char → POut} {st : NState} {i : Int} {r : List Node × Int}
    (h : nclose cfg P st i = .ok r) : Coarsens (RN cfg) st.path r.1 := by
  rcases nclose_ok h with rfl | ⟨-, e, hq, -⟩
  · exact Coarsens.refl _
  · exact nconcat_coarsens cfg P hq

theorem nstep_coarsens (v : NVariant) (cfg : NCfg) (cat : List Nat) (P : List Char → POut)
    {st st' : NState} (h : nstep v cfg cat P st = .ok st') : Coarsens (RN cfg) st.path st'.path := by
  rcases nstep_cases h with h | ⟨node, -, h | h⟩
  · cases h
  · cases h; rw [nfeed_path]; exact Coarsens.refl _
  · obtain ⟨r, hc, hr⟩ := Outcome.bind_eq_ok h.symm
    cases hr; exact nclose_coarsens hc

theorem ntail_coarsens (cfg : NCfg) (P : List Char → POut) {st : NState} {q : List Node}
    (h : ntail cfg P st = .ok q) : Coarsens (RN cfg) st.path q := by
  rw [ntail_eq] at h
  obtain ⟨r, hc, hr⟩ := Outcome.bind_eq_ok h
  cases hr; exact nclose_coarsens hc

theorem nloop_coarsens (v : NVariant) (cfg : NCfg) (cat : List Nat) (P : List Char → POut) (fuel : Nat)
    (st : NState) (q : List Node) (h : nloop v cfg cat P fuel st = .ok q) : Coarsens (RN cfg) st.path q := by
  fun_induction nloop v cfg cat P fuel st with
  | case2 _ _ _ _ hs ih => exact (ih h).trans (RN_compositional cfg) (nstep_coarsens v cfg cat P hs)
  | case6 => exact ntail_coarsens cfg P h
  | case1 | case3 | case4 | case5 => cases h

/-! ## both variants: no iteration runs out of fuel itself; lengths; the index invariants

`NInv` is what termination needs, `NInv2` adds what index safety needs; one iteration under the loop guard gives
`NInv2` of the next state from `NInv` of this one (`nstep_inv2`). -/

theorem nconcat_ne_fuel (cfg : NCfg) (P : List Char → POut) (path : List Node) (b e : Nat)
    (acc : List Char) : nconcat cfg P path b e acc ≠ .fuel := by
  intro h
  rcases nconcat_cases cfg P path b e acc with hp | hs | ⟨_, -, -, -, -, hc⟩
  · rw [hp] at h; cases h
  · rw [hs] at h; cases h
  · exact concatWith_ne_fuel (mergedNode · · · _) _ _ _ (hc ▸ h)

theorem nconcat_length {cfg : NCfg} {P : List Char → POut} {path : List Node} {b e : Nat}
    {acc : List Char} {q : List Node} (h : nconcat cfg P path b e acc = .ok q) :
    q.length = path.length ∨ (b < e ∧ e ≤ path.length ∧ q.length + (e - b) = path.length + 1) := by
  rcases nconcat_cases cfg P path b e acc with hp | hs | ⟨_, -, -, -, -, hc⟩
  · rw [hp] at h; cases h
  · rw [hs] at h; cases h; exact .inl rfl
  · rw [hc] at h
    obtain ⟨_, _, hbe, he, -, -, -, -, -, hlen⟩ := concatWith_shape (mk := (mergedNode · · · _)) h
    exact .inr ⟨hbe, he, hlen⟩

theorem nclose_ne_fuel (cfg : NCfg) (P : List Char → POut) (st : NState) (i : Int) :
    nclose cfg P st i ≠ .fuel := by
  intro h
  rcases nclose_cases h with h | ⟨-, -, h⟩ | ⟨-, -, -, _, -, -, h⟩ | ⟨h, -⟩
  · cases h
  · exact Outcome.bind_ne_fuel _ _ (nconcat_ne_fuel _ _ _ _ _ _) (fun _ h => by cases h) h.symm
  · exact Outcome.bind_ne_fuel _ _ (nconcat_ne_fuel _ _ _ _ _ _) (fun _ h => by cases h) h.symm
  · cases h

theorem nstep_ne_fuel (v : NVariant) (cfg : NCfg) (cat : List Nat) (P : List Char → POut) (st : NState) :
    nstep v cfg cat P st ≠ .fuel := by
  intro h
  rcases nstep_cases h with h | ⟨node, -, h | h⟩
  · cases h
  · cases h
  · exact Outcome.bind_ne_fuel _ _ (nclose_ne_fuel _ _ _ _) (fun _ h => by cases h) h.symm

theorem ntail_ne_fuel (cfg : NCfg) (P : List Char → POut) (st : NState) : ntail cfg P st ≠ .fuel := by
  rw [ntail_eq]
  exact Outcome.bind_ne_fuel _ _ (nclose_ne_fuel _ _ _ _) (fun _ => nofun)

/-- loop invariant of `rewrite_gen`: `i ≥ -1`, and a run never starts after the index -/
def NInv (st : NState) : Prop := -1 ≤ st.i ∧ st.beginIdx ≤ st.i

/-- loop invariant of `JoinNumericPlugin::rewrite_gen` for index safety: `-1 ≤ i`, `begin_idx ≤ i`, and while a
run is open (`begin_idx ≥ 0`) the index is that of a node (`i < len`) -/
def NInv2 (st : NState) : Prop :=
  -1 ≤ st.i ∧ st.beginIdx ≤ st.i ∧ (0 ≤ st.beginIdx → st.i < (st.path.length : Int))

theorem NInv2.inv {st : NState} (h : NInv2 st) : NInv st := ⟨h.1, h.2.1⟩

theorem runStart_of_neg {st : NState} (h : st.beginIdx < 0) : runStart st = st.i + 1 := if_pos h

theorem runStart_of_nonneg {st : NState} (h : 0 ≤ st.beginIdx) : runStart st = st.beginIdx :=
  if_neg (by omega)

theorem runStart_bounds {st : NState} (hinv : NInv st) : 0 ≤ runStart st ∧ runStart st ≤ st.i + 1 := by
  obtain ⟨hi, hb⟩ := hinv
  unfold runStart
  split <;> omega

theorem nclose_progress {cfg : NCfg} {P : List Char → POut} {st : NState} {r : List Node × Int}
    (h : nclose cfg P st (st.i + 1) = .ok r) (hinv : NInv st) :
    r.1.length ≤ st.path.length ∧ runStart st ≤ r.2 := by
  rcases nclose_ok h with rfl | ⟨h0, e, hc, hr⟩
  · exact ⟨Nat.le_refl _, (runStart_bounds hinv).2⟩
  · rw [runStart_of_nonneg h0]
    have := nconcat_length hc
    exact ⟨by omega, by omega⟩

/-- the third part of `NInv2` needs nothing of the state before: a run is open afterwards only if a candidate was
accepted, and then the path is unchanged and the index is that of the candidate -/
theorem nstep_inv2 {v : NVariant} {cfg : NCfg} {cat : List Nat} {P : List Char → POut} {st st' : NState}
    (h : nstep v cfg cat P st = .ok st') (hinv : NInv st) (hg : st.i + 1 < st.path.length) :
    NInv2 st' := by
  have hs := runStart_bounds hinv
  unfold NInv2
  rcases nstep_cases h with h | ⟨node, -, h | h⟩
  · cases h
  · cases h
    rw [nfeed_path]
    rcases nfeed_cases v P st node with ⟨-, e1, e2, -⟩ | ⟨-, e2, ⟨e1, -⟩ | ⟨e1, -⟩ | ⟨e1, -⟩⟩ <;>
      rw [e1, e2] <;> omega
  · obtain ⟨r, hc, hr⟩ := Outcome.bind_eq_ok h.symm
    cases hr
    have := nclose_progress hc hinv
    simp only [finState]
    omega

theorem nInit_inv (path : List Node) : NInv (nInit path) := by
  simp only [NInv, nInit]; omega

theorem nInit_inv2 (path : List Node) : NInv2 (nInit path) := by
  unfold NInv2 nInit
  simp only
  omega

/-! ## a run of one node was accepted; a parser that rejects a leading separator is never stuck on such a run -/

/-- the parser does not accept a separator as the first character of a number -/
def SepNotFirst (P : List Char → POut) : Prop := (P [',']).n = 0 ∧ (P ['.']).n = 0

/-- while the open run consists of ONE node, the parser has accepted exactly the normalised form of that node -/
def NOne (P : List Char → POut) (st : NState) : Prop :=
  0 ≤ st.beginIdx → st.beginIdx = st.i →
    ∃ node, st.path[st.i.toNat]? = some node ∧ st.acc = normForm node ∧ st.acc.length ≤ (P st.acc).n

theorem nInit_one (P : List Char → POut) (path : List Node) : NOne P (nInit path) := by
  intro h0
  simp only [nInit] at h0
  omega

theorem nstep_one (v : NVariant) (cfg : NCfg) (cat : List Nat) (P : List Char → POut) (st st' : NState)
    (hinv : NInv st) (h : nstep v cfg cat P st = .ok st') : NOne P st' := by
  obtain ⟨hi, hb⟩ := hinv
  rcases nstep_cases h with h | ⟨node, hn, h | h⟩
  · cases h
  · -- only an accepted candidate leaves a run open; it is one node long iff it starts here
    cases h
    intro h0 h1
    rcases nfeed_cases v P st node with ⟨hacc, e1, e2, -⟩ | ⟨-, e2, -⟩
    · rw [e1, e2] at h1
      have hneg : st.beginIdx < 0 := by unfold runStart at h1; split at h1 <;> omega
      refine ⟨node, by rw [nfeed_path, e1]; exact hn, ?_, by rw [nfeed_acc]; omega⟩
      rw [nfeed_acc, feedAcc, if_pos hneg, List.nil_append]
    · omega
  · obtain ⟨r, -, hr⟩ := Outcome.bind_eq_ok h.symm
    cases hr
    exact fun h0 => absurd h0 (show ¬ (0 : Int) ≤ -1 by decide)

theorem sep_not_accepted {P : List Char → POut} (hP : SepNotFirst P) {st : NState} {node : Node}
    (hs : sepErr P st node = true) (ha : st.acc = normForm node) (hacc : st.acc.length ≤ (P st.acc).n) :
    False := by
  unfold sepErr at hs
  rw [← ha] at hs
  rcases Bool.or_eq_true_iff.mp hs with h | h <;>
    have e := eq_of_beq (Bool.and_eq_true_iff.mp h).2 <;> rw [e] at hacc
  · rw [hP.1] at hacc; exact absurd hacc (by decide)
  · rw [hP.2] at hacc; exact absurd hacc (by decide)

/-! ## termination of the numeric loop after the repair of F2 (variant `fix`)

Every iteration of the repaired loop decreases, lexicographically, the triple
(path length − start of the current run, number of armed separator flags, path length − index):

* a numeric node whose characters the parser accepts keeps run start and flags and advances the index;
* a failing `append` with COMMA/POINT whose flag is still set restarts at the run start (same run
  start) and clears that flag — in the variant `cur` the restart also happens when the flag is
  already clear, which is where the measure fails to decrease (F2);
* every other failing `append` closes the run: the next run starts after the current node;
* a non-numeric node closes the run (and may re-arm the flags): the next run starts at least two
  nodes after the start of the closed one, whatever `concat` did to the path.
-/

def nDist (st : NState) : Nat := ((st.path.length : Int) - runStart st).toNat
def nFlags (st : NState) : Nat := st.comma.toNat + st.period.toNat
def nRem (st : NState) : Nat := ((st.path.length : Int) - st.i).toNat

theorem nFlags_le (st : NState) : nFlags st ≤ 2 := by
  unfold nFlags
  have := Bool.toNat_le st.comma
  have := Bool.toNat_le st.period
  omega

/-- progress of one iteration: the run start moves towards the end of the path, or path and run
start stay and a flag is cleared, or all three stay and the index advances -/
def NProg (st' st : NState) : Prop :=
  (st'.path.length : Int) - runStart st' < (st.path.length : Int) - runStart st ∨
  (st'.path.length = st.path.length ∧ runStart st' = runStart st ∧
    (nFlags st' < nFlags st ∨ (nFlags st' = nFlags st ∧ st'.i = st.i + 1)))

theorem nstep_fix_progress {cfg : NCfg} {cat : List Nat} {P : List Char → POut} {st st' : NState}
    (h : nstep .fix cfg cat P st = .ok st') (hinv : NInv st) :
    NInv st' ∧ st'.path.length ≤ st.path.length ∧ NProg st' st := by
  obtain ⟨hs0, hsi⟩ := runStart_bounds hinv
  rcases nstep_cases h with h | ⟨node, -, h | h⟩
  · cases h
  · -- a candidate: the path stays
    cases h
    have hf := nFlags_le st
    unfold NInv NProg nFlags at *
    rw [nfeed_path]
    rcases nfeed_cases .fix P st node with ⟨-, e1, e2, e3, e4⟩ |
        ⟨-, e2, ⟨e1, hc, e3, e4⟩ | ⟨e1, hc, e3, e4⟩ | ⟨e1, e3, e4⟩⟩
    · -- accepted: the index advances
      rw [runStart_of_nonneg (e2 ▸ hs0), e1, e2, e3, e4]
      omega
    · -- restart at the run start, with the comma flag, which was set, cleared
      rw [runStart_of_neg (by omega), e1, e2, e3, e4, hc rfl]
      rw [Bool.toNat_false, Bool.toNat_true]
      omega
    · rw [runStart_of_neg (by omega), e1, e2, e3, e4, hc rfl]
      rw [Bool.toNat_false, Bool.toNat_true]
      omega
    · -- the run is given up: the next one starts after this node
      rw [runStart_of_neg (by omega), e1, e2]
      omega
  · -- any other node closes the run: the next one starts after the node the loop goes on from
    obtain ⟨r, hc, hr⟩ := Outcome.bind_eq_ok h.symm
    cases hr
    obtain ⟨h1, h2⟩ := nclose_progress hc hinv
    unfold NInv NProg
    rw [runStart_of_neg (st := finState ..) (show (-1 : Int) < 0 by decide)]
    simp only [finState]
    omega

/-- decreasing measure of the repaired loop, for paths of at most `N` nodes: (distance of the run
start from the end of the path, number of armed separator flags, distance of the index from the
end), lexicographically -/
def nMeasure (N : Nat) (st : NState) : Nat :=
  ((st.path.length : Int) - runStart st).toNat * (3 * (N + 2)) + nFlags st * (N + 2) +
    ((st.path.length : Int) - st.i).toNat

/-- the lexicographic order on triples `(d, f, r)` with `f ≤ 2` and `r ≤ N + 1`, as an order on numbers -/
theorem lex_lt {N d d' f f' r r' : Nat} (hf' : f' ≤ 2) (hr' : r' ≤ N + 1)
    (h : d' < d ∨ (d' = d ∧ (f' < f ∨ (f' = f ∧ r' < r)))) :
    d' * (3 * (N + 2)) + f' * (N + 2) + r' < d * (3 * (N + 2)) + f * (N + 2) + r := by
  have hfm' : f' * (N + 2) ≤ 2 * (N + 2) := Nat.mul_le_mul_right _ hf'
  rcases h with hlt | ⟨rfl, hlt | ⟨rfl, hlt⟩⟩
  · have hm : (d' + 1) * (3 * (N + 2)) ≤ d * (3 * (N + 2)) := Nat.mul_le_mul_right _ hlt
    rw [Nat.succ_mul] at hm
    generalize d' * (3 * (N + 2)) = x' at *
    generalize d * (3 * (N + 2)) = x at *
    generalize f' * (N + 2) = y' at *
    omega
  · have hm : (f' + 1) * (N + 2) ≤ f * (N + 2) := Nat.mul_le_mul_right _ hlt
    rw [Nat.succ_mul] at hm
    generalize f' * (N + 2) = y' at *
    generalize f * (N + 2) = y at *
    omega
  · omega

theorem nMeasure_decreases {N : Nat} {st st' : NState} (hinv : NInv st) (hinv' : NInv st')
    (hg : st.i < (st.path.length : Int) - 1) (hl : st'.path.length ≤ st.path.length)
    (hN : st.path.length ≤ N) (hp : NProg st' st) : nMeasure N st' < nMeasure N st := by
  have hs := runStart_bounds hinv
  have hs' := runStart_bounds hinv'
  refine lex_lt (nFlags_le st') (by have := hinv'.1; omega) ?_
  rcases hp with hlt | ⟨hL, hss, hlt | ⟨hff, hi⟩⟩
  · exact .inl (by omega)
  · exact .inr ⟨by rw [hL, hss], .inl hlt⟩
  · exact .inr ⟨by rw [hL, hss], .inr ⟨hff, by rw [hL, hi]; omega⟩⟩

theorem fuel_arith (n : Nat) : n * (3 * (n + 2)) + 2 * (n + 2) + (n + 1) < 4 * (n + 1) * (n + 1) + 8 := by
  have h1 : n * (3 * (n + 2)) = 3 * (n * n) + 6 * n := by
    simp only [Nat.mul_add, Nat.mul_left_comm n 3]; omega
  have h2 : 4 * (n + 1) * (n + 1) = 4 * (n * n) + 8 * n + 4 := by
    simp only [Nat.mul_add, Nat.add_mul, Nat.mul_one, Nat.mul_assoc]; omega
  have h3 : n ≤ n * n := Nat.le_mul_self n
  rw [h1, h2]
  generalize n * n = q at *
  omega

theorem nMeasure_init (path : List Node) : nMeasure path.length (nInit path) < nFuel path := by
  have e1 : runStart (nInit path) = 0 := rfl
  have e2 : nFlags (nInit path) = 2 := rfl
  have e3 : (((nInit path).path.length : Int) - 0).toNat = path.length := by simp only [nInit]; omega
  have e4 : (((nInit path).path.length : Int) - (nInit path).i).toNat = path.length + 1 := by
    simp only [nInit]; omega
  unfold nMeasure nFuel
  rw [e1, e2, e3, e4]
  exact fuel_arith path.length

theorem nloop_fix_terminates (cfg : NCfg) (cat : List Nat) (P : List Char → POut) (N fuel : Nat) (st : NState)
    (hinv : NInv st) (hN : st.path.length ≤ N) (hf : nMeasure N st < fuel) :
    nloop .fix cfg cat P fuel st ≠ .fuel := by
  fun_induction nloop .fix cfg cat P fuel st with
  | case1 => omega
  | case2 _ st hg st' hs ih =>
    obtain ⟨hinv', hl, hp⟩ := nstep_fix_progress hs hinv
    have := nMeasure_decreases hinv hinv' hg hl hN hp
    exact ih hinv' (by omega) (by omega)
  | case3 | case4 => exact nofun
  | case5 _ _ _ hs => exact absurd hs (nstep_ne_fuel _ _ _ _ _)
  | case6 _ st => exact ntail_ne_fuel cfg P st

theorem joinNumeric_fix_ne_fuel (cfg : NCfg) (cat : List Nat) (P : List Char → POut) (path : List Node) :
    joinNumeric .fix cfg cat P path ≠ .fuel :=
  nloop_fix_terminates cfg cat P path.length _ _ (nInit_inv path) (Nat.le_refl _) (nMeasure_init path)

end Rewrite
