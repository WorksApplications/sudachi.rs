import Sudachi.Model.Cli
/-!
# The command-line tool as a function of the library's answers (C19)

Both loops of the tool — over the sentences of a line, over the lines of the input — stop after the first step that does
not exit normally.  `cutBy` says this once, and `analyzeLine_eq`, `runLines_eq` write the loops as: hand every unit to the
library, cut after the first rejected one, emit.  What C19 states about a run (all texts accepted, the first rejected text,
`-d`, `-o`, the field subset) is read off these two equations without a further induction.  Before them: what `strip_eol`
does to a line that ends in LF, and the line reader `linesGo`.
-/
namespace Cli

theorem stripEolFix_lf (l : Bytes) :
    stripEolFix (l ++ [10]) = if 0 < l.length ∧ l.getLast? = some 13 then l.dropLast else l := by
  unfold stripEolFix
  rw [if_pos ⟨by rw [List.length_append]; exact Nat.succ_pos _, List.getLast?_concat⟩, List.dropLast_concat]

theorem stripEolCur_lf (l : Bytes) (hne : l ≠ []) :
    stripEolCur (l ++ [10]) = if 1 < l.length ∧ l.getLast? = some 13 then l.dropLast else l := by
  unfold stripEolCur
  rw [if_pos ⟨by rw [List.length_append]; exact Nat.succ_lt_succ (List.length_pos_iff.mpr hne), List.getLast?_concat⟩,
    List.dropLast_concat]

/-- `cur` is the line being read, reversed -/
theorem linesGo_spec (file : Bytes) : ∀ (cur : Bytes), (∀ b ∈ cur, b ≠ 10) →
    (linesGo file cur).flatten = cur.reverse ++ file ∧
    ∀ l ∈ linesGo file cur, l ≠ [] ∧ ((∃ body, l = body ++ [10] ∧ ∀ b ∈ body, b ≠ 10) ∨ (∀ b ∈ l, b ≠ 10)) := by
  induction file with
  | nil =>
    intro cur hc
    unfold linesGo
    by_cases he : cur.isEmpty = true
    · rw [if_pos he, List.isEmpty_iff.mp he]; exact ⟨rfl, nofun⟩
    · rw [if_neg he, List.append_nil]
      refine ⟨List.append_nil _, fun l hl => ?_⟩
      obtain rfl := List.mem_singleton.mp hl
      exact ⟨fun h => he (List.isEmpty_iff.mpr (List.reverse_eq_nil_iff.mp h)), .inr fun b hb => hc b (List.mem_reverse.mp hb)⟩
  | cons x rest ih =>
    intro cur hc
    unfold linesGo
    by_cases hx : x = 10
    · obtain ⟨h1, h2⟩ := ih [] nofun
      rw [if_pos hx, List.flatten_cons, h1, List.reverse_cons, hx]
      refine ⟨by rw [List.reverse_nil, List.nil_append, List.append_assoc, List.singleton_append], fun l hl => ?_⟩
      rcases List.mem_cons.mp hl with rfl | hl
      · exact ⟨List.append_ne_nil_of_right_ne_nil _ (List.cons_ne_nil _ _),
          .inl ⟨cur.reverse, rfl, fun b hb => hc b (List.mem_reverse.mp hb)⟩⟩
      · exact h2 l hl
    · obtain ⟨h1, h2⟩ := ih (x :: cur) fun b hb => (List.mem_cons.mp hb).elim (· ▸ hx) (hc b)
      rw [if_neg hx]
      exact ⟨by rw [h1, List.reverse_cons, List.append_assoc, List.singleton_append], h2⟩

/-- the texts handed to the tokenizer for one stripped line -/
def unitsOf (lib : Lib) (f : Flags) (text : Bytes) : List Bytes :=
  match f.split with | .only => [] | .none => [text] | .default => lib.split text

def fmtRes (f : Flags) : TokRes → Bytes | .ok ms _ => format f ms | _ => []
def dumpRes : TokRes → Bytes | .ok _ d => d | .err d => d | .missing => []
def exitRes : TokRes → Exit | .ok _ _ => .ok | .err _ => .panic | .missing => .miss

/-- the library accepts the text (analysed with ALL fields) -/
def Accepts (lib : Lib) (s : Bytes) : Prop := ∃ ms d, lib.tokenize subsetAll s = .ok ms d

/-- specification of what the writer receives for one stripped line -/
def specLine (lib : Lib) (f : Flags) (text : Bytes) : Bytes :=
  match f.split with
  | .only => (lib.split text).flatten
  | _ => ((unitsOf lib f text).map (fun s => fmtRes f (lib.tokenize subsetAll s))).flatten

/-- specification of what the debug tokenizer prints for one stripped line -/
def dumpsLine (lib : Lib) (f : Flags) (text : Bytes) : Bytes :=
  if f.debug then ((unitsOf lib f text).map (fun s => dumpRes (lib.tokenize subsetAll s))).flatten else []

theorem exitRes_accepts {lib : Lib} {s : Bytes} (h : Accepts lib s) : exitRes (lib.tokenize subsetAll s) = .ok := by
  obtain ⟨ms, d, h⟩ := h
  rw [h]; rfl

/-! ### the status of a run is the status of its last event -/

theorem exitOf_eq : ∀ (evs : List Emit), exitOf evs = ((evs.map (·.exit)).getLast?).getD .ok
  | [] => rfl
  | [_] => rfl
  | _ :: e' :: rest => (exitOf_eq (e' :: rest)).trans (congrArg (·.getD Exit.ok) List.getLast?_cons_cons.symm)

theorem exitOf_append_single (evs : List Emit) (e : Emit) : exitOf (evs ++ [e]) = e.exit := by
  rw [exitOf_eq, List.map_append, List.map_singleton, List.getLast?_concat]; rfl

theorem getLastD_cons_ok (l : List Exit) : ((Exit.ok :: l).getLast?).getD .ok = (l.getLast?).getD .ok := by
  cases l <;> rfl

theorem getLastD_all_ok (l : List Exit) (h : ∀ x ∈ l, x = .ok) : (l.getLast?).getD .ok = .ok := by
  cases hl : l.getLast? with
  | none => rfl
  | some x => exact h x (List.mem_of_getLast? hl)

/-! ### both loops — over the sentences of a line, over the lines of the input — stop after the first step that does
not exit normally -/

/-- a list up to and including its first element that does not exit normally -/
def cutBy {β : Type} (ex : β → Exit) : List β → List β
  | [] => []
  | b :: rest => if ex b = .ok then b :: cutBy ex rest else [b]

theorem cutBy_append {β : Type} (ex : β → Exit) (pre post : List β) (h : ∀ b ∈ pre, ex b = .ok) :
    cutBy ex (pre ++ post) = pre ++ cutBy ex post := by
  induction pre with
  | nil => rfl
  | cons b pre ih =>
    rw [List.cons_append, cutBy, if_pos (h b List.mem_cons_self), ih fun x hx => h x (List.mem_cons_of_mem _ hx)]; rfl

theorem cutBy_ok {β : Type} (ex : β → Exit) (l : List β) (h : ∀ b ∈ l, ex b = .ok) : cutBy ex l = l :=
  (congrArg (cutBy ex) (List.append_nil l).symm).trans ((cutBy_append ex l [] h).trans (List.append_nil l))

theorem cutBy_map {β γ : Type} (φ : β → γ) (ex : β → Exit) (ex' : γ → Exit) (h : ∀ b, ex' (φ b) = ex b) (l : List β) :
    cutBy ex' (l.map φ) = (cutBy ex l).map φ := by
  induction l with
  | nil => rfl
  | cons b rest ih =>
    rw [List.map_cons, cutBy, cutBy, h b, ih]
    by_cases hb : ex b = .ok
    · rw [if_pos hb, if_pos hb]; rfl
    · rw [if_neg hb, if_neg hb]; rfl

theorem runLines_eq (lib : Lib) (f : Flags) (ls : List Bytes) :
    runLines lib f ls = cutBy (·.exit) (ls.map fun l => analyzeLine lib f (stripEol f.strip l)) := by
  induction ls with
  | nil => rfl
  | cons l rest ih => rw [runLines, List.map_cons, cutBy, ih]

/-- what a sequence of analysis results emits: their dumps (with `-d`), their formats, the status of the last one -/
def emitRes (f : Flags) (rs : List TokRes) : Emit :=
  ⟨if f.debug then (rs.map dumpRes).flatten else [], (rs.map (fmtRes f)).flatten, ((rs.map exitRes).getLast?).getD .ok⟩

theorem Emit.ext' : ∀ {a b : Emit}, a.dumps = b.dumps → a.outs = b.outs → a.exit = b.exit → a = b
  | ⟨_, _, _⟩, ⟨_, _, _⟩, rfl, rfl, rfl => rfl

theorem emitRes_single (f : Flags) (r : TokRes) :
    emitRes f [r] = ⟨if f.debug then dumpRes r else [], fmtRes f r, exitRes r⟩ := by
  unfold emitRes
  exact Emit.ext' (congrArg (ite _ · _) (List.append_nil _)) (List.append_nil _) rfl

theorem emitRes_cons (f : Flags) (r : TokRes) (rs : List TokRes) :
    emitRes f (r :: rs) = ⟨(if f.debug then dumpRes r else []) ++ (emitRes f rs).dumps, fmtRes f r ++ (emitRes f rs).outs,
      ((exitRes r :: rs.map exitRes).getLast?).getD .ok⟩ := by
  unfold emitRes
  cases f.debug <;> rfl

theorem emitRes_append_err (f : Flags) (rs : List TokRes) (d : Bytes) :
    emitRes f (rs ++ [.err d]) = ⟨if f.debug then (rs.map dumpRes).flatten ++ d else [], (rs.map (fmtRes f)).flatten, .panic⟩ := by
  unfold emitRes
  rw [List.map_append, List.map_append, List.map_append, List.flatten_append, List.flatten_append]
  exact Emit.ext' (congrArg (ite _ · _) (congrArg _ (List.append_nil d))) (List.append_nil _)
    (congrArg (·.getD Exit.ok) List.getLast?_concat)

theorem analyzeOne_eq (lib : Lib) (f : Flags) (s : Bytes) :
    analyzeOne lib f s = ⟨if f.debug then dumpRes (lib.tokenize subsetAll s) else [], fmtRes f (lib.tokenize subsetAll s),
      exitRes (lib.tokenize subsetAll s)⟩ := by
  unfold analyzeOne cliSubset
  cases lib.tokenize subsetAll s with
  | missing => exact congrArg (Emit.mk · [] .miss) (ite_self _).symm
  | _ => rfl

theorem analyzeSents_eq (lib : Lib) (f : Flags) (ss : List Bytes) :
    analyzeSents lib f ss = emitRes f (cutBy exitRes (ss.map (lib.tokenize subsetAll))) := by
  induction ss with
  | nil => exact Emit.ext' (ite_self _).symm rfl rfl
  | cons s rest ih =>
    rw [analyzeSents, List.map_cons, cutBy, analyzeOne_eq]
    by_cases hok : exitRes (lib.tokenize subsetAll s) = .ok
    · rw [if_pos hok, if_pos hok, ih, emitRes_cons, hok, getLastD_cons_ok]; rfl
    · rw [if_neg hok, if_neg hok, emitRes_single]

theorem analyzeLine_eq (lib : Lib) (f : Flags) (text : Bytes) :
    analyzeLine lib f text =
      if f.split = .only then ⟨[], (lib.split text).flatten, .ok⟩
      else emitRes f (cutBy exitRes ((unitsOf lib f text).map (lib.tokenize subsetAll))) := by
  unfold analyzeLine unitsOf
  cases f.split with
  | only => rfl
  | none => exact (analyzeOne_eq lib f text).trans ((emitRes_single f _).symm.trans (congrArg (emitRes f) (ite_self _).symm))
  | default => exact analyzeSents_eq lib f _

theorem analyzeLine_ok (lib : Lib) (f : Flags) (text : Bytes) (h : ∀ s ∈ unitsOf lib f text, Accepts lib s) :
    analyzeLine lib f text = ⟨dumpsLine lib f text, specLine lib f text, .ok⟩ := by
  have hex : ∀ r ∈ (unitsOf lib f text).map (lib.tokenize subsetAll), exitRes r = .ok :=
    List.forall_mem_map.mpr fun s hs => exitRes_accepts (h s hs)
  rw [analyzeLine_eq, cutBy_ok _ _ hex]
  unfold specLine dumpsLine emitRes
  rw [getLastD_all_ok _ (List.forall_mem_map.mpr hex), List.map_map, List.map_map]
  cases hsp : f.split <;> simp only [if_true, reduceCtorEq, if_false, Function.comp_def]
  simp only [unitsOf, hsp, List.map_nil, List.flatten_nil, ite_self]

/-- units `us1` accepted, then `s` rejected: the results of `us1`, then a panic; what follows is not looked at -/
theorem analyzeLine_err (lib : Lib) (f : Flags) (text s d : Bytes) (us1 us2 : List Bytes) (hsp : f.split ≠ .only)
    (hu : unitsOf lib f text = us1 ++ s :: us2) (h : ∀ x ∈ us1, Accepts lib x) (hs : lib.tokenize subsetAll s = .err d) :
    analyzeLine lib f text =
      ⟨if f.debug then (us1.map (fun x => dumpRes (lib.tokenize subsetAll x))).flatten ++ d else [],
       (us1.map (fun x => fmtRes f (lib.tokenize subsetAll x))).flatten, .panic⟩ := by
  rw [analyzeLine_eq, if_neg hsp, hu, List.map_append, List.map_cons, hs,
    cutBy_append _ _ _ (List.forall_mem_map.mpr fun x hx => exitRes_accepts (h x hx)), cutBy, if_neg nofun, emitRes_append_err,
    List.map_map, List.map_map]
  rfl

theorem runLines_append (lib : Lib) (f : Flags) (pre post : List Bytes)
    (h : ∀ x ∈ pre, ∀ s ∈ unitsOf lib f (stripEol f.strip x), Accepts lib s) :
    runLines lib f (pre ++ post) =
      pre.map (fun x => ⟨dumpsLine lib f (stripEol f.strip x), specLine lib f (stripEol f.strip x), .ok⟩) ++
        runLines lib f post := by
  have hl := fun x hx => analyzeLine_ok lib f (stripEol f.strip x) (h x hx)
  rw [runLines_eq, runLines_eq, List.map_append, List.map_congr_left hl,
    cutBy_append _ _ _ (List.forall_mem_map.mpr fun _ _ => rfl)]

/-- lines `pre` accepted, then a line whose analysis does not exit normally: the run ends with that line's events
(plain run: results on stdout, no `-d`) -/
theorem run_stops (lib : Lib) (f : Flags) (file : Bytes) (pre post : List Bytes) (l : Bytes) (e : Emit)
    (hlines : lines file = pre ++ l :: post)
    (hpre : ∀ x ∈ pre, ∀ u ∈ unitsOf lib f (stripEol f.strip x), Accepts lib u)
    (he : analyzeLine lib f (stripEol f.strip l) = e) (hne : e.exit ≠ .ok) (htf : f.toFile = false) (hdb : f.debug = false) :
    (run lib f true true file).exit = e.exit ∧
    (run lib f true true file).stdout = (pre.map (fun x => specLine lib f (stripEol f.strip x))).flatten ++ (e.dumps ++ e.outs) := by
  have hrun := runLines_append lib f pre (l :: post) hpre
  rw [show runLines lib f (l :: post) = _ from if_neg (he ▸ hne), he] at hrun
  have hd0 : ∀ t, dumpsLine lib f t = [] := fun t => by unfold dumpsLine; rw [hdb]; rfl
  constructor
  · simp [run, htf, hlines, hrun, exitOf_append_single]
  · simp [run, htf, hlines, hrun, List.map_map, Function.comp_def, hd0]

/-! ### the debug flag and the library's answers for other subsets do not reach the writer -/

/-- what the read loop reads of the flags and of the library -/
theorem runLines_congr (lib lib' : Lib) (f f' : Flags) (hw : f.wakati = f'.wakati) (ha : f.all = f'.all) (hs : f.split = f'.split)
    (hst : f.strip = f'.strip) (hd : f.debug = f'.debug)
    (ht : ∀ t, lib.tokenize subsetAll t = lib'.tokenize subsetAll t) (hsp : ∀ t, lib.split t = lib'.split t) :
    runLines lib f = runLines lib' f' := by
  have hfmt : fmtRes f = fmtRes f' := funext fun r => by
    cases r with
    | ok ms d => show format f ms = format f' ms; unfold format; rw [hw, ha]
    | _ => rfl
  have hline : analyzeLine lib f = analyzeLine lib' f' := funext fun t => by
    rw [analyzeLine_eq, analyzeLine_eq]
    unfold unitsOf emitRes
    rw [hs, hsp, hd, hfmt, funext ht]
  funext ls
  rw [runLines_eq, runLines_eq, hline, hst]

def noDump (e : Emit) : Emit := { e with dumps := [] }

theorem runLines_debug_off (lib : Lib) (f : Flags) (ls : List Bytes) :
    runLines lib { f with debug := false } ls = (runLines lib f ls).map noDump := by
  have hline : ∀ t, analyzeLine lib { f with debug := false } t = noDump (analyzeLine lib f t) := fun t => by
    rw [analyzeLine_eq, analyzeLine_eq]
    by_cases h : f.split = .only
    · rw [if_pos h, if_pos h]; rfl
    · rw [if_neg h, if_neg h]; rfl
  rw [runLines_eq, runLines_eq, ← cutBy_map noDump (·.exit) (·.exit) (fun _ => rfl), List.map_map]
  exact congrArg _ (List.map_congr_left fun l _ => hline _)

end Cli
