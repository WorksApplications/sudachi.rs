import Sudachi.Proofs.RecycleTotal
import Sudachi.Proofs.OovLattice
import Sudachi.Proofs.TotalCompose
import Sudachi.Proofs.Partition
/-!
# The Ok direction of `RecycleTotal.Bridge`, for every configuration (`bridge_ok_general`)

Whenever `Total.tokenize` returns a result, the discipline model with the concrete payload on a NEW tokenizer is Ok and
reports that result.  The proof is a simulation along the stages of `Total.tokenize`.  `InpRel` relates the input buffer to
the paired list of `Model/Edit.lean` (`prepare_sim`; `rewriteAll_sim` for the plugin stack).  `LatRel` relates the three row
vectors to `Total`'s rows (`reset_sim`, `insert_sim`, `fold_sim`), and `Reach` says which rows are non-empty, which makes
`has_previous_node` equal to `Oov.reachable`; with these, `loop_sim` shows that the interleaved position loop of the
discipline model is `Oov.buildFrom` followed by the batch of `Total.insert`s.  `eos_sim` and `resolve_sim` are `connect_eos`
and the path phase.  Hypotheses: every committed batch leaves at most 65 535 bytes (hence at most 65 535 characters:
`few_of_short`), and the buffer builder returns a well-formed buffer over the characters it was given; `bridge_ok_general`
takes them one by one, `bridge_ok_of_config` as the structure `ConfigOk` - that one is what `Props/C10.lean` uses.  The
failing outcomes (which error class, panics) are NOT covered: the discipline model has no panic outcome inside
`Lattice::insert` or the candidate payload.
-/
namespace RecycleTotal
open Recycle

/-! ## the element type: the decoders undo the constructors -/

theorem filterMap_map_inv {α β : Type} {p : β → Option α} {c : α → β} (h : ∀ a, p (c a) = some a) (l : List α) :
    (l.map c).filterMap p = l := by
  rw [List.filterMap_map, show p ∘ c = some from funext h, List.filterMap_some]

theorem nats_map (l : List Nat) : nats (l.map .nat) = l := filterMap_map_inv (c := Elem.nat) (fun _ => rfl) l

theorem pairs_map (l : List (EditM.P Nat)) : pairs (l.map .pair) = l := filterMap_map_inv (c := Elem.pair) (fun _ => rfl) l

theorem edits_map (l : List (EditM.Edit Nat)) : edits (l.map .edit) = l := filterMap_map_inv (c := Elem.edit) (fun _ => rfl) l

theorem ents_map (l : List Total.Entry) : ents (l.map .ent) = l := filterMap_map_inv (c := Elem.ent) (fun _ => rfl) l

theorem rns_map (l : List Total.NodeRange) : rns (l.map .rn) = l := filterMap_map_inv (c := Elem.rn) (fun _ => rfl) l

theorem all_isEnt_map (l : List Total.Entry) : (l.map Elem.ent).all Elem.isEnt = true := by
  induction l with
  | nil => rfl
  | cons a t ih => simp [Elem.isEnt, ih]

theorem all_rows_isEnt (R : List (List Total.Entry)) :
    (R.map (fun r => r.map Elem.ent)).all (fun r => r.all Elem.isEnt) = true := by
  induction R with
  | nil => rfl
  | cons a t ih => simp only [List.map_cons, List.all_cons, all_isEnt_map, ih, Bool.and_self]

theorem map_ents_map (rs : List (List Total.Entry)) : (rs.map (fun r => r.map Elem.ent)).map ents = rs := by
  induction rs with
  | nil => rfl
  | cons a t ih => simp only [List.map_cons, ents_map, ih]

/-! ## the input stage: `start_build`, the plugin stack, `build` -/

/-- the buffer of the discipline model holds the paired list `l` of `Model/Edit.lean` and is being edited.
`c2b` (no plugin writes `mod_c2b` before `build`) is part of the description of that state; the stage lemmas keep it and none
reads it -/
structure InpRel (l : List (EditM.P Nat)) (i : Input Elem) : Prop where
  modified : i.modified = (EditM.textOf l).map .nat
  m2o : i.m2o = l.map .pair
  replaces : i.replaces = []
  state : i.state = .rw
  c2b : i.modC2b = []

/-- every batch the plugin stack commits leaves a text of at most 65 535 bytes -/
def ShortRun (lv : EditM.LenV) : List (List Nat → Oov.Outcome (List (EditM.Edit Nat))) → List (EditM.P Nat) → Prop
  | [], _ => True
  | p :: ps, l => ∀ es l1, p (EditM.textOf l) = .ok es → EditM.commitV lv l es = some l1 →
      (EditM.textOf l1).length ≤ EditM.REALLY_MAX_LENGTH ∧ ShortRun lv ps l1

theorem rewrite_sim (v : Total.SplitV) (lv : EditM.LenV) (D : Dict)
    (p : List Nat → Oov.Outcome (List (EditM.Edit Nat))) (l l1 : List (EditM.P Nat)) (es : List (EditM.Edit Nat))
    (i : Input Elem) (hi : InpRel l i) (hp : p (EditM.textOf l) = .ok es) (hc : EditM.commitV lv l es = some l1)
    (hlen : (EditM.textOf l1).length ≤ EditM.REALLY_MAX_LENGTH) :
    ∃ i', Input.rewrite (payload v lv D) (mkPlugin p) i = (i', .ok) ∧ InpRel l1 i' := by
  have hed : (mkPlugin p).edits i.editView = some (es.map .edit) := by
    show (match p (nats i.modified) with | .ok es => some (es.map Elem.edit) | _ => none) = _
    rw [hi.modified, nats_map, hp]
  unfold Input.rewrite
  rw [if_neg (by simp [mkPlugin])]
  unfold Input.withEditor
  rw [if_neg (by rw [hi.state]; simp)]
  rw [hed]
  simp only
  unfold Input.commit
  by_cases hes : es = []
  · subst hes
    obtain rfl : l = l1 := Option.some.inj hc   -- no edits: `commit` returns the list as it is
    have hem : (i.replaces ++ List.map Elem.edit ([] : List (EditM.Edit Nat))).isEmpty = true := by
      rw [hi.replaces]; rfl
    refine ⟨{ i with replaces := i.replaces ++ List.map Elem.edit [] }, ?_, ?_⟩
    · simp only [hem, ↓reduceIte]
    · exact ⟨hi.modified, hi.m2o, by simp [hi.replaces], hi.state, hi.c2b⟩
  · have hne : (i.replaces ++ es.map Elem.edit).isEmpty = false := by
      rw [hi.replaces]; cases es with
      | nil => exact absurd rfl hes
      | cons a t => rfl
    simp only [hne]
    have hres : (payload v lv D).resolve i.modified i.m2o (i.replaces ++ es.map Elem.edit) =
        ((EditM.textOf l1).map .nat, l1.map .pair, (EditM.textOf l1).length) := by
      show (match EditM.commitV lv (pairs i.m2o) (edits (i.replaces ++ es.map Elem.edit)) with
        | some l => ((EditM.textOf l).map Elem.nat, l.map Elem.pair, (EditM.textOf l).length)
        | none => ([], [], EditM.REALLY_MAX_LENGTH + 1)) = _
      rw [hi.m2o, pairs_map, hi.replaces, List.nil_append, edits_map, hc]
    simp only [Bool.false_eq_true, ↓reduceIte, hres]
    rw [if_neg (by show ¬ (EditM.textOf l1).length > EditM.REALLY_MAX_LENGTH; omega)]
    exact ⟨_, rfl, ⟨by simp, by simp, rfl, hi.state, hi.c2b⟩⟩

theorem rewriteAll_sim (v : Total.SplitV) (lv : EditM.LenV) (D : Dict) :
    ∀ (ps : List (List Nat → Oov.Outcome (List (EditM.Edit Nat)))) (l l' : List (EditM.P Nat)) (i : Input Elem),
      InpRel l i → ShortRun lv ps l → Total.rewriteInput lv ps l = .ok l' →
      ∃ i', Input.rewriteAll (payload v lv D) (ps.map mkPlugin) i = (i', .ok) ∧ InpRel l' i'
  | [], l, l', i, hi, _, h => by
    cases (Oov.Outcome.ok.inj h : l = l')
    exact ⟨i, rfl, hi⟩
  | p :: ps, l, l', i, hi, hs, h => by
    obtain ⟨es, l1, hp, hc, h⟩ := Partition.rewriteInput_cons_ok h
    obtain ⟨hlen, hs1⟩ := hs es l1 hp hc
    obtain ⟨i1, h1, hi1⟩ := rewrite_sim v lv D p l l1 es i hi hp hc hlen
    obtain ⟨i', h2, hi'⟩ := rewriteAll_sim v lv D ps l1 l' i1 hi1 hs1 h
    refine ⟨i', ?_, hi'⟩
    simp only [List.map_cons, Input.rewriteAll, h1]
    exact h2

/-- **input stage of the bridge**: `reset(); push_str(text); start_build; rewrite_input; build` of the discipline model with
the concrete payload on a NEW tokenizer = `EditM.startBuild` + `Total.rewriteInput`: it succeeds and the buffer holds their
text and offset map; the two tables that bound the position loop have the length of the decoded text (+ sentinel). -/
theorem prepare_sim (v : Total.SplitV) (lv : EditM.LenV) (D : Dict) (m : Mode) (s : Subset) (text : List Nat)
    (l0 l : List (EditM.P Nat)) (h0 : EditM.startBuild text = some l0) (hs : ShortRun lv D.inputPlugins l0)
    (h1 : Total.rewriteInput lv D.inputPlugins l0 = .ok l) :
    ∃ i, Input.prepare (payload v lv D) ((newTok m s).resetWith .fix (text.map .nat)).input = (i, .ok) ∧
      i.modified = (EditM.textOf l).map .nat ∧ i.m2o = l.map .pair ∧ i.replaces = [] ∧
      i.modChars.length = (charsOf i.modified).length ∧ i.modC2b.length = (charsOf i.modified).length + 1 := by
  obtain ⟨rfl, hshort⟩ := EditM.startBuild_some h0
  let i0 := ((newTok m s).resetWith .fix (text.map .nat)).input
  have hj := Input.startBuild_ok (payload v lv D) i0
    (by show ¬ (([] : List Elem) ++ text.map Elem.nat).length > EditM.MAX_LENGTH; simpa using hshort) rfl
  have hrel : InpRel (EditM.identFrom 0 text)
      { i0 with state := .rw, modified := i0.modified ++ i0.original,
                m2o := i0.m2o ++ (payload v lv D).identMap (i0.modified ++ i0.original) } := by
    refine ⟨?_, ?_, rfl, rfl, rfl⟩
    · show ([] : List Elem) ++ (([] : List Elem) ++ text.map Elem.nat) = _
      rw [EditM.textOf_identFrom]; rfl
    · show ([] : List Elem) ++ (EditM.identFrom 0 (nats (([] : List Elem) ++ (([] : List Elem) ++ text.map Elem.nat)))).map
        Elem.pair = _
      rw [List.nil_append, List.nil_append, List.nil_append, nats_map]
  obtain ⟨k, hk, hrelk⟩ := rewriteAll_sim v lv D D.inputPlugins _ l _ hrel hs h1
  have hprep : Input.prepare (payload v lv D) i0 = Input.build (payload v lv D) k := by
    unfold Input.prepare
    rw [hj]
    dsimp only
    rw [show (payload v lv D).plugins = D.inputPlugins.map mkPlugin from rfl, hk]
  have hok := Input.build_ok (payload v lv D) k hrelk.state
  rcases hb : Input.build (payload v lv D) k with ⟨i, o⟩
  rw [hb] at hok hprep
  cases hok
  obtain ⟨-, b, -, hm2o, hrep⟩ := Input.build_ok_shape (payload v lv D) k i hb
  obtain ⟨e1, e2⟩ := Input.prepare_ok_shape (payload v lv D) i0 i hprep
  refine ⟨i, hprep, by rw [b, hrelk.modified], by rw [hm2o, hrelk.m2o], by rw [hrep, hrelk.replaces], ?_, ?_⟩
  · rw [e1, payload_chars_length]
  · rw [e2, payload_c2b_length]
    exact Nat.zero_add _ ▸ rfl

/-! ## the lattice: its rows, one `insert`, the candidates of one position -/

/-- `indices` / `ends_full` do not hold the BOS entry of `ends[0]` -/
def dropBos {α : Type} : List (List α) → List (List α)
  | [] => []
  | r :: rs => r.drop 1 :: rs

theorem dropBos_length {α : Type} (R : List (List α)) : (dropBos R).length = R.length := by
  cases R <;> rfl

theorem rowsOf_rel (r : List Total.Entry) (rs : List (List Total.Entry)) :
    rowsOf ((dropBos ((Total.bosEntry :: r) :: rs)).map (fun r => r.map Elem.ent)) =
      ((Total.bosEntry :: r) :: rs).toArray := by
  simp only [dropBos, List.drop_one, List.tail_cons, List.map_cons, rowsOf, ents_map, map_ents_map]

theorem dropBos_pushRow {α : Type} (b : α) (r : List α) (rs : List (List α)) (k : Nat) (y : α) :
    pushRow (dropBos ((b :: r) :: rs)) k y = dropBos (pushRow ((b :: r) :: rs) k y) := by
  cases k with
  | zero => simp [dropBos, pushRow]
  | succ k => simp [dropBos, pushRow]

theorem pushRow_head {α : Type} (b : α) (r : List α) (rs : List (List α)) (k : Nat) (y : α) :
    ∃ r' rs', pushRow ((b :: r) :: rs) k y = (b :: r') :: rs' := by
  cases k with
  | zero => exact ⟨r ++ [y], rs, rfl⟩
  | succ k => exact ⟨r, pushRow rs k y, rfl⟩

/-- the lattice of the discipline model holds the rows of `Total`'s lattice.  `full` (`ends_full`) is kept for
completeness: the concrete `pathNodes` reads neither `ends_full` nor `ends` -/
structure LatRel (rows : Total.Rows) (lat : Lattice Elem) : Prop where
  ends : lat.ends = rows.toList.map (fun r => r.map Elem.ent)
  indices : lat.indices = (dropBos rows.toList).map (fun r => r.map Elem.ent)
  full : lat.endsFull = (dropBos rows.toList).map (fun r => r.map (fun e => Elem.vn e.node))
  head : ∃ r rs, rows.toList = (Total.bosEntry :: r) :: rs

theorem insert_eq_ok (D : Dict) (rows rows' : Total.Rows) (e : Total.Entry) (n : Vit.Node)
    (h : Total.insert Total.addI32 Total.I32_MAX D.conn rows n = .ok (rows', e)) :
    ∃ row rowE c pe pi, rows.toList[n.b]? = some row ∧
      Total.connectNode Total.addI32 Total.I32_MAX D.conn row n = some (c, pe, pi) ∧ rows.toList[n.e]? = some rowE ∧
      e = ⟨n, c, pe, pi⟩ ∧ rows'.toList = pushRow rows.toList n.e e := by
  obtain ⟨row, rowE, hb, he, hn, hc, rfl⟩ := Total.insert_eq_ok h
  obtain ⟨en, c, pe, pi⟩ := e
  obtain rfl : n = en := hn.symm
  have heL : rows.toList[n.e]? = some rowE := by rw [Array.getElem?_toList]; exact he
  exact ⟨row, rowE, c, pe, pi, by rw [Array.getElem?_toList]; exact hb, hc, heL, rfl,
    by rw [Array.toList_setIfInBounds, pushRow_eq_set _ _ _ _ heL]⟩

/-- **one `Lattice::insert`**: `Total.insert` (row `node.b` read, `connect_node` with `i32` additions, row `node.e` pushed)
is `Recycle.Lattice.insert` with the concrete payload (three parallel pushes), when the loop position is the node's begin -/
theorem insert_sim (v : Total.SplitV) (lv : EditM.LenV) (D : Dict) (rows rows' : Total.Rows) (e : Total.Entry)
    (n : Vit.Node) (lat : Lattice Elem) (hrel : LatRel rows lat)
    (h : Total.insert Total.addI32 Total.I32_MAX D.conn rows n = .ok (rows', e)) :
    LatRel rows' (Lattice.insert (payload v lv D) lat n.b (n.e, .vn n)) := by
  obtain ⟨row, rowE, c, pe, pi, hbL, hc, -, rfl, hto⟩ := insert_eq_ok D rows rows' e n h
  have hrow : rowAt lat.ends n.b = row.map Elem.ent := by
    rw [hrel.ends, rowAt_map, rowAt_of_get _ _ _ hbL]
  have hconn : (payload v lv D).connect (rowAt lat.ends n.b) (.vn n) =
      (Elem.ent ⟨n, c, pe, pi⟩, Elem.ent ⟨n, c, pe, pi⟩) := by
    show (match Total.connectNode Total.addI32 Total.I32_MAX D.conn (ents (rowAt lat.ends n.b)) n with
      | some (c, pe, pi) => (Elem.ent ⟨n, c, pe, pi⟩, Elem.ent ⟨n, c, pe, pi⟩)
      | none => (Elem.poison, Elem.poison)) = _
    rw [hrow, ents_map, hc]
  obtain ⟨r0, rs0, hhead⟩ := hrel.head
  unfold Lattice.insert
  simp only [hconn]
  refine ⟨?_, ?_, ?_, ?_⟩
  · show pushRow lat.ends n.e (Elem.ent ⟨n, c, pe, pi⟩) = _
    rw [hrel.ends, hto, pushRow_map]
  · show pushRow lat.indices n.e (Elem.ent ⟨n, c, pe, pi⟩) = _
    rw [hrel.indices, hto, hhead, pushRow_map, dropBos_pushRow]
  · show pushRow lat.endsFull n.e (Elem.vn n) = _
    rw [hrel.full, hto, hhead]
    rw [← dropBos_pushRow]
    exact pushRow_map (fun e : Total.Entry => Elem.vn e.node) _ n.e ⟨n, c, pe, pi⟩
  · rw [hto, hhead]; exact pushRow_head _ _ _ _ _

/-- the `insert`s of `Total.buildAll`, rows only -/
def insAll (D : Dict) : List Vit.Node → Total.Rows → Option Total.Rows
  | [], rows => some rows
  | n :: ns, rows =>
    match Total.insert Total.addI32 Total.I32_MAX D.conn rows n with
    | .ok (rows', _) => insAll D ns rows'
    | _ => none

theorem insAll_cons_ok (D : Dict) {n : Vit.Node} {ns : List Vit.Node} {rows rows' : Total.Rows}
    (h : insAll D (n :: ns) rows = some rows') :
    ∃ r1 e, Total.insert Total.addI32 Total.I32_MAX D.conn rows n = .ok (r1, e) ∧ insAll D ns r1 = some rows' := by
  unfold insAll at h
  cases hi : Total.insert Total.addI32 Total.I32_MAX D.conn rows n with
  | ok p => rw [hi] at h; exact ⟨p.1, p.2, rfl, h⟩
  | err k => rw [hi] at h; cases h
  | panic w => rw [hi] at h; cases h

theorem buildAll_insAll (D : Dict) (ns : List Vit.Node) (rows : Total.Rows) (acc : List Total.Entry)
    (rows' : Total.Rows) (es : List Total.Entry)
    (h : Total.buildAll Total.addI32 Total.I32_MAX D.conn ns rows acc = .ok (rows', es)) : insAll D ns rows = some rows' :=
  -- along `buildAll`, what `insAll` still has to do gives what it gave at the start
  (Total.buildAll_induct _ _ _ (fun _ => True) (fun ms r => insAll D ms r = insAll D ns rows)
    (fun n ms r r' ent _ hi hins => by rw [← hi]; simp only [insAll, hins]) ns rows acc rows' es (fun _ _ => trivial) rfl h).symm

theorem insAll_append (D : Dict) : ∀ (a b : List Vit.Node) (rows rows' : Total.Rows),
    insAll D (a ++ b) rows = some rows' → ∃ r1, insAll D a rows = some r1 ∧ insAll D b r1 = some rows'
  | [], b, rows, rows', h => ⟨rows, rfl, h⟩
  | n :: a, b, rows, rows', h => by
    obtain ⟨r1, e, hi, h⟩ := insAll_cons_ok D h
    obtain ⟨r2, h1, h2⟩ := insAll_append D a b r1 rows' h
    refine ⟨r2, ?_, h2⟩
    unfold insAll
    rw [hi]
    exact h1

theorem insAll_length (D : Dict) : ∀ (ns : List Vit.Node) (rows rows' : Total.Rows), insAll D ns rows = some rows' →
    rows'.toList.length = rows.toList.length
  | [], rows, rows', h => by
    simp only [insAll, Option.some.injEq] at h
    rw [h]
  | n :: ns, rows, rows', h => by
    obtain ⟨r1, e, hi, h⟩ := insAll_cons_ok D h
    obtain ⟨-, -, -, -, -, -, -, -, -, hto⟩ := insert_eq_ok D rows r1 e n hi
    rw [insAll_length D ns r1 rows' h, hto, pushRow_length]

/-- **the candidates of one position**: the fold of `Lattice.insert` over the candidates the payload returns for a position
is the sequence of `Total.insert`s of those candidates -/
theorem fold_sim (v : Total.SplitV) (lv : EditM.LenV) (D : Dict) (off : Nat) :
    ∀ (new : List Vit.Node) (rows rows' : Total.Rows) (lat : Lattice Elem), LatRel rows lat → (∀ x ∈ new, x.b = off) →
      insAll D new rows = some rows' →
      LatRel rows' ((new.map (fun x => (x.e, Elem.vn x))).foldl (fun l c => Lattice.insert (payload v lv D) l off c) lat)
  | [], rows, rows', lat, hrel, _, h => by
    simp only [insAll, Option.some.injEq] at h
    rw [← h]; exact hrel
  | x :: new, rows, rows', lat, hrel, hb, h => by
    obtain ⟨r1, e, hi, h⟩ := insAll_cons_ok D h
    have h1 := insert_sim v lv D rows r1 e x lat hrel hi
    rw [hb x List.mem_cons_self] at h1
    exact fold_sim v lv D off new r1 rows' _ h1 (fun y hy => hb y (List.mem_cons_of_mem _ hy)) h

/-! ## which rows are non-empty, and the position loop -/

/-- which rows are non-empty: row 0 (BOS) and the rows at which an inserted candidate ends -/
def Reach (rows : Total.Rows) (acc : List Oov.Node) : Prop :=
  ∀ p, (rowAt rows.toList p).isEmpty = false ↔ (p = 0 ∨ ∃ x ∈ acc, Total.asU16 x.e = p)

theorem reach_insert (D : Dict) (rows rows' : Total.Rows) (e : Total.Entry) (x : Oov.Node) (acc : List Oov.Node)
    (hr : Reach rows acc) (h : Total.insert Total.addI32 Total.I32_MAX D.conn rows (Total.toVit x) = .ok (rows', e)) :
    Reach rows' (acc ++ [x]) := by
  obtain ⟨-, rowE, -, -, -, -, -, heL, -, hto⟩ := insert_eq_ok D rows rows' e _ h
  intro p
  rw [hto]
  by_cases hp : p = (Total.toVit x).e
  · subst hp
    rw [rowAt_pushRow_self _ _ _ _ heL]
    exact ⟨fun _ => Or.inr ⟨x, by simp, rfl⟩, fun _ => by cases rowE <;> rfl⟩
  · rw [rowAt_pushRow_ne _ _ _ _ hp, hr p]
    refine or_congr_right ⟨fun ⟨y, hy, e⟩ => ⟨y, List.mem_append_left _ hy, e⟩, fun ⟨y, hy, e⟩ => ?_⟩
    rcases List.mem_append.mp hy with hy | hy
    · exact ⟨y, hy, e⟩
    · exact absurd (List.mem_singleton.mp hy ▸ e).symm hp

theorem reach_insAll (D : Dict) : ∀ (new acc : List Oov.Node) (rows r1 : Total.Rows), Reach rows acc →
    insAll D (new.map Total.toVit) rows = some r1 → Reach r1 (acc ++ new)
  | [], acc, rows, r1, hr, h => by
    simp only [List.map_nil, insAll, Option.some.injEq] at h
    rw [← h, List.append_nil]; exact hr
  | x :: new, acc, rows, r1, hr, h => by
    obtain ⟨r0, e, hi, h⟩ := insAll_cons_ok D h
    have := reach_insAll D new (acc ++ [x]) r0 r1 (reach_insert D rows r0 e x acc hr hi) h
    rwa [List.append_assoc] at this

/-- `has_previous_node` of the discipline model = `Oov.reachable` over the candidates inserted so far -/
theorem reach_hasPrev (rows : Total.Rows) (lat : Lattice Elem) (acc : List Oov.Node) (p : Nat)
    (hrel : LatRel rows lat) (hr : Reach rows acc) (hacc : ∀ x ∈ acc, x.e ≤ 65535) :
    lat.hasPrev p = Oov.reachable acc p := by
  have h2 : Oov.reachable acc p = true ↔ (p = 0 ∨ ∃ x ∈ acc, Total.asU16 x.e = p) :=
    (Oov.reachable_iff acc p).trans
      (or_congr_right (exists_congr fun x => and_congr_right fun hx => by rw [Total.asU16_id _ (hacc x hx)]))
  unfold Lattice.hasPrev
  rw [hrel.ends, rowAt_map, List.isEmpty_map, Bool.eq_iff_iff, Bool.not_eq_true', h2, hr p]

theorem cands_eq (v : Total.SplitV) (lv : EditM.LenV) (D : Dict) (inp : Input Elem) (chars : List Nat)
    (hch : charsOf inp.modified = chars) (p : Nat) (new : List Oov.Node)
    (hs : Oov.stepAt D.providers D.lex (D.mkBuf chars) p = .ok new) :
    (payload v lv D).cands inp.view p = (new.map Total.toVit).map (fun y => (y.e, Elem.vn y)) := by
  show (match Oov.stepAt D.providers D.lex (D.mkBuf (charsOf inp.view.modified)) p with
    | .ok new => new.map (fun x => ((Total.toVit x).e, Elem.vn (Total.toVit x)))
    | _ => []) = _
  rw [Input.view_modified, hch, hs, List.map_map]
  rfl

/-- **the position loop of `build_lattice`**: `Oov.buildFrom` (which candidates exist) followed by the batch of
`Total.insert`s is the interleaved loop of the discipline model - skip a position without previous node, otherwise ask the
payload for the candidates and insert them.  Which candidates exist is known only once `Oov.buildFrom` has run; hence the
shape: first the run gives `nodes = acc ++ tail`, then, for any rows on which the `insert`s of `tail` succeed, the loop succeeds. -/
theorem loop_sim (v : Total.SplitV) (lv : EditM.LenV) (D : Dict) (inp : Input Elem) (chars : List Nat)
    (hch : charsOf inp.modified = chars) (hwf : (D.mkBuf chars).WF) (hn : (D.mkBuf chars).chars.length ≤ 65535) :
    ∀ (pos : List Nat) (acc nodes : List Oov.Node),
      Oov.buildFrom D.providers D.lex (D.mkBuf chars) pos acc = .ok nodes → (∀ x ∈ acc, x.e ≤ 65535) →
      ∃ tail, nodes = acc ++ tail ∧ (∀ x ∈ nodes, x.e ≤ 65535) ∧
        ∀ (rows rows' : Total.Rows) (lat : Lattice Elem) (oov : List Elem), LatRel rows lat → Reach rows acc →
          insAll D (tail.map Total.toVit) rows = some rows' →
          ∃ oov' lat', buildLoop (payload v lv D) inp pos (oov, lat) = ((oov', lat'), .ok) ∧ LatRel rows' lat' ∧
            Reach rows' nodes
  | [], acc, nodes, h, hacc => by
    simp only [Oov.buildFrom, Oov.Outcome.ok.injEq] at h
    subst h
    refine ⟨[], by simp, hacc, ?_⟩
    intro rows rows' lat oov hrel hr hins
    simp only [List.map_nil, insAll, Option.some.injEq] at hins
    subst hins
    exact ⟨oov, lat, rfl, hrel, hr⟩
  | p :: rest, acc, nodes, h, hacc => by
    simp only [Oov.buildFrom] at h
    split at h
    · rename_i hreach
      obtain ⟨tail, htail, hle, ih⟩ := loop_sim v lv D inp chars hch hwf hn rest acc nodes h hacc
      refine ⟨tail, htail, hle, ?_⟩
      intro rows rows' lat oov hrel hr hins
      have hstep : buildStep (payload v lv D) inp (oov, lat) p = ((oov, lat), .ok) := by
        unfold buildStep
        rw [if_pos]
        show (!lat.hasPrev p) = true
        rw [reach_hasPrev rows lat acc p hrel hr hacc]; exact hreach
      obtain ⟨oov', lat', h1, h2, h3⟩ := ih rows rows' lat oov hrel hr hins
      refine ⟨oov', lat', ?_, h2, h3⟩
      unfold buildLoop
      rw [hstep]
      exact h1
    · rename_i hreach
      split at h
      · rename_i new hnew
        obtain ⟨hne, hok⟩ := Oov.stepAt_ok D.providers D.lex (D.mkBuf chars) p new hwf hnew
        have hacc' : ∀ x ∈ acc ++ new, x.e ≤ 65535 := by
          intro x hx
          rcases List.mem_append.mp hx with hx | hx
          · exact hacc x hx
          · have := (hok x hx).2.2; omega
        obtain ⟨tail', htail, hle, ih⟩ := loop_sim v lv D inp chars hch hwf hn rest (acc ++ new) nodes h hacc'
        refine ⟨new ++ tail', by rw [htail, List.append_assoc], hle, ?_⟩
        intro rows rows' lat oov hrel hr hins
        rw [List.map_append] at hins
        obtain ⟨r1, hi1, hi2⟩ := insAll_append D _ _ rows rows' hins
        have hb : ∀ y ∈ new.map Total.toVit, y.b = p := by
          intro y hy
          obtain ⟨x, hx, rfl⟩ := List.mem_map.mp hy
          have hx' := hok x hx
          show Total.asU16 x.b = p
          rw [hx'.1]
          exact Total.asU16_id p (by have := hx'.2.1; have := hx'.2.2; omega)
        have hfold := fold_sim v lv D p (new.map Total.toVit) rows r1 lat hrel hb hi1
        have hreach1 := reach_insAll D new acc rows r1 hr hi1
        have hprev : lat.hasPrev p = true := by
          rw [reach_hasPrev rows lat acc p hrel hr hacc]
          cases hv : Oov.reachable acc p with
          | true => rfl
          | false => rw [hv] at hreach; exact absurd rfl hreach
        have hcs := cands_eq v lv D inp chars hch p new hnew
        have hcne : ((new.map Total.toVit).map (fun y => (y.e, Elem.vn y))).isEmpty = false := by
          cases new with
          | nil => exact absurd rfl hne
          | cons a t => rfl
        obtain ⟨oov', lat', h1, h2, h3⟩ := ih r1 rows' _ (([] : List Elem) ++ ((new.map Total.toVit).map (fun y => (y.e, Elem.vn y))).map (·.2)) hfold hreach1 hi2
        refine ⟨oov', lat', ?_, h2, h3⟩
        unfold buildLoop
        have hstep : buildStep (payload v lv D) inp (oov, lat) p =
            ((([] : List Elem) ++ ((new.map Total.toVit).map (fun y => (y.e, Elem.vn y))).map (·.2),
              ((new.map Total.toVit).map (fun y => (y.e, Elem.vn y))).foldl
                (fun l c => Lattice.insert (payload v lv D) l p c) lat), .ok) := by
          unfold buildStep
          rw [if_neg (by show ¬ (!lat.hasPrev p) = true; rw [hprev]; simp)]
          simp only [hcs, hcne]
          rfl
        rw [hstep]
        exact h1
      · cases h
      · cases h

theorem reset_sim (v : Total.SplitV) (lv : EditM.LenV) (D : Dict) (n : Nat) :
    LatRel (Total.reset n) (Lattice.reset (payload v lv D) Lattice.empty n) ∧ Reach (Total.reset n) [] ∧
    (Total.reset n).toList.length = n + 1 := by
  have hto : (Total.reset n).toList = [Total.bosEntry] :: List.replicate n [] := by
    simp [Total.reset, List.replicate_succ]
  have hrv : ∀ α : Type, resetVec ([] : List (List α)) (n + 1) = [] :: List.replicate n [] := by
    intro α; simp [resetVec, List.replicate_succ]
  refine ⟨⟨?_, ?_, ?_, ?_⟩, ?_, ?_⟩
  · show pushRow (resetVec ([] : List (List Elem)) (n + 1)) 0 (Elem.ent Total.bosEntry) = _
    rw [hrv, hto]; simp [pushRow]
  · show resetVec ([] : List (List Elem)) (n + 1) = _
    rw [hrv, hto]; simp [dropBos]
  · show resetVec ([] : List (List Elem)) (n + 1) = _
    rw [hrv, hto]; simp [dropBos]
  · rw [hto]; exact ⟨[], _, rfl⟩
  · intro p
    rw [hto]
    cases p with
    | zero => simp [rowAt]
    | succ k =>
      have : rowAt (List.replicate n ([] : List Total.Entry)) k = [] := rowAt_replicate_nil n k
      simp [rowAt, this]
  · rw [hto]; simp

/-! ## `connect_eos` -/

variable (add : Int → Int → Option Int) (M : Int) (conn : Nat → Nat → Int)

/-- `connect_node` does not read the begin of the node except to record it in the back pointer: run for a node that
differs in its begin only, the loop returns the same cost and index (what the back pointer is, `Total.connectNode_ptr`
says) -/
theorem connGo_begin (n1 n2 : Vit.Node) (hl : n1.l = n2.l) (hc : n1.c = n2.c) :
    ∀ (row : List Total.Entry) (i : Nat) (m : Int) (a b a' : Nat),
      (Total.connGo add M conn n1 row i (m, a, b)).map (fun r => (r.1, r.2.2)) =
        (Total.connGo add M conn n2 row i (m, a', b)).map (fun r => (r.1, r.2.2))
  | [], i, m, a, b, a' => rfl
  | l :: rest, i, m, a, b, a' => by
    simp only [Total.connGo, ← hl, ← hc]
    split
    · exact connGo_begin n1 n2 hl hc rest (i + 1) m a b a'
    · cases add l.total (conn l.node.r n1.l) with
      | none => rfl
      | some x =>
        dsimp only
        cases add x n1.c with
        | none => rfl
        | some nc =>
          dsimp only
          split
          · exact connGo_begin n1 n2 hl hc rest (i + 1) nc _ _ _
          · exact connGo_begin n1 n2 hl hc rest (i + 1) m a b a'

theorem eos_sim (v : Total.SplitV) (lv : EditM.LenV) (D : Dict) (rows : Total.Rows) (lat : Lattice Elem) (n : Nat)
    (hn : n ≤ 65535) (hrel : LatRel rows lat) (hsize : lat.size = n + 1) (c : Int) (pe pi : Nat)
    (h : Total.connectEos Total.addI32 Total.I32_MAX D.conn rows n = .ok (c, pe, pi)) :
    Lattice.connectEos (payload v lv D) lat =
      ({ lat with eos := some (Elem.ent ⟨Total.eosNode 0, c, 0, pi⟩) }, .ok) ∧
    pe = Total.asU16 (Total.asU16 n) := by
  obtain ⟨row, hr, hc, hcM⟩ := Total.connectEos_eq_ok hn h
  have hpe : pe = Total.asU16 (Total.asU16 n) := by
    rcases Total.connectNode_ptr _ _ _ _ row (c, pe, pi) hc with h2 | ⟨_, _, _, _, h2, _⟩
    · exact absurd h2 hcM
    · exact h2.trans (congrArg Total.asU16 (Total.asU16_id n hn)).symm
  unfold Total.connectNode at hc
  obtain ⟨⟨c', pe0, pi'⟩, h1, hp⟩ := Option.map_eq_some_iff.mp
    ((connGo_begin Total.addI32 Total.I32_MAX D.conn ⟨n, n, 0, 0, 0⟩ (Total.eosNode 0) rfl rfl
      row 0 Total.I32_MAX 65535 Total.idxNone 65535).symm.trans (congrArg _ hc))
  cases hp
  refine ⟨?_, hpe⟩
  have hrL : rows.toList[n]? = some row := by rw [Array.getElem?_toList]; exact hr
  have hrow : rowAt lat.ends (lat.size - 1) = row.map Elem.ent := by
    rw [hsize, Nat.add_sub_cancel, hrel.ends, rowAt_map, rowAt_of_get _ _ _ hrL]
  have heos : (payload v lv D).eosOf (row.map Elem.ent) = some (Elem.ent ⟨Total.eosNode 0, c, 0, pi⟩) := by
    show (if (row.map Elem.ent).all Elem.isEnt then
        match Total.connectNode Total.addI32 Total.I32_MAX D.conn (ents (row.map Elem.ent)) (Total.eosNode 0) with
        | some (c, _, pi) => if c = Total.I32_MAX then none else some (Elem.ent ⟨Total.eosNode 0, c, 0, pi⟩)
        | none => some Elem.poison
      else some Elem.poison) = _
    rw [all_isEnt_map, if_pos rfl, ents_map]
    unfold Total.connectNode
    rw [h1]
    simp only
    rw [if_neg hcM]
  unfold Lattice.connectEos
  rw [hrow, heos]

/-! ## the path phase -/

/-- **the path phase**: `fill_top_path`, `resolve_best_path`, the word-info/rewrite stage and `split_path` of the discipline
model with the concrete payload, on the lattice that holds `Total`'s rows, give `Total`'s morphemes -/
theorem resolve_sim (v : Total.SplitV) (lv : EditM.LenV) (D : Dict) (t2 : Tok Elem) (rows : Total.Rows) (n : Nat)
    (text : List Nat) (c : Int) (pi : Nat) (es : List Total.Entry) (path : List Total.NodeRange)
    (path' : List (Total.NodeRange × List Nat)) (ms : List Total.NodeRange)
    (hrel : LatRel rows t2.lattice) (hlen : rows.toList.length = n + 1) (hsize : t2.lattice.size = n + 1)
    (heos : t2.lattice.eos = some (Elem.ent ⟨Total.eosNode 0, c, 0, pi⟩))
    (hpath : t2.topPath = some []) (hids : t2.topPathIds = []) (htext : nats t2.input.modified = text)
    (h1 : Total.topPath rows (n + 1) (Total.asU16 (Total.asU16 n), pi) [] = .ok es)
    (h2 : Total.mapM (Total.resultNode (EditM.c2b text)) es = .ok path)
    (h3 : D.rewrite t2.mode t2.subset path = .ok path')
    (h4 : Total.splitPath v (EditM.b2c text) (EditM.c2b text) path' = .ok ms) :
    (Tok.resolveAndRewrite (payload v lv D) t2).2 = .ok ∧
    (Tok.resolveAndRewrite (payload v lv D) t2).1.topPath = some (ms.map .rn) ∧
    (Tok.resolveAndRewrite (payload v lv D) t2).1.input = t2.input := by
  obtain ⟨r0, rs0, hhead⟩ := hrel.head
  have hidx : t2.lattice.indices.take t2.lattice.size = (dropBos rows.toList).map (fun r => r.map Elem.ent) := by
    rw [hrel.indices, List.take_of_length_le]
    rw [List.length_map, dropBos_length, hlen, hsize]; exact Nat.le_refl _
  have hfill : (payload v lv D).fillTop t2.lattice.eos (t2.lattice.indices.take t2.lattice.size) =
      es.reverse.map Elem.ent := by
    rw [heos, hidx]
    show (if ((dropBos rows.toList).map (fun r => r.map Elem.ent)).all (fun r => r.all Elem.isEnt) then
        match Total.topPath (rowsOf ((dropBos rows.toList).map (fun r => r.map Elem.ent)))
            (((dropBos rows.toList).map (fun r => r.map Elem.ent)).length - 1 + 1)
            (Total.asU16 (Total.asU16 (((dropBos rows.toList).map (fun r => r.map Elem.ent)).length - 1)), pi) [] with
        | .ok es => es.reverse.map Elem.ent
        | _ => [Elem.poison]
      else [Elem.poison]) = _
    rw [all_rows_isEnt, if_pos rfl, List.length_map, dropBos_length, hlen, Nat.add_sub_cancel]
    rw [hhead, rowsOf_rel, ← hhead, Array.toArray_toList, h1]
  have hidsv : (t2.topPathIds ++ (payload v lv D).fillTop t2.lattice.eos (t2.lattice.indices.take t2.lattice.size)).reverse =
      es.map Elem.ent := by
    rw [hids, hfill, List.nil_append, ← List.map_reverse, List.reverse_reverse]
  have hpn : ∀ full ends, (payload v lv D).pathNodes t2.subset t2.input.view full ends (es.map Elem.ent) =
      .nodes (path.map Elem.rn) := by
    intro full ends
    show (if (es.map Elem.ent).all Elem.isEnt then
        pathResOf (fun l => l.map Elem.rn)
          (Total.mapM (Total.resultNode (EditM.c2b (nats t2.input.view.modified))) (ents (es.map Elem.ent)))
      else .unwind) = _
    rw [all_isEnt_map, if_pos rfl, ents_map, Input.view_modified, htext, h2]
    rfl
  have hrp : (payload v lv D).rewritePath t2.mode t2.subset t2.input.view (([] : List Elem) ++ path.map Elem.rn) =
      .nodes (ms.map Elem.rn) := by
    show (match D.rewrite t2.mode t2.subset (rns (([] : List Elem) ++ path.map Elem.rn)) with
      | .ok path' => pathResOf (fun l => l.map Elem.rn)
          (Total.splitPath v (EditM.b2c (nats t2.input.view.modified)) (EditM.c2b (nats t2.input.view.modified)) path')
      | .err _ => .fail
      | .panic _ => .unwind) = _
    rw [List.nil_append, rns_map, h3]
    simp only
    rw [Input.view_modified, htext, h4]
    rfl
  rw [resolve_eq_phase]
  unfold pathPhase
  simp only [hidsv, hpn, hpath, Option.getD_some, hrp]
  trivial

/-! ## the stages composed -/

/-- For EVERY configuration, mode, subset and text - whenever `Total.tokenize` returns a result, the
discipline model with the concrete payload on a NEW tokenizer is Ok and reports exactly that result (morphemes and tables).
Hypotheses on the configuration: `hs` every committed batch leaves at most 65 535 bytes (`ShortRun`), `hchars` at most
65 535 characters (it follows from `hs` by `few_of_short`, which is how `bridge_ok_of_config` below supplies it), `hwf`/`hbuf`
the buffer builder returns a well-formed buffer over the characters it was given (C13 `built_buffer_well_formed`). -/
theorem bridge_ok_general (v : Total.SplitV) (lv : EditM.LenV) (D : Dict) (m : Mode) (s : Subset) (text : List Nat)
    (hs : ∀ l0, EditM.startBuild text = some l0 → ShortRun lv D.inputPlugins l0)
    (hwf : ∀ chars, (D.mkBuf chars).WF) (hbuf : ∀ chars, (D.mkBuf chars).chars = chars)
    (hchars : ∀ l0 l chars, EditM.startBuild text = some l0 → Total.rewriteInput lv D.inputPlugins l0 = .ok l →
      Wire.utf8Decode (EditM.textOf l) = some chars → chars.length ≤ 65535)
    (r : Total.Result) (h : Total.tokenize v lv (D.cfg m s) text = .ok r) :
    (analyseNew v lv D m s text).2 = .ok ∧ morphsOf (analyseNew v lv D m s text).1 = some r.morphs ∧
    tablesOf (analyseNew v lv D m s text).1.input = r.tables := by
  obtain ⟨l0, l, chars, h0, h1, h2, hcase⟩ := Total.tokenize_eq_ok v lv (D.cfg m s) text r h
  have h1 : Total.rewriteInput lv D.inputPlugins l0 = .ok l := h1
  obtain ⟨i, hprep, hmod, hm2o, _, hlenC, hlenB⟩ := prepare_sim v lv D m s text l0 l h0 (hs l0 h0) h1
  have hnats : nats i.modified = EditM.textOf l := by rw [hmod, nats_map]
  have hch : charsOf i.modified = chars := by unfold charsOf; rw [hnats, h2]
  have hn : chars.length ≤ 65535 := hchars l0 l chars h0 h1 h2
  let t0 : Tok Elem := (newTok m s).resetWith .fix (text.map .nat)
  have htab : tablesOf i = l := by unfold tablesOf; rw [hm2o, pairs_map]
  rcases hcase with ⟨hc0, rfl⟩ | ⟨hne, ha⟩
  · -- empty normalised text: a non-empty byte string does not decode to no character
    have htx : EditM.textOf l = [] := Partition.utf8Decode_eq_nil (hc0 ▸ h2)
    have hA : analyseNew v lv D m s text = ({ t0 with input := i }, Outcome.ok) := by
      show Tok.doTokenize (payload v lv D) t0 = _
      unfold Tok.doTokenize
      rw [hprep]
      simp only [show i.modified.isEmpty = true by rw [hmod, htx]; rfl, ↓reduceIte]
    rw [hA]
    exact ⟨rfl, rfl, htab⟩
  · obtain ⟨nodes, rows, es0, c, pe, pi, es, path, path', ms, h3, h4, h5, h6, h7, h8, h9, rfl⟩ :=
      Total.analyse_eq_ok v (D.cfg m s) l chars r ha
    have hine : i.modified.isEmpty = false := by
      cases hmm : i.modified with
      | cons a t => rfl
      | nil =>
        have h20 : Wire.utf8Decode [] = some [] := by simp [Wire.utf8Decode]
        rw [← hnats, hmm, show nats [] = [] from rfl, h20] at h2
        exact absurd (Option.some.inj h2).symm hne
    have hbf : Oov.buildFrom D.providers D.lex (D.mkBuf chars) (List.range chars.length) [] = .ok nodes := by
      have := (Oov.buildLattice_ok (ps := D.providers) (lex := D.lex) (buf := D.mkBuf chars) h3).1
      rwa [hbuf chars] at this
    -- the position loop, started on the rows `reset` leaves, against `Oov.buildFrom` + `Total.buildAll`
    obtain ⟨tail, htail, _, hloop⟩ := loop_sim v lv D i chars hch (hwf chars)
      (by rw [hbuf chars]; exact hn) (List.range chars.length) [] nodes hbf (fun x hx => by cases hx)
    rw [List.nil_append] at htail
    subst htail
    obtain ⟨hr0, hreach0, hlen0⟩ := reset_sim v lv D chars.length
    have hins := buildAll_insAll D _ _ _ _ _ h4
    obtain ⟨oov', lat', hbl, hrel', _⟩ := hloop (Total.reset chars.length) rows _ ([] : List Elem) hr0 hreach0 hins
    have hlenR : rows.toList.length = chars.length + 1 := by
      rw [insAll_length D _ _ _ hins, hlen0]
    have hsz : lat'.size = chars.length + 1 := by
      have := buildLoop_size (payload v lv D) i (List.range chars.length)
        (([] : List Elem), Lattice.reset (payload v lv D) Lattice.empty chars.length)
      rw [hbl] at this
      exact this
    -- `connect_eos`, which closes `build_lattice`
    obtain ⟨heosR, hpe⟩ := eos_sim v lv D rows lat' chars.length hn hrel' hsz c pe pi h5
    have hmc : i.modChars.length = chars.length := by rw [hlenC, hch]
    have hmb : i.modC2b.length - 1 = chars.length := by rw [hlenB, hch]; rfl
    have hbuildL : Tok.buildLattice (payload v lv D) { t0 with input := i } =
        ({ t0 with input := i, oov := oov',
                   lattice := { lat' with eos := some (Elem.ent ⟨Total.eosNode 0, c, 0, pi⟩) } }, .ok) := by
      unfold Tok.buildLattice
      have e2 : t0.lattice = Lattice.empty := rfl
      have e3 : t0.oov = [] := rfl
      simp only [e2, e3, hmc, hmb, hbl, heosR]
    have hA : analyseNew v lv D m s text = Tok.resolveAndRewrite (payload v lv D)
        { t0 with input := i, oov := oov',
                  lattice := { lat' with eos := some (Elem.ent ⟨Total.eosNode 0, c, 0, pi⟩) } } := by
      show Tok.doTokenize (payload v lv D) t0 = _
      unfold Tok.doTokenize
      rw [hprep]
      simp only [hine, Bool.false_eq_true, ↓reduceIte, hbuildL]
    -- the path phase on the lattice that holds `rows`
    rw [hA]
    rw [hpe] at h6
    obtain ⟨ra, rb, rc⟩ := resolve_sim v lv D
      { t0 with input := i, oov := oov',
                lattice := { lat' with eos := some (Elem.ent ⟨Total.eosNode 0, c, 0, pi⟩) } }
      rows chars.length (EditM.textOf l) c pi es path path' ms
      ⟨hrel'.ends, hrel'.indices, hrel'.full, hrel'.head⟩ hlenR hsz rfl rfl rfl hnats h6 h7 h8 h9
    refine ⟨ra, ?_, ?_⟩
    · unfold morphsOf; rw [rb]; simp only [Option.map_some, rns_map]
    · rw [rc]; exact htab

/-! ## `ConfigOk`: the hypotheses as one structure -/

theorem rewriteInput_short (lv : EditM.LenV) :
    ∀ (ps : List (List Nat → Oov.Outcome (List (EditM.Edit Nat)))) (l l' : List (EditM.P Nat)),
      (EditM.textOf l).length ≤ 65535 → ShortRun lv ps l → Total.rewriteInput lv ps l = .ok l' →
      (EditM.textOf l').length ≤ 65535
  | [], l, l', hl, _, h => by
    cases (Oov.Outcome.ok.inj h : l = l')
    exact hl
  | p :: ps, l, l', _, hs, h => by
    obtain ⟨es, l1, hp, hc, h⟩ := Partition.rewriteInput_cons_ok h
    obtain ⟨h1, h2⟩ := hs es l1 hp hc
    exact rewriteInput_short lv ps l1 l' h1 h2 h

/-- at most 65 535 bytes give at most 65 535 characters (`u16` lattice positions) -/
theorem few_of_short (lv : EditM.LenV) (D : Dict) (text : List Nat)
    (hs : ∀ l0, EditM.startBuild text = some l0 → ShortRun lv D.inputPlugins l0) :
    ∀ l0 l chars, EditM.startBuild text = some l0 → Total.rewriteInput lv D.inputPlugins l0 = .ok l →
      Wire.utf8Decode (EditM.textOf l) = some chars → chars.length ≤ 65535 := by
  intro l0 l chars h0 h1 h2
  have hl0 : (EditM.textOf l0).length ≤ 65535 := (Partition.startBuild_bufInv text l0 h0).2
  have hl := rewriteInput_short lv D.inputPlugins l0 l hl0 (hs l0 h0) h1
  have h3 := Total.utf8Decode_length_le _ _ chars (Nat.le_refl _) h2
  have h4 : EditM.nchars (EditM.textOf l) ≤ (EditM.textOf l).length := by
    unfold EditM.nchars; exact List.length_filter_le _ _
  omega

/-- the hypotheses on configuration and text under which the Ok direction of the bridge is PROVED -/
structure ConfigOk (lv : EditM.LenV) (D : Dict) (text : List Nat) : Prop where
  /-- every batch the input-text plugin stack commits leaves at most 65 535 bytes (C01 `PluginOk`: `rewriteInput_inv`) -/
  short : ∀ l0, EditM.startBuild text = some l0 → ShortRun lv D.inputPlugins l0
  /-- the buffer builder returns a well-formed buffer (C13 `built_buffer_well_formed`) … -/
  wf : ∀ chars, (D.mkBuf chars).WF
  /-- … over the characters it was given -/
  chars : ∀ chars, (D.mkBuf chars).chars = chars

theorem bridge_ok_of_config (v : Total.SplitV) (lv : EditM.LenV) (D : Dict) (m : Mode) (s : Subset) (text : List Nat)
    (hc : ConfigOk lv D text) (r : Total.Result) (h : Total.tokenize v lv (D.cfg m s) text = .ok r) :
    (analyseNew v lv D m s text).2 = .ok ∧ morphsOf (analyseNew v lv D m s text).1 = some r.morphs ∧
    tablesOf (analyseNew v lv D m s text).1.input = r.tables :=
  bridge_ok_general v lv D m s text hc.short hc.wf hc.chars (few_of_short lv D text hc.short) r h

end RecycleTotal
