import Sudachi.Proofs.Subset
import Sudachi.Proofs.Basic
/-!
# Proofs for the subset-loading model (C11): lexicon sets and the analysis after the lattice search

`LexiconSet::get_word_info_subset` is `get_word_info` followed by fix-ups that each run under the flag of
their own field (`getWordInfoSubset_spec`).  The analysis after the lattice search (`resolvePath`, `splitPath`)
reads a word info only through the split list of the mode and the head-word length, so two requests under
which every load agrees on those give the same word ids and byte boundaries (`tokenize_agree`); in a
well-formed lexicon set every request that holds the split flag of the mode agrees in this sense with the
full request (`gwisAgree_all`).

`Model/Layers.lean` (C12) transcribes the same Rust (`WordId`, `update_dict_id`, the POS fix-up, `get_word_info_subset`) a second
time, with `Outcome` for `Res` and `dicOf = (raw >>> 28) % 256` for `widDic = raw >>> 28`; no lemma relates the two, and the facts
about re-stamping are proved once here (`updateDictId_spec`) and once in `Proofs/Layers.lean` (`restamp_user`, `restamp_sys`).
-/
namespace Subset

/-! ## `get_word_info_subset` -/

def rebasedPos (ls : LexSet) (d pos : Nat) : Nat :=
  if d > 0 ∧ pos ≥ ls.numSystemPos then (pos - ls.numSystemPos + (ls.posOffsets[d]?).getD 0) % 65536 else pos

/-- sources of a lexicon set: per dictionary the words and the header's synonym flag -/
abbrev Src := List (List WordInfoData × Bool)

def lexSetOf (src : Src) (posOffsets : List Nat) (nsys : Nat) : LexSet :=
  ⟨src.map (fun p => lexOf p.1 p.2), posOffsets, nsys⟩

/-- what the loader guarantees: representable words, dictionary forms inside their own lexicon, one
POS offset per lexicon (`append` pushes both vectors together) -/
structure LexSetOk (src : Src) (posOffsets : List Nat) : Prop where
  wf : ∀ p ∈ src, ∀ w ∈ p.1, WF w
  df : ∀ p ∈ src, DfOk p.1
  pos : posOffsets.length = src.length

/-- word `w` of dictionary `d` as `get_word_info_subset` reports it with all fields: POS re-based,
`U`-references of the three id lists re-stamped with the dictionary's own id -/
def rebased (ls : LexSet) (d : Nat) (w : WordInfoData) : WordInfoData :=
  { w with
    posId := rebasedPos ls d w.posId
    aUnitSplit := updateDictId w.aUnitSplit d
    bUnitSplit := updateDictId w.bUnitSplit d
    wordStructure := updateDictId w.wordStructure d }

theorem fixSplits_eq (d S : Nat) (wi : WordInfoData) :
    fixSplits d S wi =
      { wi with
        aUnitSplit := if S.testBit SPLIT_A then updateDictId wi.aUnitSplit d else wi.aUnitSplit
        bUnitSplit := if S.testBit SPLIT_B then updateDictId wi.bUnitSplit d else wi.bUnitSplit
        wordStructure := if S.testBit WORD_STRUCTURE then updateDictId wi.wordStructure d else wi.wordStructure } := by
  unfold fixSplits
  cases S.testBit SPLIT_A <;> cases S.testBit SPLIT_B <;> cases S.testBit WORD_STRUCTURE <;> rfl

theorem fixPos_eq (ls : LexSet) (d S : Nat) (wi : WordInfoData) (h : d < ls.posOffsets.length) :
    fixPos ls d S wi = .ok { wi with posId := if S.testBit POS_ID then rebasedPos ls d wi.posId else wi.posId } := by
  unfold fixPos rebasedPos
  cases hS : S.testBit POS_ID
  · simp
  · by_cases hc : d > 0 ∧ wi.posId ≥ ls.numSystemPos
    · simp [hc, List.getElem?_eq_getElem h]
    · simp [hc]

theorem lexSetOf_get (src : Src) (po : List Nat) (nsys d : Nat) (hd : d < src.length) :
    (lexSetOf src po nsys).lexicons[d]? = some (lexOf src[d].1 src[d].2) := by
  simp [lexSetOf, List.getElem?_map, List.getElem?_eq_getElem hd]

/-- `LexiconSet::get_word_info_subset` for a word id inside the set, every request, any number of user dictionaries: the
requested stored fields are those of the full report `rebased` — each of SPLIT_A / SPLIT_B / WORD_STRUCTURE is re-stamped as
soon as ITS flag is requested, whatever the other two are. -/
theorem getWordInfoSubset_spec (src : Src) (po : List Nat) (nsys : Nat) (hok : LexSetOk src po)
    (id : Nat) (hd : widDic id < src.length) (hk : widWord id < (src[widDic id]).1.length) (S : Nat) :
    ∃ info, getWordInfoSubset (lexSetOf src po nsys) id S = .ok info ∧
      FieldsEq (effSubset (src[widDic id]).2 S) info
        (rebased (lexSetOf src po nsys) (widDic id) ((src[widDic id]).1[widWord id])) ∧
      (Loaded (effSubset (src[widDic id]).2 S) 1 →
        info.headWordLength = ((src[widDic id]).1[widWord id]).headWordLength) := by
  have hmem : src[widDic id] ∈ src := List.getElem_mem hd
  obtain ⟨i0, e0, l0, _⟩ := getWordInfo_spec (src[widDic id]).1 (hok.wf _ hmem) (hok.df _ hmem)
    (src[widDic id]).2 (widWord id) hk S
  have key : FieldsEq (effSubset (src[widDic id]).2 S) i0 ((src[widDic id]).1[widWord id]) := .of_loaded l0
  have hpo : widDic id < (lexSetOf src po nsys).posOffsets.length := by
    show widDic id < po.length
    rw [hok.pos]; exact hd
  unfold getWordInfoSubset
  simp only [lexSetOf_get src po nsys _ hd, e0, fixPos_eq _ _ _ _ hpo, fixSplits_eq]
  -- a fix-up runs under its own flag, which a requested field has
  exact ⟨_, rfl,
    ⟨key.surface, key.headWordLength,
      fun h => (if_pos (testBit_of_effSubset h)).trans (congrArg (rebasedPos _ _) (key.posId h)),
      key.normalizedForm, key.dictionaryFormWordId, key.readingForm,
      fun h => (if_pos (testBit_of_effSubset h)).trans (congrArg (updateDictId · _) (key.aUnitSplit h)),
      fun h => (if_pos (testBit_of_effSubset h)).trans (congrArg (updateDictId · _) (key.bUnitSplit h)),
      fun h => (if_pos (testBit_of_effSubset h)).trans (congrArg (updateDictId · _) (key.wordStructure h)),
      key.synonymGroupIds⟩,
    fun h => Val.num.inj (l0 1 h)⟩

theorem getWordInfoSubset_oob (src : Src) (po : List Nat) (nsys : Nat) (id : Nat) (S : Nat)
    (h : ¬ (∃ hd : widDic id < src.length, widWord id < (src[widDic id]).1.length)) :
    getWordInfoSubset (lexSetOf src po nsys) id S = .panic := by
  unfold getWordInfoSubset
  by_cases hd : widDic id < src.length
  · have hk : ¬ widWord id < (src[widDic id]).1.length := fun hk => h ⟨hd, hk⟩
    have hnone : (lexOf (src[widDic id]).1 (src[widDic id]).2).recs[widWord id]? = none := by
      simp only [lexOf, List.getElem?_map]
      rw [List.getElem?_eq_none (by omega)]
      rfl
    simp only [lexSetOf_get src po nsys _ hd, getWordInfo, parseWordInfo, hnone]
  · have : (lexSetOf src po nsys).lexicons[widDic id]? = none := by
      simp only [lexSetOf, List.getElem?_map]
      rw [List.getElem?_eq_none (by omega)]
      rfl
    simp only [this]

/-! ### `WordId` arithmetic and `update_dict_id` -/

theorem widWord_eq_mod (w : Nat) : widWord w = w % 268435456 := by
  unfold widWord
  have hm : (0x0fffffff : Nat) = 2 ^ 28 - 1 := by rfl
  rw [hm, Nat.and_two_pow_sub_one_eq_mod]

theorem widNew_spec (d w : Nat) (hd : d < 16) :
    widDic (widNew d w) = d ∧ widWord (widNew d w) = w % 268435456 := by
  have hlt : w % 268435456 < 268435456 := Nat.mod_lt _ (by decide)
  have hsum : widNew d w = d * 268435456 + w % 268435456 := by
    rw [widNew, Basic.wid_pack, Nat.mod_eq_of_lt hd]
  rw [widWord_eq_mod, hsum]
  exact ⟨(Nat.shiftRight_eq_div_pow _ 28).trans (Basic.pack_div_mod _ d _ hlt).1, (Basic.pack_div_mod _ d _ hlt).2⟩

/-- the builder stores `U`-references with dictionary number 1; `update_dict_id` gives them the number of the dictionary the
word was read from -/
theorem updateDictId_spec (split : List Nat) (d : Nat) (hd : d < 16) :
    (updateDictId split d).length = split.length ∧
    ∀ i (hi : i < split.length) (hi' : i < (updateDictId split d).length),
      (widDic split[i] = 0 → (updateDictId split d)[i] = split[i]) ∧
      (widDic split[i] > 0 → widDic (updateDictId split d)[i] = d ∧
        widWord (updateDictId split d)[i] = widWord split[i]) := by
  refine ⟨by simp [updateDictId], ?_⟩
  intro i hi hi'
  simp only [updateDictId, List.getElem_map]
  constructor
  · intro h0
    have : ¬ widDic split[i] > 0 := by omega
    simp [this]
  · intro hpos
    simp only [hpos, if_true]
    obtain ⟨h1, h2⟩ := widNew_spec d (widWord split[i]) hd
    refine ⟨h1, ?_⟩
    rw [h2, widWord_eq_mod]; exact Nat.mod_mod _ _

/-! ## Word infos of the path, `split_path` -/

/-- what the property observes of a token: word identity and byte boundaries -/
def shape (n : RNode) : Nat × Nat × Nat := (n.wid, n.bb, n.be)

def shapeRes : Res (List RNode) → Res (List (Nat × Nat × Nat))
  | .ok rs => .ok (rs.map shape)
  | .err => .err
  | .panic => .panic

/-- two word infos agree on what the analysis after the lattice search reads in mode `m`: always the split list of the
mode; with `h` the head-word length (read for the units of a split, and summed by the plugins' merged nodes); with `k`
surface, POS id and normalised form (read by `JoinNumericPlugin`) -/
structure Agree (k h : Bool) (m : Mode) (i1 i2 : WordInfoData) : Prop where
  forms : k = true → i1.surface = i2.surface ∧ i1.posId = i2.posId ∧ i1.normalizedForm = i2.normalizedForm
  hwl : h = true → i1.headWordLength = i2.headWordLength
  splits : splitsOf m i1 = splitsOf m i2

theorem Agree.refl (k h : Bool) (m : Mode) (i : WordInfoData) : Agree k h m i i :=
  ⟨fun _ => ⟨rfl, rfl, rfl⟩, fun _ => rfl, rfl⟩

theorem Agree.mono {k h k' h' : Bool} {m : Mode} {i1 i2 : WordInfoData} (a : Agree k h m i1 i2)
    (hk : k' = true → k = true) (hh : h' = true → h = true) : Agree k' h' m i1 i2 :=
  ⟨fun e => a.forms (hk e), fun e => a.hwl (hh e), a.splits⟩

/-- under the two requests every load panics under both or succeeds under both, with `R`-related word infos; `Err` is not
among the cases (in a well-formed set it does not occur: `gwisRel_all`) -/
def GwisRel (ls : LexSet) (R : WordInfoData → WordInfoData → Prop) (S1 S2 : Nat) : Prop :=
  ∀ id, (getWordInfoSubset ls id S1 = .panic ∧ getWordInfoSubset ls id S2 = .panic) ∨
    ∃ i1 i2, getWordInfoSubset ls id S1 = .ok i1 ∧ getWordInfoSubset ls id S2 = .ok i2 ∧ R i1 i2

/-- what `split_path` alone reads: the split list of the mode and, when the mode splits, the head-word length -/
def GwisAgree (ls : LexSet) (m : Mode) (S1 S2 : Nat) : Prop := GwisRel ls (Agree false (m != .C) m) S1 S2

theorem GwisRel.mono {ls : LexSet} {R R' : WordInfoData → WordInfoData → Prop} {S1 S2 : Nat}
    (H : GwisRel ls R S1 S2) (h : ∀ i1 i2, R i1 i2 → R' i1 i2) : GwisRel ls R' S1 S2 := fun id =>
  (H id).imp (fun h => h) fun ⟨i1, i2, e1, e2, hr⟩ => ⟨i1, i2, e1, e2, h i1 i2 hr⟩

/-- the shape of the units of a split, one unit at a time: of the unit's word info only the head-word
length is read -/
theorem shapeRes_splitGo_cons (ls : LexSet) (S : Nat) (text : Bytes) (byteEnd w : Nat) (rest : List Nat) (bs : Nat) :
    shapeRes (splitGo ls S text byteEnd (w :: rest) bs) =
      match getWordInfoSubset ls w S with
      | .ok wi =>
        if rest.isEmpty then .ok [(w, bs, byteEnd)]
        else (snap text (min (bs + wi.headWordLength) byteEnd)).bind fun be =>
          (shapeRes (splitGo ls S text byteEnd rest (be % 65536))).bind fun rs => .ok ((w, bs, be % 65536) :: rs)
      | _ => .panic := by
  rw [splitGo]
  cases getWordInfoSubset ls w S with
  | ok wi =>
    dsimp only
    by_cases hr : rest.isEmpty = true
    · rw [if_pos hr, if_pos hr]; rfl
    · rw [if_neg hr, if_neg hr]
      cases snap text (min (bs + wi.headWordLength) byteEnd) with
      | ok be => dsimp only [Res.bind]; cases splitGo ls S text byteEnd rest (be % 65536) <;> rfl
      | err => rfl
      | panic => rfl
  | err => rfl
  | panic => rfl

theorem splitGo_agree (ls : LexSet) (m : Mode) (hm : m ≠ .C) (S1 S2 : Nat) (H : GwisAgree ls m S1 S2)
    (text : Bytes) (byteEnd : Nat) :
    ∀ (splits : List Nat) (byteStart : Nat),
      shapeRes (splitGo ls S1 text byteEnd splits byteStart) = shapeRes (splitGo ls S2 text byteEnd splits byteStart) := by
  intro splits
  induction splits with
  | nil => intro _; rfl
  | cons w rest ih =>
    intro bs
    rw [shapeRes_splitGo_cons, shapeRes_splitGo_cons]
    rcases H w with ⟨p1, p2⟩ | ⟨i1, i2, e1, e2, a⟩
    · rw [p1, p2]
    · simp only [e1, e2, a.hwl (bne_iff_ne.mpr hm), ih]

/-- what `split_path` reads of a path node: its shape and the split list of the mode -/
def splitView (m : Mode) (n : RNode) : (Nat × Nat × Nat) × List Nat := (shape n, splitsOf m n.info)

theorem shapeRes_splitPath_cons (ls : LexSet) (m : Mode) (S : Nat) (text : Bytes) (n : RNode) (ns : List RNode) :
    shapeRes (splitPath ls m S text (n :: ns)) =
      (if m = .C ∨ (splitsOf m n.info).length ≤ 1 then .ok [shape n]
        else shapeRes (splitGo ls S text n.be (splitsOf m n.info) n.bb)).bind fun h =>
      (shapeRes (splitPath ls m S text ns)).bind fun t => .ok (h ++ t) := by
  rw [splitPath]
  by_cases hc : m = .C ∨ (splitsOf m n.info).length ≤ 1
  · simp only [if_pos hc]
    cases splitPath ls m S text ns <;> rfl
  · simp only [if_neg hc]
    cases splitGo ls S text n.be (splitsOf m n.info) n.bb with
    | ok h => cases splitPath ls m S text ns <;> simp only [shapeRes, Res.bind, List.map_append]
    | err => rfl
    | panic => rfl

theorem splitPath_agree (ls : LexSet) (m : Mode) (S1 S2 : Nat) (H : GwisAgree ls m S1 S2) (text : Bytes) :
    ∀ (rs1 rs2 : List RNode), rs1.map (splitView m) = rs2.map (splitView m) →
      shapeRes (splitPath ls m S1 text rs1) = shapeRes (splitPath ls m S2 text rs2) := by
  intro rs1
  induction rs1 with
  | nil =>
    intro rs2 h
    cases rs2 with
    | nil => rfl
    | cons _ _ => cases h
  | cons a as ih =>
    intro rs2 h
    cases rs2 with
    | nil => cases h
    | cons b bs =>
      obtain ⟨hab, htl⟩ := List.cons.inj h
      obtain ⟨hshape, hsplits⟩ := Prod.mk.inj hab
      have hbb : a.bb = b.bb := congrArg (·.2.1) hshape
      have hbe : a.be = b.be := congrArg (·.2.2) hshape
      rw [shapeRes_splitPath_cons, shapeRes_splitPath_cons, ih bs htl, hsplits, hshape, hbb, hbe]
      by_cases hc : m = .C ∨ (splitsOf m b.info).length ≤ 1
      · rw [if_pos hc, if_pos hc]
      · rw [if_neg hc, if_neg hc, splitGo_agree ls m (fun e => hc (Or.inl e)) S1 S2 H]

theorem resolveNode_rel {ls : LexSet} {R : WordInfoData → WordInfoData → Prop} {S1 S2 : Nat}
    (H : GwisRel ls R S1 S2) (hR : ∀ i, R i i) (n : PNode) :
    (resolveNode ls S1 n = .panic ∧ resolveNode ls S2 n = .panic) ∨
    ∃ i1 i2, resolveNode ls S1 n = .ok ⟨n.wid, n.bb, n.be, i1⟩ ∧
      resolveNode ls S2 n = .ok ⟨n.wid, n.bb, n.be, i2⟩ ∧ R i1 i2 := by
  unfold resolveNode
  by_cases hoov : widDic n.wid = 0xf
  · rw [if_pos hoov, if_pos hoov]
    exact Or.inr ⟨_, _, rfl, rfl, hR _⟩
  · rw [if_neg hoov, if_neg hoov]
    rcases H n.wid with ⟨p1, p2⟩ | ⟨i1, i2, e1, e2, hr⟩
    · rw [p1, p2]; exact Or.inl ⟨rfl, rfl⟩
    · rw [e1, e2]; exact Or.inr ⟨i1, i2, rfl, rfl, hr⟩

theorem resolvePath_agree {ls : LexSet} {R : WordInfoData → WordInfoData → Prop} {S1 S2 : Nat}
    (H : GwisRel ls R S1 S2) (hR : ∀ i, R i i) {β : Type} (g : RNode → β)
    (hg : ∀ w b e i1 i2, R i1 i2 → g ⟨w, b, e, i1⟩ = g ⟨w, b, e, i2⟩) :
    ∀ (path : List PNode),
      (resolvePath ls S1 path = .panic ∧ resolvePath ls S2 path = .panic) ∨
      ∃ rs1 rs2, resolvePath ls S1 path = .ok rs1 ∧ resolvePath ls S2 path = .ok rs2 ∧ rs1.map g = rs2.map g := by
  intro path
  induction path with
  | nil => exact Or.inr ⟨[], [], rfl, rfl, rfl⟩
  | cons n ns ih =>
    unfold resolvePath
    rcases resolveNode_rel H hR n with ⟨p1, p2⟩ | ⟨i1, i2, e1, e2, hr⟩
    · rw [p1, p2]; exact Or.inl ⟨rfl, rfl⟩
    · rw [e1, e2]
      rcases ih with ⟨q1, q2⟩ | ⟨rs1, rs2, f1, f2, hp⟩
      · rw [q1, q2]; exact Or.inl ⟨rfl, rfl⟩
      · rw [f1, f2]
        exact Or.inr ⟨_, _, rfl, rfl, by rw [List.map_cons, List.map_cons, hg _ _ _ _ _ hr, hp]⟩

/-- the analysis after the lattice search reads word infos only through the split list of the mode and the head-word length -/
theorem tokenize_agree (ls : LexSet) (m : Mode) (S1 S2 : Nat) (H : GwisAgree ls m S1 S2) (text : Bytes)
    (path : List PNode) :
    shapeRes (tokenize ls ⟨m, S1⟩ text path) = shapeRes (tokenize ls ⟨m, S2⟩ text path) := by
  unfold tokenize
  rcases resolvePath_agree H (Agree.refl _ _ m) (splitView m)
      (fun w b e _ _ a => congrArg (Prod.mk (w, b, e)) a.splits) path with ⟨p1, p2⟩ | ⟨rs1, rs2, e1, e2, hp⟩
  · simp only [p1, p2]
  · simp only [e1, e2]
    exact splitPath_agree ls m S1 S2 H text rs1 rs2 hp

theorem gwisRel_all (src : Src) (po : List Nat) (nsys : Nat) (hok : LexSetOk src po) (S : Nat)
    (R : WordInfoData → WordInfoData → Prop)
    (hR : ∀ hasSyn i1 i2, FieldsEq (effSubset hasSyn S) i1 i2 →
      (Loaded (effSubset hasSyn S) 1 → i1.headWordLength = i2.headWordLength) → R i1 i2) :
    GwisRel (lexSetOf src po nsys) R S ALL := by
  intro id
  by_cases hin : ∃ hd : widDic id < src.length, widWord id < (src[widDic id]).1.length
  · obtain ⟨hd, hk⟩ := hin
    obtain ⟨i1, e1, f1, h1⟩ := getWordInfoSubset_spec src po nsys hok id hd hk S
    obtain ⟨i2, e2, f2, h2⟩ := getWordInfoSubset_spec src po nsys hok id hd hk ALL
    refine Or.inr ⟨i1, i2, e1, e2,
      hR _ i1 i2 (f1.of_common f2 (fun _ _ h => h) (effSubset_all_of _ S)) fun hl => ?_⟩
    rw [h1 hl, h2 (.of_requested (by decide) (effSubset_of_testBit (by decide) (by decide)))]
  · exact Or.inl ⟨getWordInfoSubset_oob src po nsys id S hin, getWordInfoSubset_oob src po nsys id ALL hin⟩

theorem FieldsEq.splitsOf {hasSyn : Bool} {S : Nat} {m : Mode} {a b : WordInfoData} (f : FieldsEq (effSubset hasSyn S) a b)
    (hS : ∀ j, (modeSubset m).testBit j = true → S.testBit j = true) : splitsOf m a = splitsOf m b := by
  cases m with
  | A => exact f.aUnitSplit (effSubset_of_testBit (by decide) (hS 6 (by decide)))
  | B => exact f.bUnitSplit (effSubset_of_testBit (by decide) (hS 7 (by decide)))
  | C => rfl

/-- the reader reaches the head-word length: some flag other than SURFACE (and other than the synonym
flag, which a dictionary without synonym ids drops) is requested -/
def HwlLoaded (S : Nat) : Prop := ∃ c, 1 ≤ c ∧ c ≤ 8 ∧ S.testBit c = true

theorem HwlLoaded.loaded {S : Nat} (h : HwlLoaded S) (hasSyn : Bool) : Loaded (effSubset hasSyn S) 1 := by
  obtain ⟨c, hc1, hc8, hcS⟩ := h
  have hc9 : c ≠ SYNONYM_GROUP_ID := by unfold SYNONYM_GROUP_ID; omega
  exact .headWordLength hc1 (effSubset_of_testBit hc9 hcS)

/-- in modes A and B the split flag of the mode is behind the head-word length -/
theorem HwlLoaded.of_mode {m : Mode} {S : Nat} (hm : m ≠ .C)
    (hS : ∀ j, (modeSubset m).testBit j = true → S.testBit j = true) : HwlLoaded S := by
  cases m with
  | A => exact ⟨6, by omega, by omega, hS 6 (by decide)⟩
  | B => exact ⟨7, by omega, by omega, hS 7 (by decide)⟩
  | C => exact absurd rfl hm

/-- a request that contains the split flag of the mode, under which — for `h` — the head-word length is loaded and which
— for `k` — contains SURFACE, POS_ID and NORMALIZED_FORM agrees with the full request, in a well-formed lexicon set -/
theorem gwisRel_agree_all (src : Src) (po : List Nat) (nsys : Nat) (hok : LexSetOk src po) (k h : Bool) (m : Mode) (S : Nat)
    (hf : k = true → S.testBit SURFACE = true ∧ S.testBit POS_ID = true ∧ S.testBit NORMALIZED_FORM = true)
    (hh : h = true → HwlLoaded S) (hS : ∀ j, (modeSubset m).testBit j = true → S.testBit j = true) :
    GwisRel (lexSetOf src po nsys) (Agree k h m) S ALL := by
  refine gwisRel_all src po nsys hok S _ fun hasSyn i1 i2 f hl =>
    ⟨fun hk => ?_, fun e => hl ((hh e).loaded hasSyn), f.splitsOf hS⟩
  obtain ⟨h0, h2, h3⟩ := hf hk
  exact ⟨f.surface (effSubset_of_testBit (by decide) h0), f.posId (effSubset_of_testBit (by decide) h2),
    f.normalizedForm (effSubset_of_testBit (by decide) h3)⟩

theorem gwisAgree_all (src : Src) (po : List Nat) (nsys : Nat) (hok : LexSetOk src po) (m : Mode) (S : Nat)
    (hS : ∀ j, (modeSubset m).testBit j = true → S.testBit j = true) :
    GwisAgree (lexSetOf src po nsys) m S ALL :=
  gwisRel_agree_all src po nsys hok false _ m S (fun e => nomatch e) (fun e => .of_mode (bne_iff_ne.mp e) hS) hS

end Subset
