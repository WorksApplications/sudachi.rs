import Sudachi.Model.EditGhost
import Sudachi.Proofs.EditExact
/-!
# The ghost-tagged run of `resolve_edits` (C08 `unreplaced_exact`)

Erasing the ghost state of `EditG.commitAllVG` gives the executed run `EditM.commitAllV` (`commitAllVG_erase`, the instance
`Prod.fst` of `commitAllVG_proj`).  Between batches the ghost-tagged buffer satisfies `InvG`: ONE relation `Ex` between every entry
that carries an unreplaced byte `k` and the VALUE of the entry after it — the byte is still `o[k]`, the two values are EXACTLY
`startOf` (`k`, or 0 once it has been a first entry) and `endOf` (its own end `k + 1`, or the end `d` of the deletion run attached after it), an attached
run `[k + 1, d)` consists of original offsets in the image of a deleting edit (`D`), and so does everything before a byte that has
been a first entry.  `Ex` reads nothing of the next entry but its value, so the chain is stated for a list AND the value that
follows its end (`ChainV l v`): a slice, a replacement, what the loop has written so far (`Pre`) are chains as they stand, and
cutting and gluing is one lemma (`chainV_append`).  `ghost_run` states both for the run of an executed sequence of batches from
`ghostIdent`; with `shape_succ`, `tagsOf_getElem` and `Deleted`/`not_deleted` it is what `Props/C08.lean` reads.
-/
namespace EditG
open EditM

variable {γ : Type} {o : List Nat} {D : Nat → Prop}

/-! ### the relation `Ex` between an entry and the value after it, chains of it (`ChainV`), and what `setAtt` / `attach` do to them -/

/-- what the ghost state of an unreplaced byte `k` says of its own entry `p` and of the value `w` of the entry after it: the byte is
`o[k]`, the image `[p.2, w)` is EXACTLY `[startOf, endOf)`, it contains the byte's own range, what lies beyond it (an
attached deletion run) is in the image of deleting edits (`D`), and so is everything before a byte that has been a first entry -/
def Ex (o : List Nat) (D : Nat → Prop) (p : P GB) (w : Nat) : Prop :=
  ∀ b t k, p.1 = some (b, t) → t.org = some k →
    (∃ hk : k < o.length, b = o[k]) ∧ p.2 = startOf t k ∧ w = endOf t k ∧ k + 1 ≤ endOf t k ∧
    (∀ j, k + 1 ≤ j → j < endOf t k → D j) ∧ (t.lead = true → ∀ j, j < k → D j)

/-- value of the first entry, `v` for the empty list -/
def hdv (l : List (P GB)) (v : Nat) : Nat := match l with | [] => v | p :: _ => p.2

/-- every entry stands in `Ex` to the value of the entry after it, the last one to `v`, the value that follows the end of the list:
a piece of a buffer (a slice, a replacement, what the loop has written so far) has no entry after it, only such a value -/
def ChainV (o : List Nat) (D : Nat → Prop) : List (P GB) → Nat → Prop
  | [], _ => True
  | p :: r, v => Ex o D p (hdv r v) ∧ ChainV o D r v

/-- written by a replacement, or the sentinel -/
def Unorg (p : P GB) : Prop := ∀ b t, p.1 = some (b, t) → t.org = none

theorem ex_of_unorg {p : P GB} (w : Nat) (h : Unorg p) : Ex o D p w :=
  fun b t _ hb hk => nomatch (h b t hb).symm.trans hk

theorem hdv_append (a b : List (P GB)) (v : Nat) : hdv (a ++ b) v = hdv a (hdv b v) := by
  cases a <;> rfl

theorem hdv_drop {l : List (P GB)} {i : Nat} (h : i < l.length) (v : Nat) : hdv (l.drop i) v = valAt l i := by
  rw [List.drop_eq_getElem_cons h, valAt_eq l i h]; rfl

/-- the one fact about cutting and gluing chains: the left part leads up to the first value of the right part -/
theorem chainV_append {a b : List (P GB)} {v : Nat} :
    ChainV o D (a ++ b) v ↔ ChainV o D a (hdv b v) ∧ ChainV o D b v := by
  induction a with
  | nil => exact ⟨fun h => ⟨trivial, h⟩, fun h => h.2⟩
  | cons p r ih =>
    show Ex o D p (hdv (r ++ b) v) ∧ ChainV o D (r ++ b) v ↔ (Ex o D p (hdv r (hdv b v)) ∧ ChainV o D r (hdv b v)) ∧ ChainV o D b v
    rw [hdv_append, ih, and_assoc]

theorem chainV_drop {l : List (P GB)} {v : Nat} (h : ChainV o D l v) (n : Nat) : ChainV o D (l.drop n) v :=
  (chainV_append.mp (by rwa [List.take_append_drop] : ChainV o D (l.take n ++ l.drop n) v)).2

theorem chainV_unorg (v : Nat) : ∀ xs : List (P GB), (∀ p ∈ xs, Unorg p) → ChainV o D xs v
  | [], _ => trivial
  | p :: r, h => ⟨ex_of_unorg _ (h p List.mem_cons_self), chainV_unorg v r fun x hx => h x (List.mem_cons_of_mem _ hx)⟩

theorem chainV_getElem {v : Nat} (l : List (P GB)) : ChainV o D l v → ∀ (i : Nat) (h : i + 1 < l.length),
    Ex o D (l[i]'(Nat.lt_of_succ_lt h)) (l[i + 1]'h).2 := by
  induction l with
  | nil => exact fun _ _ h => absurd h (Nat.not_lt_zero _)
  | cons a l ih =>
    intro hc i h
    cases i with
    | zero =>
      cases l with
      | nil => exact absurd (Nat.lt_of_succ_lt_succ h) (Nat.not_lt_zero _)
      | cons b r => exact hc.1
    | succ i => exact ih hc.2 i (Nat.lt_of_succ_lt_succ h)

theorem unorg_repl (l : List (P GB)) (ed : Edit Nat) : ∀ p ∈ repl l (tagE ed), Unorg p := by
  intro p hp b t hb
  obtain ⟨c, hc, h1, _⟩ := mem_repl hp
  obtain ⟨c0, _, rfl⟩ := List.mem_map.mp hc
  cases h1.symm.trans hb
  rfl

theorem chainV_slice {l : List (P GB)} {v : Nat} (hl : ChainV o D l v) {a b : Nat} (hab : a ≤ b) (hb : b < l.length) :
    ChainV o D (slice l a b) (valAt l b) ∧ hdv (slice l a b) (valAt l b) = valAt l a := by
  have hd := slice_append_drop l hab
  have h1 := chainV_drop hl a
  rw [← hd] at h1
  rw [← hdv_drop hb v]
  exact ⟨(chainV_append.mp h1).1, by rw [← hdv_append, hd, hdv_drop (Nat.lt_of_le_of_lt hab hb)]⟩

theorem setAtt_snd (d : Nat) (p : P GB) : (setAtt d p).2 = p.2 := by
  obtain ⟨x, v⟩ := p
  cases x <;> rfl

theorem setAtt_some {d : Nat} {p : P GB} {b : Nat} {t : Tag} (h : (setAtt d p).1 = some (b, t)) :
    ∃ t0, p.1 = some (b, t0) ∧ t = { t0 with att := some d } := by
  obtain ⟨x, v⟩ := p
  cases x with
  | none => cases h
  | some bt => cases h; exact ⟨bt.2, rfl, rfl⟩

/-- attaching a deletion run `[v, d)` after an entry whose image ended at `v` -/
theorem ex_setAtt {p : P GB} {v d : Nat} (hr : Ex o D p v) (hvd : v ≤ d) (hD : ∀ j, v ≤ j → j < d → D j) :
    Ex o D (setAtt d p) d := by
  intro b t k hb hk
  obtain ⟨t0, h0, rfl⟩ := setAtt_some hb
  obtain ⟨g1, g2, g3, g4, g5, g6⟩ := hr b t0 k h0 hk
  rw [← g3] at g4 g5
  exact ⟨g1, (setAtt_snd d p).trans g2, rfl, Nat.le_trans g4 hvd,
    fun j hj1 hj2 => (Nat.lt_or_ge j v).elim (g5 j hj1) fun hj => hD j hj hj2, g6⟩

/-- `attach` changes no value: a non-empty list keeps its first value -/
theorem hdv_attach (d : Nat) : ∀ (a : List (P GB)) (w w' : Nat), a ≠ [] → hdv (attach d a) w = hdv a w'
  | [], _, _, h => absurd rfl h
  | [p], _, _, _ => setAtt_snd d p
  | _ :: _ :: _, _, _, _ => rfl

/-- skipping a span whose image `[v, d)` is deleted, by the recursion of `attach`: only the last entry changes, from leading up to
`v` to leading up to `d` -/
theorem chainV_attach {v d : Nat} (hvd : v ≤ d) (hD : ∀ j, v ≤ j → j < d → D j) :
    ∀ acc : List (P GB), ChainV o D acc v → ChainV o D (attach d acc) d
  | [], _ => trivial
  | [_], h => ⟨ex_setAtt h.1 hvd hD, trivial⟩
  | _ :: q :: r, h =>
    ⟨(hdv_attach d (q :: r) d v (List.cons_ne_nil _ _)).symm ▸ h.1, chainV_attach hvd hD (q :: r) h.2⟩

theorem attach_concat (d : Nat) (a : List (P GB)) (p : P GB) : attach d (a ++ [p]) = a ++ [setAtt d p] := by
  induction a with
  | nil => rfl
  | cons q a ih =>
    cases a with
    | nil => rfl
    | cons r a' => exact congrArg (q :: ·) ih

theorem isDel_iff (ed : Edit Nat) : isDel ed = true ↔ ed.w = [] ∧ ed.s < ed.e := by
  unfold isDel
  rw [Bool.and_eq_true, List.isEmpty_iff, decide_eq_true_iff]

theorem commitVG_cons (lv : LenV) (l : List (P GB)) (ed : Edit Nat) (es : List (Edit Nat)) :
    commitVG lv l (ed :: es) =
      if lenGuard lv REALLY_MAX_LENGTH ((l.length : Int) - 1) (ed :: es) then some (resolveG l (ed :: es)) else none :=
  rfl

/-! ### erasing ghost state: any projection of the ghost-tagged bytes that ignores `att` and `lead` commutes with the run -/

section proj
variable (f : GB → γ) (hatt : ∀ b t d, f (b, { t with att := some d }) = f (b, t))
  (hlead : ∀ b t, f (b, { t with lead := true }) = f (b, t))

theorem mapE_tagE (ed : Edit Nat) : mapE f (tagE ed) = mapE (fun b => f (b, noTag)) ed := by
  unfold mapE tagE; rw [List.map_map]; rfl

include hatt in
theorem mapP_setAtt (d : Nat) (p : P GB) : mapP f [setAtt d p] = mapP f [p] := by
  obtain ⟨x, v⟩ := p
  cases x with
  | none => rfl
  | some bt => exact congrArg (fun c => [(some c, v)]) (hatt bt.1 bt.2 d)

include hatt in
theorem mapP_attach (d : Nat) : ∀ a : List (P GB), mapP f (attach d a) = mapP f a
  | [] => rfl
  | [p] => mapP_setAtt f hatt d p
  | p :: q :: r => congrArg ((p.1.map f, p.2) :: ·) (mapP_attach d (q :: r))

include hatt in
theorem goG_proj (l : List (P GB)) (es : List (Edit Nat)) : ∀ (start : Nat) (acc : List (P GB)),
    mapP f (goG l start es acc) = go (mapP f l) start (es.map (mapE fun b => f (b, noTag))) (mapP f acc) := by
  induction es with
  | nil =>
    intro start acc
    show mapP f (acc ++ l.drop start) = mapP f acc ++ (mapP f l).drop start
    rw [mapP_append]; unfold mapP; rw [List.map_drop]
  | cons ed es ih =>
    intro start acc
    rw [goG, List.map_cons, go, ih]
    congr 1
    by_cases hd : isDel ed = true
    · rw [if_pos hd, mapP_attach f hatt, mapP_append, slice_mapP,
        repl_nil_of_w _ (mapE _ ed) (by show ed.w.map _ = []; rw [((isDel_iff ed).mp hd).1]; rfl), List.append_nil]; rfl
    · rw [if_neg hd, mapP_append, mapP_append, slice_mapP, ← repl_mapP, mapE_tagE]; rfl

include hlead in
theorem force0G_proj (a : List (P GB)) : mapP f (force0G a) = force0 (mapP f a) := by
  cases a with
  | nil => rfl
  | cons p r =>
    obtain ⟨x, v⟩ := p
    cases x with
    | none => rfl
    | some bt => exact congrArg (fun c => (some c, 0) :: mapP f r) (hlead bt.1 bt.2)

include hatt hlead in
theorem resolveG_proj (l : List (P GB)) (es : List (Edit Nat)) :
    mapP f (resolveG l es) = resolve (mapP f l) (es.map (mapE fun b => f (b, noTag))) := by
  unfold resolveG resolve
  rw [force0G_proj f hlead, goG_proj f hatt]; rfl

include hatt hlead in
theorem commitVG_proj (lv : LenV) (l : List (P GB)) (es : List (Edit Nat)) :
    (commitVG lv l es).map (mapP f) = commitV lv (mapP f l) (es.map (mapE fun b => f (b, noTag))) := by
  cases es with
  | nil => rfl
  | cons ed es =>
    rw [List.map_cons, commitV_cons, ← List.map_cons, lenGuard_mapE, mapP_length, ← resolveG_proj f hatt hlead, commitVG_cons]
    cases lenGuard lv REALLY_MAX_LENGTH ((l.length : Int) - 1) (ed :: es) <;> rfl

include hatt hlead in
theorem commitAllVG_proj (lv : LenV) (bs : List (List (Edit Nat))) : ∀ (l : List (P GB)),
    (commitAllVG lv l bs).map (mapP f) =
      commitAllV lv (mapP f l) (bs.map fun es => es.map (mapE fun b => f (b, noTag))) := by
  induction bs with
  | nil => exact fun _ => rfl
  | cons es rest ih =>
    intro l
    rw [List.map_cons]
    unfold commitAllVG commitAllV
    rw [← commitVG_proj f hatt hlead]
    cases commitVG lv l es with
    | none => rfl
    | some l1 => exact ih l1

end proj

theorem commitAllVG_erase (lv : LenV) : ∀ (bs : List (List (Edit Nat))) (l : List (P GB)),
    (commitAllVG lv l bs).map (mapP Prod.fst) = commitAllV lv (mapP Prod.fst l) bs := by
  intro bs l
  have := commitAllVG_proj Prod.fst (fun _ _ _ => rfl) (fun _ _ => rfl) lv bs l
  rwa [List.map_id'' (fun es => List.map_id'' mapE_id es) bs] at this

theorem resolveG_erase (l : List (P GB)) (es : List (Edit Nat)) :
    mapP Prod.fst (resolveG l es) = resolve (mapP Prod.fst l) es := by
  have := resolveG_proj Prod.fst (fun _ _ _ => rfl) (fun _ _ => rfl) l es
  rwa [List.map_id'' mapE_id es] at this

theorem ghostIdentFrom_erase (o : List Nat) (k : Nat) : mapP Prod.fst (ghostIdentFrom k o) = identFrom k o := by
  induction o generalizing k with
  | nil => rfl
  | cons b bs ih => exact congrArg ((some b, k) :: ·) (ih (k + 1))

theorem ghostIdent_erase (o : List Nat) : mapP Prod.fst (ghostIdent o) = identFrom 0 o := ghostIdentFrom_erase o 0

/-! ### the loop, `force0G` and one batch keep the exact chain (`Pre`, `InvG`) -/

theorem startOf_not_lead {t : Tag} (k : Nat) (h : t.lead = false) : startOf t k = k := by
  unfold startOf; rw [h]; rfl

theorem endOf_none {t : Tag} (k : Nat) (h : t.att = none) : endOf t k = k + 1 := by
  unfold EditG.endOf; rw [h]

theorem endOf_some {t : Tag} (k : Nat) {d : Nat} (h : t.att = some d) : endOf t k = d := by
  unfold EditG.endOf; rw [h]

/-- what the loop has written so far, `v` being the value of the source entry it stands at: an exact chain leading up to the
value `v`, everything before the first value deleted -/
structure Pre (o : List Nat) (D : Nat → Prop) (acc : List (P GB)) (v : Nat) : Prop where
  chain : ChainV o D acc v
  head : ∀ j, j < hdv acc v → D j

/-- copying or writing a chain `s` that begins with the value `v` and leads up to the value `w` -/
theorem Pre.append {acc s : List (P GB)} {v w : Nat} (h : Pre o D acc v)
    (hs : ChainV o D s w) (hv : hdv s w = v) : Pre o D (acc ++ s) w :=
  ⟨chainV_append.mpr ⟨hv.symm ▸ h.chain, hs⟩, fun j hj => h.head j (by rwa [hdv_append, hv] at hj)⟩

/-- skipping a span whose image `[v, d)` is deleted: the run is attached to the last entry written -/
theorem Pre.attach {acc : List (P GB)} {v d : Nat} (h : Pre o D acc v) (hvd : v ≤ d)
    (hD : ∀ j, v ≤ j → j < d → D j) : Pre o D (attach d acc) d := by
  refine ⟨chainV_attach hvd hD acc h.chain, fun j hj => ?_⟩
  cases acc with
  | nil => exact (Nat.lt_or_ge j v).elim (h.head j) fun hv => hD j hv hj
  | cons p r => exact h.head j (by rwa [hdv_attach d _ d v (List.cons_ne_nil _ _)] at hj)

theorem hdv_repl (l : List (P GB)) (ed : Edit Nat) (hse : ed.s ≤ ed.e) (hd : ¬ isDel ed = true) :
    hdv (repl l (tagE ed)) (valAt l ed.e) = valAt l ed.s := by
  unfold repl tagE
  cases hw : ed.w with
  | nil =>
    have : ¬ ed.s < ed.e := fun hlt => hd ((isDel_iff ed).mpr ⟨hw, hlt⟩)
    show valAt l ed.e = valAt l ed.s
    rw [Nat.le_antisymm (Nat.le_of_not_lt this) hse]
  | cons b bs => rfl

/-- one step of the loop is a copy (`Pre.append` with `chainV_slice`) followed by an attached run (`Pre.attach`) or by the bytes of the
replacement (`Pre.append` with `chainV_unorg`) -/
theorem goG_inv (o : List Nat) (D : Nat → Prop) (l : List (P GB)) (n : Nat) (hn : n + 1 = l.length) (hm : Mono (snds l))
    (v : Nat) (hl : ChainV o D l v) (es : List (Edit Nat)) :
    ∀ (start : Nat) (acc : List (P GB)), EditsOk n start es →
      (∀ ed ∈ es, ed.w = [] → ∀ j, valAt l ed.s ≤ j → j < valAt l ed.e → D j) → Pre o D acc (valAt l start) →
      ChainV o D (goG l start es acc) v ∧ (∀ j, j < hdv (goG l start es acc) v → D j) := by
  induction es with
  | nil =>
    intro start acc hok _ h
    have hs : start < l.length := hn ▸ Nat.lt_succ_of_le hok
    show ChainV o D (acc ++ l.drop start) v ∧ ∀ j, j < hdv (acc ++ l.drop start) v → D j
    rw [hdv_append, chainV_append, hdv_drop hs]
    exact ⟨⟨h.chain, chainV_drop hl _⟩, h.head⟩
  | cons ed es ih =>
    intro start acc ⟨h1, h2, h3, h4⟩ hD h
    have he : ed.e < l.length := hn ▸ Nat.lt_succ_of_le h3
    have hs : ed.s < l.length := Nat.lt_of_le_of_lt h2 he
    have hcopy := h.append (chainV_slice hl h1 hs).1 (chainV_slice hl h1 hs).2
    refine ih ed.e _ h4 (fun ed' h' => hD ed' (List.mem_cons_of_mem _ h')) ?_
    by_cases hd : isDel ed = true
    · rw [if_pos hd]
      exact hcopy.attach (mono_valAt hm h2 he) (hD ed List.mem_cons_self ((isDel_iff ed).mp hd).1)
    · rw [if_neg hd]
      exact hcopy.append (chainV_unorg _ _ (unorg_repl l ed)) (hdv_repl l ed h2 hd)

/-- what the ghost-tagged buffer satisfies between batches: every entry that carries an unreplaced byte stands in the relation
`Ex` to the value of the entry after it (the byte it carries, the exact image `[startOf, endOf)`, what an attached deletion run and a
forced first entry cover); `D` = "is in the image of a deleting edit".  (The last entry is the sentinel, of which `Ex` says nothing:
the value after the end plays no role.) -/
def InvG (o : List Nat) (D : Nat → Prop) (l : List (P GB)) : Prop := ChainV o D l 0

/-- the new first entry has value 0 = `startOf` of a `lead` byte; if it was not `lead` before, its value was its own
offset `k`, so everything before `k` is before the head -/
theorem force0G_inv (o : List Nat) (D : Nat → Prop) (R : List (P GB)) (v : Nat) (hch : ChainV o D R v)
    (hh : ∀ j, j < hdv R v → D j) : ChainV o D (force0G R) v := by
  cases R with
  | nil => exact hch
  | cons p r =>
    obtain ⟨x, w⟩ := p
    cases x with
    | none => exact ⟨ex_of_unorg _ nofun, hch.2⟩
    | some bt =>
      obtain ⟨b0, t0⟩ := bt
      refine ⟨fun b t k hb hk => ?_, hch.2⟩
      cases hb
      obtain ⟨g1, g2, g3, g4, g5, g6⟩ := hch.1 b0 t0 k rfl hk
      refine ⟨g1, rfl, g3, g4, g5, fun _ j hj => ?_⟩
      have g2 : w = startOf t0 k := g2
      unfold startOf at g2
      by_cases hl0 : t0.lead = true
      · exact g6 hl0 j hj
      · rw [if_neg hl0] at g2; exact hh j (g2 ▸ hj)

/-- `hD`: the images of the deleting edits of the batch are in `D` -/
theorem resolveG_inv (o : List Nat) (D : Nat → Prop) (l : List (P GB)) (hi : InvG o D l) (n : Nat)
    (hn : n + 1 = l.length) (hm : Mono (snds l)) (h0 : valAt l 0 = 0) (es : List (Edit Nat)) (hok : EditsOk n 0 es)
    (hD : ∀ ed ∈ es, ed.w = [] → ∀ j, valAt l ed.s ≤ j → j < valAt l ed.e → D j) : InvG o D (resolveG l es) := by
  obtain ⟨g1, g3⟩ := goG_inv o D l n hn hm 0 hi es 0 [] hok hD
    ⟨trivial, fun j hj => absurd (h0 ▸ hj) (Nat.not_lt_zero j)⟩
  exact force0G_inv o D _ 0 g1 g3

/-! ### any number of batches; the ghost run of an executed run -/

/-- `j` is an offset of the ORIGINAL text in the image `[m2o[s], m2o[e])` of an edit with an empty replacement of some batch
(the map is the one the batch is applied to) -/
def Deleted {β : Type} : List (P β) → List (List (Edit β)) → Nat → Prop
  | _, [], _ => False
  | l, es :: rest, j => (∃ ed ∈ es, ed.w = [] ∧ valAt l ed.s ≤ j ∧ j < valAt l ed.e) ∨ Deleted (resolve l es) rest j

theorem not_deleted {β : Type} {bs : List (List (Edit β))} (hn : ∀ es ∈ bs, ∀ ed ∈ es, ed.w ≠ []) :
    ∀ (l : List (P β)) (j : Nat), ¬ Deleted l bs j := by
  induction bs with
  | nil => exact fun _ _ h => h
  | cons es rest ih =>
    intro l j h
    rcases h with ⟨ed, hed, hw, _⟩ | h
    · exact hn es List.mem_cons_self ed hed hw
    · exact ih (fun es' he => hn es' (List.mem_cons_of_mem _ he)) _ j h

theorem commitAllVG_cons {lv : LenV} {lg lg' : List (P GB)} {es : List (Edit Nat)} {rest : List (List (Edit Nat))}
    (h : commitAllVG lv lg (es :: rest) = some lg') :
    (es = [] ∧ commitAllVG lv lg rest = some lg') ∨ commitAllVG lv (resolveG lg es) rest = some lg' := by
  cases es with
  | nil => exact Or.inl ⟨rfl, h⟩
  | cons ed es =>
    unfold commitAllVG at h
    rw [commitVG_cons] at h
    by_cases hg : lenGuard lv REALLY_MAX_LENGTH ((lg.length : Int) - 1) (ed :: es) = true
    · rw [if_pos hg] at h; exact Or.inr h
    · rw [if_neg hg] at h; cases h

/-- `lg` is the ghost-tagged buffer and `l` its erasure, on which the hypotheses of one batch are stated; `D` contains the image of every
deleting edit of the batches to come (`Deleted`).  The erasure moves on by `resolveG_erase`; the shape of the erased result is returned
as well (a byte entry then has a successor: `shape_succ`) -/
theorem commitAllVG_inv (o : List Nat) (D : Nat → Prop) (lv : LenV) (st : Nat → Bool) (N : Nat)
    (bs : List (List (Edit Nat))) : ∀ (lg lg' : List (P GB)) (l : List (P Nat)), mapP Prod.fst lg = l →
    Shape N l → valAt l 0 = 0 → Mono (snds l) → BatchesOk st l bs → (∀ j, Deleted l bs j → D j) → InvG o D lg →
    commitAllVG lv lg bs = some lg' → InvG o D lg' ∧ Shape N (mapP Prod.fst lg') := by
  induction bs with
  | nil => exact fun _ _ _ he hs _ _ _ _ hi h => Option.some.inj h ▸ ⟨hi, he ▸ hs⟩
  | cons es rest ih =>
    intro lg lg' l he hs h0 hm ⟨a1, _, a3, a4⟩ hD hi h
    have hne := shape_ne_nil hs
    rcases commitAllVG_cons h with ⟨rfl, h⟩ | h
    · have hr := resolve_nil l h0 hne
      rw [hr] at a4
      exact ih lg lg' l he hs h0 hm a4 (fun j hj => hD j (Or.inr (hr.symm ▸ hj))) hi h
    · have hs' := resolve_shape N l hs es a1 a3
      have hn : (l.length - 1) + 1 = l.length := Nat.sub_add_cancel (List.length_pos_iff.mpr hne)
      refine ih (resolveG lg es) lg' (resolve l es) (he ▸ resolveG_erase lg es) hs'
        (valAt_resolve_zero (shape_ne_nil hs')) (resolve_mono l _ hn hm es a1) a4 (fun j hj => hD j (Or.inr hj)) ?_ h
      subst he
      rw [mapP_length] at hn a1
      rw [snds_mapP] at hm
      rw [valAt_mapP] at h0
      exact resolveG_inv o D lg hi _ hn hm h0 es a1 fun ed hed hw j hj1 hj2 =>
        hD j (Or.inl ⟨ed, hed, hw, by rw [valAt_mapP]; exact hj1, by rw [valAt_mapP]; exact hj2⟩)

/-- stated for the suffix `o` of a text `pre ++ o`, tagged from offset `pre.length`: the clause "the byte is `(pre ++ o)[k]`" of `Ex`
speaks of the WHOLE text, so the induction over `o` has to carry what came before -/
theorem invG_ghostIdentFrom (D : Nat → Prop) (v : Nat) : ∀ (pre o : List Nat),
    ChainV (pre ++ o) D (ghostIdentFrom pre.length o) v := by
  intro pre o
  induction o generalizing pre with
  | nil => exact ⟨ex_of_unorg _ nofun, trivial⟩
  | cons b bs ih =>
    have h1 := ih (pre ++ [b])
    rw [List.length_append, List.append_assoc] at h1
    refine ⟨?_, h1⟩
    rw [show hdv (ghostIdentFrom (pre.length + 1) bs) v = pre.length + 1 by cases bs <;> rfl]
    intro _ _ _ hb hk
    cases hb; cases hk
    exact ⟨⟨by rw [List.length_append]; exact Nat.lt_add_of_pos_right (Nat.succ_pos _), by simp⟩, rfl, rfl, Nat.le_refl _,
      fun j h1 h2 => absurd h2 (Nat.not_lt_of_le h1), nofun⟩

theorem invG_ghostIdent (o : List Nat) (D : Nat → Prop) : InvG o D (ghostIdent o) :=
  invG_ghostIdentFrom D 0 [] o

theorem shape_of_mapP (f : GB → γ) {N : Nat} {lg : List (P GB)} (h : Shape N (mapP f lg)) : Shape N lg := by
  obtain ⟨body, hb, hall⟩ := h
  obtain ⟨a, s, rfl, rfl, hs⟩ := List.map_eq_append_iff.mp hb
  obtain ⟨⟨x, v⟩, rfl, hp⟩ := List.map_eq_singleton_iff.mp hs
  cases x with
  | some g => cases hp
  | none =>
    cases hp
    exact ⟨a, rfl, fun q hq => by
      have := hall _ (List.mem_map_of_mem (f := fun p : P GB => (p.1.map f, p.2)) hq)
      rwa [Option.isSome_map] at this⟩

theorem shape_succ {N : Nat} {lg : List (P GB)} (hs : Shape N lg) {i : Nat} (hi : i < lg.length) {g : GB}
    (hg : (lg[i]).1 = some g) : i + 1 < lg.length := by
  rw [shape_getElem hs i hi] at hg
  exact shape_length hs ▸ Nat.succ_lt_succ (List.getElem?_eq_some_iff.mp hg).1

/-- the ghost-tagged run of an executed run, with `D` = "in the image of a deleting edit of one of the batches" -/
theorem ghost_run (o : List Nat) (bs : List (List (Edit Nat))) (lv : LenV) (l : List (P Nat))
    (hok : BatchesOk isStart (identFrom 0 o) bs) (h : commitAllV lv (identFrom 0 o) bs = some l) :
    ∃ lg : List (P GB), commitAllVG lv (ghostIdent o) bs = some lg ∧ mapP Prod.fst lg = l ∧
      InvG o (Deleted (identFrom 0 o) bs) lg ∧ Shape o.length lg := by
  have hmap := commitAllVG_erase lv bs (ghostIdent o)
  rw [ghostIdent_erase, h] at hmap
  cases hc : commitAllVG lv (ghostIdent o) bs with
  | none => rw [hc] at hmap; cases hmap
  | some lg =>
    rw [hc] at hmap
    have ⟨h1, h2⟩ := commitAllVG_inv o _ lv isStart o.length bs (ghostIdent o) lg _ (ghostIdent_erase o) (ident_shape o)
      (by cases o <;> rfl) (ident_mono o 0) hok (fun _ hj => hj) (invG_ghostIdent o _) hc
    exact ⟨lg, rfl, Option.some.inj hmap, h1, shape_of_mapP Prod.fst h2⟩

/-! ### what the driver prints: the tags in order are the ghost states of the entries before the sentinel -/

theorem tagsOf_getElem {N : Nat} {lg : List (P GB)} (hs : Shape N lg) {i : Nat} {t : Tag}
    (h : (tagsOf lg)[i]? = some t) :
    ∃ (hi : i + 1 < lg.length) (b : Nat), (lg[i]'(Nat.lt_of_succ_lt hi)).1 = some (b, t) := by
  have ht : tagsOf lg = (textOf lg).map Prod.snd := by unfold tagsOf textOf; rw [List.map_filterMap]
  rw [ht, List.getElem?_map] at h
  obtain ⟨g, hg, rfl⟩ := Option.map_eq_some_iff.mp h
  have hi : i + 1 < lg.length := shape_length hs ▸ Nat.succ_lt_succ (List.getElem?_eq_some_iff.mp hg).1
  exact ⟨hi, g.1, (shape_getElem hs i _).trans hg⟩

/-! ### the provenance tags alone: the run on `tagIdent` is a projection of the ghost-tagged run -/

def prov (g : GB) : Nat × Option Nat := (g.1, g.2.org)

theorem prov_ghostIdentFrom (o : List Nat) (k : Nat) : mapP prov (ghostIdentFrom k o) = tagIdentFrom k o := by
  induction o generalizing k with
  | nil => rfl
  | cons b bs ih => exact congrArg ((some (b, some k), k) :: ·) (ih (k + 1))

/-- an exact chain is a chain in the sense of `Rel`: what follows byte `k` has a value `> k` -/
theorem chain_prov {v : Nat} (lg : List (P GB)) : ChainV o D lg v → Chain (Rel fun b : Nat × Option Nat => b.2) (mapP prov lg) := by
  induction lg with
  | nil => exact fun _ => trivial
  | cons p r ih =>
    intro h
    cases r with
    | nil => trivial
    | cons q r' =>
      refine ⟨fun b k hb hk => ?_, ih h.2⟩
      obtain ⟨g, hg, rfl⟩ := Option.map_eq_some_iff.mp hb
      obtain ⟨_, _, g3, g4, _⟩ := h.1 g.1 g.2 k hg hk
      exact Nat.le_trans g4 (Nat.le_of_eq g3.symm)

end EditG

namespace EditM
open EditG

/-- **the run of `commitAllV` itself on provenance-tagged bytes** (`tagIdent`, `tagBatches`; no ghost bookkeeping) exists,
erases to the untagged run, an entry tagged `some k` still carries `o[k]` with value `k` or 0, and what follows it has a value
`> k` (`Rel`); it is the projection `prov` of the ghost run -/
theorem tagged_run (o : List Nat) (bs : List (List (Edit Nat))) (lv : LenV) (l : List (P Nat))
    (hok : BatchesOk isStart (identFrom 0 o) bs) (h : commitAllV lv (identFrom 0 o) bs = some l) :
    ∃ lt : List (P (Nat × Option Nat)), commitAllV lv (tagIdent o) (tagBatches bs) = some lt ∧ mapP Prod.fst lt = l ∧
      snds lt = snds l ∧ Chain (Rel (fun b : Nat × Option Nat => b.2)) lt ∧
      ∀ p ∈ lt, ∀ b k, p.1 = some (b, some k) → (∃ hk : k < o.length, b = o[k]) ∧ (p.2 = k ∨ p.2 = 0) := by
  obtain ⟨lg, hg, hl, hinv, hsh⟩ := ghost_run o bs lv l hok h
  have hp := commitAllVG_proj prov (fun _ _ _ => rfl) (fun _ _ => rfl) lv bs (ghostIdent o)
  rw [hg, ghostIdent, prov_ghostIdentFrom] at hp
  refine ⟨mapP prov lg, hp.symm, ?_, by rw [snds_mapP, ← hl, snds_mapP], chain_prov lg hinv, ?_⟩
  · rw [← hl]; unfold mapP; rw [List.map_map]
    exact List.map_congr_left fun p _ => by obtain ⟨x, v⟩ := p; cases x <;> rfl
  · intro p hp b k hb
    obtain ⟨q, hq, rfl⟩ := List.mem_map.mp hp
    obtain ⟨g, hg, hgb⟩ := Option.map_eq_some_iff.mp hb
    injection hgb with e1 e2
    subst e1
    obtain ⟨i, hi0, rfl⟩ := List.getElem_of_mem hq
    have hi := shape_succ hsh hi0 hg
    obtain ⟨h1, h2, _⟩ := chainV_getElem lg hinv i hi g.1 g.2 k hg e2
    refine ⟨h1, ?_⟩
    cases hl : g.2.lead with
    | false => exact Or.inl (h2.trans (startOf_not_lead k hl))
    | true => exact Or.inr (h2.trans (by unfold startOf; rw [hl]; rfl))

end EditM
