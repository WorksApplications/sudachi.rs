import Sudachi.Model.LatticeRec
import Sudachi.Proofs.Lattice
import Sudachi.Proofs.Basic
/-!
# The recycled lattice refines the functional lattice (C02)

`Sim s rows pr len`: on the valid rows `e ≤ len` the three row vectors of the state `s` are the images of the
functional rows `rows` (`Model/Lattice.lean`) and of the functional back-pointer rows `pr` (`buildP`: the
pointer `connect_node` returns when the node is inserted).  `reset` establishes it from ANY state, `insertS`
preserves it; `PInv` says the stored pointer of every node is `argmin` over the FINISHED rows, which is what
`Vit.pathFrom` recomputes — hence the walk over the stored `indices` is `Vit.bestPath`.  What the later files use:
`reset_sim`, `build_sim` (the simulation, operation by operation), `analyse_spec` (a whole analysis on any previous state),
`Fin`/`fin_build` and `resolve_spec` (the walk).
-/
namespace Vit

variable (conn : Nat → Nat → Int)

theorem pushAt_eq {α : Type} (a : α) : ∀ (l : List (List α)) (k : Nat) (row : List α), l[k]? = some row →
    pushAt l k a = some (l.set k (row ++ [a])) := by
  intro l
  induction l with
  | nil => intro k row h; cases h
  | cons x xs ih =>
    intro k row h
    cases k with
    | zero => cases h; rfl
    | succ k => rw [pushAt, ih k row h]; rfl

theorem pushAt_spec {α : Type} (l : List (List α)) (k : Nat) (a : α) (row : List α) (h : l[k]? = some row) :
    ∃ l', pushAt l k a = some l' ∧ l'.length = l.length ∧ l'[k]? = some (row ++ [a]) ∧
      ∀ j, j ≠ k → l'[j]? = l[j]? :=
  ⟨_, pushAt_eq a l k row h, List.length_set, List.getElem?_set_self (List.getElem?_eq_some_iff.mp h).1,
    fun _ hj => List.getElem?_set_ne (Ne.symm hj)⟩

theorem resetVec_eq {α : Type} (data : List (List α)) (target : Nat) :
    resetVec data target = List.replicate (max data.length target) [] := by
  unfold resetVec resetVecK
  simp only [List.take_length, List.drop_length, List.append_nil, List.map_const', List.length_replicate]
  by_cases h : data.length ≤ target
  · rw [if_pos h, List.replicate_append_replicate, Nat.add_sub_cancel' h, Nat.max_eq_right h]
  · rw [if_neg h, Nat.max_eq_left (Nat.le_of_not_le h)]

/-- EVERY allocated row is empty after `reset_vec`, also those past `target` -/
theorem resetVec_nil {α : Type} (data : List (List α)) (target : Nat) (e : Nat) (row : List α)
    (h : (resetVec data target)[e]? = some row) : row = [] :=
  List.eq_of_mem_replicate (resetVec_eq data target ▸ List.mem_of_getElem? h)

theorem resetVec_length {α : Type} (data : List (List α)) (target : Nat) :
    (resetVec data target).length = max data.length target := by
  rw [resetVec_eq, List.length_replicate]

theorem resetVec_get {α : Type} (data : List (List α)) (target : Nat) (e : Nat) (h : e < target) :
    (resetVec data target)[e]? = some [] := by
  rw [resetVec_eq, List.getElem?_replicate, if_pos (Nat.lt_of_lt_of_le h (Nat.le_max_right ..))]

/-- `VNode::new(node.right_id(), cost)` -/
def vn (ent : Entry) : VN := ⟨ent.1.r, ent.2⟩

/-- row 0 of `ends` holds the BOS entry in front, `ends_full`/`indices` do not -/
def off (e : Nat) : Nat := if e = 0 then 1 else 0

abbrev PRows := Nat → List Idx

/-- `prev_idx` of `connect_node`: `NodeIdx::new(begin, i)` of the first minimum, `NodeIdx::empty()` if none -/
def ptrOf (b : Nat) : Option (Nat × Int) → Idx
  | none => idxEmpty
  | some (j, _) => (b, j)

/-- the back-pointer rows, functionally: what `insert` pushes onto `indices[end]` -/
def insertP (rows : Rows) (pr : PRows) (n : Node) : PRows :=
  fun e => if e = n.e then pr e ++ [ptrOf n.b (argmin conn (rows n.b) n)] else pr e

def buildP : List Node → Rows → PRows → PRows
  | [], _, pr => pr
  | n :: ns, rows, pr => buildP ns (insert conn rows n) (insertP conn rows pr n)

def initP : PRows := fun _ => []

structure Sim (s : Lat) (rows : Rows) (pr : PRows) (len : Nat) : Prop where
  size : s.size = len + 1
  ends : ∀ e, e ≤ len → s.ends[e]? = some ((rows e).map vn)
  full : ∀ e, e ≤ len → s.full[e]? = some (((rows e).map (·.1)).drop (off e))
  idx : ∀ e, e ≤ len → s.idx[e]? = some (pr e)
  lens : ∀ e, e ≤ len → (pr e).length + off e = (rows e).length
  /-- rows past `size` that are allocated are empty -/
  clean : ∀ e, len < e → (∀ row, s.ends[e]? = some row → row = []) ∧ (∀ row, s.full[e]? = some row → row = []) ∧
    (∀ row, s.idx[e]? = some row → row = [])

theorem init_ne {e : Nat} (h : e ≠ 0) : init e = [] := if_neg h

theorem off_ne {e : Nat} (h : e ≠ 0) : off e = 0 := if_neg h

/-- `reset` from ANY state: never panics, and the result simulates the empty functional lattice -/
theorem reset_sim (s : Lat) (len : Nat) :
    ∃ s', reset s len = some s' ∧ Sim s' init initP len ∧ s'.eos = none ∧
      s'.ends.length = max s.ends.length (len + 1) ∧ s'.full.length = max s.full.length (len + 1) ∧
      s'.idx.length = max s.idx.length (len + 1) := by
  have hget : ∀ {α : Type} (d : List (List α)) e, e ≤ len → (resetVec d (len + 1))[e]? = some [] :=
    fun d e he => resetVec_get d (len + 1) e (Nat.lt_succ_of_le he)
  obtain ⟨e', h1, h2, h3, h4⟩ := pushAt_spec (resetVec s.ends (len + 1)) 0 (⟨0, some 0⟩ : VN) []
    (hget s.ends 0 (Nat.zero_le _))
  refine ⟨⟨e', resetVec s.full (len + 1), resetVec s.idx (len + 1), none, len + 1⟩, ?_, ⟨rfl, ?_, ?_, ?_, ?_, ?_⟩,
    rfl, ?_, ?_, ?_⟩
  -- reduce the projections of the new state first: unification would unfold `resetVec` instead
  all_goals try dsimp only
  · rw [reset, connectBos]; dsimp only; rw [h1]; rfl
  -- row 0 holds the BOS entry in `ends` only; every other row is empty
  · intro e he
    cases e with
    | zero => exact h3
    | succ e => exact (h4 _ (Nat.succ_ne_zero e)).trans (hget s.ends _ he)
  · intro e he; cases e <;> exact hget s.full _ he
  · intro e he; exact hget s.idx e he
  · intro e _; cases e <;> rfl
  · intro e he
    refine ⟨fun row h => ?_, resetVec_nil s.full (len + 1) e, resetVec_nil s.idx (len + 1) e⟩
    exact resetVec_nil s.ends (len + 1) e row ((h4 e (Nat.ne_of_gt (Nat.zero_lt_of_lt he))).symm.trans h)
  · exact h2.trans (resetVec_length s.ends (len + 1))
  · exact resetVec_length s.full (len + 1)
  · exact resetVec_length s.idx (len + 1)

theorem lens_insert (rows : Rows) (pr : PRows) (n : Node) (e : Nat) (h : (pr e).length + off e = (rows e).length) :
    (insertP conn rows pr n e).length + off e = (insert conn rows n e).length := by
  unfold insertP insert
  by_cases hq : e = n.e
  · rw [if_pos hq, if_pos hq, List.length_append, List.length_append, Nat.add_right_comm, h]; rfl
  · rw [if_neg hq, if_neg hq]; exact h

theorem connGoS_argminGo (n : Node) (row : List Entry) (k : Nat) (best : Option (Nat × Int)) :
    connGoS conn n (row.map vn) k (ptrOf n.b best, best.map (·.2)) =
      (ptrOf n.b (argminGo conn n row k best), (argminGo conn n row k best).map (·.2)) := by
  fun_induction argminGo conn n row k best with
  | case1 => rfl
  | case2 ent rest i best h ih => simp only [List.map_cons, connGoS, vn, h]; exact ih
  | case3 ent rest i t h nc ih => simp only [List.map_cons, connGoS, vn, h, Option.map_none]; exact ih
  | case4 ent rest i t h nc j m hlt ih => simp only [List.map_cons, connGoS, vn, h, Option.map_some]; rw [if_pos hlt]; exact ih
  | case5 ent rest i t h nc j m hge ih => simp only [List.map_cons, connGoS, vn, h, Option.map_some]; rw [if_neg hge]; exact ih

theorem connectNodeS_sim {s : Lat} {rows : Rows} {pr : PRows} {len : Nat} (h : Sim s rows pr len) (n : Node)
    (hb : n.b ≤ len) :
    connectNodeS conn s n = some (ptrOf n.b (argmin conn (rows n.b) n), connect conn (rows n.b) n) := by
  rw [connectNodeS, h.ends n.b hb, ← argmin_connect]
  exact congrArg some (connGoS_argminGo conn n (rows n.b) 0 none)

theorem insert_sim {s : Lat} {rows : Rows} {pr : PRows} {len : Nat} (h : Sim s rows pr len) (n : Node)
    (hb : n.b ≤ len) (he : n.e ≤ len) :
    ∃ s', insertS conn s n = some s' ∧ Sim s' (insert conn rows n) (insertP conn rows pr n) len ∧ s'.eos = s.eos ∧
      s'.ends.length = s.ends.length ∧ s'.full.length = s.full.length ∧ s'.idx.length = s.idx.length := by
  obtain ⟨e', a1, a2, a3, a4⟩ := pushAt_spec s.ends n.e (⟨n.r, connect conn (rows n.b) n⟩ : VN) _ (h.ends n.e he)
  obtain ⟨i', b1, b2, b3, b4⟩ := pushAt_spec s.idx n.e (ptrOf n.b (argmin conn (rows n.b) n)) _ (h.idx n.e he)
  obtain ⟨f', c1, c2, c3, c4⟩ := pushAt_spec s.full n.e n _ (h.full n.e he)
  refine ⟨{ s with ends := e', idx := i', full := f' }, ?_, ⟨h.size, ?_, ?_, ?_, ?_, ?_⟩, rfl, a2, c2, b2⟩
  · simp only [insertS, connectNodeS_sim conn h n hb, a1, b1, c1]
  -- row `n.e` of each vector got one more element, the other rows are untouched
  · intro e hle
    by_cases hq : e = n.e
    · subst hq; rw [insert, if_pos rfl, List.map_append]; exact a3
    · rw [insert_other conn rows n e hq]; exact (a4 e hq).trans (h.ends e hle)
  · intro e hle
    by_cases hq : e = n.e
    · subst hq
      rw [insert, if_pos rfl, List.map_append, List.drop_append_of_le_length
        (by rw [List.length_map, ← h.lens n.e hle]; exact Nat.le_add_left ..)]
      exact c3
    · rw [insert_other conn rows n e hq]; exact (c4 e hq).trans (h.full e hle)
  · intro e hle
    by_cases hq : e = n.e
    · subst hq; rw [insertP, if_pos rfl]; exact b3
    · rw [insertP, if_neg hq]; exact (b4 e hq).trans (h.idx e hle)
  · exact fun e hle => lens_insert conn rows pr n e (h.lens e hle)
  · intro e hlt
    have hq : e ≠ n.e := Nat.ne_of_gt (Nat.lt_of_le_of_lt he hlt)
    obtain ⟨d1, d2, d3⟩ := h.clean e hlt
    exact ⟨fun row hr => d1 row ((a4 e hq).symm.trans hr), fun row hr => d2 row ((c4 e hq).symm.trans hr),
      fun row hr => d3 row ((b4 e hq).symm.trans hr)⟩

theorem build_sim : ∀ (F : List Node) (s : Lat) (rows : Rows) (pr : PRows) (len : Nat), Sim s rows pr len →
    (∀ n ∈ F, n.b ≤ len ∧ n.e ≤ len) →
    ∃ s', buildS conn F s = some s' ∧ Sim s' (build conn F rows) (buildP conn F rows pr) len ∧ s'.eos = s.eos ∧
      s'.ends.length = s.ends.length ∧ s'.full.length = s.full.length ∧ s'.idx.length = s.idx.length := by
  intro F
  induction F with
  | nil => intro s rows pr len h _; exact ⟨s, rfl, h, rfl, rfl, rfl, rfl⟩
  | cons n ns ih =>
    intro s rows pr len h hF
    have hn := hF n (List.mem_cons_self ..)
    obtain ⟨s1, h1, h2, h3, l1, l2, l3⟩ := insert_sim conn h n hn.1 hn.2
    obtain ⟨s2, g1, g2, g3, m1, m2, m3⟩ := ih s1 _ _ len h2 (fun x hx => hF x (List.mem_cons_of_mem _ hx))
    exact ⟨s2, by rw [buildS, h1]; exact g1, g2, g3.trans h3, m1.trans l1, m2.trans l2, m3.trans l3⟩

theorem connectEosS_sim {s : Lat} {rows : Rows} {pr : PRows} {len : Nat} (h : Sim s rows pr len) :
    connectEosS conn s =
      match eosCost conn rows len with
      | none => some (s, false)
      | some v => some ({ s with eos := some (ptrOf len (argmin conn (rows len) (eosNode len)), v) }, true) := by
  have hn : connectNodeS conn s (eosNode len) =
      some (ptrOf len (argmin conn (rows len) (eosNode len)), eosCost conn rows len) :=
    connectNodeS_sim conn h (eosNode len) (Nat.le_refl len)
  rw [connectEosS, h.size, if_neg (Nat.succ_ne_zero len), Nat.add_sub_cancel, hn]
  cases eosCost conn rows len <;> rfl

/-! ### stored pointers = `argmin` over the finished rows -/

/-- the pointer stored beside every node is `argmin` over the rows as they are NOW; `rest` = the nodes still to be
inserted: none of them ends at the begin of a stored node, so the row that node was connected to is frozen and the
pointer computed at insertion stays the `argmin` (the same side condition `stored_build` carries for the totals) -/
structure PInv (rows : Rows) (pr : PRows) (rest : List Node) : Prop where
  lens : ∀ e, (pr e).length + off e = (rows e).length
  ptr : ∀ e i n t, (rows e)[i + off e]? = some (n, t) →
    (pr e)[i]? = some (ptrOf n.b (argmin conn (rows n.b) n)) ∧ ∀ n' ∈ rest, n'.e ≠ n.b

theorem pinv_init (rest : List Node) : PInv conn init initP rest := by
  constructor
  · intro e; cases e <;> rfl
  · intro e i n t h
    cases e with
    | zero => cases i <;> cases h
    | succ e => rw [init_ne (Nat.succ_ne_zero e)] at h; cases h

theorem pinv_insert (rows : Rows) (pr : PRows) (n : Node) (rest : List Node) (hbe : n.b < n.e)
    (hord : ∀ m ∈ rest, m.e ≠ n.b) (h : PInv conn rows pr (n :: rest)) :
    PInv conn (insert conn rows n) (insertP conn rows pr n) rest := by
  constructor
  · exact fun e => lens_insert conn rows pr n e (h.lens e)
  · intro e i n0 t0 hg
    -- an entry that was there before: the row at its begin is not the one that grew
    have old : (rows e)[i + off e]? = some (n0, t0) →
        (pr e)[i]? = some (ptrOf n0.b (argmin conn (insert conn rows n n0.b) n0)) ∧ ∀ n' ∈ rest, n'.e ≠ n0.b := by
      intro ho
      obtain ⟨p1, p2⟩ := h.ptr e i n0 t0 ho
      rw [insert_other conn rows n _ (fun hc => p2 n (List.mem_cons_self ..) hc.symm)]
      exact ⟨p1, fun n' hn' => p2 n' (List.mem_cons_of_mem _ hn')⟩
    by_cases hq : e = n.e
    · subst hq
      rw [insertP, if_pos rfl]
      rw [insert, if_pos rfl] at hg
      rcases Basic.getElem?_snoc.mp hg with ho | ⟨hi, hn0⟩
      · exact ⟨Basic.getElem?_snoc.mpr (Or.inl (old ho).1), (old ho).2⟩
      · cases hn0
        rw [insert_other conn rows n _ (Nat.ne_of_lt hbe)]
        exact ⟨Basic.getElem?_snoc.mpr (Or.inr ⟨Nat.add_right_cancel (hi.trans (h.lens n.e).symm), rfl⟩), hord⟩
    · rw [insertP, if_neg hq]
      rw [insert_other conn rows n e hq] at hg
      exact old hg

theorem pinv_build : ∀ (ns : List Node) (rows : Rows) (pr : PRows), (∀ n ∈ ns, n.b < n.e) → Ordered ns →
    PInv conn rows pr ns → PInv conn (build conn ns rows) (buildP conn ns rows pr) [] := by
  intro ns
  induction ns with
  | nil => intro rows pr _ _ h; exact h
  | cons n ns ih =>
    intro rows pr hwf hord h
    exact ih _ _ (fun x hx => hwf x (List.mem_cons_of_mem _ hx)) hord.2
      (pinv_insert conn rows pr n ns (hwf n (List.mem_cons_self ..)) hord.1 h)

/-! ### the walk over the stored `indices` is `pathFrom` -/

theorem nodesS_append (s : Lat) : ∀ (a b : List Idx) (x y : List (Node × Option Int)),
    nodesS s a = some x → nodesS s b = some y → nodesS s (a ++ b) = some (x ++ y) := by
  intro a
  induction a with
  | nil => intro b x y ha hb; cases ha; exact hb
  | cons id rest ih =>
    intro b x y ha hb
    rw [nodesS] at ha
    cases hn : nodeS s id with
    | none => rw [hn] at ha; cases ha
    | some v =>
      cases hr : nodesS s rest with
      | none => rw [hn, hr] at ha; cases ha
      | some x' =>
        rw [hn, hr] at ha; cases ha
        rw [List.cons_append, nodesS, hn, ih b x' y hr hb]; rfl

/-- `Lattice::node` reads the functional entry (rows above 0: no BOS offset) -/
theorem nodeS_sim {s : Lat} {rows : Rows} {pr : PRows} {len : Nat} (h : Sim s rows pr len) (e i : Nat)
    (he0 : e ≠ 0) (he : e ≤ len) (ent : Entry) (hg : (rows e)[i]? = some ent) :
    nodeS s (e, i) = some ent := by
  unfold nodeS
  simp only [h.full e he, h.ends e he, off_ne he0, List.drop_zero, List.getElem?_map, hg, Option.map_some, vn]

/-- what the walk needs of the FINISHED functional lattice (`fin_build`); not core's `Fin`, which this name shadows inside
`namespace Vit` -/
structure Fin (F : List Node) (rows : Rows) (pr : PRows) : Prop where
  wf : WF F
  sound : ∀ e, ∀ ent ∈ rows e, ent.1.e = e ∧ (ent.1 = bos ∨ ent.1 ∈ F)
  stored : ∀ e, ∀ ent ∈ rows e, ent.1 ≠ bos → ent.2 = connect conn (rows ent.1.b) ent.1
  pinv : PInv conn rows pr []

/-- the walk over the stored pointers from the entry `(e, i)` of a connected node `n` returns the indices of the entries
whose nodes the `argmin` walk `pathFrom` returns from `n` (for every sufficient fuel).  Stated on the accumulators of the two
walks (`accI` = the indices of the entries `accP`): `fill_top_path` starts one entry in, with that entry accumulated -/
theorem walkS_pathFrom {s : Lat} {F : List Node} {rows : Rows} {pr : PRows} {len : Nat}
    (hsim : Sim s rows pr len) (hfin : Fin conn F rows pr) :
    ∀ (fuel e i : Nat) (n : Node) (t : Int) (accI : List Idx) (accP : List (Node × Option Int)), n.b < fuel → e ≠ 0 →
      e ≤ len → (rows e)[i]? = some (n, some t) → nodesS s accI = some accP → (∀ x ∈ accP, x ∈ rows x.1.e) →
      ∃ ids p, walkS s fuel (e, i) accI = some ids ∧ nodesS s ids = some p ∧ (∀ x ∈ p, x ∈ rows x.1.e) ∧
        ∀ fuel', n.b < fuel' → pathFrom conn rows fuel' n (accP.map (·.1)) = p.map (·.1) := by
  intro fuel
  induction fuel with
  | zero => intro e i n t accI accP h; exact absurd h (Nat.not_lt_zero _)
  | succ fuel ih =>
    intro e i n t accI accP hfuel he0 he hg hacc hst
    have hmem : (n, some t) ∈ rows e := List.mem_of_getElem? hg
    obtain ⟨hne, hnF⟩ := hfin.sound e _ hmem
    have hnb : n ≠ bos := fun hc => he0 (hne.symm.trans (congrArg Node.e hc))
    have hbe : n.b < e := hne ▸ hfin.wf n (hnF.resolve_left hnb)
    obtain ⟨j, m, tm, hj, hgm, _, hme, hmF⟩ := back_step conn F rows hfin.sound (hfin.stored e _ hmem hnb).symm
    -- the stored pointer of `n` is the `argmin` that `pathFrom` recomputes
    have hptr : (pr e)[i]? = some (n.b, j) := by
      have := (hfin.pinv.ptr e i n (some t) (by rw [off_ne he0]; exact hg)).1
      rwa [hj] at this
    have hw : walkS s (fuel + 1) (e, i) accI =
        if n.b ≠ 0 then walkS s fuel (n.b, j) ((n.b, j) :: accI) else some accI := by
      simp only [walkS, hsim.idx e he, hptr]
    by_cases hz : n.b = 0
    · refine ⟨accI, accP, by rw [hw, if_neg (not_not_intro hz)], hacc, hst, fun fuel' hf => ?_⟩
      rw [pathFrom_step conn hj hgm hf, if_pos (hme.trans hz)]
    · have hmb : m.b < n.b := by
        rcases hmF with rfl | hc
        · exact Nat.pos_of_ne_zero hz
        · exact hme ▸ hfin.wf m hc
      have hle : n.b ≤ len := Nat.le_trans (Nat.le_of_lt hbe) he
      -- both walks step to the entry of `m`, both put it in front of their accumulator
      obtain ⟨ids, p, w1, w2, w3, w4⟩ := ih n.b j m tm ((n.b, j) :: accI) ((m, some tm) :: accP)
        (Nat.lt_of_lt_of_le hmb (Nat.le_of_lt_succ hfuel)) hz hle hgm
        (by rw [nodesS, nodeS_sim hsim n.b j hz hle _ hgm, hacc]; rfl)
        (List.forall_mem_cons.mpr ⟨hme.symm ▸ List.mem_of_getElem? hgm, hst⟩)
      refine ⟨ids, p, by rw [hw, if_pos hz]; exact w1, w2, w3, fun fuel' hf => ?_⟩
      rw [pathFrom_step conn hj hgm hf, if_neg (fun h => hz (hme.symm.trans h))]
      exact w4 _ (Nat.lt_of_lt_of_le hmb (Nat.le_sub_one_of_lt hf))

theorem fin_build (F : List Node) (hwf : WF F) (hord : Ordered F) :
    Fin conn F (build conn F init) (buildP conn F init initP) := by
  have hinv := inv_build_init conn F hwf hord
  exact ⟨hwf, fun e ent he => ⟨(hinv.sound e ent he).1, (hinv.sound e ent he).2.1⟩, stored_total conn F hwf hord,
    pinv_build conn F init initP hwf hord (pinv_init conn F)⟩

/-- a whole analysis on ANY previous state: no panic, the valid rows simulate the functional lattice built from scratch -/
theorem analyse_spec (s : Lat) (len : Nat) (F : List Node) (hF : ∀ n ∈ F, n.b ≤ len ∧ n.e ≤ len) :
    ∃ s1 s2, reset s len = some s1 ∧ buildS conn F s1 = some s2 ∧
      Sim s2 (build conn F init) (buildP conn F init initP) len ∧ s2.eos = none ∧
      s2.ends.length = max s.ends.length (len + 1) ∧ s2.full.length = max s.full.length (len + 1) ∧
      s2.idx.length = max s.idx.length (len + 1) ∧
      analyse conn s len F =
        match eosCost conn (build conn F init) len with
        | none => some (s2, false)
        | some v => some ({ s2 with eos := some (ptrOf len (argmin conn (build conn F init len) (eosNode len)), v) }, true) := by
  obtain ⟨s1, r1, r2, r3, r4, r5, r6⟩ := reset_sim s len
  obtain ⟨s2, b1, b2, b3, b4, b5, b6⟩ := build_sim conn F s1 init initP len r2 hF
  refine ⟨s1, s2, r1, b1, b2, b3.trans r3, b4.trans r4, b5.trans r5, b6.trans r6, ?_⟩
  simp only [analyse, r1, b1]
  exact connectEosS_sim conn b2

theorem Sim.with_eos {s : Lat} {rows : Rows} {pr : PRows} {len : Nat} (h : Sim s rows pr len)
    (x : Option (Idx × Int)) : Sim { s with eos := x } rows pr len :=
  ⟨h.size, h.ends, h.full, h.idx, h.lens, h.clean⟩

/-- `resolve_best_path` on a state whose `eos` is the pointer and cost of `connect_eos`: the walk over the STORED
back-pointers terminates within `size` steps without leaving the vectors and returns the nodes of `bestPath` (the
`argmin` walk of the functional model), each with the total stored for it -/
theorem resolve_spec {s : Lat} {F : List Node} {rows : Rows} {pr : PRows} {len : Nat}
    (hsim : Sim s rows pr len) (hfin : Fin conn F rows pr) (hlen : 0 < len) {v : Int}
    (hv : eosCost conn rows len = some v)
    (heos : s.eos = some (ptrOf len (argmin conn (rows len) (eosNode len)), v)) :
    ∃ p, resolvePath s = some p ∧ p.map (·.1) = bestPath conn rows len ∧ ∀ x ∈ p, x ∈ rows x.1.e := by
  obtain ⟨j, hj⟩ := connect_argmin conn (rows len) (eosNode len) v hv
  rw [hj] at heos
  obtain ⟨m, tm, hgm, _⟩ := argmin_some conn (rows len) (eosNode len) j v hj
  have hmem : (m, some tm) ∈ rows len := List.mem_of_getElem? hgm
  obtain ⟨hme, hmF⟩ := hfin.sound len _ hmem
  have hl0 : len ≠ 0 := Nat.ne_of_gt hlen
  have hmb : m.b < len := by
    rcases hmF with rfl | hc
    · exact hlen
    · exact hme ▸ hfin.wf m hc
  -- `eos` names the entry of `m`, the node `pathFrom` reaches in its first step from the EOS node
  obtain ⟨ids, p, w1, w2, w3, w4⟩ := walkS_pathFrom conn hsim hfin (len + 1) len j m tm [(len, j)] [(m, some tm)]
    (Nat.lt_succ_of_lt hmb) hl0 (Nat.le_refl _) hgm
    (by rw [nodesS, nodeS_sim hsim len j hl0 (Nat.le_refl _) _ hgm]; rfl)
    (List.forall_mem_singleton.mpr (hme.symm ▸ hmem))
  refine ⟨p, ?_, ?_, w3⟩
  · simp only [resolvePath, fillTopPath, heos, ptrOf, hsim.size, w1]; exact w2
  · rw [bestPath, pathFrom_step conn (n := eosNode len) hj hgm (Nat.lt_succ_self len),
      if_neg (fun h => hl0 (hme.symm.trans h)), Nat.succ_sub_one]
    exact (w4 len hmb).symm

end Vit
