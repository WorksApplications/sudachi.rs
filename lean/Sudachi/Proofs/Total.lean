import Sudachi.Model.Total
import Sudachi.Proofs.Basic
import Sudachi.Proofs.Edit
/-!
# The fixed-width lattice, the tables of a text and the split iterator (C03)

What each stage of `do_tokenize` needs in order not to index out of range, not to overflow and to return.
* The rows of `Lattice` under two invariants: `RowsInv` on the stored `i32` totals (that no addition overflows up to 32767
  characters is read off the simulation by C02's lattice in `Proofs/LatticeI32.lean`; the chain lattice in closed form,
  `chain_closed`, gives the exact threshold) and `PathInv` on the back-pointers (every step of the walk of `fill_top_path`
  stays in range, for any addition: `topPath_step`; the walk as a whole is `Partition.topPath_chain`).
* The tables `mod_b2c` / `mod_c2b` of a text, read as counts of character starts (`TablesOk`, for every text that decodes as
  UTF-8; the closed forms are in `Proofs/Edit.lean`), and the repaired step of `NodeSplitIterator::next` over such tables.
* `NoPanic`, the predicate the C03 theorems conclude, with the `mapM` and `rewrite_input` lemmas the composition uses.
-/
namespace Total
open Oov (Outcome)

theorem addI32_some (a b : Int) (h1 : -2147483648 ≤ a + b) (h2 : a + b ≤ 2147483647) :
    addI32 a b = some (a + b) := by
  unfold addI32 addW I32_MAX
  rw [if_pos]
  constructor <;> omega

theorem asU16_id (n : Nat) (h : n ≤ 65535) : asU16 n = n := by
  unfold asU16; omega

theorem asU16_le (n : Nat) : asU16 n ≤ n := Nat.mod_le _ _

theorem asU32_id (n : Nat) (h : n ≤ 4294967295) : asU32 n = n := by
  unfold asU32; omega

/-! ## rows under `reset`, `insert` and `connect_eos` -/

theorem reset_size (len : Nat) : (reset len).size = len + 1 := by
  rw [reset, Array.size_setIfInBounds, Array.size_replicate]

theorem reset_getElem? (len e : Nat) (row : List Entry) (h : (reset len)[e]? = some row) :
    (e = 0 ∧ row = [bosEntry]) ∨ (1 ≤ e ∧ e ≤ len ∧ row = []) := by
  rw [reset, Array.getElem?_setIfInBounds] at h
  by_cases h0 : 0 = e
  · rw [if_pos h0, Array.size_replicate, if_pos (Nat.succ_pos _)] at h
    exact Or.inl ⟨h0.symm, (Option.some.inj h).symm⟩
  · rw [if_neg h0, Array.getElem?_replicate] at h
    by_cases he : e < len + 1
    · rw [if_pos he] at h
      exact Or.inr ⟨by omega, by omega, (Option.some.inj h).symm⟩
    · rw [if_neg he] at h; cases h

theorem reset_zero (len : Nat) : (reset len)[0]? = some [bosEntry] := by
  rw [reset, Array.getElem?_setIfInBounds, if_pos rfl, Array.size_replicate, if_pos (Nat.succ_pos _)]

section Rows
variable {add : Int → Int → Option Int} {M : Int} {conn : Nat → Nat → Int}

theorem insert_eq_ok {rows : Rows} {n : Vit.Node} {rows' : Rows} {ent : Entry}
    (h : insert add M conn rows n = .ok (rows', ent)) :
    ∃ rowB rowE, rows[n.b]? = some rowB ∧ rows[n.e]? = some rowE ∧ ent.node = n ∧
      connectNode add M conn rowB n = some (ent.total, ent.pe, ent.pi) ∧
      rows' = rows.setIfInBounds n.e (rowE ++ [ent]) := by
  unfold insert at h
  cases hb : rows[n.b]? with
  | none => rw [hb] at h; cases h
  | some rowB =>
    rw [hb] at h; simp only [] at h
    cases hc : connectNode add M conn rowB n with
    | none => rw [hc] at h; cases h
    | some r =>
      rw [hc] at h; simp only [] at h
      cases he : rows[n.e]? with
      | none => rw [he] at h; cases h
      | some rowE =>
        rw [he] at h; simp only [] at h
        cases h
        exact ⟨rowB, rowE, rfl, rfl, rfl, hc, rfl⟩

theorem insert_of {rows : Rows} {n : Vit.Node} {rowB rowE : List Entry} {c : Int} {pe pi : Nat}
    (hb : rows[n.b]? = some rowB) (hc : connectNode add M conn rowB n = some (c, pe, pi)) (he : rows[n.e]? = some rowE) :
    insert add M conn rows n = .ok (rows.setIfInBounds n.e (rowE ++ [⟨n, c, pe, pi⟩]), ⟨n, c, pe, pi⟩) := by
  simp only [insert, hb, hc, he]

theorem getElem?_push (rows : Rows) (e : Nat) (rowE : List Entry) (x : Entry) (he : rows[e]? = some rowE) (e' : Nat) :
    (rows.setIfInBounds e (rowE ++ [x]))[e']? = if e = e' then some (rowE ++ [x]) else rows[e']? := by
  rw [Array.getElem?_setIfInBounds, if_pos (Array.getElem?_eq_some_iff.mp he).1]

/-- a property of all stored entries, indexed by their row, survives a push of an entry that has it -/
theorem forall_rows_push (Q : Nat → Entry → Prop) (rows : Rows) (e : Nat) (rowE : List Entry) (x : Entry)
    (he : rows[e]? = some rowE) (h : ∀ e' row, rows[e']? = some row → ∀ y ∈ row, Q e' y) (hx : Q e x) :
    ∀ e' row, (rows.setIfInBounds e (rowE ++ [x]))[e']? = some row → ∀ y ∈ row, Q e' y := by
  intro e' row hr y hy
  rw [getElem?_push rows e rowE x he] at hr
  by_cases hee : e = e'
  · rw [if_pos hee] at hr
    subst hee
    rw [← Option.some.inj hr] at hy
    rcases List.mem_append.mp hy with hy | hy
    · exact h e rowE he y hy
    · rw [List.mem_singleton.mp hy]; exact hx
  · rw [if_neg hee] at hr; exact h e' row hr y hy

/-- a push changes no existing slot of any row -/
theorem push_grow (rows : Rows) (e : Nat) (rowE : List Entry) (x : Entry) (he : rows[e]? = some rowE) (b : Nat)
    (row : List Entry) (hr : rows[b]? = some row) :
    ∃ row', (rows.setIfInBounds e (rowE ++ [x]))[b]? = some row' ∧ ∀ (j : Nat) (p : Entry), row[j]? = some p → row'[j]? = some p := by
  rw [getElem?_push rows e rowE x he]
  by_cases hbe : e = b
  · subst hbe
    rw [he] at hr; cases hr
    rw [if_pos rfl]
    exact ⟨_, rfl, fun j p hj => by rw [List.getElem?_append_left (List.getElem?_eq_some_iff.mp hj).1]; exact hj⟩
  · rw [if_neg hbe]; exact ⟨row, hr, fun _ _ hj => hj⟩

/-- a property of the stored entries of the rows `1..` that may mention the rows, and survives their growth, survives a
push of an entry that has it -/
theorem entries_push (G : Rows → Nat → Entry → Prop)
    (hmono : ∀ (rows : Rows) (e : Nat) (rowE : List Entry) (x : Entry) (e' : Nat) (y : Entry), rows[e]? = some rowE →
      G rows e' y → G (rows.setIfInBounds e (rowE ++ [x])) e' y)
    (rows : Rows) (e : Nat) (rowE : List Entry) (x : Entry) (he : rows[e]? = some rowE)
    (h : ∀ (e' : Nat) (row : List Entry) (i : Nat) (y : Entry), 1 ≤ e' → rows[e']? = some row → row[i]? = some y →
      G rows e' y) (hx : G rows e x) :
    ∀ (e' : Nat) (row : List Entry) (i : Nat) (y : Entry), 1 ≤ e' → (rows.setIfInBounds e (rowE ++ [x]))[e']? = some row → row[i]? = some y →
      G (rows.setIfInBounds e (rowE ++ [x])) e' y := by
  intro e' row i y h1 hr hy
  rw [getElem?_push rows e rowE x he] at hr
  by_cases hee : e = e'
  · rw [if_pos hee] at hr
    subst hee
    rw [← Option.some.inj hr] at hy
    rcases Basic.getElem?_snoc.mp hy with hy | ⟨_, rfl⟩
    · exact hmono rows e rowE x e y he (h e rowE i y h1 he hy)
    · exact hmono rows e rowE x e x he hx
  · rw [if_neg hee] at hr
    exact hmono rows e rowE x e' y he (h e' row i y h1 hr hy)

theorem connectEos_eq {rows : Rows} {len : Nat} (hlen : len ≤ 65535) {row : List Entry} (hr : rows[len]? = some row)
    {c : Int} {pe pi : Nat} (hc : connectNode add M conn row ⟨len, len, 0, 0, 0⟩ = some (c, pe, pi)) :
    connectEos add M conn rows len = if c = M then .err "Disconnect" else .ok (c, pe, pi) := by
  simp only [connectEos, eosNode, asU16_id len hlen, hr, hc]

theorem connectEos_eq_ok {rows : Rows} {len : Nat} (hlen : len ≤ 65535) {c : Int} {pe pi : Nat}
    (h : connectEos add M conn rows len = .ok (c, pe, pi)) :
    ∃ row, rows[len]? = some row ∧ connectNode add M conn row ⟨len, len, 0, 0, 0⟩ = some (c, pe, pi) ∧ c ≠ M := by
  unfold connectEos eosNode at h
  rw [asU16_id len hlen] at h
  cases hr : rows[len]? with
  | none => rw [hr] at h; cases h
  | some row =>
    rw [hr] at h; simp only [] at h
    cases hc : connectNode add M conn row ⟨len, len, 0, 0, 0⟩ with
    | none => rw [hc] at h; cases h
    | some r =>
      rw [hc] at h; simp only [] at h
      by_cases hm : r.1 = M
      · rw [if_pos hm] at h; cases h
      · rw [if_neg hm] at h; cases h; exact ⟨row, rfl, hc, hm⟩

end Rows

/-! ## the `i32` accumulator inside the bound: the invariant and one step (the loop and the inserts: `Proofs/LatticeI32.lean`) -/

/-- connection costs come out of an `i16` matrix (`conn.cost(..) as i32`) -/
def I16Conn (conn : Nat → Nat → Int) : Prop := ∀ a b, -32768 ≤ conn a b ∧ conn a b ≤ 32767

def RowBound (B : Int) (row : List Entry) : Prop :=
  ∀ x ∈ row, x.total = I32_MAX ∨ (-B ≤ x.total ∧ x.total ≤ B)

/-- `t` a stored total, `k` a connection cost (`i16`), `c` a word cost within `±D`: one step widens the bound by `32768 + D` -/
theorem addI32_step (t k c B D : Int) (ht : -B ≤ t ∧ t ≤ B) (hk : -32768 ≤ k ∧ k ≤ 32767) (hc : -D ≤ c ∧ c ≤ D)
    (hB : B + 32768 + D ≤ 2147483647) :
    addI32 t k = some (t + k) ∧ addI32 (t + k) c = some (t + k + c) ∧
      -(B + 32768 + D) ≤ t + k + c ∧ t + k + c ≤ B + 32768 + D :=
  ⟨addI32_some _ _ (by omega) (by omega), addI32_some _ _ (by omega) (by omega), by omega, by omega⟩

/-- the sentinel, or within `± 65536 · (end position)`: a step adds one connection cost and one word cost, each at most 32768 in
absolute value, and a node ends at least one position after it begins -/
def RowsInv (len : Nat) (rows : Rows) : Prop :=
  rows.size = len + 1 ∧
  ∀ (e : Nat) (row : List Entry), rows[e]? = some row → RowBound ((e : Int) * 65536) row

def NodeOk (len : Nat) (n : Vit.Node) : Prop :=
  n.b < n.e ∧ n.e ≤ len ∧ -32768 ≤ n.c ∧ n.c ≤ 32767

theorem reset_inv (len : Nat) : RowsInv len (reset len) := by
  refine ⟨reset_size len, fun e row h x hx => ?_⟩
  rcases reset_getElem? len e row h with ⟨rfl, rfl⟩ | ⟨_, _, rfl⟩
  · rw [List.mem_singleton.mp hx]; exact Or.inr ⟨Int.le_refl _, Int.le_refl _⟩
  · cases hx

/-! ## the chain lattice in closed form: the exact overflow threshold of the `i32` accumulator -/

/-- `n` one-character words `i..i+1`, connection ids 0, all of cost `c` (the lattice of the text `1`×n over the D7
dictionary; the `gen=chain` cases of the `cost` correspondence) -/
def chainNodes (n : Nat) (c : Int) : List Vit.Node := (List.range n).map (fun i => (⟨i, i + 1, 0, 0, c⟩ : Vit.Node))

/-- state of the rows after the first `j` words of a chain over a text of `n` characters: row `j` holds exactly one
entry, whose total is `j·(k+c)`; the rows behind it are still empty -/
def ChainInv (n : Nat) (d : Int) (j : Nat) (rows : Rows) : Prop :=
  rows.size = n + 1 ∧ (∃ ent, rows[j]? = some [ent] ∧ ent.total = (j : Int) * d) ∧
  ∀ i, j < i → i ≤ n → rows[i]? = some []

theorem chain_reset (n : Nat) (d : Int) : ChainInv n d 0 (reset n) := by
  refine ⟨reset_size n, ⟨bosEntry, reset_zero n, by simp [bosEntry]⟩, fun i h1 h2 => ?_⟩
  have h := Array.getElem?_eq_getElem (show i < (reset n).size by rw [reset_size]; omega)
  rcases reset_getElem? n i _ h with ⟨h0, _⟩ | ⟨_, _, e⟩
  · omega
  · rw [h, e]

/-- the two additions of step `j` stay inside `i32`, the new total is not the sentinel, and neither is the total `j·(k+c)` the
step reads (an entry whose total is the sentinel is skipped as unconnected) -/
def StepOk (k c : Int) (j : Nat) : Prop :=
  -2147483648 ≤ (j : Int) * (k + c) + k ∧ (j : Int) * (k + c) + k ≤ 2147483647 ∧
  -2147483648 ≤ ((j : Int) + 1) * (k + c) ∧ ((j : Int) + 1) * (k + c) < 2147483647 ∧ (j : Int) * (k + c) ≠ 2147483647

theorem chain_insert (k c : Int) (n j : Nat) (hj : j < n) (rows : Rows)
    (hinv : ChainInv n (k + c) j rows) (hs : StepOk k c j) :
    ∃ rows' ent, insert addI32 I32_MAX (fun _ _ => k) rows ⟨j, j + 1, 0, 0, c⟩ = .ok (rows', ent) ∧
      ChainInv n (k + c) (j + 1) rows' := by
  obtain ⟨hsz, ⟨ent, hrow, htot⟩, hemp⟩ := hinv
  obtain ⟨s1, s2, s3, s4, s5⟩ := hs
  have hrow1 := hemp (j + 1) (by omega) (by omega)
  have e1 : addI32 ent.total k = some ((j : Int) * (k + c) + k) := by
    unfold addI32 addW I32_MAX; rw [htot, if_pos ⟨by omega, by omega⟩]
  have e2 : addI32 ((j : Int) * (k + c) + k) c = some (((j : Int) + 1) * (k + c)) := by
    unfold addI32 addW I32_MAX
    have : (j : Int) * (k + c) + k + c = ((j : Int) + 1) * (k + c) := by
      rw [Int.add_mul, Int.one_mul]; omega
    rw [this, if_pos ⟨by omega, by omega⟩]
  have hc : connectNode addI32 I32_MAX (fun _ _ => k) [ent] ⟨j, j + 1, 0, 0, c⟩
      = some (((j : Int) + 1) * (k + c), asU16 j, asU32 0) := by
    unfold connectNode
    simp only [connGo]
    rw [if_neg (by rw [htot]; unfold I32_MAX; exact s5), e1]
    simp only []
    rw [e2]
    simp only []
    rw [if_pos (by unfold I32_MAX; exact s4)]
  refine ⟨_, _, insert_of hrow hc hrow1, by rw [Array.size_setIfInBounds]; exact hsz,
    ⟨_, by rw [getElem?_push _ _ _ _ hrow1, if_pos rfl]; rfl, by rw [Int.natCast_add]; rfl⟩, fun i h1 h2 => ?_⟩
  rw [getElem?_push _ _ _ _ hrow1, if_neg (by omega)]
  exact hemp i (by omega) h2

theorem chain_buildAll (k c : Int) (n : Nat) :
    ∀ (m j : Nat) (rows : Rows) (acc : List Entry), j + m ≤ n → ChainInv n (k + c) j rows →
      (∀ i, j ≤ i → i < j + m → StepOk k c i) →
      ∃ rows' ents, buildAll addI32 I32_MAX (fun _ _ => k)
          ((List.range' j m).map (fun i => (⟨i, i + 1, 0, 0, c⟩ : Vit.Node))) rows acc = .ok (rows', ents) ∧
        ChainInv n (k + c) (j + m) rows'
  | 0, j, rows, acc, _, hinv, _ => ⟨rows, acc.reverse, by simp [buildAll], hinv⟩
  | m + 1, j, rows, acc, hjm, hinv, hs => by
    obtain ⟨rows1, ent, h1, hinv1⟩ := chain_insert k c n j (by omega) rows hinv (hs j (Nat.le_refl _) (by omega))
    obtain ⟨rows', ents, h2, hinv2⟩ := chain_buildAll k c n m (j + 1) rows1 (ent :: acc) (by omega) hinv1
      (fun i a b => hs i (by omega) (by omega))
    refine ⟨rows', ents, ?_, by rw [show j + (m + 1) = j + 1 + m by omega]; exact hinv2⟩
    simp only [List.range'_succ, List.map_cons, buildAll, h1]
    exact h2

/-- **a chain of `n` words in closed form**: when every step stays inside `i32`, all inserts succeed and the last row
holds the one total `n·(k+c)` -/
theorem chain_closed (k c : Int) (n : Nat) (hn : n ≤ 65535) (hs : ∀ i, i < n → StepOk k c i) :
    ∃ rows ents ent, buildAll addI32 I32_MAX (fun _ _ => k) (chainNodes n c) (reset n) [] = .ok (rows, ents) ∧
      rows[n]? = some [ent] ∧ ent.total = (n : Int) * (k + c) := by
  obtain ⟨rows, ents, h, _, ⟨ent, h1, h2⟩, _⟩ := chain_buildAll k c n n 0 (reset n) [] (by omega) (chain_reset n (k + c))
    (fun i _ b => hs i (by omega))
  refine ⟨rows, ents, ent, ?_, by simpa using h1, by simpa using h2⟩
  unfold chainNodes
  rw [List.range_eq_range']
  exact h

theorem chain_eos (k : Int) (n : Nat) (hn : n ≤ 65535) (rows : Rows) (ent : Entry) (hrow : rows[n]? = some [ent])
    (hne : ent.total ≠ I32_MAX) :
    (addI32 ent.total k = none → connectEos addI32 I32_MAX (fun _ _ => k) rows n = .panic "overflow") ∧
    (∀ x, addI32 ent.total k = some x → x < I32_MAX →
      connectEos addI32 I32_MAX (fun _ _ => k) rows n = .ok (x, n, 0)) := by
  constructor
  · intro h
    simp only [connectEos, eosNode, asU16_id n hn, hrow, connectNode, connGo, if_neg hne, h]
  · intro x h hx
    have h0 : addI32 x 0 = some x := by
      unfold addI32 addW at h ⊢
      split at h
      · cases h; rw [if_pos (by omega)]; simp
      · cases h
    have hc : connectNode addI32 I32_MAX (fun _ _ => k) [ent] ⟨n, n, 0, 0, 0⟩ = some (x, asU16 n, asU32 0) := by
      simp only [connectNode, connGo, if_neg hne, h, h0, if_pos hx]
    rw [connectEos_eq hn hrow hc, if_neg (by omega), asU16_id n hn]
    rfl

/-- the outcome of a chain whose steps all stay inside `i32`, read off the one addition of `connect_eos`: `attempt to add with
overflow` when it leaves `i32`, the cost when it stays below the sentinel (stated for a variable length so that nothing of the
size of the text is ever evaluated) -/
theorem chain_outcome (k c : Int) (n : Nat) (hn : n ≤ 65535) (hs : ∀ i, i < n → StepOk k c i)
    (hne : (n : Int) * (k + c) ≠ 2147483647) :
    (¬ (-2147483648 ≤ (n : Int) * (k + c) + k ∧ (n : Int) * (k + c) + k ≤ 2147483647) →
      latticeOutcome addI32 I32_MAX (fun _ _ => k) (chainNodes n c) n = .panic "overflow") ∧
    (-2147483648 ≤ (n : Int) * (k + c) + k ∧ (n : Int) * (k + c) + k < 2147483647 →
      latticeOutcome addI32 I32_MAX (fun _ _ => k) (chainNodes n c) n = .ok ((n : Int) * (k + c) + k, n, 0)) := by
  obtain ⟨rows, ents, ent, h1, h2, h3⟩ := chain_closed k c n hn hs
  unfold latticeOutcome
  rw [h1]
  have he := chain_eos k n hn rows ent h2 (by rw [h3]; unfold I32_MAX; exact hne)
  refine ⟨fun hov => he.1 ?_, fun hok => he.2 _ ?_ (by unfold I32_MAX; exact hok.2)⟩ <;> unfold addI32 addW I32_MAX
  · rw [h3, if_neg (by omega)]
  · rw [h3, if_pos ⟨by omega, by omega⟩]

/-! ## the split iterator (`NodeSplitIterator::next`): the repaired variant never indexes out of range; one step of `split_path` -/

/-- the only facts the repaired step needs **not to index out of range**: every `mod_b2c` entry up to
byte `nb` exists and is itself an index of `mod_c2b`.  A built buffer has `mod_b2c.len() = bytes + 1`,
`mod_c2b.len() = chars + 1` and `mod_b2c[i] ≤ chars` (`tables_of_text`). -/
def TablesRange (b2c c2b : List Nat) (nb : Nat) : Prop :=
  ∀ i, i ≤ nb → ∃ c : Nat, b2c[i]? = some c ∧ ∃ b : Nat, c2b[c]? = some b

/-- the table invariants of a built `InputBuffer` with `nb` bytes and `nc` characters: `mod_b2c` maps a byte
to the character containing it (sentinel `nc` at `nb`), `mod_c2b` a character to its first byte (sentinel
`nb` at `nc`); both are non-decreasing, `mod_c2b[mod_b2c[i]] ≤ i` (the start of the character containing
byte `i`), and `mod_b2c[mod_c2b[k]] = k`. -/
structure TablesOk (b2c c2b : List Nat) (nb nc : Nat) : Prop where
  b2c_def : ∀ i, i ≤ nb → ∃ c : Nat, b2c[i]? = some c ∧ c ≤ nc
  c2b_def : ∀ k, k ≤ nc → ∃ b : Nat, c2b[k]? = some b ∧ b ≤ nb
  b2c_mono : ∀ i j ci cj : Nat, i ≤ j → b2c[i]? = some ci → b2c[j]? = some cj → ci ≤ cj
  c2b_mono : ∀ i j bi bj : Nat, i ≤ j → c2b[i]? = some bi → c2b[j]? = some bj → bi ≤ bj
  snap_le : ∀ i c b : Nat, b2c[i]? = some c → c2b[c]? = some b → b ≤ i
  b2c_c2b : ∀ k b : Nat, c2b[k]? = some b → b2c[b]? = some k

theorem TablesOk.range {b2c c2b : List Nat} {nb nc : Nat} (h : TablesOk b2c c2b nb nc) :
    TablesRange b2c c2b nb := by
  intro i hi
  obtain ⟨c, hc, hcn⟩ := h.b2c_def i hi
  obtain ⟨b, hb, _⟩ := h.c2b_def c hcn
  exact ⟨c, hc, b, hb⟩

/-- the pair (character offset, byte offset) is the start of a character -/
def At (b2c c2b : List Nat) (c b : Nat) : Prop := b2c[b]? = some c ∧ c2b[c]? = some b

/-- **the repaired step never indexes out of range**, whatever the unit's key length `h` and wherever the
iterator stands (`bs` arbitrary): the clamp keeps the `mod_b2c` index at or below the parent's end. -/
theorem unitEnd_d6fix_ok (b2c c2b : List Nat) (nb : Nat) (hr : TablesRange b2c c2b nb)
    (byteEnd : Nat) (he : byteEnd ≤ nb) (bs h : Nat) :
    ∃ ce be, unitEnd .d6fix b2c c2b byteEnd bs h = .ok (ce, be) := by
  have hm : min (bs + h) byteEnd ≤ nb := Nat.le_trans (Nat.min_le_right _ _) he
  obtain ⟨c, hc, b, hb⟩ := hr _ hm
  exact ⟨asU16 c, asU16 b, by simp only [unitEnd, hc, hb]⟩

theorem splitGo_d6fix_ok (b2c c2b : List Nat) (nb : Nat) (hr : TablesRange b2c c2b nb)
    (charEnd byteEnd : Nat) (he : byteEnd ≤ nb) :
    ∀ (units : List Nat) (cs bs : Nat), ∃ us, splitGo .d6fix b2c c2b charEnd byteEnd units cs bs = .ok us
  | [], _, _ => ⟨[], rfl⟩
  | [_], cs, bs => ⟨[⟨cs, charEnd, bs, byteEnd⟩], rfl⟩
  | h :: u :: rest, cs, bs => by
    obtain ⟨ce, be, hue⟩ := unitEnd_d6fix_ok b2c c2b nb hr byteEnd he bs h
    obtain ⟨us, hus⟩ := splitGo_d6fix_ok b2c c2b nb hr charEnd byteEnd he (u :: rest) ce be
    exact ⟨⟨cs, ce, bs, be⟩ :: us, by simp only [splitGo, hue, hus]⟩

theorem splitPath_d6fix_ok (b2c c2b : List Nat) (nb : Nat) (hr : TablesRange b2c c2b nb) :
    ∀ (path : List (NodeRange × List Nat)), (∀ p ∈ path, p.1.eb ≤ nb) →
      ∃ ms, splitPath .d6fix b2c c2b path = .ok ms
  | [], _ => ⟨[], rfl⟩
  | (n, units) :: rest, hp => by
    obtain ⟨ms, hms⟩ := splitPath_d6fix_ok b2c c2b nb hr rest (fun p h => hp p (List.mem_cons_of_mem _ h))
    have hn : n.eb ≤ nb := hp (n, units) (List.mem_cons_self ..)
    by_cases hl : units.length ≤ 1
    · exact ⟨[n] ++ ms, by simp only [splitPath, if_pos hl, hms]⟩
    · obtain ⟨us, hus⟩ := splitGo_d6fix_ok b2c c2b nb hr n.ec n.eb hn units n.bc n.bb
      exact ⟨us ++ ms, by simp only [splitPath, if_neg hl, split, hus, hms]⟩

theorem splitPath_cons_ok (v : SplitV) (tb2c tc2b : List Nat) (n : NodeRange) (units : List Nat)
    (rest : List (NodeRange × List Nat)) (ms : List NodeRange)
    (h : splitPath v tb2c tc2b ((n, units) :: rest) = .ok ms) :
    ∃ a b, (if units.length ≤ 1 then .ok [n] else split v tb2c tc2b n units) = .ok a ∧
      splitPath v tb2c tc2b rest = .ok b ∧ ms = a ++ b := by
  unfold splitPath at h
  generalize (if units.length ≤ 1 then Outcome.ok [n] else split v tb2c tc2b n units) = x at h ⊢
  generalize splitPath v tb2c tc2b rest = y at h ⊢
  cases x <;> cases y <;> cases h
  exact ⟨_, _, rfl, rfl, rfl⟩

/-- a unit lies inside its parent, runs forward, and both its ends are character starts -/
def UnitOk (b2c c2b : List Nat) (n u : NodeRange) : Prop :=
  n.bb ≤ u.bb ∧ u.bb ≤ u.eb ∧ u.eb ≤ n.eb ∧ n.bc ≤ u.bc ∧ u.bc ≤ u.ec ∧ u.ec ≤ n.ec ∧
    At b2c c2b u.bc u.bb ∧ At b2c c2b u.ec u.eb

/-- the units are laid end to end from `(cs, bs)` to `(ce, be)` -/
def Tiles : List NodeRange → Nat → Nat → Nat → Nat → Prop
  | [], cs, bs, ce, be => cs = ce ∧ bs = be
  | u :: us, cs, bs, ce, be => u.bc = cs ∧ u.bb = bs ∧ Tiles us u.ec u.eb ce be

/-- one repaired step from a character start inside the parent: the new position is again a character
start, not before the old one and not after the parent's end; the casts are the identity -/
theorem unitEnd_d6fix_spec (b2c c2b : List Nat) (nb nc : Nat) (ht : TablesOk b2c c2b nb nc)
    (hnb : nb ≤ 65535) (hnc : nc ≤ 65535) (charEnd byteEnd : Nat) (he : byteEnd ≤ nb)
    (hpe : At b2c c2b charEnd byteEnd) (cs bs h : Nat) (hat : At b2c c2b cs bs) (hbs : bs ≤ byteEnd) :
    ∃ ce be, unitEnd .d6fix b2c c2b byteEnd bs h = .ok (ce, be) ∧ At b2c c2b ce be ∧
      bs ≤ be ∧ be ≤ byteEnd ∧ cs ≤ ce ∧ ce ≤ charEnd := by
  have hmle : min (bs + h) byteEnd ≤ byteEnd := Nat.min_le_right _ _
  have hbm : bs ≤ min (bs + h) byteEnd := Nat.le_min.mpr ⟨Nat.le_add_right _ _, hbs⟩
  obtain ⟨c, hc, hcn⟩ := ht.b2c_def _ (Nat.le_trans hmle he)
  obtain ⟨b, hb, hbn⟩ := ht.c2b_def c hcn
  have h1 : cs ≤ c := ht.b2c_mono _ _ _ _ hbm hat.1 hc
  have h2 : bs ≤ b := ht.c2b_mono _ _ _ _ h1 hat.2 hb
  have h3 : b ≤ min (bs + h) byteEnd := ht.snap_le _ _ _ hc hb
  have h4 : c ≤ charEnd := ht.b2c_mono _ _ _ _ hmle hc hpe.1
  refine ⟨c, b, ?_, ⟨ht.b2c_c2b _ _ hb, hb⟩, h2, Nat.le_trans h3 hmle, h1, h4⟩
  simp only [unitEnd, hc, hb, asU16_id c (by omega), asU16_id b (by omega)]

theorem splitGo_d6fix_spec (b2c c2b : List Nat) (nb nc : Nat) (ht : TablesOk b2c c2b nb nc)
    (hnb : nb ≤ 65535) (hnc : nc ≤ 65535) (n : NodeRange) (he : n.eb ≤ nb)
    (hpe : At b2c c2b n.ec n.eb) :
    ∀ (units : List Nat) (cs bs : Nat), units ≠ [] → At b2c c2b cs bs → n.bb ≤ bs → bs ≤ n.eb → n.bc ≤ cs →
      ∃ us, splitGo .d6fix b2c c2b n.ec n.eb units cs bs = .ok us ∧ Tiles us cs bs n.ec n.eb ∧
        ∀ u ∈ us, UnitOk b2c c2b n u
  | [], _, _, hne, _, _, _, _ => absurd rfl hne
  | [_], cs, bs, _, hat, h1, h2, h3 => by
    have hce : cs ≤ n.ec := ht.b2c_mono _ _ _ _ h2 hat.1 hpe.1
    refine ⟨[⟨cs, n.ec, bs, n.eb⟩], rfl, ⟨rfl, rfl, rfl, rfl⟩, ?_⟩
    intro u hu
    simp only [List.mem_singleton] at hu
    subst hu
    exact ⟨h1, h2, Nat.le_refl _, h3, hce, Nat.le_refl _, hat, hpe⟩
  | h :: u :: rest, cs, bs, _, hat, h1, h2, h3 => by
    obtain ⟨ce, be, hue, hat', g1, g2, g3, g4⟩ :=
      unitEnd_d6fix_spec b2c c2b nb nc ht hnb hnc n.ec n.eb he hpe cs bs h hat h2
    obtain ⟨us, hus, htile, hall⟩ := splitGo_d6fix_spec b2c c2b nb nc ht hnb hnc n he hpe (u :: rest) ce be
      (by simp) hat' (Nat.le_trans h1 g1) g2 (Nat.le_trans h3 g3)
    refine ⟨⟨cs, ce, bs, be⟩ :: us, by simp only [splitGo, hue, hus], ⟨rfl, rfl, htile⟩, ?_⟩
    intro x hx
    rcases List.mem_cons.mp hx with hx | hx
    · subst hx
      exact ⟨h1, g1, g2, h3, g3, g4, hat, hat'⟩
    · exact hall x hx

/-! ## the tables of a text: `mod_b2c` and `mod_c2b` read through the number of character starts of a prefix -/

theorem nchars_take_all (t : List Nat) : EditM.nchars (t.take t.length) = EditM.nchars t := by
  rw [List.take_length]

theorem b2c_getElem_le (t : List Nat) (h1 : 1 ≤ EditM.nchars t) (i x : Nat) (hx : (EditM.b2c t)[i]? = some x) :
    x ≤ EditM.nchars t := by
  rcases (EditM.b2c_getElem? t h1 i x).mp hx with ⟨_, rfl⟩ | ⟨_, rfl⟩
  · exact Nat.le_trans (Nat.sub_le _ _) (EditM.nchars_take_le t _)
  · exact Nat.le_refl _

theorem tables_of_text (t : List Nat) (h1 : 1 ≤ EditM.nchars t) :
    TablesRange (EditM.b2c t) (EditM.c2b t) t.length := by
  intro i hi
  have hlen : (EditM.b2c t).length = t.length + 1 := by simp [EditM.b2c, EditM.b2cFrom_length]
  have hi' : i < (EditM.b2c t).length := by omega
  obtain ⟨x, hx⟩ : ∃ x, (EditM.b2c t)[i]? = some x := ⟨_, List.getElem?_eq_getElem hi'⟩
  have hc := b2c_getElem_le t h1 i x hx
  have hcl := EditM.c2b_length t
  exact ⟨x, hx, _, List.getElem?_eq_getElem (by omega)⟩

/-- **the tables `InputBuffer::build` fills (`mod_b2c`, `mod_c2b` as modelled in `Model/Edit.lean`) satisfy
`TablesOk`** for every text whose first byte is a character start (every non-empty UTF-8 text:
`utf8Decode_cons`, used in `tablesOk_of_utf8`) -/
theorem tablesOk_of_text (t : List Nat) (b0 : Nat) (rest : List Nat) (ht : t = b0 :: rest)
    (hs : EditM.isStart b0 = true) :
    TablesOk (EditM.b2c t) (EditM.c2b t) t.length (EditM.nchars t) := by
  have hN : 1 ≤ EditM.nchars t := by rw [ht, EditM.nchars_cons, if_pos hs]; exact Nat.le_add_right 1 _
  have hpre : ∀ j, 1 ≤ EditM.nchars (t.take (j + 1)) := by
    intro j; rw [ht, List.take_succ_cons, EditM.nchars_cons, if_pos hs]; exact Nat.le_add_right 1 _
  refine ⟨fun i hi => ?_, fun k hk => ?_, fun i j ci cj hij h1 h2 => ?_, fun _ _ _ _ => EditM.c2b_getElem_mono,
    fun i c b h1 h2 => ?_, fun _ _ => EditM.b2c_c2b hN⟩
  · obtain ⟨c, hc, _⟩ := tables_of_text t hN i hi
    exact ⟨c, hc, b2c_getElem_le t hN i c hc⟩
  · obtain ⟨b, hb⟩ := EditM.c2b_getElem_some t k hk
    exact ⟨b, hb, (EditM.c2b_getElem_boOf hb).2⟩
  · have m := EditM.nchars_take_mono t (Nat.add_le_add_right hij 1)
    have n1 := EditM.nchars_take_le t (i + 1)
    rcases (EditM.b2c_getElem? t hN i ci).mp h1 with ⟨a1, rfl⟩ | ⟨a1, rfl⟩ <;>
      rcases (EditM.b2c_getElem? t hN j cj).mp h2 with ⟨b1, rfl⟩ | ⟨b1, rfl⟩ <;> omega
  · -- the character containing byte `i` starts at a byte `b` with as many starts before it as before `i`: not after `i`
    rcases (EditM.b2c_getElem? t hN i c).mp h1 with ⟨_, rfl⟩ | ⟨rfl, rfl⟩
    · have p1 := hpre i
      have g3 := ((EditM.c2b_getElem? t _ b).mp h2).2
      rcases Nat.lt_or_ge i b with hlt | hge
      · have := EditM.nchars_take_mono t (a := i + 1) hlt; omega
      · exact hge
    · rw [EditM.c2b_last] at h2; cases h2; exact Nat.le_refl _

/-! ### the UTF-8 decoder: a decoded text has a character start per scalar value, so its tables are `TablesOk` -/

/-- one step of the decoder: it rejects the text, or reads one scalar value at a character start and goes on with a
suffix of the rest -/
theorem utf8Decode_cons (b0 : Nat) (rest : List Nat) : Wire.utf8Decode (b0 :: rest) = none ∨
    (EditM.isStart b0 = true ∧
      ∃ c j, Wire.utf8Decode (b0 :: rest) = (Wire.utf8Decode (rest.drop j)).map (c :: ·)) := by
  rw [Wire.utf8Decode.eq_def]
  dsimp only
  by_cases h1 : b0 < 0x80
  · rw [if_pos h1]; exact Or.inr ⟨(EditM.isStart_iff b0).2 (Or.inl h1), _, 0, rfl⟩
  rw [if_neg h1]
  by_cases h2 : b0 < 0xC0
  · rw [if_pos h2]; exact Or.inl rfl
  rw [if_neg h2]
  have hs := (EditM.isStart_iff b0).2 (Or.inr (Nat.not_lt.mp h2))
  by_cases h3 : b0 < 0xE0
  · rw [if_pos h3]
    rcases rest with _ | ⟨b1, r⟩
    · exact Or.inl rfl
    · exact Or.inr ⟨hs, _, 1, rfl⟩
  rw [if_neg h3]
  by_cases h4 : b0 < 0xF0
  · rw [if_pos h4]
    rcases rest with _ | ⟨b1, _ | ⟨b2, r⟩⟩
    · exact Or.inl rfl
    · exact Or.inl rfl
    · exact Or.inr ⟨hs, _, 2, rfl⟩
  · rw [if_neg h4]
    rcases rest with _ | ⟨b1, _ | ⟨b2, _ | ⟨b3, r⟩⟩⟩
    · exact Or.inl rfl
    · exact Or.inl rfl
    · exact Or.inl rfl
    · exact Or.inr ⟨hs, _, 3, rfl⟩

/-- every scalar value of a decoded text costs at least one character start (`n` is fuel: the recursion is on `rest.drop j`,
not structural; callers pass `t.length`) -/
theorem utf8Decode_length_le : ∀ (n : Nat) (t cs : List Nat), t.length ≤ n → Wire.utf8Decode t = some cs →
    cs.length ≤ EditM.nchars t
  | _, [], cs, _, h => by rw [Wire.utf8Decode] at h; cases h; exact Nat.zero_le _
  | 0, _ :: _, _, hl, _ => nomatch hl
  | n + 1, b0 :: rest, cs, hl, h => by
    rcases utf8Decode_cons b0 rest with e | ⟨hs, c, j, e⟩
    · rw [e] at h; cases h
    · rw [e] at h
      cases hd : Wire.utf8Decode (rest.drop j) with
      | none => rw [hd] at h; cases h
      | some cs' =>
        rw [hd] at h; cases h
        have ih := utf8Decode_length_le n (rest.drop j) cs'
          (Nat.le_trans (List.length_drop ▸ Nat.sub_le _ _) (Nat.le_of_succ_le_succ hl)) hd
        have hsub : EditM.nchars (rest.drop j) ≤ EditM.nchars rest := ((List.drop_sublist j rest).filter _).length_le
        rw [EditM.nchars_cons, if_pos hs, List.length_cons]
        omega

theorem nchars_pos_of_utf8 (t : List Nat) (chars : List Nat) (hd : Wire.utf8Decode t = some chars)
    (hne : chars ≠ []) : 1 ≤ EditM.nchars t :=
  Nat.le_trans (List.length_pos_iff.mpr hne) (utf8Decode_length_le _ t chars (Nat.le_refl _) hd)

theorem tablesOk_of_utf8 (t chars : List Nat) (hd : Wire.utf8Decode t = some chars) (hne : chars ≠ []) :
    TablesOk (EditM.b2c t) (EditM.c2b t) t.length (EditM.nchars t) ∧ EditM.BoOf t 0 := by
  cases t with
  | nil => rw [Wire.utf8Decode] at hd; cases hd; exact absurd rfl hne
  | cons b0 rest =>
    rcases utf8Decode_cons b0 rest with e | ⟨hs, _⟩
    · rw [e] at hd; cases hd
    · exact ⟨tablesOk_of_text _ b0 rest rfl hs, Or.inr ⟨Nat.succ_pos _, by simp [hs]⟩⟩

/-! ## `NoPanic`; `split_path` and `rewrite_input` do not panic -/

/-- the outcome is a result or an error (`Prop`; `Total.isPanic` of the model is the `Bool` the counterexamples evaluate) -/
def NoPanic {α : Type} (o : Outcome α) : Prop := ∀ w, o ≠ .panic w

theorem splitPath_d6fix_noPanic (t : List Nat) (h1 : 1 ≤ EditM.nchars t) (path : List (NodeRange × List Nat))
    (hp : ∀ p ∈ path, p.1.eb ≤ t.length) : NoPanic (splitPath .d6fix (EditM.b2c t) (EditM.c2b t) path) := by
  obtain ⟨ms, hms⟩ := splitPath_d6fix_ok _ _ t.length (tables_of_text t h1) path hp
  rw [hms]; exact fun w h => nomatch h

theorem rewriteInput_noPanic (lv : EditM.LenV) :
    ∀ (ps : List (List Nat → Outcome (List (EditM.Edit Nat)))) (l : List (EditM.P Nat)),
      (∀ p ∈ ps, ∀ t, NoPanic (p t)) → NoPanic (rewriteInput lv ps l) := by
  intro ps
  induction ps with
  | nil => intro l _ w h; simp [rewriteInput] at h
  | cons p ps ih =>
    intro l hp w h
    unfold rewriteInput at h
    have h1 := hp p (List.mem_cons_self ..) (EditM.textOf l)
    cases hq : p (EditM.textOf l) with
    | ok es =>
      rw [hq] at h
      simp only [] at h
      cases hc : EditM.commitV lv l es with
      | none => rw [hc] at h; simp at h
      | some l' =>
        rw [hc] at h
        exact ih l' (fun q hq' => hp q (List.mem_cons_of_mem _ hq')) w h
    | err k => rw [hq] at h; simp at h
    | panic w' => exact h1 w' hq

theorem rewriteInput_err (lv : EditM.LenV) :
    ∀ (ps : List (List Nat → Outcome (List (EditM.Edit Nat)))) (l : List (EditM.P Nat)),
      (∀ p ∈ ps, ∀ t, ∃ es, p t = .ok es) → ∀ k, rewriteInput lv ps l = .err k → k = "TooLong" := by
  intro ps
  induction ps with
  | nil => intro l _ k h; simp [rewriteInput] at h
  | cons p ps ih =>
    intro l hp k h
    unfold rewriteInput at h
    obtain ⟨es, hes⟩ := hp p (List.mem_cons_self ..) (EditM.textOf l)
    rw [hes] at h
    simp only [] at h
    cases hc : EditM.commitV lv l es with
    | none => rw [hc] at h; simp at h; exact h.symm
    | some l' =>
      rw [hc] at h
      exact ih l' (fun q hq' => hp q (List.mem_cons_of_mem _ hq')) k h

/-! ## `mapM`; `resolve_best_path` -/

theorem mapM_cons_eq_ok {α β : Type} {f : α → Outcome β} {a : α} {as : List α} {bs : List β}
    (h : mapM f (a :: as) = .ok bs) : ∃ b bs', f a = .ok b ∧ mapM f as = .ok bs' ∧ bs = b :: bs' := by
  unfold mapM at h
  cases h1 : f a with
  | err k => rw [h1] at h; cases h
  | panic w => rw [h1] at h; cases h
  | ok b =>
    rw [h1] at h; dsimp only at h
    cases h2 : mapM f as with
    | err k => rw [h2] at h; cases h
    | panic w => rw [h2] at h; cases h
    | ok bs' => rw [h2] at h; cases h; exact ⟨b, bs', rfl, rfl, rfl⟩

theorem mapM_eq_ok {α β : Type} (f : α → Outcome β) : ∀ (as : List α) (bs : List β), mapM f as = .ok bs →
    as.map f = bs.map .ok
  | [], bs, h => by cases h; rfl
  | a :: as, bs, h => by
    obtain ⟨b, bs', h1, h2, rfl⟩ := mapM_cons_eq_ok h
    rw [List.map_cons, List.map_cons, h1, mapM_eq_ok f as bs' h2]

theorem mapM_mem {α β : Type} (f : α → Outcome β) (as : List α) (bs : List β) (h : mapM f as = .ok bs) (b : β)
    (hb : b ∈ bs) : ∃ a ∈ as, f a = .ok b :=
  List.mem_map.mp (mapM_eq_ok f as bs h ▸ List.mem_map_of_mem (f := Outcome.ok) hb)

theorem mapM_ok_mem {α β : Type} (f : α → Outcome β) (as : List α) (bs : List β) (h : mapM f as = .ok bs) (a : α)
    (ha : a ∈ as) : ∃ b ∈ bs, f a = .ok b :=
  let ⟨b, hb, e⟩ := List.mem_map.mp (mapM_eq_ok f as bs h ▸ List.mem_map_of_mem (f := f) ha)
  ⟨b, hb, e.symm⟩

theorem mapM_map_ok {α β : Type} (f : α → Outcome β) (g : α → β) (xs : List α) (h : ∀ x ∈ xs, f x = .ok (g x)) :
    mapM f xs = .ok (xs.map g) := by
  induction xs with
  | nil => rfl
  | cons x xs ih =>
    rw [mapM, h x (List.mem_cons_self ..), ih (fun y hy => h y (List.mem_cons_of_mem _ hy))]; rfl

theorem mapM_ok {α β : Type} (f : α → Outcome β) : ∀ (as : List α), (∀ a ∈ as, ∃ b, f a = .ok b) →
    ∃ bs, mapM f as = .ok bs
  | [], _ => ⟨[], rfl⟩
  | a :: as, h => by
    obtain ⟨b, hb⟩ := h a (List.mem_cons_self ..)
    obtain ⟨bs, hbs⟩ := mapM_ok f as (fun x hx => h x (List.mem_cons_of_mem _ hx))
    exact ⟨b :: bs, by simp only [mapM, hb, hbs]⟩

theorem resultNode_bytes_le (t : List Nat) (ent : Entry) (r : NodeRange)
    (h : resultNode (EditM.c2b t) ent = .ok r) : r.bb ≤ t.length ∧ r.eb ≤ t.length := by
  unfold resultNode at h
  cases h1 : (EditM.c2b t)[ent.node.b]? with
  | none => rw [h1] at h; simp at h
  | some bb =>
    cases h2 : (EditM.c2b t)[ent.node.e]? with
    | none => rw [h1, h2] at h; simp at h
    | some eb =>
      rw [h1, h2] at h; simp only [] at h
      cases h
      have a1 := (EditM.c2b_getElem_boOf h1).2
      have a2 := (EditM.c2b_getElem_boOf h2).2
      have b1 := asU16_le bb
      have b2 := asU16_le eb
      simp only []
      omega

/-! ## back-pointers: the loop of `connect_node` (`Ptr`), the invariant `PathInv`, one step of the walk of `fill_top_path` -/

section ConnPtr
variable (add : Int → Int → Option Int) (M : Int) (conn : Nat → Nat → Int)

/-- the state of `connect_node`'s loop points at a connected entry `l` of the row it scans, and `R l` holds of the
minimum -/
def Ptr (R : Entry → Int → Prop) (M : Int) (n : Vit.Node) (full : List Entry) (st : Int × Nat × Nat) : Prop :=
  ∃ j l, full[j]? = some l ∧ l.total ≠ M ∧ st.2.1 = asU16 n.b ∧ st.2.2 = asU32 j ∧ R l st.1

/-- the loop of `connect_node` keeps "the minimum is still the sentinel, or the back-pointer designates an entry `l`
of the scanned row that is connected to BOS, and the minimum is related to `l` by `R`" for every `R` that holds of
the result of the two additions (`i` = the enumerate counter = position of the suffix in the row) -/
theorem connGo_ptr (n : Vit.Node) (R : Entry → Int → Prop)
    (hR : ∀ l x nc, add l.total (conn l.node.r n.l) = some x → add x n.c = some nc → R l nc) (full : List Entry) :
    ∀ (suffix : List Entry) (i : Nat) (st st' : Int × Nat × Nat), full.drop i = suffix →
      (st.1 = M ∨ Ptr R M n full st) → connGo add M conn n suffix i st = some st' →
      (st'.1 = M ∨ Ptr R M n full st')
  | [], _, st, st', _, hst, h => by
    simp only [connGo] at h; cases h; exact hst
  | l :: rest, i, st, st', hd, hst, h => by
    have hl : full[i]? = some l := by
      have := congrArg (fun x => x[0]?) hd
      simpa [List.getElem?_drop] using this
    have hd' : full.drop (i + 1) = rest := by
      have := congrArg (List.drop 1) hd
      simpa [List.drop_drop] using this
    unfold connGo at h
    by_cases hm : l.total = M
    · rw [if_pos hm] at h
      exact connGo_ptr n R hR full rest (i + 1) st st' hd' hst h
    · rw [if_neg hm] at h
      cases h1 : add l.total (conn l.node.r n.l) with
      | none => rw [h1] at h; cases h
      | some x =>
        rw [h1] at h; simp only [] at h
        cases h2 : add x n.c with
        | none => rw [h2] at h; cases h
        | some nc =>
          rw [h2] at h; simp only [] at h
          by_cases hlt : nc < st.1
          · rw [if_pos hlt] at h
            exact connGo_ptr n R hR full rest (i + 1) _ st' hd' (Or.inr ⟨i, l, hl, hm, rfl, rfl, hR l x nc h1 h2⟩) h
          · rw [if_neg hlt] at h
            exact connGo_ptr n R hR full rest (i + 1) st st' hd' hst h

theorem connectNode_ptr (n : Vit.Node) (row : List Entry) (r : Int × Nat × Nat)
    (h : connectNode add M conn row n = some r) : r.1 = M ∨ Ptr (fun _ _ => True) M n row r :=
  connGo_ptr add M conn n _ (fun _ _ _ _ _ => trivial) row row 0 _ r rfl (Or.inl rfl) h

end ConnPtr

/-- in a row of at most 2^32 entries scanned for a node that begins within `u16`, the casts of the back-pointer are the
identity: it is `(n.b, index of l)` itself -/
theorem Ptr.slot {R : Entry → Int → Prop} {M : Int} {n : Vit.Node} {full : List Entry} {st : Int × Nat × Nat}
    (h : Ptr R M n full st) (hb : n.b ≤ 65535) (hlen : full.length ≤ 4294967296) :
    st.2.1 = n.b ∧ ∃ l, full[st.2.2]? = some l ∧ l.total ≠ M ∧ R l st.1 := by
  obtain ⟨j, l, g1, g2, g3, g4, g5⟩ := h
  have hjl : j < full.length := (List.getElem?_eq_some_iff.mp g1).1
  rw [asU16_id _ hb] at g3
  rw [asU32_id _ (by omega)] at g4
  exact ⟨g3, l, by rw [g4]; exact g1, g2, g5⟩

/-- an entry is stored in the row of its end, begins before it, and is either not connected to BOS (sentinel) or
its back-pointer is `(begin, index of a connected entry of row begin)`; `rows` as in `Lattice`: row 0 holds the
BOS entry.  `rest` = the candidates still to be inserted: no row ever exceeds 2^32 entries (the width of `NodeIdx.index`, a
`u32`).  `small` counts every row alike and row 0 holds BOS in front, hence `reset_pathInv` asks for 2^32 − 1 candidates per
boundary although none ends at 0. -/
structure PathInv (len : Nat) (rest : List Vit.Node) (rows : Rows) : Prop where
  size : rows.size = len + 1
  small : ∀ (e : Nat) (row : List Entry), rows[e]? = some row → row.length + rest.countP (fun n => n.e == e) ≤ 4294967296
  ent : ∀ (e : Nat) (row : List Entry) (i : Nat) (x : Entry), 1 ≤ e → rows[e]? = some row → row[i]? = some x →
    x.node.e = e ∧ x.node.b < e ∧
    (x.total = I32_MAX ∨ (x.pe = x.node.b ∧
      (x.node.b = 0 ∨ ∃ (row' : List Entry) (p : Entry), rows[x.node.b]? = some row' ∧ row'[x.pi]? = some p ∧ p.total ≠ I32_MAX)))

theorem reset_pathInv (len : Nat) (nodes : List Vit.Node)
    (hcnt : ∀ e, nodes.countP (fun n => n.e == e) ≤ 4294967295) : PathInv len nodes (reset len) := by
  refine ⟨reset_size len, fun e row h => ?_, fun e row i x he h hx => ?_⟩
  · have := hcnt e
    rcases reset_getElem? len e row h with ⟨_, rfl⟩ | ⟨_, _, rfl⟩
    · exact Nat.add_le_add (Nat.le_refl 1) this
    · rw [List.length_nil, Nat.zero_add]; omega
  · rcases reset_getElem? len e row h with ⟨rfl, _⟩ | ⟨_, _, rfl⟩
    · cases he
    · cases hx

/-- one `insert` keeps the path invariant (no arithmetic involved: whatever the costs are) -/
theorem insert_pathInv (add : Int → Int → Option Int) (conn : Nat → Nat → Int) (len : Nat) (hlen : len ≤ 65535)
    (n : Vit.Node) (rest : List Vit.Node) (rows rows' : Rows) (ent : Entry) (hn : n.b < n.e ∧ n.e ≤ len)
    (hinv : PathInv len (n :: rest) rows) (h : insert add I32_MAX conn rows n = .ok (rows', ent)) :
    PathInv len rest rows' := by
  obtain ⟨hsize, hsmall, hent⟩ := hinv
  obtain ⟨rowB, rowE, hb, he, hnode, hc, rfl⟩ := insert_eq_ok h
  refine ⟨by rw [Array.size_setIfInBounds]; exact hsize, ?_, ?_⟩
  · intro e row hrow
    rw [getElem?_push rows n.e rowE ent he] at hrow
    by_cases hee : n.e = e
    · rw [if_pos hee] at hrow
      subst hee
      have := hsmall n.e rowE he
      rw [List.countP_cons, if_pos (beq_self_eq_true _)] at this
      rw [← Option.some.inj hrow, List.length_append, List.length_singleton]
      omega
    · rw [if_neg hee] at hrow
      have := hsmall e row hrow
      rw [List.countP_cons, if_neg (by simpa using hee)] at this
      exact this
  · -- the stored facts only mention slots of the rows, which a push keeps
    refine entries_push (fun rows e x => x.node.e = e ∧ x.node.b < e ∧ (x.total = I32_MAX ∨ (x.pe = x.node.b ∧
      (x.node.b = 0 ∨ ∃ (row' : List Entry) (p : Entry), rows[x.node.b]? = some row' ∧ row'[x.pi]? = some p ∧
        p.total ≠ I32_MAX)))) ?_ rows n.e rowE ent he hent ?_
    · intro rows e rowE x e' y he ⟨a1, a2, a3⟩
      refine ⟨a1, a2, a3.imp_right (And.imp_right (Or.imp_right ?_))⟩
      intro ⟨row', p, g1, g2, g3⟩
      obtain ⟨row'', k1, k2⟩ := push_grow rows e rowE x he _ _ g1
      exact ⟨row'', p, k1, k2 _ _ g2, g3⟩
    · rw [hnode]
      refine ⟨rfl, hn.1, ?_⟩
      rcases connectNode_ptr add I32_MAX conn n rowB _ hc with hm | hptr
      · exact Or.inl hm
      · obtain ⟨g3, l, g1, g2, _⟩ := Ptr.slot hptr (Nat.le_trans (Nat.le_of_lt hn.1) (Nat.le_trans hn.2 hlen))
          (Nat.le_trans (Nat.le_add_right _ _) (hsmall n.b rowB hb))
        exact Or.inr ⟨g3, Or.inr ⟨rowB, l, hb, g1, g2⟩⟩

/-- what every successful `insert` of a candidate that has `P` keeps, all the inserts of `build_lattice` keep when every
candidate has `P` (`I` may speak of the candidates still to be inserted) -/
theorem buildAll_induct (add : Int → Int → Option Int) (M : Int) (conn : Nat → Nat → Int) (P : Vit.Node → Prop)
    (I : List Vit.Node → Rows → Prop)
    (hstep : ∀ n ns rows rows' ent, P n → I (n :: ns) rows → insert add M conn rows n = .ok (rows', ent) → I ns rows') :
    ∀ (nodes : List Vit.Node) (rows : Rows) (acc : List Entry) (rows' : Rows) (ents : List Entry),
      (∀ n ∈ nodes, P n) → I nodes rows → buildAll add M conn nodes rows acc = .ok (rows', ents) → I [] rows'
  | [], rows, acc, rows', ents, _, hi, h => by
    simp only [buildAll] at h; cases h; exact hi
  | n :: ns, rows, acc, rows', ents, hP, hi, h => by
    unfold buildAll at h
    cases hins : insert add M conn rows n with
    | err k => rw [hins] at h; cases h
    | panic w => rw [hins] at h; cases h
    | ok r =>
      rw [hins] at h
      exact buildAll_induct add M conn P I hstep ns r.1 (r.2 :: acc) rows' ents (fun m hm => hP m (List.mem_cons_of_mem _ hm))
        (hstep n ns rows r.1 r.2 (hP n List.mem_cons_self) hi hins) h

theorem buildAll_pathInv (add : Int → Int → Option Int) (conn : Nat → Nat → Int) (len : Nat) (hlen : len ≤ 65535)
    (nodes : List Vit.Node) (rows : Rows) (acc : List Entry) (rows' : Rows) (ents : List Entry)
    (hinv : PathInv len nodes rows) (hns : ∀ n ∈ nodes, n.b < n.e ∧ n.e ≤ len)
    (h : buildAll add I32_MAX conn nodes rows acc = .ok (rows', ents)) : PathInv len [] rows' :=
  buildAll_induct add I32_MAX conn _ (PathInv len) (insert_pathInv add conn len hlen) nodes rows acc rows' ents hns hinv h

/-- one step of `fill_top_path` at a connected entry `p` in slot `(e, i)`: the walk stops at `p` when `p` begins at 0, and
otherwise goes on from the back-pointer `(p.node.b, p.pi)`, a connected entry of an earlier row -/
theorem topPath_step (len : Nat) (rows : Rows) (hinv : PathInv len [] rows) (e f i : Nat) (p : Entry)
    (acc row : List Entry) (he : 1 ≤ e) (hrow : rows[e]? = some row) (hp : row[i]? = some p) (hconn : p.total ≠ I32_MAX) :
    p.node.e = e ∧ p.node.b < e ∧
      topPath rows (f + 1) (e, i) acc =
        (if p.node.b ≠ 0 then topPath rows f (p.node.b, p.pi) (p :: acc) else .ok (p :: acc)) ∧
      (p.node.b ≠ 0 → ∃ row' q, rows[p.node.b]? = some row' ∧ row'[p.pi]? = some q ∧ q.total ≠ I32_MAX) := by
  obtain ⟨a1, a2, a3⟩ := hinv.ent e row i p he hrow hp
  obtain ⟨b1, b2⟩ := a3.resolve_left hconn
  have hfr : fullRow rows e = some row := by
    unfold fullRow; rw [hrow]; exact if_neg (Nat.ne_of_gt he)
  refine ⟨a1, a2, ?_, b2.resolve_left⟩
  rw [topPath, hfr]; dsimp only; rw [hp]; dsimp only; rw [b1]

theorem connectEos_ptr (add : Int → Int → Option Int) (conn : Nat → Nat → Int) (len : Nat) (hlen : len ≤ 65535)
    (rows : Rows) (hinv : PathInv len [] rows) (c : Int) (pe pi : Nat)
    (h : connectEos add I32_MAX conn rows len = .ok (c, pe, pi)) :
    pe = len ∧ ∃ row p, rows[len]? = some row ∧ row[pi]? = some p ∧ p.total ≠ I32_MAX := by
  obtain ⟨row, hr, hc, hne⟩ := connectEos_eq_ok hlen h
  rcases connectNode_ptr add I32_MAX conn _ row _ hc with hm | hptr
  · exact absurd hm hne
  · obtain ⟨g3, l, g1, g2, _⟩ := Ptr.slot hptr hlen (hinv.small len row hr)
    exact ⟨g3, row, l, hr, g1, g2⟩

end Total
