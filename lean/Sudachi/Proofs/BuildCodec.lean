import Sudachi.Model.BuildLoad
import Sudachi.Proofs.BuildTotal
import Sudachi.Proofs.BuildShape
import Sudachi.Proofs.BuildLimits
import Sudachi.Proofs.CodecFile
import Sudachi.Model.Oov
/-!
# C06's accepted builder state is a builder state of C05's writer within the format limits

`BuildLoad.toCodec` translates the `Build.Dict` a successful `Build.compile` returns into a
`Codec.CompileInput`.  Here: the translated state satisfies `Codec.FileOk` (every clause but the 4 GiB bound
on the file, which is a hypothesis on the external trie blob's size as much as on the input) and passes
`Codec.validateEntries` - so `C05.dict_roundtrip` applies to it.

Two more things the theorems of `Props/C06.lean` about the loaded dictionary need: the bytes `BuildLoad.matrixBytes` writes
hold the cells (`cellCost`, `holds_matrixBytes`: what `compile_ok_loads` says about every cell), and the lexicon and the
connection function C03's analysis model is given by a loaded dictionary (`lexWords`, `connFn`, definitions only; they are
why `Model/Oov.lean` is imported).

`Build` is open and `Codec` is qualified; where both have a notion of the same name the lemma's name says which one it
is about (`buildWidOk_lt`: `Build.WidOk`, a dictionary number 0 or 1; `codecWidOk_bridge`: `Codec.WidOk`, at most 127 ids
per index group; `entry_codecWF`: `Codec.Entry.WF`; `codecUtf8Len_char`: `Codec.utf8Len`, the length of ONE character).
-/
namespace BuildLoad
open Build

/-! ## strings: a `List Char` of C06 as the scalar values of C05 -/

theorem isScalar_toNat (c : Char) : Codec.IsScalar c.toNat := by
  have h := c.valid
  simp only [UInt32.isValidChar, Nat.isValidChar] at h
  unfold Codec.IsScalar Char.toNat
  omega

theorem scalars_str (s : Build.Str) : Codec.Scalars (str s) := by
  intro c hc
  simp only [str, List.mem_map] at hc
  obtain ⟨ch, _, rfl⟩ := hc
  exact isScalar_toNat ch

theorem units_length (s : Build.Str) : (Codec.units (str s)).length = utf16Len s := by
  induction s with
  | nil => rfl
  | cons c cs ih =>
    have h1 : Codec.units (str (c :: cs)) = Codec.encodeUtf16 c.toNat ++ Codec.units (str cs) := by
      simp [Codec.units, str]
    have h2 : utf16Len (c :: cs) = utf16Units c + utf16Len cs := by simp [utf16Len]
    rw [h1, h2, List.length_append, ih]
    congr 1
    unfold Codec.encodeUtf16 utf16Units
    by_cases h : c.toNat < 0x10000
    · have : ¬ c.toNat ≥ 0x10000 := by omega
      simp [h, this]
    · have : c.toNat ≥ 0x10000 := by omega
      simp [h, this]

theorem codecUtf8Len_char (c : Char) : Codec.utf8Len c.toNat = c.utf8Size := by
  unfold Codec.utf8Len Char.utf8Size Char.toNat
  -- the same three thresholds, `≤ 0x7F` on `UInt32` there and `< 0x80` on `Nat` here
  simp only [UInt32.le_iff_toNat_le, UInt32.toNat_ofNatLT, ← Nat.lt_succ_iff (n := 127), ← Nat.lt_succ_iff (n := 2047),
    ← Nat.lt_succ_iff (n := 65535)]

theorem utf8Len_str (s : Build.Str) : Codec.utf8LenStr (str s) = Build.utf8Len s := by
  induction s with
  | nil => rfl
  | cons c cs ih =>
    simp only [Codec.utf8LenStr, str, Build.utf8Len, List.map_cons, List.sum_cons, List.map_map] at ih ⊢
    rw [codecUtf8Len_char c, ih]

theorem strOk_str (s : Build.Str) (h : utf16Len s ≤ 32767) : Codec.StrOk (str s) :=
  ⟨scalars_str s, by rw [units_length]; exact h⟩

theorem str_inj {a b : Build.Str} (h : str a = str b) : a = b := by
  induction a generalizing b with
  | nil => cases b with
    | nil => rfl
    | cons _ _ => simp [str] at h
  | cons x xs ih =>
    cases b with
    | nil => simp [str] at h
    | cons y ys =>
      simp only [str, List.map_cons, List.cons.injEq] at h
      have hx : x = y := Char.ext (UInt32.toNat_inj.1 h.1)
      rw [hx, ih (b := ys) h.2]

/-! ## entries: the translated entry is well-formed for C05's writer and passes C05's validation -/

theorem entry_headwordS (e : Build.Entry) : (entry e).headwordS = str e.headwordStr := by
  unfold Codec.Entry.headwordS Build.Entry.headwordStr entry
  cases e.headword <;> rfl

theorem entry_normS (e : Build.Entry) : (entry e).normS = str e.normStr := by
  unfold Codec.Entry.normS Build.Entry.normStr
  rw [entry_headwordS]
  unfold entry
  cases e.normForm <;> rfl

theorem entry_readingS (e : Build.Entry) : (entry e).readingS = str e.readingStr := by
  unfold Codec.Entry.readingS Build.Entry.readingStr
  rw [entry_headwordS]
  unfold entry
  cases e.reading <;> rfl

theorem buildWidOk_lt {w : Nat} (h : Build.WidOk w) : w < 4294967296 := by
  unfold Build.WidOk Build.widDic Build.DIC_UNIT at h
  omega

theorem unitRaw_lt {u : SplitUnit} (h : UnitWf u) : unitRaw u < 4294967296 := by
  cases u with
  | ref w => exact buildWidOk_lt h
  | inline s p r => simp [unitRaw, Codec.INVALID_WID]

theorem entry_codecWF (e : Build.Entry) (hl : EntryLimits e) (hr : EntryRange e) (hw : EntryWf e) (hp : e.pos < 65536) :
    (entry e).WF ∧ Codec.ParamsOk (entry e) := by
  obtain ⟨l1, l2, l3, l4, l5, l6, l7, l8⟩ := hl
  obtain ⟨r1, r2, r3, r4⟩ := hr
  obtain ⟨w1, w2, w3, w4⟩ := hw
  refine ⟨{ hw := ?_, nf := ?_, rd := ?_, key := ?_, pos := hp, df := ?_, a := ⟨?_, ?_⟩, b := ⟨?_, ?_⟩, ws := ⟨l7, ?_⟩, syn := ⟨l8, r4⟩ },
    ⟨r1.1, r1.2, r2.1, r2.2, r3.1, r3.2⟩⟩
  · rw [entry_headwordS]; exact strOk_str _ l1
  · rw [entry_normS]; exact strOk_str _ l3
  · rw [entry_readingS]; exact strOk_str _ l4
  · show Codec.utf8LenStr (str e.surface) ≤ 32767
    rw [utf8Len_str]; exact l2
  · show e.dicForm < 4294967296
    rcases w1 with h | h
    · rw [h]; decide
    · exact buildWidOk_lt h
  · simpa [entry] using l5
  · exact List.forall_mem_map.2 (fun u hu => unitRaw_lt (w3 u hu))
  · simpa [entry] using l6
  · exact List.forall_mem_map.2 (fun u hu => unitRaw_lt (w4 u hu))
  · intro x hx; exact buildWidOk_lt (w2 x hx)

theorem wid_bridge (w : Nat) : Codec.widDic w = Build.widDic w ∧ Codec.widWord w = Build.widWord w :=
  ⟨Codec.widDic_eq_div w, Codec.widWord_eq_mod w⟩

theorem validateWid_bridge {w max0 max1 : Nat} (h : Build.validateWid w max0 max1 = .ok ()) :
    Codec.validateWid w max0 max1 = true := by
  obtain ⟨h1, h2⟩ := wid_bridge w
  unfold Codec.validateWid
  rw [h1, h2]
  rcases Build.validateWid_ok h with ⟨a, b⟩ | ⟨a, b⟩
  · simp [a, b]
  · simp [a, b]

theorem validateEntry_bridge {v : Variant} {ml mr : Int} {max0 max1 : Nat} {e : Build.Entry} (user : Bool)
    (h3 : v.d3 = true) (h : Build.validateEntry v ml mr max0 max1 e = .ok ()) :
    Codec.validateEntry false user ml mr max0 max1 (entry e) = true := by
  obtain ⟨a, b, c, d, ea, eb, ew⟩ := Build.validateEntry_ok h
  have hc : (decide (e.left ≥ 0) && decide (e.right < 0)) = false := by
    by_cases hl : e.left ≥ 0
    · have := c h3 (by simp [Build.Entry.shouldIndex, hl])
      have : ¬ e.right < 0 := by omega
      simp [this]
    · simp [hl]
  have hd : (decide ((entry e).dicForm = Codec.INVALID_WID) || Codec.validateWid (Codec.dfCheckId false user (entry e).dicForm) max0 max1) = true := by
    have : (entry e).dicForm = e.dicForm := rfl
    rw [this]
    rcases d with h | h
    · have : e.dicForm = Codec.INVALID_WID := h
      simp [this]
    · simp [Codec.dfCheckId, validateWid_bridge h]
  have hu : ∀ us : List SplitUnit, Build.validateUnits max0 max1 us = .ok () →
      (us.map unitRaw).all (Codec.validateWid · max0 max1) = true := by
    intro us hus
    simp only [List.all_eq_true, List.mem_map]
    rintro x ⟨u, hu, rfl⟩
    obtain ⟨w, rfl, hw⟩ := Build.validateUnits_ok hus u hu
    exact validateWid_bridge hw
  have hws : e.wordStructure.all (Codec.validateWid · max0 max1) = true := by
    simp only [List.all_eq_true]
    intro w hw
    exact validateWid_bridge (Build.validateWids_ok ew w hw)
  simp only [Codec.validateEntry, Bool.and_eq_true, decide_eq_true_eq, Bool.not_eq_true']
  exact ⟨⟨⟨⟨⟨⟨a, b⟩, hc⟩, hd⟩, hu _ ea⟩, hu _ eb⟩, hws⟩

theorem validateEntries_bridge {v : Variant} {ml mr : Int} {ns : Option Nat} {es : List Build.Entry}
    (h3 : v.d3 = true) (h : Build.validateEntries v ml mr ns es = .ok ()) :
    Codec.validateEntries false ml mr ns (es.map entry) = true := by
  unfold Codec.validateEntries
  unfold Build.validateEntries at h
  cases ns with
  | none =>
    simp only [List.length_map, List.all_eq_true, List.mem_map] at h ⊢
    rintro x ⟨e, he, rfl⟩
    exact validateEntry_bridge _ h3 (Build.validateFrom_ok h e he)
  | some n =>
    simp only [List.length_map, List.all_eq_true, List.mem_map] at h ⊢
    rintro x ⟨e, he, rfl⟩
    exact validateEntry_bridge _ h3 (Build.validateFrom_ok h e he)

theorem matrixBytes_length (c : Build.Conn) : (matrixBytes c).length = 2 * (c.nl.toNat * c.nr.toNat) := by
  unfold matrixBytes
  rw [Basic.flatMap_length_const _ 2 _ (fun _ _ => rfl), List.length_range]

/-! ## the POS strings of a script that succeeded are strings of C05's format -/

theorem posOk_bridge {tab : List PosKey} {n0 : Nat} (hs : TabShape n0 tab) (hw : Writes (posSteps tab n0)) :
    Codec.PosOk ((tab.map (fun k => k.map str)).drop n0) := by
  obtain ⟨h1, h2, h3⟩ := hs
  have hstr := posRowsSteps_writes (writes_cons.1 hw)
  rw [← List.map_drop]
  refine ⟨?_, ?_⟩
  · rw [List.length_map, List.length_drop]; omega
  · intro p hp
    simp only [List.mem_map] at hp
    obtain ⟨k, hk, rfl⟩ := hp
    refine ⟨by rw [List.length_map]; exact h3 k hk, ?_⟩
    intro s hs
    simp only [List.mem_map] at hs
    obtain ⟨s0, hs0, rfl⟩ := hs
    exact strOk_str _ (hstr k hk s0 hs0)

/-! ## the word-id table: `IndexBuilder` as C06 counts it and as C05 lists it -/

def stepC (acc : List (Codec.Str × List Nat)) (s : Codec.Str) (id : Nat) : List (Codec.Str × List Nat) :=
  match acc.findIdx? (fun g => g.1 = s) with
  | some k => Codec.modifyAt (fun g => (g.1, g.2 ++ [id])) k acc
  | none => acc ++ [(s, [id])]

theorem stepC_cons (g : Codec.Str × List Nat) (rest : List (Codec.Str × List Nat)) (s : Codec.Str) (id : Nat) :
    stepC (g :: rest) s id = if g.1 = s then (g.1, g.2 ++ [id]) :: rest else g :: stepC rest s id := by
  unfold stepC
  rw [List.findIdx?_cons]
  by_cases h : g.1 = s
  · simp [h, Codec.modifyAt]
  · simp only [h, decide_false, Bool.false_eq_true, if_false]
    cases hr : rest.findIdx? (fun g => decide (g.1 = s)) with
    | none => simp
    | some k => simp [Codec.modifyAt]

def sizes (acc : List (Codec.Str × List Nat)) : List (Codec.Str × Nat) := acc.map (fun g => (g.1, g.2.length))
def keysB (acc : List (Build.Str × Nat)) : List (Codec.Str × Nat) := acc.map (fun k => (str k.1, k.2))

/-- the simulation relation between the two accumulators of `IndexBuilder::add`: C05 lists the ids of every key (`accC`),
C06 counts them (`accB`); `sizes accC = keysB accB` says same keys in the same order with as many ids as counted.  One
`add` keeps it (here), so does the loop (`go_sim`), and it holds at the end (`indexGroups_sizes`). -/
theorem step_sim (s : Build.Str) (id : Nat) : ∀ (accC : List (Codec.Str × List Nat)) (accB : List (Build.Str × Nat)),
    sizes accC = keysB accB → sizes (stepC accC (str s) id) = keysB (addKey s accB) := by
  intro accC
  induction accC with
  | nil =>
    intro accB h
    cases accB with
    | nil => simp [stepC, sizes, keysB, addKey]
    | cons _ _ => simp [sizes, keysB] at h
  | cons g rest ih =>
    intro accB h
    cases accB with
    | nil => simp [sizes, keysB] at h
    | cons k restB =>
      obtain ⟨k', n⟩ := k
      simp only [sizes, keysB, List.map_cons, List.cons.injEq, Prod.mk.injEq] at h
      obtain ⟨⟨h1, h2⟩, h3⟩ := h
      rw [stepC_cons]
      simp only [addKey]
      by_cases hk : k' = s
      · have : g.1 = str s := by rw [h1, hk]
        simp only [this, hk, if_true]
        simp [sizes, keysB, h2, ← hk, ← h1] at h3 ⊢
        exact h3
      · have : ¬ g.1 = str s := by rw [h1]; intro hh; exact hk (str_inj hh)
        simp only [this, hk, if_false]
        have := ih restB h3
        simp only [sizes, keysB, List.map_cons, List.cons.injEq, Prod.mk.injEq] at this ⊢
        exact ⟨⟨h1, h2⟩, this⟩

theorem go_sim : ∀ (l : List (Nat × Build.Entry)) (accC : List (Codec.Str × List Nat)) (accB : List (Build.Str × Nat)),
    sizes accC = keysB accB →
    sizes (Codec.indexGroups.go (l.map (fun p => (p.1, entry p.2))) accC)
      = keysB (((l.map (·.2)).filter Build.Entry.shouldIndex).foldl (fun acc e => addKey e.surface acc) accB) := by
  intro l
  induction l with
  | nil => intro accC accB h; simpa [Codec.indexGroups.go] using h
  | cons p l ih =>
    intro accC accB h
    obtain ⟨i, e⟩ := p
    have hgo : Codec.indexGroups.go ((i, entry e) :: l.map (fun p => (p.1, entry p.2))) accC
        = if e.left ≥ 0 then Codec.indexGroups.go (l.map (fun p => (p.1, entry p.2))) (stepC accC (str e.surface) (Codec.widNew 0 i))
          else Codec.indexGroups.go (l.map (fun p => (p.1, entry p.2))) accC := by
      have e1 : (entry e).left = e.left := rfl
      have e2 : (entry e).surface = str e.surface := rfl
      by_cases hl : e.left ≥ 0
      · simp only [Codec.indexGroups.go, e1, e2, hl, if_true]
        unfold stepC
        cases List.findIdx? (fun g => decide (g.1 = str e.surface)) accC <;> rfl
      · simp only [Codec.indexGroups.go, e1, e2, hl, if_false]
    simp only [List.map_cons]
    rw [hgo]
    by_cases hl : e.left ≥ 0
    · have hs : e.shouldIndex = true := by simp [Build.Entry.shouldIndex, hl]
      simp only [hl, if_true, List.filter_cons, hs, List.foldl_cons]
      exact ih _ _ (step_sim e.surface _ accC accB h)
    · have hs : e.shouldIndex = false := by simp [Build.Entry.shouldIndex, hl]
      simp only [hl, if_false, List.filter_cons, hs]
      exact ih _ _ h

theorem indexGroups_sizes (es : List Build.Entry) : sizes (Codec.indexGroups (es.map entry)) = keysB (indexKeys es) := by
  unfold Codec.indexGroups indexKeys
  have hz : (List.range (es.map entry).length).zip (es.map entry)
      = ((List.range es.length).zip es).map (fun p => (p.1, entry p.2)) := by
    rw [List.length_map, List.zip_map_right]
    simp [Prod.map]
  rw [hz]
  have := go_sim ((List.range es.length).zip es) [] [] rfl
  rw [this]
  congr 3
  rw [List.map_snd_zip]
  simp

theorem codecWidOk_bridge {es : List Build.Entry} (h : ∀ q ∈ indexKeys es, q.2 ≤ 127) : Codec.WidOk (es.map entry) := by
  intro g hg
  have hm : (g.1, g.2.length) ∈ sizes (Codec.indexGroups (es.map entry)) := List.mem_map.2 ⟨g, hg, rfl⟩
  rw [indexGroups_sizes] at hm
  obtain ⟨q, hq, he⟩ := List.mem_map.1 hm
  have := h q hq
  simp only [Prod.mk.injEq] at he
  omega

/-- the 4 GiB bound stays a hypothesis (`hsize`); the parameters C06's model does not keep (description bytes, time, trie
blob) are constrained by what C06 keeps of them -/
theorem fileOk_of_compile {v : Variant} {b : Builder} {dl tl n : Nat} {limit : Option Nat} {d : Dict} (a : Aux)
    (hsh : BuilderShape b) (hinv : BuilderInv v b) (hc : compile v b dl tl limit = .ok (n, d))
    (hbase : b.base.pos0.length ≤ 32768)
    (hdesc : a.desc.length = dl) (htime : a.time < 18446744073709551616) (htrie : a.trie.length % 4 = 0)
    (hsize : (Codec.fileBytes (toCodec d b.base.pos0.length a)).length < 4294967296) :
    Codec.FileOk (toCodec d b.base.pos0.length a) := by
  obtain ⟨hhdr, hpos, _⟩ := compile_ok_writes hc
  have hlim := compile_ok_limits hc
  obtain rfl := ((compile_ok_iff ..).1 hc).2.2.2
  obtain ⟨⟨hts, hents⟩, hcs⟩ := hsh
  obtain ⟨c1, c2, c3, c4, c5⟩ := hcs
  refine { desc := ?_, time := htime, pos := posOk_bridge hts hpos, nl0 := c1, nl1 := ?_, nr0 := c3, nr1 := ?_,
           mat := matrixBytes_length b.conn, entries := ?_, wid := ?_, trie := htrie, size := hsize }
  · show a.desc.length ≤ 256
    rw [hdesc]; exact headerSteps_writes hhdr
  · show b.conn.nl < 32768
    omega
  · show b.conn.nr < 32768
    omega
  · intro e he'
    simp only [toCodec, List.mem_map] at he'
    obtain ⟨e0, he0, rfl⟩ := he'
    have hp := (hents e0 he0).2
    have : b.lex.pos.length ≤ max b.base.pos0.length 32768 := hts.2.1
    -- a POS id is a `u16`: the table the builder started from has at most 32768 rows or the table did not grow
    exact entry_codecWF e0 (hlim.1 e0 he0) (hents e0 he0).1 (hinv.1.1 e0 he0).1 (by omega)
  · exact codecWidOk_bridge (fun q hq => (hlim.2.1 q hq).1)

/-! ## the matrix bytes hold the cells -/

/-- the cost the loaded matrix answers for cell `(l, r)`: the stored 16 bits of the last cost written there -/
def cellCost (c : Build.Conn) (l r : Nat) : Int :=
  Codec.u16ToI (Codec.i16ToU (c.cell (Codec.connIndex c.nl.toNat l r)))

theorem i16ToU_lt (x : Int) : Codec.i16ToU x < 65536 := by
  unfold Codec.i16ToU; omega

theorem u16ToI_range {n : Nat} (h : n < 65536) : -32768 ≤ Codec.u16ToI n ∧ Codec.u16ToI n ≤ 32767 := by
  unfold Codec.u16ToI; split <;> omega

theorem cellCost_range (c : Build.Conn) (l r : Nat) : -32768 ≤ cellCost c l r ∧ cellCost c l r ≤ 32767 :=
  u16ToI_range (i16ToU_lt _)

theorem holds_matrixBytes (c : Build.Conn) : Codec.Holds (matrixBytes c) c.nl.toNat c.nr.toNat (cellCost c) := by
  refine ⟨by rw [matrixBytes_length]; omega, fun l r hl hr => ?_⟩
  have hk := Codec.idx_lt c.nl.toNat c.nr.toNat l r hl hr
  -- the two bytes of cell `k` stand at `2 * k` of the array
  have hd := Basic.flatMap_drop_get (fun i => Codec.le16 (Codec.i16ToU (c.cell i))) 2 (fun _ => rfl)
    (List.range (c.nl.toNat * c.nr.toNat)) _ _ (List.getElem?_range hk) []
  rw [List.append_nil] at hd
  rw [Codec.i16At, Nat.zero_add, matrixBytes, hd, Codec.leU16_le16 _ (i16ToU_lt _)]
  rfl

/-! ## what the analysis model (C03, `Total.Cfg`) is given by the loaded dictionary -/

/-- the words `Lexicon::lookup` can return: the indexed entries with their key bytes, ids (as the `u16` of the node)
and cost -/
def lexWords (d : Dict) : List Oov.Word :=
  (d.entries.filter Build.Entry.shouldIndex).map (fun e =>
    ⟨(str e.surface).flatMap Codec.utf8Enc, e.left.toNat, e.right.toNat, e.cost⟩)

/-- `conn_matrix().cost(l, r)` of the loaded grammar as the total function the lattice model takes; the default is
never used for ids inside the matrix -/
def connFn (g : Codec.Grammar) (l r : Nat) : Int :=
  match g.cost l r with
  | .ok c => c
  | _ => 0

end BuildLoad
