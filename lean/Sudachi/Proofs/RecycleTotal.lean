import Sudachi.Model.RecycleTotal
import Sudachi.Proofs.RecycleObs
import Sudachi.Proofs.TotalCompose
/-!
# The recycling model instantiated with the concrete pipeline (C10)

For `RecycleTotal.payload` the two payload hypotheses of the generic theorems are settled: `OffsetsInRange` holds for
every state, text, configuration and variant (`payload_offsetsInRange`), and `FieldsFree`, C11's statement, is reduced to
the one place where the field subset reaches the pipeline, the word-info / path-rewrite stage (`RewriteFree`,
`payload_fieldsFree`).  `Bridge` says that the discipline model with this payload, run on a NEW tokenizer, computes what
`Total.tokenize` computes (outcome class; morphemes and offset tables when Ok).  Both sides are executable functions of
(configuration, mode, subset, text), so the statement is the Boolean `bridgeHolds`, which the driver evaluates on every
analysis of every `C10 hpipe` line; `bridge_ok` and `bridge_class` say what it gives, `run_vs_new` relates the tokenizer
a history leaves to the new one `Bridge` speaks about.
-/
namespace RecycleTotal
open Recycle
variable {F : Type}

theorem payload_chars_length (v : Total.SplitV) (lv : EditM.LenV) (D : Dict) (modified : List Elem) :
    ((payload v lv D).chars modified).length = (charsOf modified).length :=
  List.length_map _

theorem payload_c2b_length (v : Total.SplitV) (lv : EditM.LenV) (D : Dict) (modified : List Elem) :
    ((payload v lv D).c2b modified).length = (charsOf modified).length :=
  (List.length_map _).trans List.length_range

/-- the loop bound `mod_c2b.len() - 1` is the number of characters, which is `mod_chars.len()` -/
theorem payload_offsetsInRange (rv : ResetVariant) (v : Total.SplitV) (lv : EditM.LenV) (D : Dict) (t : Tok Elem)
    (text : List Elem) : OffsetsInRange rv (payload v lv D) t text := by
  intro i h
  obtain ⟨h1, h2⟩ := Input.prepare_ok_shape (payload v lv D) _ i h
  have h0 : (t.resetWith rv text).input.modC2b.length = 0 := rfl
  rw [h1, h2, h0, payload_chars_length, payload_c2b_length]
  omega

/-- the one place where the effective field subset reaches the concrete pipeline -/
def RewriteFree (D : Dict) (s s' : Subset) : Prop := ∀ m p, D.rewrite m s p = D.rewrite m s' p

/-- for every projection, in particular the identity: the nodes themselves -/
theorem payload_fieldsFree (v : Total.SplitV) (lv : EditM.LenV) (D : Dict) (proj : Elem → F) (s s' : Subset)
    (h : RewriteFree D s s') : FieldsFree (payload v lv D) proj s s' := by
  intro m inp full ends ids path0
  have h1 : (payload v lv D).pathNodes s = (payload v lv D).pathNodes s' := rfl
  have h2 : (payload v lv D).rewritePath m s = (payload v lv D).rewritePath m s' := by
    funext inp path
    simp only [payload]
    rw [h m (rns path)]
  unfold pathPhase
  rw [h1, h2]

def Bridge (v : Total.SplitV) (lv : EditM.LenV) (D : Dict) (m : Mode) (s : Subset) (text : List Nat) : Prop :=
  bridgeHolds v lv D m s text = true

instance (v : Total.SplitV) (lv : EditM.LenV) (D : Dict) (m : Mode) (s : Subset) (text : List Nat) :
    Decidable (Bridge v lv D m s text) := by unfold Bridge; infer_instance

theorem rangeEq_eq (a b : Total.NodeRange) (h : rangeEq a b = true) : a = b := by
  cases a; cases b
  simp only [rangeEq, Bool.and_eq_true, beq_iff_eq] at h
  obtain ⟨⟨⟨h1, h2⟩, h3⟩, h4⟩ := h
  subst h1 h2 h3 h4
  rfl

theorem rangesEq_eq : ∀ (a b : List Total.NodeRange), rangesEq a b = true → a = b
  | [], [], _ => rfl
  | [], _ :: _, h => by simp [rangesEq] at h
  | _ :: _, [], h => by simp [rangesEq] at h
  | x :: xs, y :: ys, h => by
    simp only [rangesEq, Bool.and_eq_true] at h
    rw [rangeEq_eq x y h.1, rangesEq_eq xs ys h.2]

theorem bridge_ok (v : Total.SplitV) (lv : EditM.LenV) (D : Dict) (m : Mode) (s : Subset) (text : List Nat)
    (hb : Bridge v lv D m s text) (r : Total.Result) (h : Total.tokenize v lv (D.cfg m s) text = .ok r) :
    (analyseNew v lv D m s text).2 = .ok ∧ morphsOf (analyseNew v lv D m s text).1 = some r.morphs ∧
    tablesOf (analyseNew v lv D m s text).1.input = r.tables := by
  unfold Bridge bridgeHolds at hb
  rw [h] at hb
  simp only [Bool.and_eq_true, beq_iff_eq] at hb
  obtain ⟨⟨h1, h2⟩, h3⟩ := hb
  refine ⟨h1, ?_, h3⟩
  cases hm : morphsOf (analyseNew v lv D m s text).1 with
  | none => rw [hm] at h2; cases h2
  | some ms => rw [hm] at h2; rw [rangesEq_eq ms r.morphs h2]

theorem bridge_class (v : Total.SplitV) (lv : EditM.LenV) (D : Dict) (m : Mode) (s : Subset) (text : List Nat)
    (hb : Bridge v lv D m s text) :
    (analyseNew v lv D m s text).2 = classOf (Total.tokenize v lv (D.cfg m s) text) := by
  unfold Bridge bridgeHolds at hb
  cases ht : Total.tokenize v lv (D.cfg m s) text with
  | ok r =>
    rw [ht] at hb
    simp only [Bool.and_eq_true, beq_iff_eq] at hb
    exact hb.1.1
  | err k => rw [ht] at hb; simpa using hb
  | panic w => rw [ht] at hb; simpa using hb

/-- above `MAX_LENGTH` the bridge holds for every configuration: both models answer `InputTooLong` at `start_build` -/
theorem bridge_tooLong (v : Total.SplitV) (lv : EditM.LenV) (D : Dict) (m : Mode) (s : Subset) (text : List Nat)
    (h : text.length > EditM.MAX_LENGTH) : Bridge v lv D m s text := by
  unfold Bridge bridgeHolds
  rw [Total.tokenize_tooLong v lv _ text h]
  have ha : (analyseNew v lv D m s text).2 = .err .tooLong := by
    unfold analyseNew Tok.analyse Tok.doTokenize Input.prepare
    rw [Input.startBuild_tooLong]
    show (([] : List Elem) ++ text.map Elem.nat).length > EditM.MAX_LENGTH
    simpa using h
  show ((analyseNew v lv D m s text).2 == classOf (Oov.Outcome.err "TooLong" : Oov.Outcome Total.Result)) = true
  rw [ha]
  decide

theorem ok_of_morphCount {x : Oov.Outcome Total.Result} {n : Nat} (h : Total.morphCount x = some n) : ∃ r, x = .ok r := by
  cases x with
  | ok r => exact ⟨r, rfl⟩
  | err k => cases h
  | panic w => cases h

/-- what a caller reads from result list `j`, as `Total`-level data: the morphemes (node ranges) and the offset tables
of the input buffer the list refers to -/
def report (w : World Elem) (j : Nat) : Option (List Total.NodeRange × List (EditM.P Nat)) :=
  (World.result id w j).map (fun r => (rns r.1, tablesOf r.2))

theorem report_analyse_collect (rv : ResetVariant) (P : Payload Elem) (w : World Elem) (text : List Elem) (j : Nat)
    (path : List Elem) (hj : j < w.lists.length) (hok : ListsOk w) (hp : (w.tok.analyse rv P text).1.topPath = some path) :
    ((w.step rv P (.analyse text)).1.collect j).2 = .ok ∧
    report ((w.step rv P (.analyse text)).1.collect j).1 j = some (rns path, tablesOf (w.tok.analyse rv P text).1.input) := by
  obtain ⟨h1, h2⟩ := analyse_collect_result rv id P w text j path hj hok hp
  refine ⟨h1, ?_⟩
  unfold report
  rw [h2, List.map_id]
  rfl

theorem freshFor_eq_newTok (m : Mode) (req : Option Subset) :
    Tok.freshFor (E := Elem) m req = newTok m (freshSubset m req) := by
  rw [← freshFor_eq m req, freshSubset_eq]
  rfl

theorem run_vs_new (v : Total.SplitV) (lv : EditM.LenV) (D : Dict) (m0 : Mode) (ops : List (Payload Elem × Op Elem))
    (text : List Nat)
    (hfree : ∀ s, Subset.le (freshSubset ((World.init m0).run .fix ops).tok.mode ((World.init m0).run .fix ops).request)
        s.normalize = true →
      RewriteFree D s (freshSubset ((World.init m0).run .fix ops).tok.mode ((World.init m0).run .fix ops).request)) :
    let w := (World.init m0).run .fix ops
    let new := analyseNew v lv D w.tok.mode (freshSubset w.tok.mode w.request) text
    (w.tok.analyse .fix (payload v lv D) (text.map .nat)).2 = new.2 ∧
    ((w.tok.analyse .fix (payload v lv D) (text.map .nat)).2 = .ok →
      ObsP (id : Elem → Elem) (w.tok.analyse .fix (payload v lv D) (text.map .nat)).1 new.1) := by
  intro w new
  have hinv := (run_inv .fix ops _ (WInv.init m0)).1
  have hcov := run_covers .fix ops _ (Covers.init (E := Elem) m0)
  have h := analyse_vs_freshFor (payload v lv D) (id : Elem → Elem) w.tok w.request (text.map .nat) hinv
    (payload_offsetsInRange .fix v lv D _ _)
    (by rw [freshSubset_eq]; exact payload_fieldsFree v lv D id _ _ (hfree w.tok.subset hcov))
  rw [freshFor_eq_newTok] at h
  exact h

end RecycleTotal
