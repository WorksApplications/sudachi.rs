import Sudachi.Model.Edit
/-!
# Proofs about `resolve_edits` and the offset tables (C01, C08)

`resolve_edits` is read without its accumulator (`go_cons`): the new map is the untouched slices of
the old one and the entries of the replacements, in order.  Hence a batch keeps the map monotone and
keeps sending character boundaries of the rewritten text to character boundaries of the original
(`Inv`, kept by `commit`).  The rest is what the offset tables need besides: the identity map, the
surfaces that a monotone map cuts out of the original, character starts and counts, and the three tables `mod_c2b`,
`mod_b2c`, `fill_orig_b2c`, each specified pointwise in one vocabulary, the number of character starts of a prefix
(`c2b_getElem?`, `b2c_getElem?`, `origB2C_counts`); last the length guards.
-/
namespace EditM

variable {α β : Type}

/-! ### edits in order; slices; the values of a non-decreasing map; what `add_replace` writes -/

def Mono (l : List Nat) : Prop := l.Pairwise (· ≤ ·)

/-- edits sorted, non-overlapping, inside the text (`n` = text length = index of the sentinel) -/
def EditsOk (n : Nat) : Nat → List (Edit β) → Prop
  | start, [] => start ≤ n
  | start, ed :: es => start ≤ ed.s ∧ ed.s ≤ ed.e ∧ ed.e ≤ n ∧ EditsOk n ed.e es

theorem editsOk_mem {n : Nat} {es : List (Edit β)} : ∀ {start : Nat}, EditsOk n start es →
    ∀ ed ∈ es, ed.s ≤ ed.e ∧ ed.e ≤ n := by
  induction es with
  | nil => exact fun _ _ h => nomatch h
  | cons e es ih =>
    intro start h ed hed
    rcases List.mem_cons.mp hed with rfl | hed
    · exact ⟨h.2.1, h.2.2.1⟩
    · exact ih h.2.2.2 ed hed

theorem slice_sublist (l : List α) (a b : Nat) : (slice l a b).Sublist l :=
  (List.take_sublist _ _).trans (List.drop_sublist _ _)

theorem slice_append_drop (l : List α) {a b : Nat} (hab : a ≤ b) : slice l a b ++ l.drop b = l.drop a := by
  have h : l.drop b = (l.drop a).drop (b - a) := by rw [List.drop_drop, Nat.add_sub_of_le hab]
  rw [h]; exact List.take_append_drop _ _

theorem slice_append_slice (o : List α) {a b c : Nat} (hab : a ≤ b) (hbc : b ≤ c) :
    slice o a b ++ slice o b c = slice o a c := by
  unfold slice
  rw [← Nat.sub_add_sub_cancel hbc hab, Nat.add_comm, List.take_add, List.drop_drop, Nat.add_sub_of_le hab]

theorem slice_self (o : List α) (a : Nat) : slice o a a = [] := by
  unfold slice; rw [Nat.sub_self]; rfl

theorem slice_all (o : List α) : slice o 0 o.length = o := List.take_length

theorem slice_length (l : List α) (a b : Nat) (hb : b ≤ l.length) : (slice l a b).length = b - a := by
  unfold slice
  rw [List.length_take, List.length_drop]; exact Nat.min_eq_left (Nat.sub_le_sub_right hb a)

theorem nil_or_concat (l : List α) : l = [] ∨ ∃ a p, l = a ++ [p] := by
  simpa only [List.concat_eq_append] using List.eq_nil_or_concat l

theorem valAt_eq (l : List (P β)) (i : Nat) (h : i < l.length) : valAt l i = (l[i]).2 := by
  unfold valAt; rw [List.getElem?_eq_getElem h]; rfl

theorem snds_append (a b : List (P β)) : snds (a ++ b) = snds a ++ snds b := List.map_append

theorem snds_drop {l : List (P β)} {i : Nat} (h : i < l.length) :
    snds (l.drop i) = valAt l i :: snds (l.drop (i + 1)) := by
  rw [List.drop_eq_getElem_cons h, valAt_eq l i h]; rfl

theorem mono_sublist {l l' : List (P β)} (hm : Mono (snds l)) (h : l'.Sublist l) : Mono (snds l') :=
  List.Pairwise.sublist (h.map _) hm

theorem mono_valAt {l : List (P β)} (hm : Mono (snds l)) {i j : Nat} (hij : i ≤ j) (hj : j < l.length) :
    valAt l i ≤ valAt l j := by
  rw [valAt_eq l i (Nat.lt_of_le_of_lt hij hj), valAt_eq l j hj]
  rcases Nat.lt_or_eq_of_le hij with h | rfl
  · exact List.pairwise_iff_getElem.mp (List.pairwise_map.mp hm) i j _ hj h
  · exact Nat.le_refl _

theorem valAt_le_of_mem_drop {l : List (P β)} (hm : Mono (snds l)) {i x : Nat} (hx : x ∈ snds (l.drop i)) :
    valAt l i ≤ x := by
  rcases Nat.lt_or_ge i l.length with hi | hi
  · have hd := mono_sublist hm (List.drop_sublist i l)
    rw [snds_drop hi] at hx hd
    rcases List.mem_cons.mp hx with rfl | hx
    · exact Nat.le_refl _
    · exact List.rel_of_pairwise_cons hd hx
  · rw [List.drop_of_length_le hi] at hx; cases hx

theorem slice_between {l : List (P β)} (hm : Mono (snds l)) {a b : Nat} (hab : a ≤ b) (hb : b < l.length) :
    ∀ x ∈ snds (slice l a b), valAt l a ≤ x ∧ x ≤ valAt l b := by
  intro x hx
  have hd := mono_sublist hm (List.drop_sublist a l)
  rw [← slice_append_drop l hab, snds_append, snds_drop hb] at hd
  exact ⟨valAt_le_of_mem_drop hm (((List.take_sublist _ _).map _).subset hx),
    (List.pairwise_append.mp hd).2.2 x hx _ List.mem_cons_self⟩

theorem snds_repl (l : List (P β)) (ed : Edit β) :
    snds (repl l ed) = match ed.w with
      | [] => []
      | _ :: bs => valAt l ed.s :: List.replicate bs.length (valAt l ed.e) := by
  unfold repl snds
  cases ed.w with
  | nil => rfl
  | cons b bs => simp only [List.map_cons, List.map_map, Function.comp_def, List.map_const']

theorem repl_nil_of_w (l : List (P β)) (ed : Edit β) (h : ed.w = []) : repl l ed = [] := by
  unfold repl; rw [h]

theorem repl_between {l : List (P β)} (hm : Mono (snds l)) (ed : Edit β) (hse : ed.s ≤ ed.e) (he : ed.e < l.length) :
    Mono (snds (repl l ed)) ∧ ∀ x ∈ snds (repl l ed), valAt l ed.s ≤ x ∧ x ≤ valAt l ed.e := by
  have hle := mono_valAt hm hse he
  rw [snds_repl]
  cases ed.w with
  | nil => exact ⟨List.Pairwise.nil, fun _ h => nomatch h⟩
  | cons b bs =>
    refine ⟨List.pairwise_cons.mpr ⟨fun y hy => ?_, List.pairwise_replicate.mpr (Or.inr (Nat.le_refl _))⟩,
      fun x hx => ?_⟩
    · rw [(List.mem_replicate.mp hy).2]; exact hle
    · rcases List.mem_cons.mp hx with rfl | hx
      · exact ⟨Nat.le_refl _, hle⟩
      · rw [(List.mem_replicate.mp hx).2]; exact ⟨hle, Nat.le_refl _⟩

theorem mono_append_above {xs ys : List Nat} {lo mid : Nat} (hxs : Mono xs) (hb : ∀ x ∈ xs, lo ≤ x ∧ x ≤ mid)
    (hlm : lo ≤ mid) (hys : Mono ys ∧ ∀ y ∈ ys, mid ≤ y) : Mono (xs ++ ys) ∧ ∀ z ∈ xs ++ ys, lo ≤ z :=
  ⟨List.pairwise_append.mpr ⟨hxs, hys.1, fun x hx y hy => Nat.le_trans (hb x hx).2 (hys.2 y hy)⟩,
   fun z hz => (List.mem_append.mp hz).elim (fun h => (hb z h).1) (fun h => Nat.le_trans hlm (hys.2 z h))⟩

/-! ### the loop of `resolve_edits` without its accumulator; one batch keeps the map monotone -/

theorem go_acc (l : List (P β)) (es : List (Edit β)) : ∀ (start : Nat) (acc : List (P β)),
    go l start es acc = acc ++ go l start es [] := by
  induction es with
  | nil => exact fun _ _ => rfl
  | cons ed es ih =>
    intro start acc
    rw [go, ih, go, ih _ ([] ++ _ ++ _)]
    simp only [List.nil_append, List.append_assoc]

theorem go_cons (l : List (P β)) (start : Nat) (ed : Edit β) (es : List (Edit β)) :
    go l start (ed :: es) [] = slice l start ed.s ++ (repl l ed ++ go l ed.e es []) := by
  rw [go, go_acc, List.nil_append, List.append_assoc]

theorem go_mono (l : List (P β)) (n : Nat) (hn : n + 1 = l.length) (hm : Mono (snds l)) (es : List (Edit β)) :
    ∀ (start : Nat), EditsOk n start es →
      Mono (snds (go l start es [])) ∧ ∀ x ∈ snds (go l start es []), valAt l start ≤ x := by
  induction es with
  | nil => exact fun start _ => ⟨mono_sublist hm (List.drop_sublist _ _), fun _ hx => valAt_le_of_mem_drop hm hx⟩
  | cons ed es ih =>
    intro start ⟨h1, h2, h3, h4⟩
    have he : ed.e < l.length := hn ▸ Nat.lt_succ_of_le h3
    have hs : ed.s < l.length := Nat.lt_of_le_of_lt h2 he
    have hr := repl_between hm ed h2 he
    rw [go_cons, snds_append, snds_append]
    exact mono_append_above (mono_sublist hm (slice_sublist _ _ _)) (slice_between hm h1 hs) (mono_valAt hm h1 hs)
      (mono_append_above hr.1 hr.2 (mono_valAt hm h2 he) (ih ed.e h4))

theorem mono_force0 (l : List (P β)) (h : Mono (snds l)) : Mono (snds (force0 l)) := by
  cases l with
  | nil => exact h
  | cons p r => exact List.pairwise_cons.mpr ⟨fun _ _ => Nat.zero_le _, (List.pairwise_cons.mp h).2⟩

theorem resolve_mono (l : List (P β)) (n : Nat) (hn : n + 1 = l.length) (hm : Mono (snds l))
    (es : List (Edit β)) (hok : EditsOk n 0 es) : Mono (snds (resolve l es)) :=
  mono_force0 _ (go_mono l n hn hm es 0 hok).1

/-! ### character boundaries are sent to character boundaries -/

variable (st : β → Bool) (Bo : Nat → Prop)

/-- a map entry that is the sentinel or a first byte of a character has its original offset on a
boundary -/
def Q (p : P β) : Prop := match p.1 with
  | some b => st b = true → Bo p.2
  | none => Bo p.2

/-- the entry is the sentinel or a first byte of a character -/
def isB (p : P β) : Prop := match p.1 with
  | some b => st b = true
  | none => True

/-- both ends of every edit, where they are indices of the map, sit on such entries -/
def EditsB (l : List (P β)) (es : List (Edit β)) : Prop :=
  ∀ ed ∈ es, (∀ h : ed.s < l.length, isB st l[ed.s]) ∧ (∀ h : ed.e < l.length, isB st l[ed.e])

theorem bo_of_boundary (l : List (P β)) (hq : ∀ p ∈ l, Q st Bo p) (i : Nat) (hi : i < l.length)
    (hb : isB st l[i]) : Bo (valAt l i) := by
  rw [valAt_eq l i hi]
  have := hq l[i] (List.getElem_mem hi)
  unfold Q at this; unfold isB at hb
  cases h : (l[i]).1 with
  | none => rwa [h] at this
  | some b => rw [h] at this hb; exact this hb

theorem mem_repl {l : List (P β)} {ed : Edit β} {p : P β} (h : p ∈ repl l ed) :
    ∃ c ∈ ed.w, p.1 = some c ∧ (p.2 = valAt l ed.s ∨ p.2 = valAt l ed.e) := by
  unfold repl at h
  cases hw : ed.w with
  | nil => rw [hw] at h; cases h
  | cons b bs =>
    rw [hw] at h
    rcases List.mem_cons.mp h with rfl | h
    · exact ⟨b, List.mem_cons_self, rfl, Or.inl rfl⟩
    · obtain ⟨c, hc, rfl⟩ := List.mem_map.mp h
      exact ⟨c, List.mem_cons_of_mem _ hc, rfl, Or.inr rfl⟩

theorem q_repl (l : List (P β)) (ed : Edit β) (hs : Bo (valAt l ed.s)) (he : Bo (valAt l ed.e)) :
    ∀ p ∈ repl l ed, Q st Bo p := by
  intro p hp
  obtain ⟨c, _, h1, h2⟩ := mem_repl hp
  unfold Q; rw [h1]
  rcases h2 with h2 | h2 <;> rw [h2] <;> intro _ <;> assumption

theorem go_mem (l : List (P β)) (es : List (Edit β)) : ∀ (start : Nat) (p : P β),
    p ∈ go l start es [] → p ∈ l ∨ ∃ ed ∈ es, p ∈ repl l ed := by
  induction es with
  | nil => exact fun _ _ hp => Or.inl (List.mem_of_mem_drop hp)
  | cons ed es ih =>
    intro start p hp
    rw [go_cons] at hp
    rcases List.mem_append.mp hp with h | h
    · exact Or.inl ((slice_sublist _ _ _).subset h)
    · rcases List.mem_append.mp h with h | h
      · exact Or.inr ⟨ed, List.mem_cons_self, h⟩
      · exact (ih ed.e p h).imp_right fun ⟨ed', h1, h2⟩ => ⟨ed', List.mem_cons_of_mem _ h1, h2⟩

theorem mem_force0 (a : List (P β)) (p : P β) (h : p ∈ force0 a) : p ∈ a ∨ p.2 = 0 := by
  cases a with
  | nil => exact Or.inl h
  | cons q r =>
    rcases List.mem_cons.mp h with rfl | h
    · exact Or.inr rfl
    · exact Or.inl (List.mem_cons_of_mem _ h)

theorem resolve_mem (l : List (P β)) (es : List (Edit β)) (p : P β) (h : p ∈ resolve l es) :
    p ∈ l ∨ p.2 = 0 ∨ ∃ ed ∈ es, p ∈ repl l ed := by
  rcases mem_force0 _ p h with h | h
  · exact (go_mem l es 0 p h).imp_right Or.inr
  · exact Or.inr (Or.inl h)

theorem q_force0 (l : List (P β)) (h0 : Bo 0) (h : ∀ p ∈ l, Q st Bo p) : ∀ p ∈ force0 l, Q st Bo p := by
  cases l with
  | nil => exact h
  | cons p r =>
    obtain ⟨b, v⟩ := p
    intro q hqm
    rcases List.mem_cons.mp hqm with rfl | hqm
    · cases b with
      | none => exact h0
      | some b => exact fun _ => h0
    · exact h q (List.mem_cons_of_mem _ hqm)

theorem resolve_boundaries (l : List (P β)) (n : Nat) (hn : n + 1 = l.length)
    (hq : ∀ p ∈ l, Q st Bo p) (h0 : Bo 0)
    (es : List (Edit β)) (hok : EditsOk n 0 es) (hb : EditsB st l es) :
    ∀ p ∈ resolve l es, Q st Bo p :=
  q_force0 st Bo _ h0 fun p hp => by
    rcases go_mem l es 0 p hp with h | ⟨ed, hed, h⟩
    · exact hq p h
    · obtain ⟨h1, h2⟩ := editsOk_mem hok ed hed
      have he : ed.e < l.length := hn ▸ Nat.lt_succ_of_le h2
      have hs : ed.s < l.length := Nat.lt_of_le_of_lt h1 he
      exact q_repl st Bo l ed (bo_of_boundary st Bo l hq ed.s hs ((hb ed hed).1 hs))
        (bo_of_boundary st Bo l hq ed.e he ((hb ed hed).2 he)) p h

/-! ### shape: text bytes followed by exactly one sentinel entry, which keeps its value -/

def AllSome (l : List (P β)) : Prop := ∀ p ∈ l, p.1.isSome = true

def Shape (N : Nat) (l : List (P β)) : Prop := ∃ body, l = body ++ [(none, N)] ∧ AllSome body

theorem allSome_append {a b : List (P β)} (ha : AllSome a) (hb : AllSome b) : AllSome (a ++ b) :=
  fun p hp => (List.mem_append.mp hp).elim (ha p) (hb p)

theorem allSome_repl (l : List (P β)) (ed : Edit β) : AllSome (repl l ed) := fun p hp => by
  obtain ⟨c, _, h, _⟩ := mem_repl hp
  rw [h]; rfl

theorem slice_body {body : List (P β)} {s : P β} {a b : Nat} (hb : b ≤ body.length) :
    slice (body ++ [s]) a b = slice body a b := by
  unfold slice
  by_cases h : a ≤ b
  · rw [List.drop_append_of_le_length (Nat.le_trans h hb), List.take_append_of_le_length]
    rw [List.length_drop]; exact Nat.sub_le_sub_right hb a
  · rw [Nat.sub_eq_zero_of_le (Nat.le_of_not_le h)]; rfl

theorem allSome_slice {body : List (P β)} (h : AllSome body) (a b : Nat) : AllSome (slice body a b) :=
  fun p hp => h p ((slice_sublist _ _ _).subset hp)

theorem go_shape (N : Nat) (body : List (P β)) (hb : AllSome body) (es : List (Edit β)) :
    ∀ (start : Nat), EditsOk body.length start es →
      ∃ body', go (body ++ [(none, N)]) start es [] = body' ++ [(none, N)] ∧ AllSome body' := by
  induction es with
  | nil =>
    exact fun start hok =>
      ⟨body.drop start, List.drop_append_of_le_length hok, fun p hp => hb p (List.mem_of_mem_drop hp)⟩
  | cons ed es ih =>
    intro start ⟨h1, h2, h3, h4⟩
    obtain ⟨body', e, hs⟩ := ih ed.e h4
    refine ⟨slice body start ed.s ++ (repl (body ++ [(none, N)]) ed ++ body'), ?_,
      allSome_append (allSome_slice hb _ _) (allSome_append (allSome_repl _ _) hs)⟩
    rw [go_cons, e, slice_body (Nat.le_trans h2 h3), List.append_assoc, List.append_assoc]

theorem force0_append {a : List (P β)} (ha : a ≠ []) (b : List (P β)) :
    force0 (a ++ b) = force0 a ++ b := by
  cases a with
  | nil => exact absurd rfl ha
  | cons p r => rfl

theorem allSome_force0 {a : List (P β)} (h : AllSome a) : AllSome (force0 a) := by
  cases a with
  | nil => exact h
  | cons p r =>
    intro q hq
    rcases List.mem_cons.mp hq with rfl | hq
    · exact h p List.mem_cons_self
    · exact h q (List.mem_cons_of_mem _ hq)

theorem textOf_append (a b : List (P β)) : textOf (a ++ b) = textOf a ++ textOf b :=
  List.filterMap_append

theorem textOf_force0 (a : List (P β)) : textOf (force0 a) = textOf a := by
  cases a with
  | nil => rfl
  | cons p r => rfl

/-- a list whose entries all carry a byte is its text paired with values: the first components ARE the text -/
theorem allSome_fsts {a : List (P β)} (h : AllSome a) : a.map (·.1) = (textOf a).map some := by
  induction a with
  | nil => rfl
  | cons p r ih =>
    obtain ⟨x, v⟩ := p
    cases x with
    | none => exact nomatch h _ List.mem_cons_self
    | some b => exact congrArg (some b :: ·) (ih fun q hq => h q (List.mem_cons_of_mem _ hq))

/-- … and the text is read off the first components: what `take`, `drop`, `repl` do to them they do to the text -/
theorem textOf_of_fsts {a : List (P β)} {t : List β} (h : a.map (·.1) = t.map some) : textOf a = t := by
  rw [show textOf a = (a.map (·.1)).filterMap id from (List.filterMap_map (g := id)).symm, h, List.filterMap_map]
  exact List.filterMap_some

theorem textOf_allSome_length {a : List (P β)} (h : AllSome a) : (textOf a).length = a.length := by
  have := congrArg List.length (allSome_fsts h)
  rwa [List.length_map, List.length_map, eq_comm] at this

theorem textOf_shape {N : Nat} {body : List (P β)} :
    textOf (body ++ [(none, N)]) = textOf body := by
  rw [textOf_append]; exact List.append_nil _

theorem resolve_shape (N : Nat) (l : List (P β)) (hs : Shape N l)
    (es : List (Edit β)) (hok : EditsOk (l.length - 1) 0 es) (hne : textOf (resolve l es) ≠ []) :
    Shape N (resolve l es) := by
  obtain ⟨body, rfl, hb⟩ := hs
  rw [List.length_append, List.length_singleton, Nat.add_sub_cancel] at hok
  obtain ⟨body', h1, h2⟩ := go_shape N body hb es 0 hok
  unfold resolve at hne ⊢
  rw [h1] at hne ⊢
  have hne' : body' ≠ [] := by rintro rfl; exact hne rfl
  exact ⟨force0 body', force0_append hne' _, allSome_force0 h2⟩

/-! ### the invariant of the offset map, kept by one batch -/

/-- What `m2o` satisfies between edit batches.  `N` = length of the original text, `st` marks
first bytes of characters, `Bo` = "is a character boundary of the original text". -/
structure Inv (st : β → Bool) (Bo : Nat → Prop) (N : Nat) (l : List (P β)) : Prop where
  shape : Shape N l
  nonempty : textOf l ≠ []
  mono : Mono (snds l)
  bnd : ∀ p ∈ l, Q st Bo p
  first : valAt l 0 = 0

theorem valAt_force0_zero (a : List (P β)) (h : a ≠ []) : valAt (force0 a) 0 = 0 := by
  cases a with
  | nil => exact absurd rfl h
  | cons p r => rfl

theorem valAt_resolve_zero {l : List (P β)} {es : List (Edit β)} (h : resolve l es ≠ []) :
    valAt (resolve l es) 0 = 0 :=
  valAt_force0_zero _ fun hnil => h (congrArg force0 hnil)

theorem shape_length {N : Nat} {l : List (P β)} (h : Shape N l) : (textOf l).length + 1 = l.length := by
  obtain ⟨body, rfl, hb⟩ := h
  rw [textOf_shape, textOf_allSome_length hb, List.length_append]; rfl

theorem shape_ne_nil {N : Nat} {l : List (P β)} (h : Shape N l) : l ≠ [] := by
  obtain ⟨body, rfl, _⟩ := h
  exact List.append_ne_nil_of_right_ne_nil _ (List.cons_ne_nil _ _)

theorem resolve_inv (st : β → Bool) (Bo : Nat → Prop) (N : Nat) (h0 : Bo 0) (l : List (P β))
    (hi : Inv st Bo N l) (es : List (Edit β)) (hok : EditsOk (l.length - 1) 0 es)
    (hb : EditsB st l es) (hne : textOf (resolve l es) ≠ []) : Inv st Bo N (resolve l es) := by
  have hn : (l.length - 1) + 1 = l.length := Nat.sub_add_cancel (List.length_pos_iff.mpr (shape_ne_nil hi.shape))
  exact ⟨resolve_shape N l hi.shape es hok hne, hne, resolve_mono l _ hn hi.mono es hok,
    resolve_boundaries st Bo l _ hn hi.bnd h0 es hok hb,
    valAt_resolve_zero fun hnil => hne (congrArg textOf hnil)⟩

/-! ### `commit`: any number of batches, either length guard; what the invariant gives -/

/-- each batch is admissible (`EditsOk`, `EditsB`) for the buffer it is applied to, i.e. the result of the batches before it, and
leaves a non-empty text -/
def BatchesOk (st : β → Bool) : List (P β) → List (List (Edit β)) → Prop
  | _, [] => True
  | l, es :: rest =>
    EditsOk (l.length - 1) 0 es ∧ EditsB st l es ∧ textOf (resolve l es) ≠ [] ∧ BatchesOk st (resolve l es) rest

theorem resolve_nil (l : List (P β)) (h : valAt l 0 = 0) (hne : l ≠ []) : resolve l [] = l := by
  cases l with
  | nil => exact absurd rfl hne
  | cons p r => exact congrArg (fun v => (p.1, v) :: r) h.symm

theorem commitV_running (l : List (P β)) (es : List (Edit β)) : commitV .running l es = commit l es := rfl

theorem commitAllV_running (bs : List (List (Edit β))) : ∀ (l : List (P β)),
    commitAllV .running l bs = commitAll l bs := by
  induction bs with
  | nil => exact fun _ => rfl
  | cons es rest ih =>
    intro l
    unfold commitAllV commitAll
    rw [commitV_running]
    cases commit l es with
    | none => rfl
    | some l1 => exact ih l1

theorem commitV_cons (lv : LenV) (l : List (P β)) (ed : Edit β) (es : List (Edit β)) :
    commitV lv l (ed :: es) =
      if lenGuard lv REALLY_MAX_LENGTH ((l.length : Int) - 1) (ed :: es) then some (resolve l (ed :: es)) else none :=
  rfl

/-- `h0`, `hne`: `commit` returns the buffer untouched for an EMPTY batch, while `resolve l []` forces the first entry to 0 -/
theorem commitV_eq_resolve (lv : LenV) (l : List (P β)) (es : List (Edit β)) (l' : List (P β))
    (h0 : valAt l 0 = 0) (hne : l ≠ []) (h : commitV lv l es = some l') : l' = resolve l es := by
  cases es with
  | nil => rw [resolve_nil l h0 hne]; exact (Option.some.inj h).symm
  | cons ed es =>
    rw [commitV_cons] at h
    by_cases hg : lenGuard lv REALLY_MAX_LENGTH ((l.length : Int) - 1) (ed :: es) = true
    · rw [if_pos hg] at h; exact (Option.some.inj h).symm
    · rw [if_neg hg] at h; cases h

theorem commit_eq_resolve (l : List (P β)) (es : List (Edit β)) (l' : List (P β))
    (h0 : valAt l 0 = 0) (hne : l ≠ []) (h : commit l es = some l') : l' = resolve l es :=
  commitV_eq_resolve .running l es l' h0 hne h

theorem commitAllV_cons {lv : LenV} {l l' : List (P β)} {es : List (Edit β)} {rest : List (List (Edit β))}
    (h0 : valAt l 0 = 0) (hne : l ≠ []) (h : commitAllV lv l (es :: rest) = some l') :
    commitAllV lv (resolve l es) rest = some l' := by
  unfold commitAllV at h
  cases hc : commitV lv l es with
  | none => rw [hc] at h; cases h
  | some l1 => rw [hc] at h; rw [← commitV_eq_resolve lv l es l1 h0 hne hc]; exact h

theorem commitAllV_inv (lv : LenV) (st : β → Bool) (Bo : Nat → Prop) (N : Nat) (h0 : Bo 0)
    (bs : List (List (Edit β))) : ∀ (l l' : List (P β)), Inv st Bo N l → BatchesOk st l bs →
      commitAllV lv l bs = some l' → Inv st Bo N l' := by
  induction bs with
  | nil => exact fun _ _ hi _ h => Option.some.inj h ▸ hi
  | cons es rest ih =>
    exact fun l l' hi ⟨h1, h2, h3, h4⟩ h =>
      ih _ l' (resolve_inv st Bo N h0 l hi es h1 h2 h3) h4 (commitAllV_cons hi.first (shape_ne_nil hi.shape) h)

theorem commitAll_inv (st : β → Bool) (Bo : Nat → Prop) (N : Nat) (h0 : Bo 0)
    (bs : List (List (Edit β))) (l l' : List (P β)) (hi : Inv st Bo N l) (hok : BatchesOk st l bs)
    (h : commitAll l bs = some l') : Inv st Bo N l' :=
  commitAllV_inv .running st Bo N h0 bs l l' hi hok (by rw [commitAllV_running]; exact h)

theorem inv_length {st : β → Bool} {Bo : Nat → Prop} {N : Nat} {l : List (P β)} (h : Inv st Bo N l) :
    (snds l).length = (textOf l).length + 1 := by
  rw [shape_length h.shape]; exact List.length_map _

theorem inv_last {st : β → Bool} {Bo : Nat → Prop} {N : Nat} {l : List (P β)} (h : Inv st Bo N l) :
    valAt l (textOf l).length = N := by
  obtain ⟨body, rfl, hb⟩ := h.shape
  rw [textOf_shape, textOf_allSome_length hb]
  unfold valAt
  rw [List.getElem?_append_right (Nat.le_refl _), Nat.sub_self]; rfl

theorem inv_le_last {st : β → Bool} {Bo : Nat → Prop} {N : Nat} {l : List (P β)} (h : Inv st Bo N l)
    (i : Nat) (hi : i ≤ (textOf l).length) : valAt l i ≤ N := by
  rw [← inv_last h]
  exact mono_valAt h.mono hi (by rw [← shape_length h.shape]; exact Nat.lt_succ_self _)

theorem inv_boundary {st : β → Bool} {Bo : Nat → Prop} {N : Nat} {l : List (P β)} (h : Inv st Bo N l)
    (i : Nat) (hi : i < l.length) (hb : isB st l[i]) : Bo (valAt l i) :=
  bo_of_boundary st Bo l h.bnd i hi hb

/-! ### where the entries of the final map come from -/

/-- written by a replacement of some batch; `l` is the map that batch is applied to -/
def FromRepl : List (P β) → List (List (Edit β)) → P β → Prop
  | _, [], _ => False
  | l, es :: rest, p => (∃ ed ∈ es, p ∈ repl l ed) ∨ FromRepl (resolve l es) rest p

theorem commitAllV_mem (lv : LenV) (st : β → Bool) (Bo : Nat → Prop) (N : Nat) (h0 : Bo 0)
    (bs : List (List (Edit β))) : ∀ (l l' : List (P β)), Inv st Bo N l → BatchesOk st l bs →
    commitAllV lv l bs = some l' → ∀ p ∈ l', p ∈ l ∨ p.2 = 0 ∨ FromRepl l bs p := by
  induction bs with
  | nil => exact fun _ _ _ _ h p hp => Or.inl (Option.some.inj h ▸ hp)
  | cons es rest ih =>
    intro l l' hi ⟨h1, h2, h3, h4⟩ h p hp
    rcases ih _ l' (resolve_inv st Bo N h0 l hi es h1 h2 h3) h4
      (commitAllV_cons hi.first (shape_ne_nil hi.shape) h) p hp with h5 | h5 | h5
    · exact (resolve_mem l es p h5).imp_right (Or.imp_right Or.inl)
    · exact Or.inr (Or.inl h5)
    · exact Or.inr (Or.inr (Or.inr h5))

theorem commitAll_mem (st : β → Bool) (Bo : Nat → Prop) (N : Nat) (h0 : Bo 0)
    (bs : List (List (Edit β))) (l l' : List (P β)) (hi : Inv st Bo N l) (hok : BatchesOk st l bs)
    (h : commitAll l bs = some l') : ∀ p ∈ l', p ∈ l ∨ p.2 = 0 ∨ FromRepl l bs p :=
  commitAllV_mem .running st Bo N h0 bs l l' hi hok (by rw [commitAllV_running]; exact h)

/-! ### character boundaries of a byte string (`BoOf`); the identity map installed by `start_build` -/

/-- `k` is a character boundary of the byte string `o`: its end, or the offset of a first byte -/
def BoOf (o : List Nat) (k : Nat) : Prop := k = o.length ∨ ∃ h : k < o.length, isStart o[k] = true

theorem identFrom_eq (o : List Nat) (k : Nat) :
    identFrom k o = (o.zipIdx k).map (fun p => (some p.1, p.2)) ++ [(none, k + o.length)] := by
  induction o generalizing k with
  | nil => rfl
  | cons b bs ih => rw [identFrom, ih, List.zipIdx_cons, Nat.add_right_comm]; rfl

theorem ident_shape (o : List Nat) : Shape o.length (identFrom 0 o) :=
  ⟨_, by rw [identFrom_eq, Nat.zero_add], fun p hp => by obtain ⟨q, _, rfl⟩ := List.mem_map.mp hp; rfl⟩

theorem textOf_identFrom (o : List Nat) (k : Nat) : textOf (identFrom k o) = o := by
  induction o generalizing k with
  | nil => rfl
  | cons b bs ih => exact congrArg (b :: ·) (ih (k + 1))

theorem snds_identFrom (o : List Nat) (k : Nat) : snds (identFrom k o) = List.range' k (o.length + 1) := by
  induction o generalizing k with
  | nil => rfl
  | cons b bs ih => rw [List.length_cons, List.range'_succ]; exact congrArg (k :: ·) (ih (k + 1))

theorem ident_mono (o : List Nat) (k : Nat) : Mono (snds (identFrom k o)) := by
  rw [snds_identFrom]; exact List.pairwise_le_range'

theorem ident_mem (o : List Nat) (p : P Nat) (hp : p ∈ identFrom 0 o) :
    p = (none, o.length) ∨ ∃ h : p.2 < o.length, p.1 = some o[p.2] := by
  rw [identFrom_eq, Nat.zero_add] at hp
  rcases List.mem_append.mp hp with hp | hp
  · obtain ⟨⟨b, i⟩, hq, rfl⟩ := List.mem_map.mp hp
    obtain ⟨hlt, hb⟩ := List.mem_zipIdx' hq
    exact Or.inr ⟨hlt, congrArg some hb⟩
  · exact Or.inl (List.mem_singleton.mp hp)

theorem startBuild_some {o : List Nat} {l0 : List (P Nat)} (h : startBuild o = some l0) :
    l0 = identFrom 0 o ∧ ¬ o.length > MAX_LENGTH := by
  unfold startBuild at h
  by_cases hn : o.length > MAX_LENGTH
  · rw [if_pos hn] at h; cases h
  · rw [if_neg hn] at h; exact ⟨(Option.some.inj h).symm, hn⟩

theorem ident_inv (o : List Nat) (hne : o ≠ []) : Inv isStart (BoOf o) o.length (identFrom 0 o) := by
  refine ⟨ident_shape o, by rw [textOf_identFrom]; exact hne, ident_mono o 0, fun p hp => ?_, ?_⟩
  · rcases ident_mem o p hp with rfl | ⟨h, hp1⟩
    · exact Or.inl rfl
    · unfold Q; rw [hp1]; exact fun hst => Or.inr ⟨h, hst⟩
  · cases o with
    | nil => exact absurd rfl hne
    | cons b bs => rfl

/-! ### surfaces: the slices of the original between the images of cut points -/

def pieces {α : Type} (o : List α) : Nat → List Nat → List (List α)
  | _, [] => []
  | a, b :: rest => slice o a b :: pieces o b rest

theorem le_getLast_of_mono (xs : List Nat) (h : xs ≠ []) (hm : Mono xs) : ∀ x ∈ xs, x ≤ xs.getLast h := by
  rcases nil_or_concat xs with rfl | ⟨a, p, rfl⟩
  · exact absurd rfl h
  · intro x hx
    rw [List.getLast_concat]
    rcases List.mem_append.mp hx with hx | hx
    · exact (List.pairwise_append.mp hm).2.2 x hx p List.mem_cons_self
    · exact Nat.le_of_eq (List.mem_singleton.mp hx)

theorem pieces_flatten (o : List α) (qs : List Nat) : ∀ (a : Nat), Mono (a :: qs) →
    (pieces o a qs).flatten = slice o a ((a :: qs).getLast (List.cons_ne_nil _ _)) := by
  induction qs with
  | nil => exact fun a _ => (slice_self o a).symm
  | cons b rest ih =>
    intro a hm
    have hm' := List.pairwise_cons.mp hm
    rw [pieces, List.flatten_cons, ih b hm'.2, List.getLast_cons (List.cons_ne_nil _ _)]
    exact slice_append_slice o (hm'.1 b List.mem_cons_self)
      (le_getLast_of_mono _ _ hm'.2 b List.mem_cons_self)

theorem mono_map_valAt {l : List (P β)} (hm : Mono (snds l)) (cuts : List Nat) (hc : Mono cuts)
    (hlt : ∀ c ∈ cuts, c < l.length) : Mono (cuts.map (valAt l)) :=
  List.pairwise_map.mpr (hc.imp_of_mem fun _ hb hab => mono_valAt hm hab (hlt _ hb))

/-- **Surfaces reproduce the original text.**  `l` is any offset map satisfying the invariant over
the original bytes `o`; `cuts` is any non-decreasing chain of positions of the rewritten text that
starts at 0 and ends at its length (token boundaries).  Then the slices of the original text between
the images of consecutive cuts — the morpheme surfaces — concatenate to the original text. -/
theorem surfaces_concat (st : Nat → Bool) (o : List Nat) (l : List (P Nat))
    (hi : Inv st (BoOf o) o.length l) (cuts : List Nat) (hm : Mono (0 :: cuts))
    (hlast : (0 :: cuts).getLast (by simp) = (textOf l).length) :
    (pieces o 0 (cuts.map (valAt l))).flatten = o := by
  have hlt : ∀ c ∈ 0 :: cuts, c < l.length := fun c hc => by
    have hle := le_getLast_of_mono _ (List.cons_ne_nil _ _) hm c hc
    rw [hlast] at hle
    rw [← shape_length hi.shape]; exact Nat.lt_succ_of_le hle
  have hmv := mono_map_valAt hi.mono (0 :: cuts) hm hlt
  have hl : ((0 :: cuts).map (valAt l)).getLast (List.cons_ne_nil _ _) = o.length := by
    rw [List.getLast_map, hlast]; exact inv_last hi
  simp only [List.map_cons, hi.first] at hmv hl
  rw [pieces_flatten o _ 0 hmv, hl, slice_all]

/-! ### character counts; `mod_c2b` pointwise, through the number of character starts of a prefix -/

theorem isStart_iff (b : Nat) : isStart b = true ↔ b < 0x80 ∨ 0xC0 ≤ b := by
  unfold isStart
  rw [bne_iff_ne, Nat.ne_iff_lt_or_gt, Nat.div_lt_iff_lt_mul (by decide), Nat.lt_iff_add_one_le (m := 2),
    Nat.le_div_iff_mul_le (by decide)]

theorem nchars_cons (b : Nat) (bs : List Nat) :
    nchars (b :: bs) = (if isStart b = true then 1 else 0) + nchars bs := by
  unfold nchars
  rw [List.filter_cons]
  by_cases hb : isStart b = true
  · rw [if_pos hb, if_pos hb]; exact Nat.add_comm _ 1
  · rw [if_neg hb, if_neg hb, Nat.zero_add]

theorem nchars_append (a b : List Nat) : nchars (a ++ b) = nchars a + nchars b := by
  unfold nchars; rw [List.filter_append, List.length_append]

theorem nchars_pos_of (o : List Nat) (hne : o ≠ []) (h0 : BoOf o 0) : 0 < nchars o := by
  cases o with
  | nil => exact absurd rfl hne
  | cons b bs =>
    rcases h0 with h | ⟨_, h⟩
    · cases h
    · have h : isStart b = true := h
      rw [nchars_cons, if_pos h]; exact Nat.le_add_right 1 _

theorem BoOf.le {t : List Nat} {i : Nat} (h : BoOf t i) : i ≤ t.length :=
  h.elim Nat.le_of_eq fun h => Nat.le_of_lt h.1

theorem take_eq_take_append_slice {α : Type} (o : List α) {a b : Nat} (hab : a ≤ b) :
    o.take b = o.take a ++ slice o a b := by
  unfold slice; rw [← List.take_add, Nat.add_sub_of_le hab]

theorem nchars_slice (o : List Nat) {a b : Nat} (hab : a ≤ b) :
    nchars (slice o a b) = nchars (o.take b) - nchars (o.take a) := by
  rw [take_eq_take_append_slice o hab, nchars_append, Nat.add_sub_cancel_left]

theorem nchars_take_mono (o : List Nat) {a b : Nat} (hab : a ≤ b) : nchars (o.take a) ≤ nchars (o.take b) := by
  rw [take_eq_take_append_slice o hab, nchars_append]; exact Nat.le_add_right _ _

theorem nchars_take_le (t : List Nat) (j : Nat) : nchars (t.take j) ≤ nchars t :=
  ((List.take_sublist j t).filter _).length_le

theorem c2bFrom_length (t : List Nat) (k : Nat) : (c2bFrom k t).length = nchars t := by
  induction t generalizing k with
  | nil => rfl
  | cons b bs ih =>
    rw [c2bFrom, nchars_cons, ← ih (k + 1)]
    by_cases hb : isStart b = true
    · rw [if_pos hb, if_pos hb]; exact Nat.add_comm _ 1
    · rw [if_neg hb, if_neg hb, Nat.zero_add]

theorem c2b_length (t : List Nat) : (c2b t).length = nchars t + 1 := by
  unfold c2b; rw [List.length_append, c2bFrom_length]; rfl

/-- entry `i` of `mod_c2b` (without the sentinel) is the offset of a character start with `i` character starts before it -/
theorem c2bFrom_getElem_start (t : List Nat) : ∀ (k i x : Nat), (c2bFrom k t)[i]? = some x →
    ∃ j, x = k + j ∧ nchars (t.take j) = i ∧ ∃ h : j < t.length, isStart t[j] = true := by
  induction t with
  | nil => exact fun _ _ _ h => nomatch h
  | cons b bs ih =>
    intro k i x h
    -- an entry of the tail's table: the same start, one byte further on, with `b` counted before it if `b` is a start
    have step : ∀ i', (c2bFrom (k + 1) bs)[i']? = some x → ∃ j, x = k + j ∧
        nchars ((b :: bs).take j) = (if isStart b = true then 1 else 0) + i' ∧
        ∃ h : j < (b :: bs).length, isStart (b :: bs)[j] = true := fun i' h' => by
      obtain ⟨j, rfl, hn, hlt, hst⟩ := ih (k + 1) i' x h'
      exact ⟨j + 1, Nat.add_right_comm k 1 j, by rw [List.take_succ_cons, nchars_cons, hn], Nat.succ_lt_succ hlt, hst⟩
    unfold c2bFrom at h
    by_cases hb : isStart b = true
    · rw [if_pos hb] at h
      cases i with
      | zero => cases h; exact ⟨0, rfl, rfl, Nat.succ_pos _, hb⟩
      | succ i' => have := step i' h; rwa [if_pos hb, Nat.add_comm] at this
    · rw [if_neg hb] at h
      have := step i h; rwa [if_neg hb, Nat.zero_add] at this

theorem c2bFrom_nchars_take (t : List Nat) : ∀ (k b : Nat) (h : b < t.length), isStart t[b] = true →
    (c2bFrom k t)[nchars (t.take b)]? = some (k + b) := by
  induction t with
  | nil => exact fun _ _ h => absurd h (Nat.not_lt_zero _)
  | cons x xs ih =>
    intro k b h hst
    unfold c2bFrom
    cases b with
    | zero =>
      have hst : isStart x = true := hst
      rw [if_pos hst]; rfl
    | succ b =>
      have := ih (k + 1) b (Nat.lt_of_succ_lt_succ h) hst
      rw [Nat.add_right_comm] at this
      unfold nchars
      rw [List.take_succ_cons, List.filter_cons]
      by_cases hx : isStart x = true
      · rw [if_pos hx, if_pos hx]; exact this
      · rw [if_neg hx, if_neg hx]; exact this

theorem c2b_last (t : List Nat) : (c2b t)[nchars t]? = some t.length := by
  unfold c2b
  rw [List.getElem?_append_right (Nat.le_of_eq (c2bFrom_length t 0)), c2bFrom_length, Nat.sub_self]; rfl

/-- entry `i` of `mod_c2b` is `x` exactly when `x` is a character boundary of `t` with `i` code points before it
(the table and the code-point count `nchars (t.take ·)` are inverse to each other on boundaries) -/
theorem c2b_getElem? (t : List Nat) (i x : Nat) : (c2b t)[i]? = some x ↔ BoOf t x ∧ nchars (t.take x) = i := by
  constructor
  · intro h
    rcases Nat.lt_or_ge i (c2bFrom 0 t).length with hi | hi
    · unfold c2b at h
      rw [List.getElem?_append_left hi] at h
      obtain ⟨j, rfl, hn, hj⟩ := c2bFrom_getElem_start t 0 i x h
      rw [Nat.zero_add]; exact ⟨Or.inr hj, hn⟩
    · -- at or beyond the sentinel: the table has `nchars t + 1` entries
      rw [c2bFrom_length] at hi
      have hlt := (List.getElem?_eq_some_iff.mp h).1
      rw [c2b_length] at hlt
      obtain rfl := Nat.le_antisymm (Nat.le_of_lt_succ hlt) hi
      rw [c2b_last] at h; cases h
      exact ⟨Or.inl rfl, by rw [List.take_length]⟩
  · rintro ⟨hb | ⟨hlt, hst⟩, rfl⟩
    · rw [hb, List.take_length]; exact c2b_last t
    · have h1 := c2bFrom_nchars_take t 0 x hlt hst
      rw [Nat.zero_add] at h1
      unfold c2b
      rw [List.getElem?_append_left (List.getElem?_eq_some_iff.mp h1).1]; exact h1

/-- **inverse of the code-point count**: at every character boundary `b` of `t`, entry number "code points before `b`" of
`mod_c2b` is `b` -/
theorem c2b_nchars_take (t : List Nat) (b : Nat) (hb : BoOf t b) : (c2b t)[nchars (t.take b)]? = some b :=
  (c2b_getElem? t _ b).mpr ⟨hb, rfl⟩

theorem c2b_head (t : List Nat) (h : BoOf t 0) : (c2b t)[0]? = some 0 := c2b_nchars_take t 0 h

theorem c2b_getElem_some (t : List Nat) (i : Nat) (h : i ≤ nchars t) : ∃ x, (c2b t)[i]? = some x :=
  ⟨_, List.getElem?_eq_getElem (by rw [c2b_length]; exact Nat.lt_succ_of_le h)⟩

theorem c2b_getElem_none (t : List Nat) (i : Nat) (h : nchars t < i) : (c2b t)[i]? = none :=
  List.getElem?_eq_none (by rw [c2b_length]; exact h)

theorem c2b_getElem_boOf {t : List Nat} {i x : Nat} (h : (c2b t)[i]? = some x) : BoOf t x ∧ x ≤ t.length :=
  have hb := ((c2b_getElem? t i x).mp h).1
  ⟨hb, hb.le⟩

/-- a later entry is a later boundary: fewer bytes cannot hold more code points -/
theorem c2b_getElem_mono {t : List Nat} {i j x y : Nat} (hij : i ≤ j) (hi : (c2b t)[i]? = some x)
    (hj : (c2b t)[j]? = some y) : x ≤ y := by
  refine Nat.le_of_not_lt fun hyx => ?_
  have hji := nchars_take_mono t (Nat.le_of_lt hyx)
  rw [((c2b_getElem? t j y).mp hj).2, ((c2b_getElem? t i x).mp hi).2] at hji
  cases Nat.le_antisymm hij hji
  exact Nat.lt_irrefl _ (Option.some.inj (hi.symm.trans hj) ▸ hyx)

theorem c2b_spec (t : List Nat) : Mono (c2b t) ∧ ∀ x ∈ c2b t, BoOf t x :=
  ⟨List.pairwise_iff_getElem.mpr fun i j hi hj hij =>
      c2b_getElem_mono (Nat.le_of_lt hij) (List.getElem?_eq_getElem hi) (List.getElem?_eq_getElem hj),
    fun x hx => by
      obtain ⟨i, hi⟩ := List.getElem?_of_mem hx
      exact (c2b_getElem_boOf hi).1⟩

/-! ### `mod_b2c` pointwise, in the same terms; `ch_idx ∘ to_curr_byte_idx` -/

theorem b2cFrom_length (t : List Nat) (cnt : Nat) : (b2cFrom cnt t).length = t.length := by
  induction t generalizing cnt with
  | nil => rfl
  | cons x xs ih => exact congrArg (· + 1) (ih _)

/-- `mod_b2c[i]` (without the sentinel) = number of character starts among the bytes `0..=i`, minus one.  In the step the
first byte moves from the prefix `t.take (i + 2)` into the start count `cnt`; when it is a start the two sides differ by
`+ 1 - 1` around `nchars`, which is why the cases end in arithmetic under `congr`. -/
theorem b2cFrom_getElem : ∀ (t : List Nat) (cnt i : Nat), i < t.length →
    (b2cFrom cnt t)[i]? = some (cnt + nchars (t.take (i + 1)) - 1)
  | [], _, i, h => by simp at h
  | b :: bs, cnt, 0, _ => by
    simp only [b2cFrom, List.getElem?_cons_zero, List.take_succ_cons, List.take_zero, nchars_cons]
    by_cases hb : isStart b = true <;> simp [hb, nchars]
  | b :: bs, cnt, i + 1, h => by
    have hi : i < bs.length := by simpa using h
    simp only [b2cFrom, List.getElem?_cons_succ, List.take_succ_cons, nchars_cons]
    rw [b2cFrom_getElem bs _ i hi]
    by_cases hb : isStart b = true
    · simp only [hb, if_true]; congr 1; omega
    · simp only [hb]; congr 1; simp

theorem b2c_getElem? (t : List Nat) (h1 : 1 ≤ nchars t) (i c : Nat) :
    (b2c t)[i]? = some c ↔
      (i < t.length ∧ c = nchars (t.take (i + 1)) - 1) ∨ (i = t.length ∧ c = nchars t) := by
  unfold b2c
  rcases Nat.lt_trichotomy i t.length with hi | hi | hi
  · rw [List.getElem?_append_left (by rw [b2cFrom_length]; exact hi), b2cFrom_getElem t 0 i hi, Nat.zero_add]
    refine ⟨fun h => Or.inl ⟨hi, (Option.some.inj h).symm⟩, fun h => ?_⟩
    rcases h with ⟨_, rfl⟩ | ⟨h, _⟩
    · rfl
    · omega
  · subst hi
    rw [List.getElem?_append_right (by rw [b2cFrom_length]; exact Nat.le_refl _), b2cFrom_length, Nat.sub_self,
      if_neg (by omega), List.getElem?_cons_zero]
    refine ⟨fun h => Or.inr ⟨rfl, (Option.some.inj h).symm⟩, fun h => ?_⟩
    rcases h with ⟨h, _⟩ | ⟨_, rfl⟩
    · omega
    · rfl
  · rw [List.getElem?_eq_none (by rw [List.length_append, b2cFrom_length, List.length_singleton]; omega)]
    refine ⟨fun h => (nomatch h), fun h => ?_⟩
    rcases h with ⟨h, _⟩ | ⟨h, _⟩ <;> omega

/-- `ch_idx(to_curr_byte_idx(i)) = i` for every character index inside the text, and for the end index when the
text has a character (the sentinel of `mod_b2c` is `last_chidx + 1`) -/
theorem b2c_c2b {t : List Nat} {i x : Nat} (hpos : 0 < nchars t) (h : (c2b t)[i]? = some x) :
    (b2c t)[x]? = some i := by
  obtain ⟨hb | ⟨hlt, hst⟩, rfl⟩ := (c2b_getElem? t i x).mp h
  · exact (b2c_getElem? t hpos _ _).mpr (Or.inr ⟨hb, by rw [hb, List.take_length]⟩)
  · -- a character start: the prefix that includes it has one code point more
    refine (b2c_getElem? t hpos _ _).mpr (Or.inl ⟨hlt, ?_⟩)
    rw [List.take_succ_eq_append_getElem hlt, nchars_append, nchars_cons, if_pos hst]; rfl

/-! ### the byte-to-character table of the original (`fill_orig_b2c`) -/

theorem origB2CFrom_spec (o : List Nat) : ∀ (cnt b : Nat) (h : b < o.length),
    (origB2CFrom cnt o)[b]? = some (if isStart o[b] then some (cnt + nchars (o.take b)) else none) := by
  induction o with
  | nil => exact fun _ _ h => absurd h (Nat.not_lt_zero _)
  | cons x xs ih =>
    intro cnt b h
    unfold origB2CFrom
    cases b with
    | zero =>
      show (if isStart x = true then some cnt :: origB2CFrom (cnt + 1) xs else none :: origB2CFrom cnt xs)[0]? =
        some (if isStart x then some cnt else none)
      cases isStart x <;> rfl
    | succ b =>
      have h' : b < xs.length := Nat.lt_of_succ_lt_succ h
      rw [List.take_succ_cons, nchars_cons, List.getElem_cons_succ]
      by_cases hx : isStart x = true
      · rw [if_pos hx, if_pos hx, List.getElem?_cons_succ, ih (cnt + 1) b h', Nat.add_assoc]
      · rw [if_neg hx, if_neg hx, List.getElem?_cons_succ, ih cnt b h', Nat.zero_add]

theorem origB2CFrom_length (o : List Nat) (cnt : Nat) : (origB2CFrom cnt o).length = o.length := by
  induction o generalizing cnt with
  | nil => rfl
  | cons x xs ih =>
    unfold origB2CFrom
    by_cases hx : isStart x = true
    · rw [if_pos hx]; exact congrArg (· + 1) (ih (cnt + 1))
    · rw [if_neg hx]; exact congrArg (· + 1) (ih cnt)

theorem origB2C_counts (o : List Nat) (hne : 0 < nchars o) (b : Nat) (hb : BoOf o b) :
    (origB2C o)[b]? = some (some (nchars (o.take b))) := by
  unfold origB2C
  rcases hb with rfl | ⟨hlt, hst⟩
  · rw [List.getElem?_append_right (Nat.le_of_eq (origB2CFrom_length o 0)), origB2CFrom_length, Nat.sub_self,
      if_neg (Nat.ne_of_gt hne), List.take_length]; rfl
  · rw [List.getElem?_append_left (by rw [origB2CFrom_length]; exact hlt), origB2CFrom_spec o 0 b hlt, if_pos hst,
      Nat.zero_add]

/-! ### a buffer reached from the original text by admissible batches -/

def Reached (o : List Nat) (bs : List (List (Edit Nat))) (lv : LenV) (l : List (P Nat)) : Prop :=
  o ≠ [] ∧ BoOf o 0 ∧ BatchesOk isStart (identFrom 0 o) bs ∧ commitAllV lv (identFrom 0 o) bs = some l

theorem Reached.inv {o : List Nat} {bs : List (List (Edit Nat))} {lv : LenV} {l : List (P Nat)}
    (h : Reached o bs lv l) : Inv isStart (BoOf o) o.length l :=
  commitAllV_inv lv isStart (BoOf o) o.length h.2.1 bs _ l (ident_inv o h.1) h.2.2.1 h.2.2.2

theorem Reached.nchars_pos {o : List Nat} {bs : List (List (Edit Nat))} {lv : LenV} {l : List (P Nat)}
    (h : Reached o bs lv l) : 0 < nchars o := nchars_pos_of o h.1 h.2.1

/-! ### `to_orig_byte_idx`; character boundaries of the text as entries of the map -/

theorem snds_getElem? (l : List (P β)) (i : Nat) (h : i < l.length) : (snds l)[i]? = some (valAt l i) := by
  unfold snds; rw [List.getElem?_map, List.getElem?_eq_getElem h, valAt_eq l i h]; rfl

theorem toOrigByteIdx_eq {l : List (P Nat)} {ci x : Nat} (hx : (c2b (textOf l))[ci]? = some x) (hlt : x < l.length) :
    toOrigByteIdx l ci = some (valAt l x) := by
  unfold toOrigByteIdx; rw [hx]; exact snds_getElem? l x hlt

theorem toOrigByteIdx_some {st : Nat → Bool} {Bo : Nat → Prop} {N : Nat} (l : List (P Nat)) (hinv : Inv st Bo N l)
    (ci : Nat) (h : ci ≤ nchars (textOf l)) : ∃ ob, toOrigByteIdx l ci = some ob ∧ ob ≤ N := by
  obtain ⟨x, hx⟩ := c2b_getElem_some (textOf l) ci h
  have hxl := (c2b_getElem_boOf hx).2
  exact ⟨_, toOrigByteIdx_eq hx (shape_length hinv.shape ▸ Nat.lt_succ_of_le hxl), inv_le_last hinv x hxl⟩

/-- entry `c` of a buffer carries byte `c` of its text; the sentinel entry, at the text length, none -/
theorem shape_getElem {N : Nat} {l : List (P β)} (hs : Shape N l) : ∀ (c : Nat) (hc : c < l.length),
    (l[c]).1 = (textOf l)[c]? := by
  obtain ⟨body, rfl, hb⟩ := hs
  induction body with
  | nil => exact fun c hc => by cases Nat.lt_one_iff.mp hc; rfl
  | cons p r ih =>
    obtain ⟨x, v⟩ := p
    cases x with
    | none => exact nomatch hb _ List.mem_cons_self
    | some b =>
      intro c hc
      cases c with
      | zero => rfl
      | succ c => exact ih (fun q hq => hb q (List.mem_cons_of_mem _ hq)) c (Nat.lt_of_succ_lt_succ hc)

theorem isB_of_boOf {N : Nat} {l : List (P Nat)} (hs : Shape N l) (c : Nat) (hb : BoOf (textOf l) c)
    (hc : c < l.length) : isB isStart l[c] := by
  unfold isB
  rw [shape_getElem hs c hc]
  rcases hb with rfl | ⟨hlt, hst⟩
  · rw [List.getElem?_eq_none (Nat.le_refl _)]; trivial
  · rw [List.getElem?_eq_getElem hlt]; exact hst

theorem Inv.image {o : List Nat} {l : List (P Nat)} (h : Inv isStart (BoOf o) o.length l) {x : Nat}
    (hb : BoOf (textOf l) x) : x < l.length ∧ BoOf o (valAt l x) ∧ valAt l x ≤ o.length :=
  have hlt : x < l.length := shape_length h.shape ▸ Nat.lt_succ_of_le hb.le
  ⟨hlt, inv_boundary h x hlt (isB_of_boOf h.shape x hb hlt), inv_le_last h x hb.le⟩

theorem toOrigCharIdx_eq {o : List Nat} {l : List (P Nat)} {ci ob c : Nat} (h : toOrigByteIdx l ci = some ob)
    (hc : (origB2C o)[ob]? = some (some c)) : toOrigCharIdx o l ci = some c := by
  unfold toOrigCharIdx; rw [h]; simp only []; rw [hc]

theorem Inv.at_c2b {o : List Nat} {l : List (P Nat)} (h : Inv isStart (BoOf o) o.length l) (hpos : 0 < nchars o)
    {ci x : Nat} (hx : (c2b (textOf l))[ci]? = some x) :
    BoOf (textOf l) x ∧ x < l.length ∧ BoOf o (valAt l x) ∧ valAt l x ≤ o.length ∧
      toOrigByteIdx l ci = some (valAt l x) ∧ toOrigCharIdx o l ci = some (nchars (o.take (valAt l x))) :=
  have hb := (c2b_getElem_boOf hx).1
  have ⟨hlt, ho, hle⟩ := h.image hb
  have rb := toOrigByteIdx_eq hx hlt
  ⟨hb, hlt, ho, hle, rb, toOrigCharIdx_eq rb (origB2C_counts o hpos _ ho)⟩

/-! ### length of the rewritten text and the two length guards -/

theorem finalLen_add (es : List (Edit β)) : ∀ (c k : Int), finalLen (c + k) es = finalLen c es + k := by
  induction es with
  | nil => exact fun _ _ => rfl
  | cons ed es ih =>
    intro c k
    unfold finalLen
    rw [Int.add_right_comm c k, Int.sub_eq_add_neg, Int.add_right_comm _ k, ← Int.sub_eq_add_neg]
    exact ih _ k

theorem repl_length (l : List (P β)) (ed : Edit β) : (repl l ed).length = ed.w.length := by
  unfold repl
  cases ed.w with
  | nil => rfl
  | cons b bs => exact congrArg (· + 1) (List.length_map _)

theorem force0_length (a : List (P β)) : (force0 a).length = a.length := by
  cases a with
  | nil => rfl
  | cons p r => rfl

/-- `l.length` counts the sentinel entry: both sides are the text length + 1 (`resolve_text_length` cancels it) -/
theorem go_length (l : List (P β)) (es : List (Edit β)) : ∀ (start : Nat), EditsOk (l.length - 1) start es →
    ((go l start es []).length : Int) = finalLen ((l.length : Int) - (start : Int)) es := by
  induction es with
  | nil =>
    intro start hok
    show (([] ++ l.drop start).length : Int) = (l.length : Int) - (start : Int)
    rw [List.nil_append, List.length_drop]
    exact Int.natCast_sub (Nat.le_trans hok (Nat.sub_le _ _))
  | cons ed es ih =>
    intro start ⟨a1, a2, a3, a4⟩
    rw [go_cons, List.length_append, List.length_append,
      slice_length l start ed.s (Nat.le_trans a2 (Nat.le_trans a3 (Nat.sub_le _ _))), repl_length,
      Int.natCast_add, Int.natCast_add, ih ed.e a4, finalLen, Int.natCast_sub a1, Int.natCast_sub a2,
      show (l.length : Int) - (start : Int) + (ed.w.length : Int) - ((ed.e : Int) - (ed.s : Int))
        = ((l.length : Int) - (ed.e : Int)) + (((ed.s : Int) - (start : Int)) + (ed.w.length : Int)) by omega,
      finalLen_add, ← Int.add_assoc]
    exact Int.add_comm _ _

/-- the value `resolve_edits` returns and the repaired `commit` compares with the limit -/
theorem resolve_text_length (N : Nat) (l : List (P β)) (hs : Shape N l) (es : List (Edit β))
    (hok : EditsOk (l.length - 1) 0 es) :
    (((textOf (resolve l es)).length : Nat) : Int) = finalLen (((textOf l).length : Nat) : Int) es := by
  have hgl := go_length l es 0 hok
  obtain ⟨body, rfl, hb⟩ := hs
  rw [List.length_append, List.length_singleton, Nat.add_sub_cancel] at hok
  obtain ⟨body', g1, g2⟩ := go_shape N body hb es 0 hok
  unfold resolve
  rw [textOf_force0, g1, textOf_shape, textOf_shape, textOf_allSome_length g2, textOf_allSome_length hb]
  rw [g1, List.length_append, List.length_append, List.length_singleton, Int.natCast_add, Int.natCast_add,
    Int.natCast_zero, Int.sub_zero, finalLen_add] at hgl
  exact (Int.add_left_inj _).mp hgl

theorem lenOkFinal_iff (max : Nat) (cur : Int) (es : List (Edit β)) :
    lenOkFinal max cur es = true ↔ finalLen cur es ≤ (max : Int) := by
  unfold lenOkFinal
  by_cases h : finalLen cur es > (max : Int)
  · rw [if_pos h]; exact ⟨nofun, fun h2 => absurd h (Int.not_lt.mpr h2)⟩
  · rw [if_neg h]; exact ⟨fun _ => Int.not_lt.mp h, fun _ => rfl⟩

theorem commitV_final_eq (l : List (P β)) (es : List (Edit β)) (hne : es ≠ []) :
    commitV .final l es = if finalLen ((l.length : Int) - 1) es ≤ (REALLY_MAX_LENGTH : Int) then some (resolve l es) else none := by
  cases es with
  | nil => exact absurd rfl hne
  | cons ed es =>
    rw [commitV_cons]
    simp only [lenGuard, lenOkFinal_iff]

theorem commitV_final_text (N : Nat) (l : List (P β)) (hs : Shape N l) (es : List (Edit β)) (hne : es ≠ [])
    (hok : EditsOk (l.length - 1) 0 es) :
    commitV .final l es =
      if (textOf (resolve l es)).length ≤ REALLY_MAX_LENGTH then some (resolve l es) else none := by
  rw [commitV_final_eq l es hne, ← shape_length hs, Int.natCast_add, Int.natCast_one, Int.add_sub_cancel,
    ← resolve_text_length N l hs es hok]
  simp only [Int.ofNat_le]

theorem commitV_final_none_iff (N : Nat) (l : List (P β)) (hs : Shape N l) (es : List (Edit β)) (hne : es ≠ [])
    (hok : EditsOk (l.length - 1) 0 es) :
    commitV .final l es = none ↔ REALLY_MAX_LENGTH < (textOf (resolve l es)).length := by
  rw [commitV_final_text N l hs es hne hok]
  by_cases h : (textOf (resolve l es)).length ≤ REALLY_MAX_LENGTH
  · rw [if_pos h]; exact ⟨nofun, fun h2 => absurd h (Nat.not_le_of_lt h2)⟩
  · rw [if_neg h]; exact ⟨fun _ => Nat.lt_of_not_le h, fun _ => rfl⟩

theorem commitV_final_some_iff (N : Nat) (l : List (P β)) (hs : Shape N l) (es : List (Edit β)) (hne : es ≠ [])
    (hok : EditsOk (l.length - 1) 0 es) (l' : List (P β)) :
    commitV .final l es = some l' ↔ l' = resolve l es ∧ (textOf (resolve l es)).length ≤ REALLY_MAX_LENGTH := by
  rw [commitV_final_text N l hs es hne hok]
  by_cases h : (textOf (resolve l es)).length ≤ REALLY_MAX_LENGTH
  · rw [if_pos h]; exact ⟨fun h2 => ⟨(Option.some.inj h2).symm, h⟩, fun h2 => h2.1 ▸ rfl⟩
  · rw [if_neg h]; exact ⟨nofun, fun h2 => absurd h2.2 h⟩

/-- the disjunct `es = []`: `lenOk _ cur [] = true` whatever `cur` is -/
theorem lenOk_imp_final (max : Nat) (es : List (Edit β)) : ∀ (cur : Int), lenOk max cur es = true →
    es = [] ∨ finalLen cur es ≤ (max : Int) := by
  induction es with
  | nil => exact fun _ _ => Or.inl rfl
  | cons ed es ih =>
    intro cur h
    unfold lenOk at h
    by_cases hgt : cur + (ed.w.length : Int) - ((ed.e - ed.s : Nat) : Int) > (max : Int)
    · rw [if_pos hgt] at h; cases h
    · rw [if_neg hgt] at h
      rcases ih _ h with rfl | h'
      · exact Or.inr (Int.not_lt.mp hgt)
      · exact Or.inr h'

/-- whatever the running-length guard accepts the final-length guard accepts too, with the same result: the repair removes no
functionality -/
theorem commit_imp_commitV_final (l : List (P β)) (es : List (Edit β)) (l' : List (P β))
    (h : commit l es = some l') : commitV .final l es = some l' := by
  cases es with
  | nil => exact h
  | cons ed es =>
    rw [commitV_final_eq l (ed :: es) (List.cons_ne_nil _ _)]
    unfold commit at h
    rw [if_neg (by exact Bool.false_ne_true)] at h
    by_cases hg : lenOk REALLY_MAX_LENGTH ((l.length : Int) - 1) (ed :: es) = true
    · rw [if_pos ((lenOk_imp_final _ _ _ hg).resolve_left (List.cons_ne_nil _ _))]
      rwa [if_pos hg] at h
    · rw [if_neg hg] at h; cases h

end EditM
