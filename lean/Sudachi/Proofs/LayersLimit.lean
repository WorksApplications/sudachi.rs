import Sudachi.Proofs.Layers
import Sudachi.Proofs.LayersLoad
/-!
# The size test of the repaired `merge_user_dictionary` (property C12, finding P2)

`Layers.loadV` / `Layers.loadFullV` carry both versions of `merge_user_dictionary` (`MergeVariant`).  Both loads are loops
(`foldO`) whose `limit` step is the `unbounded` step behind the test "the list stays within 65 536 entries" (`guarded`), and a
step that succeeds adds the own table to the list.  For any such loop: a successful tested loop is a successful plain loop
with the same result and a size within the bound, and on what the plain loop accepts the tested one gives the same result
when the final size fits and refuses otherwise.  So a `limit` load is a pinned load whose POS list fits `u16` ids — every
theorem about `load` / `loadFull` holds for it, with the hypothesis "the list fits" discharged by the load itself.
-/
namespace Layers

section guarded
variable {σ α : Type} {f : σ → α → Outcome σ} {size : σ → Nat} {wt : α → Nat} {B : Nat} {e : Err}

/-- `f` behind the test that the size stays within `B` -/
def guarded (f : σ → α → Outcome σ) (size : σ → Nat) (wt : α → Nat) (B : Nat) (e : Err) (s : σ) (a : α) : Outcome σ :=
  if size s + wt a > B then .err e else f s a

theorem foldO_size_le {l : List α} {s F : σ} (h : foldO f s l = .ok F)
    (hstep : ∀ s a s', f s a = .ok s' → size s' = size s + wt a) : size s ≤ size F := by
  induction l generalizing s with
  | nil => cases h; exact Nat.le_refl _
  | cons a l ih =>
    obtain ⟨s', hs', h'⟩ := bind_eq_ok h
    have := ih h'
    rw [hstep s a s' hs'] at this
    exact Nat.le_trans (Nat.le_add_right _ _) this

theorem foldO_guarded_ok {l : List α} {s F : σ} (h : foldO (guarded f size wt B e) s l = .ok F)
    (hstep : ∀ s a s', f s a = .ok s' → size s' = size s + wt a) :
    foldO f s l = .ok F ∧ (size s ≤ B → size F ≤ B) := by
  induction l generalizing s with
  | nil => cases h; exact ⟨rfl, id⟩
  | cons a l ih =>
    obtain ⟨s', hs', h'⟩ := bind_eq_ok h
    unfold guarded at hs'
    by_cases hover : size s + wt a > B
    · rw [if_pos hover] at hs'; cases hs'
    · rw [if_neg hover] at hs'
      obtain ⟨r1, r2⟩ := ih h'
      refine ⟨by rw [foldO, hs']; exact r1, fun _ => r2 ?_⟩
      rw [hstep s a s' hs']
      exact Nat.le_of_not_lt hover

theorem foldO_guarded_eq {l : List α} {s F : σ} (h : foldO f s l = .ok F) (hs : size s ≤ B)
    (hstep : ∀ s a s', f s a = .ok s' → size s' = size s + wt a) :
    foldO (guarded f size wt B e) s l = if size F ≤ B then .ok F else .err e := by
  induction l generalizing s with
  | nil => cases h; rw [if_pos hs]; rfl
  | cons a l ih =>
    obtain ⟨s', hs', h'⟩ := bind_eq_ok h
    have hsz := hstep s a s' hs'
    have hle := foldO_size_le h' hstep
    rw [foldO, guarded]
    by_cases hover : size s + wt a > B
    · rw [if_pos hover, if_neg (Nat.not_le_of_lt (Nat.lt_of_lt_of_le hover (hsz ▸ hle)))]; rfl
    · rw [if_neg hover, hs']
      exact ih h' (hsz ▸ Nat.le_of_not_lt hover)

end guarded

/-! ## the two merges are such loops -/

theorem mergeUser_posList {d d' : Dict} {own : List Pos} {lex : Lexicon} (h : mergeUser d own lex = .ok d') :
    d'.posList.length = d.posList.length + own.length := by
  rw [mergeUser_eq own lex (mergeUser_room h)] at h
  cases h
  exact List.length_append

theorem mergeUserFull_posList {est : LoadState → Nat → Outcome (Int × Nat)} {st st' : LoadState} {u : UserDic}
    (h : mergeUserFull est st u = .ok st') : st'.dict.posList.length = st.dict.posList.length + u.own.length := by
  obtain ⟨_, d, _, hd, rfl⟩ := mergeUserFull_inv h
  exact mergeUser_posList hd

theorem mergeAllV_limit_foldO (us : List (List Pos × Lexicon)) (d : Dict) :
    mergeAllV .limit d us = foldO (guarded (fun d u => mergeUser d u.1 u.2) (fun d => d.posList.length)
      (fun u => u.1.length) U16_IDS .invalidPos) d us :=
  mergeAllV_foldO .limit us d

theorem mergeAllFullV_limit_foldO {est : LoadState → Nat → Outcome (Int × Nat)} (us : List UserDic) (st : LoadState) :
    mergeAllFullV .limit est st us = foldO (guarded (mergeUserFull est) (fun st => st.dict.posList.length)
      (fun u => u.own.length) U16_IDS .invalidPos) st us :=
  mergeAllFullV_foldO .limit us st

section loadV
variable {sys : List Pos} {sysLex : Lexicon} {plugs : List (Bool × Pos)} {us : List (List Pos × Lexicon)} {D : Dict}

theorem loadV_bind (v : MergeVariant) : loadV v sys sysLex plugs us = (loadPlugins sys plugs).bind fun gi =>
    mergeAllV v ⟨gi.1, ⟨[{ sysLex with lexId := 0 }], [0], sys.length⟩⟩ us := by
  unfold loadV; cases loadPlugins sys plugs <;> rfl

theorem loadV_unbounded : loadV .unbounded sys sysLex plugs us = load sys sysLex plugs us := by
  rw [loadV_bind, load_bind]
  simp only [mergeAllV_foldO, mergeAll_foldO]
  rfl

theorem loadV_limit_ok (h : loadV .limit sys sysLex plugs us = .ok D) :
    load sys sysLex plugs us = .ok D ∧ (sys.length ≤ U16_IDS → D.posList.length ≤ U16_IDS) := by
  rw [loadV_bind] at h
  obtain ⟨⟨g, ids⟩, hp, h⟩ := bind_eq_ok h
  rw [mergeAllV_limit_foldO] at h
  obtain ⟨r1, r2⟩ := foldO_guarded_ok h fun _ _ _ => mergeUser_posList
  obtain ⟨_, rfl, hb⟩ := loadPlugins_appends hp
  rw [load_eq hp, mergeAll_foldO]
  exact ⟨r1, fun hs => r2 (hb hs)⟩

theorem loadV_limit_eq (h : load sys sysLex plugs us = .ok D) (hs : sys.length ≤ U16_IDS) :
    loadV .limit sys sysLex plugs us = if D.posList.length ≤ U16_IDS then .ok D else .err .invalidPos := by
  rw [load_bind] at h
  obtain ⟨⟨g, ids⟩, hp, h⟩ := bind_eq_ok h
  rw [mergeAll_foldO] at h
  rw [loadV_bind, hp]
  obtain ⟨_, rfl, hb⟩ := loadPlugins_appends hp
  exact (mergeAllV_limit_foldO us _).trans (foldO_guarded_eq h (hb hs) fun _ _ _ => mergeUser_posList)

theorem loadV_limit_of_fits (h : load sys sysLex plugs us = .ok D) (hfit : D.posList.length ≤ U16_IDS) :
    loadV .limit sys sysLex plugs us = .ok D := by
  obtain ⟨_, _, L⟩ := load_spec h
  have hs : sys.length ≤ U16_IDS := by
    rw [L.posList, List.length_append, List.length_append] at hfit; omega
  rw [loadV_limit_eq h hs, if_pos hfit]

end loadV

/-! ## the same inside the full load (the test precedes `update_cost`) -/

section loadFullV
variable {est : LoadState → Nat → Outcome (Int × Nat)} {sys : List Pos} {sysLex : Lexicon} {sysCosts : List Int}
  {nl nr : Nat} {conn : List (List (Nat × Nat))} {plugs : List (Bool × Pos)} {nOov : Nat} {users : List UserDic}
  {F : LoadState}

theorem loadFullV_limit_ok (h : loadFullV .limit est sys sysLex sysCosts nl nr conn plugs nOov users = .ok F) :
    loadFull est sys sysLex sysCosts nl nr conn plugs nOov users = .ok F ∧
    (sys.length ≤ U16_IDS → F.dict.posList.length ≤ U16_IDS) := by
  obtain ⟨g, ids, h2, h3, h4, h⟩ := loadFullV_inv h
  rw [mergeAllFullV_limit_foldO] at h
  obtain ⟨r1, r2⟩ := foldO_guarded_ok h fun _ _ _ => mergeUserFull_posList
  obtain ⟨_, rfl, hb⟩ := loadPlugins_appends h3
  rw [loadFull_of h2 h3 h4, mergeAllFull_foldO]
  exact ⟨r1, fun hs => r2 (hb hs)⟩

theorem loadFullV_limit_eq (h : loadFull est sys sysLex sysCosts nl nr conn plugs nOov users = .ok F)
    (hs : sys.length ≤ U16_IDS) :
    loadFullV .limit est sys sysLex sysCosts nl nr conn plugs nOov users =
      if F.dict.posList.length ≤ U16_IDS then .ok F else .err .invalidPos := by
  obtain ⟨g, ids, h2, h3, h4, h5⟩ := loadFull_inv h
  rw [mergeAllFull_foldO] at h5
  obtain ⟨_, rfl, hb⟩ := loadPlugins_appends h3
  rw [loadFullV_of .limit h2 h3 h4, mergeAllFullV_limit_foldO]
  exact foldO_guarded_eq h5 (hb hs) fun _ _ _ => mergeUserFull_posList

end loadFullV

end Layers
