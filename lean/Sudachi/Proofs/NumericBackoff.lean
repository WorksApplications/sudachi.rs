import Sudachi.Proofs.NumericLang
/-!
# The trailing-separator back-off of `rewrite_gen`, parser side

`rewrite_gen` joins the run WITHOUT its last node when `done()` fails and the error state is the one
of that last node (a `,` or a `.`).  `done_without_sep`: with repair F6, if the parser accepted `t` and
then the separator, and `done()` then reports exactly the error of that separator, then `t` alone is
accepted, `done()` holds for it, and the rendering is the same — so the token the plugin makes carries
the normal form of exactly the span it covers.  Its hypothesis `BackInv` holds along every accepted text
(`backInv_new`, `backInv_step`); `SN.E` relates `tmp` before and after the point was set at its end.
-/
namespace Numeric

/-- same number: equal, or the second has its point set at the very end (what `set_point` does to a
number without scale) -/
def SN.E (a b : SN) : Prop :=
  a = b ∨ (a.scale = 0 ∧ a.point = none ∧ b = { a with point := some a.sig.length })

theorem SN.E.refl (a : SN) : SN.E a a := .inl rfl

theorem SN.normalize_endpoint (a : SN) (hs : a.scale = 0) (hp : a.point = none) :
    ({ a with point := some a.sig.length } : SN).normalizeScale = a ∧ a.normalizeScale = a := by
  obtain ⟨sig, scale, point, az, bad⟩ := a
  simp only at hs hp
  subst hs hp
  simp [SN.normalizeScale]

theorem SN.add_E_number (s a b : SN) (h : SN.E a b) :
    (s.add a).1 = (s.add b).1 ∧ SN.E (s.add a).2.1 (s.add b).2.1 := by
  rcases h with rfl | ⟨hs, hp, rfl⟩
  · exact ⟨rfl, .inl rfl⟩
  · obtain ⟨n1, n2⟩ := SN.normalize_endpoint a hs hp
    unfold SN.add
    by_cases hz : a.isZero = true
    · have hz' : ({ a with point := some a.sig.length } : SN).isZero = true := hz
      rw [if_pos hz, if_pos hz']
      exact ⟨rfl, .inl rfl⟩
    · have hz' : ¬ ({ a with point := some a.sig.length } : SN).isZero = true := hz
      rw [if_neg hz, if_neg hz']
      by_cases hsz : s.isZero = true
      · rw [if_pos hsz, if_pos hsz]
        refine ⟨rfl, .inr ⟨hs, hp, ?_⟩⟩
        have : s.sig = [] := by simpa [SN.isZero] using hsz
        simp [this]
      · rw [if_neg hsz, if_neg hsz]
        simp only [SN.intLength, n1, n2]
        exact ⟨trivial, .inl rfl⟩

theorem SN.toStr_E (a b : SN) (h : SN.E a b) : a.toStr = b.toStr := by
  rcases h with rfl | ⟨hs, hp, rfl⟩
  · rfl
  · obtain ⟨n1, n2⟩ := SN.normalize_endpoint a hs hp
    unfold SN.toStr
    have hz : ({ a with point := some a.sig.length } : SN).isZero = a.isZero := rfl
    rw [hz, n1, n2]

variable (v : Variant)

/-- the error state stays NONE while characters are accepted, and a hanging point means that `tmp` has
its point or that a unit was just read -/
def BackInv (p : Parser) : Prop :=
  p.err = .none ∧ (p.hasHangingPoint = true → p.tmp.point.isSome = true ∨ p.isFirstDigit = true)

theorem backInv_step (p : Parser) (c : Char) (p' : Parser) (hj : BackInv p) (h : p.append v c = (true, p')) :
    BackInv p' := by
  obtain ⟨he, hh⟩ := hj
  rcases accepted_cases v p p' c h with ⟨-, rfl⟩ | ⟨-, rfl⟩ | ⟨g, -, rfl⟩ | ⟨u, -, rfl⟩ | ⟨u, -, rfl⟩
  · exact ⟨he, fun _ => .inl rfl⟩
  · exact ⟨he, hh⟩
  · exact ⟨he, fun hx => Bool.noConfusion hx⟩
  · exact ⟨he, fun _ => .inr rfl⟩
  · exact ⟨he, fun _ => .inr rfl⟩

theorem backInv_new : BackInv Parser.new := ⟨rfl, by simp [Parser.new]⟩

theorem checkComma_group (q : Parser) (h : q.checkComma v = true) (hc : q.hasComma = true) :
    q.digitLength = 3 := by
  unfold Parser.checkComma at h
  by_cases h1 : q.isFirstDigit = true
  · rw [if_pos h1] at h; cases h
  rw [if_neg h1] at h
  by_cases h2 : (v.f1 && q.tmp.point.isSome) = true
  · rw [if_pos h2] at h; cases h
  rw [if_neg h2, hc] at h
  exact beq_iff_eq.1 h

/-- **the back-off is sound** (repair F6): the parser, in a state reached by accepted characters,
accepts one more separator and `done()` then fails with exactly the error of that separator ⇒ without
the separator `done()` holds and the rendering is the same -/
theorem done_without_sep (h6 : v.f6 = true) (q : Parser) (hq : BackInv q) (sep : Char) (p' : Parser)
    (ha : q.append v sep = (true, p'))
    (hs : (sep = ',' ∧ (p'.done v).2.err = .comma) ∨ (sep = '.' ∧ (p'.done v).2.err = .point)) :
    (q.done v).1 = true ∧ (q.done v).2.getNormalized v = (p'.done v).2.getNormalized v := by
  have hi' : BackInv p' := backInv_step v q sep p' hq ha
  have hne : (p'.done v).2.err ≠ .none := by
    rcases hs with ⟨_, h⟩ | ⟨_, h⟩ <;> rw [h] <;> decide
  -- F6: the error state was written, so both sums of `p'` succeeded
  obtain ⟨s1, s2⟩ := done_error_sums_ok v h6 p' hi'.1 hne
  have hsums : p'.sums.1 = true := (sums_ok p').2 ⟨s1, s2⟩
  rw [done_eq, hsums] at hs
  simp only [Bool.not_true, Bool.and_false, Bool.false_eq_true, if_false] at hs
  -- `get_normalized` reads `total` and `has_unit` only
  have hnorm : ∀ a b : Parser, a.total.toStr = b.total.toStr → a.hasUnit = b.hasUnit →
      a.getNormalized v = b.getNormalized v := by
    intro a b h1 h2
    unfold Parser.getNormalized
    rw [h1, h2]
  rcases hs with ⟨rfl, herr⟩ | ⟨rfl, herr⟩
  · obtain ⟨rfl, hcc⟩ := (append_comma_iff v q _).1 ha
    have hhp : q.hasHangingPoint = false := by
      cases hx : q.hasHangingPoint
      · rfl
      · have : q.pushComma.hasHangingPoint = true := hx
        rw [if_pos this] at herr
        cases herr
    have hd := (done_ok v q).2 ⟨(sums_ok q).2 ⟨s1, s2⟩, hhp, checkComma_group v q hcc⟩
    refine ⟨hd, hnorm _ _ ?_ ?_⟩
    · rw [done_eq_sums_err v q, done_eq_sums_err v q.pushComma]; rfl
    · rw [done_hasUnit, done_hasUnit]; rfl
  · obtain ⟨rfl, hfd, hcc, hsc, hpt⟩ := (append_point_iff v q _).1 ha
    -- `tmp` with the point at its end is the same number
    have hE : SN.E q.tmp q.pushPoint.tmp := .inr ⟨hsc, hpt, rfl⟩
    obtain ⟨a1, a2⟩ := SN.add_E_number q.subtotal _ _ hE
    obtain ⟨b1, b2⟩ := SN.add_E_number q.total _ _ a2
    have t1 : (q.subtotal.add q.tmp).1 = true := a1.trans s1
    have t2 : (q.total.add (q.subtotal.add q.tmp).2.1).1 = true := b1.trans s2
    have hhp : q.hasHangingPoint = false := by
      cases hx : q.hasHangingPoint
      · rfl
      · rcases hq.2 hx with h | h
        · rw [hpt] at h; cases h
        · rw [hfd] at h; cases h
    have hd := (done_ok v q).2 ⟨(sums_ok q).2 ⟨t1, t2⟩, hhp, fun hc => checkComma_group v q (hcc hc) hc⟩
    refine ⟨hd, hnorm _ _ ?_ ?_⟩
    · rw [done_eq_sums_err v q, done_eq_sums_err v q.pushPoint, sums_snd q t1, sums_snd q.pushPoint s1]
      exact SN.toStr_E _ _ b2
    · rw [done_hasUnit, done_hasUnit]; rfl

end Numeric
