import Sudachi.Proofs.RewriteStep
/-!
# C14: what the gate of `JoinNumericPlugin::concat` gives, and the seeded variant of the gate

`concat` looks at the part of speech of the FIRST node of the run only (`nconcat_at`, `nconcat_gate_open` in
`RewriteStep`): another POS leaves the path as it is, the numeral POS lets `concat_nodes` build the joined token, whose
POS is copied from that first node (`node.rs: let pos_id = path[begin].word_info().pos_id()`).  The two sites cooperate:
the joined token has the numeral POS *because* the gate tested the node the POS is copied from (`nconcat_result`), and
every merged block is headed by a numeral (`RN_head_witness`; with it a path without a numeral-POS token is left
unchanged, and there the two plugins commute: `C14.plugins_commute_partial`).  Seeded change C14c tests ANY node
of the run instead; `nconcatAny` is that variant, kept only to show that the property theorem separates the two.
-/
namespace Rewrite

/-- whatever `concat` returns: the path itself, or the path with `[b, e)` replaced by a token whose POS
is the numeral POS and is the POS of `path[b]` -/
theorem nconcat_result (cfg : NCfg) (P : List Char → POut) {path : List Node} {b e : Nat}
    {acc : List Char} {q : List Node} (h : nconcat cfg P path b e acc = .ok q) :
    q = path ∨ ∃ f l nf, path[b]? = some f ∧ f.pos = cfg.numPos ∧ path[e - 1]? = some l ∧ b < e ∧
      e ≤ path.length ∧ q = path.take b ++ mergedNode f l (block path b e) nf :: path.drop e ∧
      (mergedNode f l (block path b e) nf).pos = cfg.numPos := by
  rcases nconcat_ok h with rfl | ⟨f, l, hf, hpos, hl, hbe, he, -, rfl⟩
  · exact .inl rfl
  · exact .inr ⟨f, l, _, hf, hpos, hl, hbe, he, rfl, hpos⟩

theorem RN_head_witness (cfg : NCfg) : ∀ blk m, RN cfg blk m → ∃ f ∈ blk, f.pos = cfg.numPos := by
  intro blk m hr
  obtain ⟨f, hf, hpos⟩ := hr.2.1
  exact ⟨f, List.mem_of_mem_head? hf, hpos⟩

/-- `concat` with the gate of seeded change C14c: the run is accepted when ANY of its nodes carries the
numeral POS (`path[begin..end].iter().any(..)`); everything else as in `nconcat` -/
def nconcatAny (cfg : NCfg) (P : List Char → POut) (path : List Node) (b e : Nat) (acc : List Char) :
    Outcome (List Node) :=
  match path[b]? with
  | none => .panic
  | some f =>
    if !(block path b e).any (fun n => n.pos == cfg.numPos) then .ok path
    else if cfg.enableNormalize then
      let nf := (P acc).norm
      if e - b > 1 || nf != normForm f then concatNodes path b e (some nf) else .ok path
    else if e - b > 1 then concatNodes path b e none
    else .ok path

end Rewrite
