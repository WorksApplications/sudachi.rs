import Sudachi.Model.ParamsCfg
import Sudachi.Proofs.Params
/-!
# C20, second layer: lemmas about the raw settings (`Model/ParamsCfg.lean`)

A raw load deserialises every setting and then runs the typed code of `Model/Params.lean`.  So a raw
load that succeeds is a typed load, of the deserialised settings, that succeeds (`loadR_typed`, whose
facts are the fields of `LoadRFacts`), and the theorems of the typed layer carry over; that no step
of it panics is proved along the same decomposition.  The deserialisers whose accepted values a statement
of Props/C20.lean speaks of get a lemma saying what such a value looks like.  The last part is the slice `RegexOovProvider::provide_oov` takes
with an accepted `maxLength`.
-/
namespace Params
open Outcome

theorem deI64_some {j : JF} {x : Int} (h : deI64 j = some x) : j = .int x ∧ I64MIN ≤ x ∧ x ≤ I64MAX := by
  cases j <;> simp [deI64] at h
  obtain ⟨h1, h2⟩ := h
  subst h2
  exact ⟨rfl, h1.1, h1.2⟩

theorem deI16_some {j : JF} {x : Int} (h : deI16 j = some x) : j = .int x ∧ -32768 ≤ x ∧ x ≤ 32767 := by
  cases j <;> simp [deI16] at h
  obtain ⟨h1, h2⟩ := h
  subst h2
  exact ⟨rfl, h1.1, h1.2⟩

theorem deUsize_some {j : JF} {n : Nat} (h : deUsize j = some n) :
    ∃ x : Int, j = .int x ∧ 0 ≤ x ∧ x ≤ U64MAX ∧ n = x.toNat := by
  cases j <;> simp [deUsize] at h
  exact ⟨_, rfl, h.1.1, h.1.2, h.2.symm⟩

theorem deStrs_some {j : JF} {xs : List (List Char)} (h : deStrs j = some xs) : j = .strs xs := by
  cases j <;> cases h
  rfl

theorem deChars_some {j : JF} {xs : List (List Char)} (h : deChars j = some xs) :
    j = .strs xs ∧ ∀ s ∈ xs, charCount s = 1 := by
  cases j <;> simp [deChars] at h
  obtain ⟨h1, h2⟩ := h
  subst h2
  exact ⟨rfl, h1⟩

/-! ## OOV providers: the raw set-up is the typed set-up of the deserialised settings -/

/-- `deserOov` of every provider, `none` as soon as one fails -/
def deserAll : List ROov → Option (List (ProvCfg × RxExtra))
  | [] => some []
  | r :: rest =>
    match deserOov r, deserAll rest with
    | some c, some cs => some (c :: cs)
    | _, _ => none

theorem deserAll_mem {rs : List ROov} {cx : List (ProvCfg × RxExtra)} (h : deserAll rs = some cx) :
    ∀ r ∈ rs, ∃ c, deserOov r = some c := by
  induction rs generalizing cx with
  | nil => exact fun _ hr => nomatch hr
  | cons r0 rest ih =>
    rw [deserAll] at h
    cases h1 : deserOov r0 <;> rw [h1] at h
    · cases h
    · cases h2 : deserAll rest <;> rw [h2] at h
      · cases h
      · exact List.forall_mem_cons.mpr ⟨⟨_, h1⟩, ih h2⟩

section
variable {v : Variant} {cdef : List (List Char)} {g g' : Grammar}

theorem setUpROov_post {r : ROov} : (setUpROov v cdef g r).Post fun gpx =>
    ∃ cfg, deserOov r = some (cfg, gpx.2.2) ∧ setUpProv v cdef g cfg = ok (gpx.1, gpx.2.1) ∧ gpx.2.2.rxOk = true := by
  unfold setUpROov
  rcases hd : deserOov r with _ | ⟨cfg, x⟩
  · exact Post.err
  · refine setUpProv_post.bind fun gp e _ => ?_
    split
    · exact Post.ok ⟨cfg, rfl, e, ‹_›⟩
    · exact Post.err

theorem setUpROovs_post (rs : List ROov) : (setUpROovs v cdef g rs).Post fun r =>
    ∃ cx, deserAll rs = some cx ∧ setUpProvs v cdef g (cx.map (·.1)) = ok (r.1, r.2.map (·.1)) ∧
      ∀ px ∈ r.2, px.2.rxOk = true := by
  induction rs generalizing g with
  | nil => exact Post.ok ⟨[], rfl, rfl, fun _ hp => nomatch hp⟩
  | cons r rest ih =>
    rw [setUpROovs]
    refine setUpROov_post.bind fun gp _ ⟨cfg, hd, hp, hrx⟩ => ih.bind fun gps _ ⟨cx, hcx, hps, hr⟩ => Post.ok ?_
    refine ⟨(cfg, gp.2.2) :: cx, by rw [deserAll, hd, hcx], ?_, List.forall_mem_cons.mpr ⟨hrx, hr⟩⟩
    rw [List.map_cons, setUpProvs, hp]
    dsimp only
    rw [hps]
    rfl

end

/-! ## input text and path rewrite plugins -/

theorem setUpInput_safe (r : RInput) : (setUpInput r).isSafe = true := by
  cases r <;> rw [setUpInput] <;> split
  · exact ite_safe rfl rfl
  · rfl
  · exact ite_safe rfl rfl
  · rfl

theorem setUpInputs_safe (rs : List RInput) : (setUpInputs rs).isSafe = true := by
  induction rs with
  | nil => rfl
  | cons r rest ih =>
    rw [setUpInputs]
    exact bind_safe (setUpInput_safe r) fun _ _ => ih

theorem setUpPath_safe (np : Pos) (pl : List Pos) (r : RPath) : (setUpPath np pl r).isSafe = true := by
  cases r <;> rw [setUpPath] <;> split
  · cases getPosId pl _ <;> rfl
  · rfl
  · cases getPosId pl np <;> rfl
  · rfl

/-- JoinKatakanaOov looks its POS up and never registers it -/
theorem setUpPath_katakana_unknown {np p : Pos} {pl : List Pos} {ml : JF} {n : Nat} (hn : deUsize ml = some n)
    (h : getPosId pl p = none) : setUpPath np pl (.katakana (.strs p) ml) = err .pos := by
  rw [setUpPath, deStrs, hn]
  dsimp only
  rw [h]

theorem setUpPaths_safe (np : Pos) (pl : List Pos) (rs : List RPath) : (setUpPaths np pl rs).isSafe = true := by
  induction rs with
  | nil => rfl
  | cons r rest ih =>
    rw [setUpPaths]
    exact bind_safe (setUpPath_safe np pl r) fun _ _ => bind_safe ih fun _ _ => rfl

/-! ## user dictionaries -/

section
variable {v2 : Variant2} {m : Matrix} {nd : Nat} {pl pl' : List Pos}

/-- The last fact: `merge_user_dictionary` tests the size of the merged POS list, so with at least one user
dictionary the result has at most 65 536 entries; with none the list is the one that came in, and has the bound
if that one had. -/
theorem mergeUsers_post (us : List UDic) : (mergeUsers v2 m nd pl us).Post fun pl' =>
    pl' = pl ++ (us.map (·.pos)).flatten ∧
    (v2.udic = true → ∀ u ∈ us, ∀ w ∈ u.words, udicBad m w = false) ∧
    (nd ≤ MAX_DICTIONARIES → nd + us.length ≤ MAX_DICTIONARIES) ∧
    ((us = [] → pl.length ≤ 65536) → pl'.length ≤ 65536) := by
  induction us generalizing nd pl with
  | nil => exact Post.ok ⟨(List.append_nil _).symm, (fun _ _ hu => nomatch hu), id, fun hl => hl rfl⟩
  | cons u rest ih =>
    rw [mergeUsers]
    refine Post.ite (fun _ => Post.err) fun hc => Post.ite (fun _ => Post.err) fun hsz =>
      Post.ite (fun _ => Post.err) fun hnd => ih.mono fun pl' ⟨e, hw, hcount, hlen⟩ => ?_
    refine ⟨by rw [e, List.map_cons, List.flatten_cons, List.append_assoc],
      fun hu => List.forall_mem_cons.mpr ⟨fun w hw' => ?_, hw hu⟩, fun _ => ?_,
      fun _ => hlen fun _ => by rw [List.length_append]; omega⟩
    · cases hb : udicBad m w with
      | false => rfl
      | true => exact absurd (by rw [hu, Bool.true_and]; exact List.any_eq_true.mpr ⟨w, hw', hb⟩) hc
    · have := hcount (by omega)
      rw [List.length_cons]
      omega

end

theorem udicBad_false {m : Matrix} {w : Int × Int} (h : udicBad m w = false) (hw : w.1 ≥ 0)
    (hl : w.1 ≤ 32767) (hr : w.2 ≤ 32767) : asU16 w.1 < m.nl ∧ asU16 w.2 < m.nr := by
  unfold udicBad at h
  simp only [hw, decide_true, Bool.true_and, Bool.or_eq_false_iff, decide_eq_false_iff_not, Int.not_lt, Nat.not_le,
    ge_iff_le] at h
  obtain ⟨⟨h1, h2⟩, h3⟩ := h
  rw [asUsize_toNat hw (by omega)] at h1
  rw [asUsize_toNat h2 (by omega)] at h3
  rw [asU16_toNat hw (by omega), asU16_toNat h2 (by omega)]
  exact ⟨h1, h3⟩

/-! ## `inhibitPair` -/

/-- `deInh` of every connection-cost plugin, `none` as soon as one fails -/
def deInhAll : List RInh → Option (List (List (Int × Int)))
  | [] => some []
  | r :: rest =>
    match deInh r, deInhAll rest with
    | some a, some as => some (a :: as)
    | _, _ => none

theorem deInhAll_mem {rs : List RInh} {ti : List (List (Int × Int))} (h : deInhAll rs = some ti) :
    ∀ r ∈ rs, ∃ ps, deInh r = some ps := by
  induction rs generalizing ti with
  | nil => exact fun _ hr => nomatch hr
  | cons a rest ih =>
    rw [deInhAll] at h
    cases h1 : deInh a <;> rw [h1] at h
    · cases h
    · cases h2 : deInhAll rest <;> rw [h2] at h
      · cases h
      · exact List.forall_mem_cons.mpr ⟨⟨_, h1⟩, ih h2⟩

section
variable {v : Variant} {g : Grammar}

theorem inhSetUpsR_post (rs : List RInh) : (inhSetUpsR v g rs).Post fun as =>
    ∃ ti, deInhAll rs = some ti ∧ inhSetUps v g ti = ok as := by
  induction rs with
  | nil => exact Post.ok ⟨[], rfl, rfl⟩
  | cons r rest ih =>
    rw [inhSetUpsR]
    rcases hps : deInh r with _ | ps
    · exact Post.err
    · refine inhSetUp_post.bind fun a ha _ => ih.bind fun as' _ ⟨ti, hti, hs⟩ => Post.ok ?_
      exact ⟨_ :: ti, by rw [deInhAll, hps, hti], by rw [inhSetUps, ha]; dsimp only; rw [hs]⟩

end

theorem dePairs_shape : ∀ {ms : List (List JF)} {ps : List (Int × Int)}, dePairs ms = some ps →
    ∀ m ∈ ms, ∃ x y : Int, m = [.int x, .int y] ∧ -32768 ≤ x ∧ x ≤ 32767 ∧ -32768 ≤ y ∧ y ≤ 32767
  | [], _, _ => fun _ hm => nomatch hm
  | m0 :: rest, ps, h => by
    rw [dePairs] at h
    cases hp : dePair m0 <;> rw [hp] at h
    · cases h
    cases hrest : dePairs rest <;> rw [hrest] at h
    · cases h
    refine List.forall_mem_cons.mpr ⟨?_, dePairs_shape hrest⟩
    match m0, hp with
    | [a, b], hp =>
      rw [dePair] at hp
      cases hx : deI16 a <;> rw [hx] at hp
      · cases hp
      cases hy : deI16 b <;> rw [hy] at hp
      · cases hp
      obtain ⟨rfl, x1, x2⟩ := deI16_some hx
      obtain ⟨rfl, y1, y2⟩ := deI16_some hy
      exact ⟨_, _, rfl, x1, x2, y1, y2⟩

/-! ## the whole raw load -/

/-- what a raw load that succeeds went through: the settings deserialise (`ti`, `cx`), the typed load of
them succeeds with the same grammar and providers, and the user dictionaries passed `merge_user_dictionary` -/
structure LoadRFacts (v : Variant) (v2 : Variant2) (cdef : List (List Char)) (g : Grammar) (cfg : RCfg) (ld : LoadedR)
    (ti : List (List (Int × Int))) (cx : List (ProvCfg × RxExtra)) : Prop where
  inh : deInhAll cfg.inh = some ti
  oov : deserAll cfg.oov = some cx
  load : load v cdef g ⟨ti, cx.map (·.1), cfg.users.map (·.pos)⟩ = ok ⟨ld.g, ld.provs.map (·.1)⟩
  udic : v2.udic = true → ∀ u ∈ cfg.users, ∀ w ∈ u.words, udicBad ld.g.conn w = false
  count : cfg.users.length + 1 ≤ MAX_DICTIONARIES
  size : cfg.users ≠ [] → ld.g.pos.length ≤ 65536
  rx : ∀ px ∈ ld.provs, px.2.rxOk = true

theorem loadR_typed {v : Variant} {v2 : Variant2} {cdef : List (List Char)} {np : Pos} {g : Grammar}
    {cfg : RCfg} {ld : LoadedR} (h : loadR v v2 cdef np g cfg = ok ld) :
    ∃ ti cx, LoadRFacts v v2 cdef g cfg ld ti cx := by
  unfold loadR at h
  obtain ⟨inh, h1, h⟩ := bind_eq_ok.mp h
  obtain ⟨_, -, h⟩ := bind_eq_ok.mp h
  obtain ⟨⟨g1, pxs⟩, h3, h⟩ := bind_eq_ok.mp h
  obtain ⟨paths, -, h⟩ := bind_eq_ok.mp h
  obtain ⟨hne, h⟩ := of_ite_eq_ok h nofun
  obtain ⟨conn, h5, h⟩ := bind_eq_ok.mp h
  obtain ⟨pl, h6, h⟩ := bind_eq_ok.mp h
  cases h
  obtain ⟨cx, hcx, hps, hrx⟩ := (setUpROovs_post cfg.oov).post _ h3
  obtain ⟨rfl, hud, hcnt, hlen⟩ := (mergeUsers_post cfg.users).post _ h6
  obtain ⟨ti, hti, h1⟩ := (inhSetUpsR_post cfg.inh).post _ h1
  refine ⟨ti, cx, hti, hcx, ?_, hud, Nat.add_comm _ _ ▸ hcnt (by decide),
    fun hne => hlen fun hu => absurd hu hne, hrx⟩
  have hne' : (pxs.map (·.1)).isEmpty = false := by
    cases pxs with
    | nil => exact absurd rfl hne
    | cons a b => rfl
  rw [load_eq, h1]
  dsimp only [Outcome.bind]
  rw [hps]
  dsimp only
  rw [hne', h5]
  rfl

theorem loadR_safe {v : Variant} (hv : v.inhChecked = true) (v2 : Variant2) (cdef : List (List Char))
    (np : Pos) (g : Grammar) (cfg : RCfg) (hnl : g.conn.nl ≤ 65535) (hnr : g.conn.nr ≤ 65535) (hwf : g.conn.WF) :
    (loadR v v2 cdef np g cfg).isSafe = true := by
  unfold loadR
  refine bind_safe (inhSetUpsR_post cfg.inh).safe fun inh hinh => ?_
  refine bind_safe (setUpInputs_safe cfg.input) fun _ _ => ?_
  refine bind_safe (setUpROovs_post cfg.oov).safe fun gp hgp => ?_
  refine bind_safe (setUpPaths_safe np gp.1.pos cfg.path) fun _ _ => ite_safe rfl ?_
  obtain ⟨cx, _, hps, _⟩ := (setUpROovs_post cfg.oov).post _ hgp
  obtain ⟨ti, _, hinh⟩ := (inhSetUpsR_post cfg.inh).post _ hinh
  rw [((setUpProvs_post _).post _ hps).conn, inhEdits_of_checked hv hnl hnr hwf hinh]
  exact bind_safe rfl fun _ _ => bind_safe (mergeUsers_post cfg.users).safe fun _ _ => rfl

/-! ## the slice of the regex provider -/

theorem regexEnd_ok (sat dbg : Bool) {maxLen offset len : Nat} (ho : offset ≤ len)
    (h : offset + maxLen < TWO64 ∨ (sat = true ∧ len < TWO64)) :
    ∃ e, regexEnd sat dbg maxLen offset len = ok e ∧ offset ≤ e ∧ e ≤ len := by
  have slice : ∀ s, offset ≤ s → ∃ e, ((ok s : Outcome Nat).bind fun s =>
      let e := min len s; if e < offset then crash else ok e) = ok e ∧ offset ≤ e ∧ e ≤ len := fun s hs =>
    ⟨min len s, if_neg (by omega), by omega, by omega⟩
  unfold regexEnd
  dsimp only
  by_cases hs : offset + maxLen < TWO64
  · rw [if_pos hs]; exact slice _ (by omega)
  · obtain ⟨rfl, hl⟩ := h.resolve_left hs
    rw [if_neg hs, if_pos rfl]; exact slice _ (by omega)

/-- the plain addition (`sat = false`): whenever the sum does not fit `usize` the call panics, with overflow checks
(the addition) and without (the slice `offset..end` with `end < offset`) -/
theorem regexEnd_overflow (dbg : Bool) {maxLen offset len : Nat} (hm : maxLen < TWO64)
    (hs : TWO64 ≤ offset + maxLen) :
    regexEnd false dbg maxLen offset len = crash := by
  unfold regexEnd
  dsimp only
  rw [if_neg (by omega), if_neg Bool.false_ne_true]
  cases dbg with
  | true => rfl
  | false => exact if_pos (by omega)

end Params
