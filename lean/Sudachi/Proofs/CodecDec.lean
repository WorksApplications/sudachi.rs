import Sudachi.Model.CodecBuild
import Sudachi.Proofs.Codec
/-!
# Decimal texts (`to_string`) against the number / id parsers of `parse.rs` (property C05)

`showNat_spec` says all that the parsers need of a decimal text: it is not empty, made of digits, and has the value
printed.  Each parser looks at the first character for a sign or a `U` before it reads digits; a decimal text begins with
a digit (`showNat_ne_cons`), so the parser's last equation applies and `digitsVal_showNat` gives the value.
-/
namespace Codec

/-- decimal text of a natural number, as Rust's `to_string` prints it -/
def showNat (n : Nat) : Str := if n < 10 then [48 + n] else showNat (n / 10) ++ [48 + n % 10]
decreasing_by omega

def showInt (i : Int) : Str := if i < 0 then 45 :: showNat i.natAbs else showNat i.natAbs

def decStep (a c : Nat) : Nat := a * 10 + (c - 48)

theorem showNat_spec (n : Nat) :
    showNat n ≠ [] ∧ (showNat n).all isDigit = true ∧ (showNat n).foldl (fun a c => a * 10 + (c - 48)) 0 = n := by
  induction n using Nat.strongRecOn with
  | ind n ih =>
    rw [showNat]
    by_cases h : n < 10
    · simp only [h, if_true]
      refine ⟨by simp, ?_, by simp⟩
      simp [isDigit]; omega
    · simp only [h, if_false]
      obtain ⟨h1, h2, h3⟩ := ih (n / 10) (by omega)
      refine ⟨by simp, ?_, ?_⟩
      · simp only [List.all_append, h2, List.all_cons, List.all_nil, Bool.and_true, Bool.true_and]
        simp [isDigit]; omega
      · rw [List.foldl_append, h3]; simp; omega

theorem showNat_mem_digit (n : Nat) : ∀ c ∈ showNat n, 48 ≤ c ∧ c ≤ 57 := by
  intro c hc
  have := List.all_eq_true.1 (showNat_spec n).2.1 c hc
  simpa [isDigit] using this

theorem showNat_ne_cons (n c : Nat) (r : Str) (hc : c < 48 ∨ 57 < c) : showNat n ≠ c :: r := fun e =>
  have h := showNat_mem_digit n c (e ▸ List.mem_cons_self ..)
  hc.elim (Nat.not_lt.2 h.1) (Nat.not_lt.2 h.2)

theorem isEmpty_showNat (n : Nat) : (showNat n).isEmpty = false :=
  Bool.eq_false_iff.2 fun h => (showNat_spec n).1 (List.isEmpty_iff.1 h)

theorem digitsVal_showNat (n : Nat) : digitsVal (showNat n) = some n := by
  rw [digitsVal, isEmpty_showNat, (showNat_spec n).2.1, (showNat_spec n).2.2]
  rfl

theorem parseU32_showNat (n : Nat) (h : n < 4294967296) : parseU32 (showNat n) = some n := by
  rw [parseU32.eq_2 _ (fun r => showNat_ne_cons n 43 r (Or.inl (by decide))), digitsVal_showNat]
  exact if_pos (Nat.le_of_lt_succ h)

theorem parseU32_plus_showNat (n : Nat) (h : n < 4294967296) : parseU32 (43 :: showNat n) = some n := by
  rw [parseU32.eq_1, digitsVal_showNat]
  exact if_pos (Nat.le_of_lt_succ h)

theorem parseI16_showInt (i : Int) (h : -32768 ≤ i ∧ i ≤ 32767) : parseI16 (showInt i) = some i := by
  unfold showInt
  by_cases hneg : i < 0
  · rw [if_pos hneg, parseI16.eq_3, digitsVal_showNat]
    exact (if_pos (by omega)).trans (congrArg some (by omega))
  · rw [if_neg hneg, parseI16.eq_4 _ (showNat_spec _).1 (fun r => showNat_ne_cons _ 43 r (Or.inl (by decide)))
      (fun r => showNat_ne_cons _ 45 r (Or.inl (by decide))), digitsVal_showNat]
    exact (if_pos (by omega)).trans (congrArg some (by omega))

theorem and_hi_zero (n : Nat) (h : n < 268435456) : n &&& 0xf0000000 = 0 := by
  -- below 2^28 the `and` is its own remainder mod 2^28, and `0xf0000000 % 2^28 = 0`
  rw [← Nat.mod_eq_of_lt (Nat.lt_of_le_of_lt Nat.and_le_left h), Nat.and_mod_two_pow (n := 28)]
  exact Nat.and_zero _

theorem parseWordIdRaw_showNat (n : Nat) (h : n < 268435456) : parseWordIdRaw (showNat n) = some n := by
  unfold parseWordIdRaw
  rw [parseU32_showNat n (by omega)]
  simp only [Option.bind_some, and_hi_zero n h, ne_eq, not_true_eq_false, if_false, widNew_zero n h]

theorem parseWordId_showNat (n : Nat) (h : n < 268435456) : parseWordId (showNat n) = some n := by
  rw [parseWordId.eq_2 _ (fun r => showNat_ne_cons n 85 r (Or.inr (by decide)))]
  exact parseWordIdRaw_showNat n h

theorem parseWordId_U_showNat (n : Nat) (h : n < 268435456) : parseWordId (85 :: showNat n) = some (widNew 1 n) := by
  rw [parseWordId.eq_1, parseWordIdRaw_showNat n h, Option.map_some, widWord_small n h]

theorem isWordIdLiteral_showNat (n : Nat) : isWordIdLiteral (showNat n) = true := by
  rw [isWordIdLiteral.eq_2 _ (fun r => showNat_ne_cons n 85 r (Or.inr (by decide))), isEmpty_showNat, (showNat_spec n).2.1]
  rfl

theorem isWordIdLiteral_U_showNat (n : Nat) : isWordIdLiteral (85 :: showNat n) = true := by
  rw [isWordIdLiteral.eq_1, isEmpty_showNat, (showNat_spec n).2.1]
  rfl

/-- the text of a reference: `N`, or `UN` for an entry of the user dictionary itself -/
def showRef (x : Bool × Nat) : Str := if x.1 then 85 :: showNat x.2 else showNat x.2
def refId (x : Bool × Nat) : Nat := if x.1 then widNew 1 x.2 else x.2

theorem parseWordId_showRef (x : Bool × Nat) (h : x.2 < 268435456) : parseWordId (showRef x) = some (refId x) := by
  unfold showRef refId
  cases x.1
  · exact parseWordId_showNat x.2 h
  · exact parseWordId_U_showNat x.2 h

theorem showRef_mem (x : Bool × Nat) : ∀ c ∈ showRef x, c = 85 ∨ (48 ≤ c ∧ c ≤ 57) := by
  intro c hc
  unfold showRef at hc
  cases hx : x.1
  · rw [hx] at hc; exact Or.inr (showNat_mem_digit _ c hc)
  · rw [hx] at hc
    rcases List.mem_cons.1 hc with rfl | h
    · exact Or.inl rfl
    · exact Or.inr (showNat_mem_digit _ c h)

theorem showRef_ne_nil (x : Bool × Nat) : showRef x ≠ [] := by
  unfold showRef
  cases x.1
  · exact (showNat_spec _).1
  · simp

theorem isWordIdLiteral_showRef (x : Bool × Nat) : isWordIdLiteral (showRef x) = true := by
  unfold showRef
  cases x.1
  · exact isWordIdLiteral_showNat _
  · exact isWordIdLiteral_U_showNat _

example : showNat 0 = [48] ∧ showNat 32767 = lit "32767" ∧ showInt (-32768) = lit "-32768" := by
  refine ⟨by simp [showNat], by simp [showNat, lit], by simp [showInt, showNat, lit]⟩

end Codec
