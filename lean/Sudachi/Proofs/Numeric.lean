import Sudachi.Model.Numeric
/-!
# The numeral parser on digits, separators and the point (C15)

Reference notation for what is written: a digit in either script (`Dg`), digit strings, an integer
part with thousands separators (`IntPart`); `canonDigits`/`canonInt` are the ASCII renderings (leading
zeros kept, separators removed).  `Parser.run` is `feed` without its counter: the parser after an accepted
text, an `Option`, so texts compose by `Option.bind` (`run_append`) and an invariant goes along a text by
`run_induct`; the counter is the length of what was accepted (`feed_ok_iff`).  `Parser.append` is unfolded
once per character into an equation whose
right side names the state it leaves (`pushDigit`, `pushComma`, `pushPoint`), `Parser.done` into
`done_eq` over the two final additions (`Parser.sums`); `reject_or`/`accept_or` turn such a chain of
rejecting checks into a conjunction, so acceptance is an iff per character.  Then the closed forms of
the state after a digit string and after separator groups, `to_string` of a number with a point
(`toStr_point`, used by `rep_toStr`), and `parse` unfolded once, given the run (`parse_iff`); a rejected
character ends the text (`parse_none_of_char`).  What `parse`
answers on written numbers is proved at the end of the chain (`parse_run` in `NumericDenote`).
-/
namespace Numeric

/-! ## written digits -/

/-- one written digit: value and the script it is written in -/
structure Dg where
  kanji : Bool
  d : Fin 10
deriving DecidableEq, Repr

def kanjiDigit (d : Fin 10) : Char :=
  match d with
  | 0 => '〇' | 1 => '一' | 2 => '二' | 3 => '三' | 4 => '四'
  | 5 => '五' | 6 => '六' | 7 => '七' | 8 => '八' | 9 => '九'

def Dg.glyph (g : Dg) : Char := if g.kanji then kanjiDigit g.d else SN.digitChar g.d.val
def Dg.ascii (g : Dg) : Char := SN.digitChar g.d.val

def renderDigits (ds : List Dg) : List Char := ds.map Dg.glyph
/-- the decimal rendering: ASCII digits, leading zeros kept -/
def canonDigits (ds : List Dg) : List Char := ds.map Dg.ascii

theorem canonDigits_length (ds : List Dg) : (canonDigits ds).length = ds.length := by simp [canonDigits]

theorem canonDigits_ne (ds : List Dg) (h : ds ≠ []) : canonDigits ds ≠ [] := by
  cases ds with
  | nil => exact absurd rfl h
  | cons a b => simp [canonDigits]

variable (v : Variant)

/-! ## `run`: the parser after an accepted text; `feed` and its counter -/

/-- the parser after the whole of `text` has been accepted (`none`: a character is rejected): `feed`
without its counter, which is the length of what was accepted (`feed_ok_iff`) -/
def Parser.run (p : Parser) : List Char → Option Parser
  | [] => some p
  | c :: cs => if (p.append v c).1 then Parser.run (p.append v c).2 cs else none

theorem run_cons (p p' : Parser) (c : Char) (cs : List Char) (h : p.append v c = (true, p')) :
    p.run v (c :: cs) = p'.run v cs := by
  simp [Parser.run, h]

theorem run_cons_some (p q : Parser) (c : Char) (cs : List Char) (h : p.run v (c :: cs) = some q) :
    ∃ p', p.append v c = (true, p') ∧ p'.run v cs = some q := by
  rcases ha : p.append v c with ⟨ok, p'⟩
  cases ok
  · simp [Parser.run, ha] at h
  · exact ⟨p', rfl, (run_cons v p p' c cs ha).symm.trans h⟩

theorem run_append (a b : List Char) (p : Parser) : p.run v (a ++ b) = (p.run v a).bind (·.run v b) := by
  induction a generalizing p with
  | nil => rfl
  | cons c cs ih =>
    simp only [List.cons_append, Parser.run]
    split
    · exact ih _
    · rfl

/-- along an accepted text: `J pre q` holds of every prefix `pre` read and the parser `q` after it -/
theorem run_induct (J : List Char → Parser → Prop) (text : List Char) (p q : Parser)
    (h : p.run v text = some q) (h0 : J [] p)
    (hstep : ∀ pre c p1 p2, c ∈ text → J pre p1 → p1.append v c = (true, p2) → J (pre ++ [c]) p2) : J text q := by
  induction text generalizing p J with
  | nil => exact Option.some.inj h ▸ h0
  | cons c cs ih =>
    obtain ⟨p', ha, h⟩ := run_cons_some v p q c cs h
    exact ih (fun pre q => J (c :: pre) q) p' h (hstep [] c p p' List.mem_cons_self h0 ha)
      (fun pre c' p1 p2 hc => hstep (c :: pre) c' p1 p2 (List.mem_cons_of_mem _ hc))

theorem feed_ok_iff (text : List Char) (p : Parser) (n m : Nat) (q : Parser) :
    p.feed v text n = (m, true, q) ↔ p.run v text = some q ∧ m = n + text.length := by
  induction text generalizing p n with
  | nil => simp [Parser.feed, Parser.run, eq_comm, and_comm]
  | cons c cs ih =>
    simp only [Parser.feed, Parser.run]
    rcases p.append v c with ⟨ok, p'⟩
    cases ok
    · simp
    · simp only [ih, if_true, List.length_cons, Nat.add_assoc, Nat.add_comm 1]

/-- `feed` of a text in two parts, every outcome: a rejection in the first part is the answer -/
theorem feed_append (a b : List Char) (p : Parser) (n : Nat) :
    p.feed v (a ++ b) n =
      match p.feed v a n with
      | (m, true, q) => q.feed v b m
      | r => r := by
  induction a generalizing p n with
  | nil => simp [Parser.feed]
  | cons c cs ih =>
    simp only [List.cons_append, Parser.feed]
    rcases h : p.append v c with ⟨ok, p'⟩
    cases ok
    · simp
    · simp only
      exact ih p' (n + 1)

theorem feed_reject_lt (a : List Char) (p : Parser) (n m : Nat) (q : Parser)
    (h : p.feed v a n = (m, false, q)) : m < n + a.length := by
  induction a generalizing p n with
  | nil => simp [Parser.feed] at h
  | cons c cs ih =>
    simp only [Parser.feed] at h
    rcases ha : p.append v c with ⟨ok, p'⟩
    rw [ha] at h
    cases ok
    · simp only [Prod.mk.injEq] at h
      simp only [List.length_cons]
      omega
    · have := ih p' (n + 1) h
      simp only [List.length_cons]
      omega

/-! ## `append` of a digit, of the separator, of the point -/

theorem charToNum_glyph (g : Dg) : charToNum g.glyph = some (Int.ofNat g.d.val) := by
  cases g with
  | mk k d => revert k d; decide +kernel

theorem charToNum_point : charToNum '.' = none := by decide
theorem charToNum_comma : charToNum ',' = none := by decide

theorem glyph_ne_point (g : Dg) : g.glyph ≠ '.' := by
  intro h; have := charToNum_glyph g; rw [h, charToNum_point] at this; cases this
theorem glyph_ne_comma (g : Dg) : g.glyph ≠ ',' := by
  intro h; have := charToNum_glyph g; rw [h, charToNum_comma] at this; cases this

def Parser.pushDigit (p : Parser) (g : Dg) : Parser :=
  { p with tmp := p.tmp.append g.d.val, isFirstDigit := false, digitLength := p.digitLength + 1,
           hasHangingPoint := false }

theorem append_digit (p : Parser) (g : Dg) : p.append v g.glyph = (true, p.pushDigit g) := by
  unfold Parser.append
  have h := charToNum_glyph g
  simp only [glyph_ne_point g, glyph_ne_comma g, if_false, h]
  have h1 : isSmallUnit ((g.d.val : Nat) : Int) = false := by
    simp [isSmallUnit]
  have h2 : isLargeUnit ((g.d.val : Nat) : Int) = false := by
    simp [isLargeUnit]
  have h3 : decide (((g.d.val : Nat) : Int) < 0) = false := by
    simp
  simp only [Int.ofNat_eq_natCast] at h1 h2 h3 ⊢
  simp [h1, h2, h3, Parser.pushDigit]

theorem append_digit_iff (p p' : Parser) (g : Dg) : p.append v g.glyph = (true, p') ↔ p' = p.pushDigit g := by
  rw [append_digit]
  exact ⟨fun h => (Prod.mk.inj h).2.symm, fun h => by rw [h]⟩

def Parser.pushDigits (p : Parser) (ds : List Dg) : Parser := ds.foldl Parser.pushDigit p

theorem run_digits (ds : List Dg) (p : Parser) : p.run v (renderDigits ds) = some (p.pushDigits ds) := by
  induction ds generalizing p with
  | nil => rfl
  | cons g ds ih => exact (run_cons v p _ _ _ (append_digit v p g)).trans (ih _)

/-- all digits written so far are zero -/
def allZeroDigits (ds : List Dg) : Bool := ds.all (fun g => g.d.val == 0)

theorem pushDigits_eq (ds : List Dg) (p : Parser) : p.pushDigits ds =
    { p with tmp := { p.tmp with sig := p.tmp.sig ++ canonDigits ds, allZero := p.tmp.allZero && allZeroDigits ds },
             isFirstDigit := p.isFirstDigit && ds.isEmpty, digitLength := p.digitLength + ds.length,
             hasHangingPoint := p.hasHangingPoint && ds.isEmpty } := by
  induction ds generalizing p with
  | nil => simp [Parser.pushDigits, canonDigits, allZeroDigits]
  | cons g ds ih =>
    rw [Parser.pushDigits, List.foldl_cons, ← Parser.pushDigits, ih]
    by_cases hg : g.d.val = 0 <;>
      simp [Parser.pushDigit, SN.append, canonDigits, Dg.ascii, allZeroDigits, hg, Nat.add_assoc, Nat.add_comm 1]

def Parser.pushComma (p : Parser) : Parser := { p with hasComma := true, digitLength := 0 }

def Parser.pushPoint (p : Parser) : Parser :=
  { p with hasHangingPoint := true, tmp := { p.tmp with point := some p.tmp.sig.length }, hasComma := false }

/-- one rejecting check in front of `r`; rewriting with it along a chain of checks turns acceptance into a
conjunction -/
theorem reject_or {α : Type} (c : Prop) [Decidable c] (a x : α) (r : Bool × α) :
    (if c then (false, a) else r) = (true, x) ↔ ¬ c ∧ r = (true, x) := by
  by_cases h : c <;> simp [h]

theorem accept_or {α : Type} (c : Prop) [Decidable c] (a b x : α) :
    (if c then (true, a) else (false, b)) = (true, x) ↔ c ∧ x = a := by
  by_cases h : c <;> simp [h, eq_comm]

theorem append_comma_eq (p : Parser) :
    p.append v ',' = if p.checkComma v then (true, p.pushComma) else (false, { p with err := .comma }) := by
  unfold Parser.append
  cases p.checkComma v <;> rfl

theorem append_comma (p : Parser) (h : p.checkComma v = true) : p.append v ',' = (true, p.pushComma) := by
  rw [append_comma_eq, if_pos h]

theorem append_comma_reject (p : Parser) (h : p.checkComma v = false) :
    p.append v ',' = (false, { p with err := .comma }) := by
  rw [append_comma_eq, h]; rfl

theorem append_comma_iff (p p' : Parser) :
    p.append v ',' = (true, p') ↔ p' = p.pushComma ∧ p.checkComma v = true := by
  rw [append_comma_eq, accept_or, and_comm]

theorem append_point_eq (p : Parser) : p.append v '.' =
    if p.isFirstDigit then (false, { p with hasHangingPoint := true, err := .point })
    else if p.hasComma && !p.checkComma v then (false, { p with hasHangingPoint := true, err := .comma })
    else if p.tmp.scale == 0 && p.tmp.point.isNone then (true, p.pushPoint)
    else (false, { p with hasHangingPoint := true, err := .point }) := by
  unfold Parser.append Parser.pushPoint SN.setPoint
  by_cases h : (p.tmp.scale == 0 && p.tmp.point.isNone) = true
  · simp only [h, if_true]; rfl
  · simp only [h, if_true]; rfl

theorem append_point_iff (p p' : Parser) : p.append v '.' = (true, p') ↔
    p' = p.pushPoint ∧ p.isFirstDigit = false ∧ (p.hasComma = true → p.checkComma v = true) ∧
    p.tmp.scale = 0 ∧ p.tmp.point = none := by
  rw [append_point_eq, reject_or, reject_or, accept_or]
  simp only [Bool.not_eq_true, Bool.and_eq_false_imp, Bool.not_eq_false']
  simp only [Bool.and_eq_true, beq_iff_eq, Option.isNone_iff_eq_none]
  constructor
  · rintro ⟨h1, h2, ⟨h3, h4⟩, h5⟩; exact ⟨h5, h1, h2, h3, h4⟩
  · rintro ⟨h5, h1, h2, h3, h4⟩; exact ⟨h1, h2, ⟨h3, h4⟩, h5⟩

/-! ## `done()` in one piece -/

/-- the two final additions of `done()`: `subtotal += tmp`, then, if that succeeded, `total += subtotal` -/
def Parser.sums (q : Parser) : Bool × Parser :=
  let r1 := q.subtotal.add q.tmp
  let r2 := q.total.add r1.2.1
  (r1.1 && r2.1, { q with total := if r1.1 then r2.2.1 else q.total, subtotal := if r1.1 then r2.2.2 else r1.2.1,
                          tmp := r1.2.2 })

theorem done_eq (q : Parser) : q.done v =
    if v.f6 && !q.sums.1 then (false, q.sums.2)
    else if q.hasHangingPoint then (false, { q.sums.2 with err := .point })
    else if q.hasComma && q.digitLength != 3 then (false, { q.sums.2 with err := .comma })
    else q.sums := by
  unfold Parser.done Parser.sums
  cases h : (q.subtotal.add q.tmp).1 <;> simp only [h] <;> rfl

theorem sums_ok (q : Parser) : q.sums.1 = true ↔
    (q.subtotal.add q.tmp).1 = true ∧ (q.total.add (q.subtotal.add q.tmp).2.1).1 = true :=
  Bool.and_eq_true_iff

theorem sums_snd (q : Parser) (h : (q.subtotal.add q.tmp).1 = true) :
    q.sums.2 = { q with total := (q.total.add (q.subtotal.add q.tmp).2.1).2.1,
                        subtotal := (q.total.add (q.subtotal.add q.tmp).2.1).2.2, tmp := (q.subtotal.add q.tmp).2.2 } := by
  unfold Parser.sums
  simp only [h, if_true]

theorem done_iff (q q' : Parser) : q.done v = (true, q') ↔
    q.sums = (true, q') ∧ q.hasHangingPoint = false ∧ (q.hasComma = true → q.digitLength = 3) := by
  rw [done_eq, reject_or, reject_or, reject_or]
  simp only [Bool.not_eq_true, Bool.and_eq_false_imp, bne_eq_false_iff_eq]
  constructor
  · rintro ⟨_, h1, h2, h3⟩; exact ⟨h3, h1, h2⟩
  · rintro ⟨h3, h1, h2⟩; exact ⟨fun _ => by rw [h3]; rfl, h1, h2, h3⟩

theorem done_ok (q : Parser) : (q.done v).1 = true ↔
    q.sums.1 = true ∧ q.hasHangingPoint = false ∧ (q.hasComma = true → q.digitLength = 3) := by
  constructor
  · intro h
    have := (done_iff v q (q.done v).2).1 (Prod.ext h rfl)
    exact ⟨by rw [this.1], this.2⟩
  · rintro ⟨h1, h2⟩
    rw [(done_iff v q q.sums.2).2 ⟨Prod.ext h1 rfl, h2⟩]

theorem done_snd (q : Parser) (h : (q.done v).1 = true) : (q.done v).2 = q.sums.2 :=
  (congrArg Prod.snd ((done_iff v q (q.done v).2).1 (Prod.ext h rfl)).1).symm

theorem done_eq_sums_err (q : Parser) : (q.done v).2 = { q.sums.2 with err := (q.done v).2.err } := by
  rw [done_eq]
  by_cases h1 : (v.f6 && !q.sums.1) = true
  · rw [if_pos h1]
  rw [if_neg h1]
  by_cases h2 : q.hasHangingPoint = true
  · rw [if_pos h2]
  rw [if_neg h2]
  by_cases h3 : (q.hasComma && q.digitLength != 3) = true
  · rw [if_pos h3]
  rw [if_neg h3]

theorem done_hanging (q : Parser) (h : q.hasHangingPoint = true) : (q.done v).1 = false :=
  Bool.eq_false_iff.2 fun hd => Bool.noConfusion (h.symm.trans ((done_ok v q).1 hd).2.1)

theorem done_bad_group (q : Parser) (h : q.hasComma = true) (h' : q.digitLength ≠ 3) : (q.done v).1 = false :=
  Bool.eq_false_iff.2 fun hd => h' (((done_ok v q).1 hd).2.2 h)

/-! ## `to_string` of a plain number; the fields of `Parser.new` -/

theorem isZero_false (s : SN) (h : s.sig ≠ []) : s.isZero = false := List.isEmpty_eq_false_iff.2 h

theorem toStr_plain (t : SN) (hs : t.sig ≠ []) (h0 : t.scale = 0) (hp : t.point = none) (hb : t.bad = false) :
    t.toStr = some t.sig := by
  unfold SN.toStr SN.normalizeScale
  simp [isZero_false t hs, hp, h0, hb]

theorem new_fields : Parser.new.total = {} ∧ Parser.new.subtotal = {} ∧ Parser.new.tmp = {} ∧
    Parser.new.hasComma = false ∧ Parser.new.digitLength = 0 ∧ Parser.new.hasUnit = false := by
  simp [Parser.new]

/-! ## integer parts with thousands separators -/

/-- integer part: `gs = []` is a plain digit string, otherwise `g1,g,g,...` -/
structure IntPart where
  g1 : List Dg
  gs : List (List Dg)

/-- well-formed: a non-empty first group; with separators the first group has at most three digits
and is not all zeros, every later group has exactly three digits -/
def IntPart.WF (i : IntPart) : Prop :=
  i.g1 ≠ [] ∧ (i.gs ≠ [] → i.g1.length ≤ 3 ∧ allZeroDigits i.g1 = false) ∧ ∀ g ∈ i.gs, g.length = 3

def renderGroups (gs : List (List Dg)) : List Char := gs.flatMap (fun g => ',' :: renderDigits g)
def renderInt (i : IntPart) : List Char := renderDigits i.g1 ++ renderGroups i.gs
def canonInt (i : IntPart) : List Char := canonDigits (i.g1 ++ i.gs.flatten)

def Parser.pushGroups (p : Parser) (gs : List (List Dg)) : Parser :=
  gs.foldl (fun p g => p.pushComma.pushDigits g) p

theorem run_groups (gs : List (List Dg)) (h3 : ∀ g ∈ gs, g.length = 3) (p : Parser)
    (hc : p.checkComma v = true) (hpt : p.tmp.point = none) :
    p.run v (renderGroups gs) = some (p.pushGroups gs) := by
  induction gs generalizing p with
  | nil => rfl
  | cons g gs ih =>
    have hg : g.length = 3 := h3 g (by simp)
    have hgne : g.isEmpty = false := by cases g with | nil => cases hg | cons a b => rfl
    simp only [renderGroups, List.flatMap_cons, List.cons_append]
    rw [run_cons v p _ _ _ (append_comma v p hc), run_append, run_digits]
    exact ih (fun g' hg' => h3 g' (by simp [hg'])) (p.pushComma.pushDigits g)
      (by rw [pushDigits_eq]; simp [Parser.checkComma, Parser.pushComma, hgne, hg, hpt])
      (by rw [pushDigits_eq]; exact hpt)

theorem pushGroups_eq (gs : List (List Dg)) (h3 : ∀ g ∈ gs, g.length = 3) (hne : gs ≠ []) (p : Parser) :
    p.pushGroups gs =
    { p with tmp := { p.tmp with sig := p.tmp.sig ++ canonDigits gs.flatten,
                                 allZero := p.tmp.allZero && allZeroDigits gs.flatten },
             isFirstDigit := false, hasComma := true, digitLength := 3, hasHangingPoint := false } := by
  induction gs generalizing p with
  | nil => exact absurd rfl hne
  | cons g gs ih =>
    have hg : g.length = 3 := h3 g List.mem_cons_self
    have hgne : g.isEmpty = false := by cases g with | nil => cases hg | cons a b => rfl
    rw [Parser.pushGroups, List.foldl_cons, ← Parser.pushGroups, pushDigits_eq]
    cases gs with
    | nil => simp [Parser.pushGroups, Parser.pushComma, hg, hgne]
    | cons g' gs' =>
      rw [ih (fun x hx => h3 x (List.mem_cons_of_mem _ hx)) (List.cons_ne_nil _ _)]
      simp [Parser.pushComma, canonDigits, allZeroDigits, Bool.and_assoc]

/-! ## `to_string` of a number with a point -/

def trimZeros (l : List Char) : List Char := (l.reverse.dropWhile (· == '0')).reverse
/-- the fraction as rendered: nothing when all fraction digits are zero -/
def fracPart (t : List Char) : List Char := if t.isEmpty then [] else '.' :: t

theorem take_sub_nLastZero (l : List Char) : l.take (l.length - SN.nLastZero l) = trimZeros l := by
  have h := List.takeWhile_append_dropWhile (p := (· == '0')) (l := l.reverse)
  have hl : l = (l.reverse.dropWhile (· == '0')).reverse ++ (l.reverse.takeWhile (· == '0')).reverse := by
    have := congrArg List.reverse h
    rw [List.reverse_append, List.reverse_reverse] at this
    exact this.symm
  have hlen : l.length = (l.reverse.dropWhile (· == '0')).length + (l.reverse.takeWhile (· == '0')).length := by
    have := congrArg List.length h
    rw [List.length_append, List.length_reverse] at this
    omega
  unfold SN.nLastZero trimZeros
  rw [hlen, Nat.add_sub_cancel]
  conv => lhs; arg 2; rw [hl]
  rw [List.take_left']
  simp

theorem dropWhile_append_stop (a b : List Char) (c : Char) (hc : (c == '0') = false) :
    (a ++ c :: b).dropWhile (· == '0') = a.dropWhile (· == '0') ++ c :: b := by
  induction a with
  | nil => simp [List.dropWhile, hc]
  | cons x a ih =>
    by_cases hx : (x == '0') = true
    · simp [List.dropWhile, hx, ih]
    · simp [List.dropWhile, hx]

theorem trimZeros_point (a b : List Char) : trimZeros (a ++ '.' :: b) = a ++ '.' :: trimZeros b := by
  unfold trimZeros
  simp only [List.reverse_append, List.reverse_cons, List.append_assoc, List.singleton_append]
  rw [dropWhile_append_stop _ _ '.' (by decide)]
  simp

theorem mem_trimZeros {c : Char} {b : List Char} (h : c ∈ trimZeros b) : c ∈ b := by
  unfold trimZeros at h
  rw [List.mem_reverse] at h
  have := (List.dropWhile_sublist (· == '0') (l := b.reverse)).subset h
  simpa using this

theorem toStr_point (t : SN) (a b : List Char) (hsig : t.sig = a ++ b) (ha : a ≠ []) (hb : b ≠ [])
    (hbd : ∀ c ∈ b, c ≠ '.') (hp : t.point = some a.length) (h0 : t.scale = 0) (hbad : t.bad = false) :
    t.toStr = some (a ++ fracPart (trimZeros b)) := by
  -- the point goes between `a` and `b`, the zeros at the end of `b` go; the last character left is
  -- the point exactly when nothing of `b` is left, since `b` itself has no point
  have hz : t.sig.isEmpty = false := isZero_false t (by rw [hsig]; simp [ha])
  have hlen : t.sig.length = a.length + b.length := by rw [hsig]; simp
  have hbl : 0 < b.length := List.length_pos_iff.2 hb
  have hal : 0 < a.length := List.length_pos_iff.2 ha
  unfold SN.toStr SN.normalizeScale
  simp only [SN.isZero, hz, hp, hlen, h0]
  have e1 : ¬ (a.length > a.length + b.length) := by omega
  have e2 : a.length + b.length - a.length > 0 := by omega
  simp only [e1, e2, if_false, if_true, hbad, Nat.add_zero, Nat.lt_irrefl, gt_iff_lt]
  have e3 : (a.length == 0) = false := by
    cases h : a.length with
    | zero => omega
    | succ k => rfl
  have hins : SN.insertAt t.sig a.length '.' = a ++ '.' :: b := by
    simp [SN.insertAt, hsig]
  have e4 : ¬ (t.sig.length < a.length) := by omega
  simp only [hins, e3, take_sub_nLastZero, Bool.false_eq_true, if_false, e4]
  rw [trimZeros_point]
  cases htb : trimZeros b with
  | nil => simp [fracPart]
  | cons x y =>
    have hne := List.cons_ne_nil x y
    have hc : (x :: y).getLast hne ∈ b := mem_trimZeros (by rw [htb]; exact List.getLast_mem hne)
    have : ((x :: y).getLast hne == '.') = false := by simpa using hbd _ hc
    simp only [List.getLast?_append, List.getLast?_cons_cons, List.getLast?_eq_some_getLast hne]
    simp [this, fracPart]

/-! ## `parse` given the run -/

theorem Err.code_inj {a b : Err} (h : a.code = b.code) : a = b := by
  revert h; cases a <;> cases b <;> decide

theorem parse_none_of_run_none (text : List Char) (hr : Parser.new.run v text = none) : parse v text = none := by
  rcases hf : Parser.new.feed v text 0 with ⟨n, ok, q⟩
  cases ok
  · unfold parse verifParse
    rw [hf]
    cases hb : q.anyBad <;> simp [hb]
  · rw [((feed_ok_iff v _ _ _ _ _).1 hf).1] at hr; cases hr

theorem parse_iff (text s : List Char) (q : Parser) (hr : Parser.new.run v text = some q) :
    parse v text = some s ↔
      (q.done v).1 = true ∧ (q.done v).2.anyBad = false ∧ (q.done v).2.getNormalized v = some s := by
  unfold parse verifParse
  rw [(feed_ok_iff v _ _ 0 _ q).2 ⟨hr, rfl⟩]
  cases hd : (q.done v).1 <;> cases hb : (q.done v).2.anyBad <;> cases hg : (q.done v).2.getNormalized v <;>
    simp [hd, hb, hg]

theorem parse_some (text s : List Char) (h : parse v text = some s) :
    ∃ q, Parser.new.run v text = some q ∧ (q.done v).1 = true ∧ (q.done v).2.anyBad = false ∧
      (q.done v).2.getNormalized v = some s := by
  cases hr : Parser.new.run v text with
  | none => rw [parse_none_of_run_none v text hr] at h; cases h
  | some q => exact ⟨q, rfl, (parse_iff v text s q hr).1 h⟩

theorem parse_none_of_done_false (text : List Char) (q : Parser)
    (hr : Parser.new.run v text = some q) (hd : (q.done v).1 = false) : parse v text = none :=
  Option.eq_none_iff_forall_ne_some.2 fun s hs =>
    Bool.noConfusion (hd.symm.trans ((parse_iff v text s q hr).1 hs).1)

/-- a character that is rejected in the state after `pre` ends the text -/
theorem parse_none_of_char (pre : List Char) (c : Char) (post : List Char)
    (h : ∀ q, Parser.new.run v pre = some q → (q.append v c).1 = false) : parse v (pre ++ c :: post) = none := by
  apply parse_none_of_run_none
  rw [run_append]
  cases hq : Parser.new.run v pre with
  | none => rfl
  | some q => simp [Parser.run, h q hq]

end Numeric


