import Sudachi.Proofs.Utf8
/-!
# Text, bytes and character boundaries (property C16)

The scanners in closed form (`spanLen_eq`: `takeWhile`; `lastSpaceEnd_eq`: `findIdx?` from behind), the one notion of character boundary
behind `charsToByte`, `charsFromByte`, `charsInSlice` and `strSlice` (`charsToByte_iff`, `strSlice_iff`), and the fact about a
search through an ascending list that both loops of the splitter use (`findSome?_sorted`).
-/
namespace Sentence

/-! ## greedy spans of a class, the last white space, leading `<br>` tags -/

theorem spanLen_cons (p : Nat → Bool) (c : Nat) (cs : Text) :
    spanLen p (c :: cs) = if p c = true then spanLen p cs + 1 else 0 := by simp [spanLen]

theorem spanLen_eq (p : Nat → Bool) (l : Text) : spanLen p l = (l.takeWhile p).length := by
  induction l with
  | nil => rfl
  | cons c cs ih => by_cases h : p c = true <;> simp [spanLen, h, ih]

theorem take_spanLen (p : Nat → Bool) (l : Text) : l.take (spanLen p l) = l.takeWhile p := by
  rw [spanLen_eq]; exact (List.prefix_iff_eq_take.mp (List.takeWhile_prefix p)).symm

theorem spanLen_le (p : Nat → Bool) (l : Text) : spanLen p l ≤ l.length := by
  rw [spanLen_eq]; exact (List.takeWhile_prefix p).length_le

theorem spanLen_all (p : Nat → Bool) (l : Text) : ∀ c ∈ l.take (spanLen p l), p c = true := by
  rw [take_spanLen]; exact fun c hc => List.all_eq_true.mp List.all_takeWhile c hc

theorem spanLen_pos_of_head {p : Nat → Bool} {c : Nat} {cs : Text} (h : p c = true) :
    1 ≤ spanLen p (c :: cs) := by
  simp [spanLen, h]

theorem spanLen_append_of_all {p : Nat → Bool} {a : Text} (ha : ∀ c ∈ a, p c = true) (b : Text) :
    spanLen p (a ++ b) = a.length + spanLen p b := by
  rw [spanLen_eq, spanLen_eq, List.takeWhile_append_of_pos ha, List.length_append]

theorem spanLen_drop (p : Nat → Bool) (l : Text) (d : Nat) (hd : d ≤ spanLen p l) :
    spanLen p (l.drop d) = spanLen p l - d := by
  have ha : ∀ c ∈ l.take d, p c = true := fun c hc =>
    spanLen_all p l c ((List.take_prefix_take_left hd).subset hc)
  have := spanLen_append_of_all ha (l.drop d)
  rw [List.take_append_drop, List.length_take, Nat.min_eq_left (Nat.le_trans hd (spanLen_le p l))] at this
  omega

theorem drop_in_span (p : Nat → Bool) {l : Text} {d : Nat} (hd : d < spanLen p l) :
    ∃ c r, l.drop d = c :: r ∧ p c = true ∧ spanLen p l = d + (spanLen p r + 1) := by
  have hsp := spanLen_drop p l d (Nat.le_of_lt hd)
  cases hl : l.drop d with
  | nil => rw [hl, spanLen] at hsp; omega
  | cons c r =>
    rw [hl, spanLen] at hsp
    by_cases hc : p c = true
    · rw [if_pos hc] at hsp
      exact ⟨c, r, rfl, hc, by omega⟩
    · rw [if_neg hc] at hsp; omega

theorem spanLen_max (p : Nat → Bool) (l : Text) (m : Nat) (hm : m ≤ l.length)
    (h : ∀ c ∈ l.take m, p c = true) : m ≤ spanLen p l := by
  have := spanLen_append_of_all h (l.drop m)
  rw [List.take_append_drop, List.length_take, Nat.min_eq_left hm] at this
  omega

theorem take_spanLen_replicate (p : Nat → Bool) (v : Nat) (hp : ∀ c, p c = true → c = v) (l : Text) :
    l.take (spanLen p l) = List.replicate (spanLen p l) v :=
  List.eq_replicate_iff.mpr ⟨by rw [List.length_take, Nat.min_eq_left (spanLen_le p l)],
    fun c hc => hp c (spanLen_all p l c hc)⟩

/-- 1 + the index of the last white-space character: the text's length minus the first one's index from behind -/
theorem lastSpaceEnd_eq (l : Text) : lastSpaceEnd l = (l.reverse.findIdx? isSpace).map (l.length - ·) := by
  induction l with
  | nil => rfl
  | cons c cs ih =>
    rw [lastSpaceEnd, ih, List.reverse_cons, List.findIdx?_append, List.length_reverse, List.length_cons]
    cases h : cs.reverse.findIdx? isSpace with
    | some i =>
      have := (List.findIdx?_eq_some_iff_getElem.mp h).1
      rw [List.length_reverse] at this
      exact congrArg some (Nat.succ_sub (Nat.le_of_lt this)).symm
    | none =>
      rw [List.findIdx?_cons]
      by_cases hs : isSpace c = true
      · rw [if_pos hs, if_pos hs]; exact congrArg some (show 1 = cs.length + 1 - (0 + cs.length) by rw [Nat.zero_add, Nat.add_sub_cancel_left])
      · rw [if_neg hs, if_neg hs]; rfl

theorem lastSpaceEnd_none (l : Text) (h : lastSpaceEnd l = none) : ∀ x ∈ l, isSpace x = false := by
  rw [lastSpaceEnd_eq, Option.map_eq_none_iff, List.findIdx?_eq_none_iff] at h
  exact fun x hx => h x (List.mem_reverse.mpr hx)

theorem brUnits_le (l : Text) : 4 * brUnits l ≤ l.length := by
  fun_induction brUnits l with
  | case1 a b c d rest h ih => simp; omega
  | case2 a b c d rest h => simp
  | case3 l h => simp

theorem brUnits_take (l : Text) : brUnits (l.take (4 * brUnits l)) = brUnits l := by
  fun_induction brUnits l with
  | case1 a b c d rest h ih =>
    have : 4 * (brUnits rest + 1) = 4 * brUnits rest + 1 + 1 + 1 + 1 := by omega
    rw [this]
    simp only [List.take_succ_cons, brUnits, h, if_true, ih]
  | case2 a b c d rest h => simp [brUnits]
  | case3 l h => simp [brUnits]

theorem length_take_brUnits (l : Text) : (l.take (4 * brUnits l)).length = 4 * brUnits l := by
  have := brUnits_le l
  simp; omega

/-! ## byte offsets and character boundaries -/

theorem blen_take_le (t : Text) (n : Nat) : blen (t.take n) ≤ blen t := by
  have := blen_append (t.take n) (t.drop n)
  rw [List.take_append_drop] at this
  omega

theorem blen_take_lt {s : Text} {e : Nat} (h : e < s.length) : blen (s.take e) < blen s := by
  have h1 := blen_append (s.take e) (s.drop e)
  rw [List.take_append_drop] at h1
  have := blen_pos_of_ne_nil (a := s.drop e) fun hn => by
    have := congrArg List.length hn
    rw [List.length_drop, List.length_nil] at this
    omega
  omega

theorem blen_lt_of_prefix_lt {a b c d : Text} (h : a ++ b = c ++ d) (hl : a.length < c.length) :
    blen a < blen c := by
  have : a = c.take a.length := by
    have := congrArg (List.take a.length) h
    rwa [List.take_left' rfl, List.take_append_of_le_length (Nat.le_of_lt hl)] at this
  rw [this]
  exact blen_take_lt hl

theorem charsToByte_cons (c : Nat) (cs : Text) (j : Nat) :
    charsToByte (c :: cs) (width c + j) = (charsToByte cs j).map (· + 1) := by
  have := width_pos c
  obtain ⟨m, hm⟩ : ∃ m, width c + j = m + 1 := ⟨width c + j - 1, by omega⟩
  rw [hm, charsToByte, if_neg (by omega), ← hm, Nat.add_sub_cancel_left]

theorem charsToByte_iff {t : Text} {j r : Nat} :
    charsToByte t j = some r ↔ ∃ w post, t = w ++ post ∧ blen w = j ∧ w.length = r := by
  constructor
  · intro h
    induction t generalizing j r with
    | nil =>
      cases j with
      | zero => cases h; exact ⟨[], [], rfl, rfl, rfl⟩
      | succ j => cases h
    | cons c cs ih =>
      cases j with
      | zero => cases h; exact ⟨[], c :: cs, rfl, rfl, rfl⟩
      | succ j =>
        rw [charsToByte] at h
        by_cases hlt : j + 1 < width c
        · rw [if_pos hlt] at h; cases h
        · rw [if_neg hlt] at h
          obtain ⟨r', hr', rfl⟩ := Option.map_eq_some_iff.mp h
          obtain ⟨w, post, rfl, hb, rfl⟩ := ih hr'
          exact ⟨c :: w, post, rfl, by rw [blen, hb]; omega, rfl⟩
  · rintro ⟨w, post, rfl, rfl, rfl⟩
    induction w with
    | nil => cases post <;> rfl
    | cons c w ih => rw [List.cons_append, blen, charsToByte_cons, ih]; rfl

/-- **What `strSlice` means**: `&s[a..b]` answers a string exactly for two character boundaries `a ≤ b`
inside `s` -/
theorem strSlice_iff {s t : Text} {a b : Nat} :
    strSlice s a b = some t ↔ ∃ pre post, s = pre ++ t ++ post ∧ blen pre = a ∧ blen pre + blen t = b := by
  unfold strSlice
  constructor
  · intro h
    by_cases hab : b < a
    · rw [if_pos hab] at h; cases h
    rw [if_neg hab] at h
    cases hi : charsToByte s a with
    | none => rw [hi] at h; cases h
    | some i =>
      cases hj : charsToByte s b with
      | none => rw [hi, hj] at h; cases h
      | some j =>
        rw [hi, hj] at h
        cases h
        obtain ⟨w2, p2, rfl, rfl, rfl⟩ := charsToByte_iff.mp hj
        obtain ⟨w1, p1, hs1, rfl, rfl⟩ := charsToByte_iff.mp hi
        -- the prefix with fewer bytes is the shorter one, so `w2 = w1 ++ m`
        have hle : w1.length ≤ w2.length := Nat.le_of_not_lt fun hlt => hab (blen_lt_of_prefix_lt hs1 hlt)
        obtain ⟨m, rfl⟩ := List.prefix_of_prefix_length_le ⟨p1, hs1.symm⟩ ⟨p2, rfl⟩ hle
        rw [List.take_left' rfl, List.drop_left' rfl]
        exact ⟨w1, p2, rfl, rfl, (blen_append _ _).symm⟩
  · rintro ⟨pre, post, rfl, rfl, rfl⟩
    rw [if_neg (by omega), charsToByte_iff.mpr ⟨pre, t ++ post, List.append_assoc .., rfl, rfl⟩,
      ← blen_append, charsToByte_iff.mpr ⟨pre ++ t, post, rfl, rfl, rfl⟩]
    exact congrArg some (by rw [List.take_left' rfl, List.drop_left' rfl])

theorem charsFromByte_eq : ∀ (t : Text) (i : Nat), charsFromByte t i = (charsToByte t i).map (t.length - ·)
  | t, 0 => by cases t <;> rfl
  | [], _ + 1 => rfl
  | c :: cs, i + 1 => by
    rw [charsFromByte, charsToByte]
    by_cases hlt : i + 1 < width c
    · rw [if_pos hlt, if_pos hlt]; rfl
    · rw [if_neg hlt, if_neg hlt, charsFromByte_eq cs, Option.map_map]
      exact congrArg (Option.map · _) (funext fun k => (Nat.add_sub_add_right ..).symm)

theorem charsFromByte_iff {t : Text} {i r : Nat} :
    charsFromByte t i = some r ↔ ∃ pre post, t = pre ++ post ∧ blen pre = i ∧ post.length = r := by
  rw [charsFromByte_eq, Option.map_eq_some_iff]
  constructor
  · rintro ⟨k, hk, rfl⟩
    obtain ⟨w, post, rfl, hb, rfl⟩ := charsToByte_iff.mp hk
    exact ⟨w, post, rfl, hb, by rw [List.length_append, Nat.add_sub_cancel_left]⟩
  · rintro ⟨pre, post, rfl, hb, rfl⟩
    exact ⟨_, charsToByte_iff.mpr ⟨pre, post, rfl, hb, rfl⟩, by rw [List.length_append, Nat.add_sub_cancel_left]⟩

theorem charsInSlice_eq : ∀ (t : Text) (i j : Nat), i ≤ j →
    charsInSlice t i j = (charsToByte t i).bind fun a => (charsToByte t j).map (· - a)
  | t, 0, j, _ => by
    have h0 : charsToByte t 0 = some 0 := by cases t <;> rfl
    have : charsInSlice t 0 j = charsToByte t j := by cases t <;> rfl
    rw [this, h0]
    cases charsToByte t j <;> rfl
  | [], _ + 1, _, _ => rfl
  | c :: cs, i + 1, j, hij => by
    rw [charsInSlice]
    by_cases hlt : i + 1 < width c
    · rw [if_pos hlt, charsToByte, if_pos hlt]; rfl
    · rw [if_neg hlt, charsInSlice_eq cs _ _ (by omega)]
      have hi : i + 1 = width c + (i + 1 - width c) := by omega
      have hj : j = width c + (j - width c) := by omega
      conv => rhs; rw [hi, hj, charsToByte_cons, charsToByte_cons]
      cases charsToByte cs (i + 1 - width c) with
      | none => rfl
      | some a =>
        cases charsToByte cs (j - width c) with
        | none => rfl
        | some b => exact congrArg some (Nat.add_sub_add_right ..).symm

theorem sliceChars_eq (input : Text) (i j : Nat) :
    sliceChars input i j = (strSlice input i j).map List.length := by
  unfold sliceChars strSlice
  by_cases h : j < i
  · rw [if_pos h, if_pos h]; rfl
  · rw [if_neg h, if_neg h, charsInSlice_eq _ _ _ (Nat.le_of_not_lt h)]
    cases charsToByte input i with
    | none => rfl
    | some a =>
      cases hb : charsToByte input j with
      | none => rfl
      | some b =>
        obtain ⟨w, post, rfl, _, rfl⟩ := charsToByte_iff.mp hb
        exact congrArg some (by rw [List.take_left' rfl, List.length_drop])

/-! ## a search through an ascending list -/

theorem findSome?_sorted {β : Type} {f : Nat → Option β} {r : β} : ∀ {l : List Nat}, l.Pairwise (· < ·) →
    l.findSome? f = some r → ∃ a ∈ l, f a = some r ∧ ∀ x ∈ l, x < a → f x = none
  | [], _, h => by cases h
  | a :: l, hs, h => by
    rw [List.pairwise_cons] at hs
    rw [List.findSome?_cons] at h
    cases hfa : f a with
    | some b =>
      rw [hfa] at h
      refine ⟨a, List.mem_cons_self .., hfa.trans h, fun x hx hlt => ?_⟩
      rcases List.mem_cons.mp hx with rfl | hx
      · exact absurd hlt (Nat.lt_irrefl _)
      · exact absurd hlt (Nat.lt_asymm (hs.1 x hx))
    | none =>
      rw [hfa] at h
      obtain ⟨b, hb, hfb, hbefore⟩ := findSome?_sorted hs.2 h
      refine ⟨b, List.mem_cons_of_mem _ hb, hfb, fun x hx hlt => ?_⟩
      rcases List.mem_cons.mp hx with rfl | hx
      · exact hfa
      · exact hbefore x hx hlt

end Sentence
