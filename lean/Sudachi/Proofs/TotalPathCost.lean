import Sudachi.Proofs.Total
/-!
# The path `fill_top_path` returns costs what `connect_eos` stored (fixed-width lattice of `Model/Total.lean`)

`Proofs/Total.lean` gives the invariant that makes the back-pointer walk index-safe (`PathInv`, `topPath_step`).  This file adds the COST side of
the same walk, for the executed model with its casts (`asU16` for the end boundary, `asU32` for the row index):

* `connGo_ptrC`: the state of `connect_node`'s loop designates a connected entry of the scanned row AND its minimum is that
  entry's total + connection cost + word cost (for every addition that is exact where it succeeds: `AddExact`, true of the
  checked `i32` addition);
* `CostInv`: every connected entry stored in the lattice has total = (total of the entry its back-pointer designates) +
  connection cost + word cost; row 0 is `[BOS]`; kept by `insert` (needs `PathInv`: fewer than 2^32 entries per row, so the
  stored row index IS the index — what fails for a narrower index: `Proofs/RowWrap.lean`);
* `topPath_cost`: the list `fill_top_path` returns is a chain from BOS whose entries' totals are the running sums of
  connection and word costs, ending in the entry the walk started from;
* `chosen_path_cost`: after `build_lattice` + `connect_eos`, the cost RECOMPUTED along the returned path from word costs and
  connection costs (BOS and EOS connection included) equals the minimum `connect_eos` stored.
-/
namespace Total
open Oov (Outcome)

/-- an addition that is exact where it succeeds (the checked `i32` addition; not the wrapping one of a release build) -/
def AddExact (add : Int → Int → Option Int) : Prop := ∀ a b c, add a b = some c → c = a + b

theorem addI32_exact : AddExact addI32 := by
  intro a b c h
  unfold addI32 addW at h
  split at h
  · cases h; rfl
  · cases h

section ConnPtrC
variable (add : Int → Int → Option Int) (M : Int) (conn : Nat → Nat → Int)

/-- `Ptr` with the cost: the loop state designates a connected entry `l` of the scanned row and the minimum is
`l.total + conn(l.right, n.left) + n.cost` -/
def PtrC (n : Vit.Node) (full : List Entry) (st : Int × Nat × Nat) : Prop :=
  ∃ j l, full[j]? = some l ∧ l.total ≠ M ∧ st.2.1 = asU16 n.b ∧ st.2.2 = asU32 j ∧
    st.1 = l.total + conn l.node.r n.l + n.c

theorem connGo_ptrC (hadd : AddExact add) (n : Vit.Node) (full : List Entry) :
    ∀ (suffix : List Entry) (i : Nat) (st st' : Int × Nat × Nat), full.drop i = suffix →
      (st.1 = M ∨ PtrC M conn n full st) → connGo add M conn n suffix i st = some st' →
      (st'.1 = M ∨ PtrC M conn n full st') :=
  connGo_ptr add M conn n (fun l c => c = l.total + conn l.node.r n.l + n.c)
    (fun _ _ _ h1 h2 => by rw [hadd _ _ _ h2, hadd _ _ _ h1]) full

theorem connectNode_ptrC (hadd : AddExact add) (n : Vit.Node) (row : List Entry) (r : Int × Nat × Nat)
    (h : connectNode add M conn row n = some r) : r.1 = M ∨ PtrC M conn n row r :=
  connGo_ptrC add M conn hadd n row row 0 _ r rfl (Or.inl rfl) h

end ConnPtrC

/-- every connected entry's total is the total of the entry its back-pointer designates + connection cost + word cost;
row 0 holds exactly the BOS entry -/
structure CostInv (conn : Nat → Nat → Int) (rows : Rows) : Prop where
  bos : rows[0]? = some [bosEntry]
  ent : ∀ (e : Nat) (row : List Entry) (i : Nat) (x : Entry), 1 ≤ e → rows[e]? = some row → row[i]? = some x →
    x.total ≠ I32_MAX →
    ∃ (row' : List Entry) (p : Entry), rows[x.node.b]? = some row' ∧ row'[x.pi]? = some p ∧ p.total ≠ I32_MAX ∧
      x.total = p.total + conn p.node.r x.node.l + x.node.c

theorem reset_costInv (conn : Nat → Nat → Int) (len : Nat) : CostInv conn (reset len) := by
  refine ⟨reset_zero len, fun e row i x he hrow hx _ => ?_⟩
  rcases reset_getElem? len e row hrow with ⟨rfl, _⟩ | ⟨_, _, rfl⟩
  · cases he
  · cases hx

theorem insert_costInv (add : Int → Int → Option Int) (hadd : AddExact add) (conn : Nat → Nat → Int) (len : Nat)
    (hlen : len ≤ 65535) (n : Vit.Node) (rest : List Vit.Node) (rows rows' : Rows) (ent : Entry)
    (hn : n.b < n.e ∧ n.e ≤ len) (hinv : PathInv len (n :: rest) rows) (hcost : CostInv conn rows)
    (h : insert add I32_MAX conn rows n = .ok (rows', ent)) : CostInv conn rows' := by
  obtain ⟨rowB, rowE, hb, he, hnode, hc, rfl⟩ := insert_eq_ok h
  refine ⟨?_, ?_⟩
  · rw [getElem?_push rows n.e rowE ent he, if_neg (by omega)]; exact hcost.bos
  · refine entries_push (fun rows _ x => x.total ≠ I32_MAX → ∃ (row' : List Entry) (p : Entry), rows[x.node.b]? = some row' ∧
      row'[x.pi]? = some p ∧ p.total ≠ I32_MAX ∧ x.total = p.total + conn p.node.r x.node.l + x.node.c) ?_
      rows n.e rowE ent he hcost.ent ?_
    · intro rows e rowE x e' y he hy hyc
      obtain ⟨row', p, g1, g2, g3, g4⟩ := hy hyc
      obtain ⟨row'', k1, k2⟩ := push_grow rows e rowE x he _ _ g1
      exact ⟨row'', p, k1, k2 _ _ g2, g3, g4⟩
    · intro hxc
      rcases connectNode_ptrC add I32_MAX conn hadd n rowB _ hc with hm | hptr
      · exact absurd hm hxc
      · obtain ⟨_, l, g1, g2, g5⟩ := Ptr.slot (R := fun l c => c = l.total + conn l.node.r n.l + n.c) hptr
          (Nat.le_trans (Nat.le_of_lt hn.1) (Nat.le_trans hn.2 hlen)) (Nat.le_trans (Nat.le_add_right _ _) (hinv.small n.b rowB hb))
        rw [hnode]
        exact ⟨rowB, l, hb, g1, g2, g5⟩

theorem buildAll_costInv (add : Int → Int → Option Int) (hadd : AddExact add) (conn : Nat → Nat → Int) (len : Nat)
    (hlen : len ≤ 65535) (nodes : List Vit.Node) (rows : Rows) (acc : List Entry) (rows' : Rows) (ents : List Entry)
    (hinv : PathInv len nodes rows) (hcost : CostInv conn rows) (hns : ∀ n ∈ nodes, n.b < n.e ∧ n.e ≤ len)
    (h : buildAll add I32_MAX conn nodes rows acc = .ok (rows', ents)) : CostInv conn rows' :=
  (buildAll_induct add I32_MAX conn _ (fun ns rows => PathInv len ns rows ∧ CostInv conn rows)
    (fun n ns rows rows' ent hn hi hins =>
      ⟨insert_pathInv add conn len hlen n ns rows rows' ent hn hi.1 hins,
        insert_costInv add hadd conn len hlen n ns rows rows' ent hn hi.1 hi.2 hins⟩)
    nodes rows acc rows' ents hns ⟨hinv, hcost⟩ h).2

/-- a list of entries is a chain after a node with right id `r` and total `t`: each total is the previous total +
connection cost + word cost -/
def ChainFrom (conn : Nat → Nat → Int) : Nat → Int → List Entry → Prop
  | _, _, [] => True
  | r, t, x :: xs => x.total = t + conn r x.node.l + x.node.c ∧ ChainFrom conn x.node.r x.total xs

/-- right id and total at the end of a chain that starts after `(r, t)` -/
def chainEnd : Nat → Int → List Entry → Nat × Int
  | r, t, [] => (r, t)
  | _, _, x :: xs => chainEnd x.node.r x.total xs

/-- connection and word costs summed along a list of entries that follows a node with right id `r` -/
def pathCostFrom (conn : Nat → Nat → Int) : Nat → List Entry → Int
  | _, [] => 0
  | r, x :: xs => conn r x.node.l + x.node.c + pathCostFrom conn x.node.r xs

theorem chainEnd_total (conn : Nat → Nat → Int) :
    ∀ (xs : List Entry) (r : Nat) (t : Int), ChainFrom conn r t xs →
      (chainEnd r t xs).2 = t + pathCostFrom conn r xs
  | [], r, t, _ => by simp [chainEnd, pathCostFrom]
  | x :: xs, r, t, h => by
    obtain ⟨h1, h2⟩ := h
    have := chainEnd_total conn xs x.node.r x.total h2
    simp only [chainEnd, pathCostFrom]
    rw [this, h1]; omega

/-- **`fill_top_path` returns a cost chain from BOS** that ends where the walk started: the totals stored along the
returned path are the running sums of connection and word costs -/
theorem topPath_cost (conn : Nat → Nat → Int) (len : Nat) (rows : Rows) (hinv : PathInv len [] rows)
    (hcost : CostInv conn rows) :
    ∀ (e fuel i : Nat) (p : Entry) (acc : List Entry) (row : List Entry), 1 ≤ e → e ≤ fuel →
      rows[e]? = some row → row[i]? = some p → p.total ≠ I32_MAX → ChainFrom conn p.node.r p.total acc →
      ∃ ents, topPath rows fuel (e, i) acc = .ok ents ∧ ChainFrom conn Vit.bos.r 0 ents ∧
        chainEnd Vit.bos.r 0 ents = chainEnd p.node.r p.total acc := by
  intro e
  induction e using Nat.strongRecOn with
  | _ e ih =>
    intro fuel i p acc row he hf hrow hp hconn hacc
    obtain ⟨row', q, c1, c2, c3, c4⟩ := hcost.ent e row i p he hrow hp hconn
    cases fuel with
    | zero => omega
    | succ f =>
      obtain ⟨_, a2, hstep, _⟩ := topPath_step len rows hinv e f i p acc row he hrow hp hconn
      rw [hstep]
      by_cases hb0 : p.node.b ≠ 0
      · rw [if_pos hb0]
        exact ih p.node.b a2 f p.pi q (p :: acc) row' (by omega) (by omega) c1 c2 c3 ⟨c4, hacc⟩
      · rw [if_neg hb0]
        -- the walk ends at `p`, whose predecessor in row 0 is the BOS entry
        have hq : q = bosEntry := by
          rw [Decidable.not_not.mp hb0, hcost.bos] at c1
          cases c1
          have hlt := (List.getElem?_eq_some_iff.mp c2).1
          have h0 : p.pi = 0 := by simpa using hlt
          rw [h0] at c2
          simpa using c2.symm
        refine ⟨p :: acc, rfl, ⟨?_, hacc⟩, rfl⟩
        rw [c4, hq]; rfl

/-- **the cost recomputed along the returned path is the minimum `connect_eos` stored.**  For candidates inside a text of at
most 65535 characters with fewer than 2^32 of them ending at any one boundary: when `build_lattice` and `connect_eos`
succeed with minimum `c` and back-pointer `(pe, pi)`, `fill_top_path` returns a path (entries in text order) that is a cost
chain from BOS, and `c` = (sum of connection costs and word costs along it, BOS connection included) + the connection cost
to EOS.  Without the row bound this is false: the stored minimum belongs to another chain
(`C03.row_index_u16_wraps_counterexample`, `row_wrap_returns_dearer_path`). -/
theorem chosen_path_cost (conn : Nat → Nat → Int) (len : Nat) (hlen : len ≤ 65535) (nodes : List Vit.Node)
    (hnodes : ∀ n ∈ nodes, n.b < n.e ∧ n.e ≤ len) (hlen0 : 1 ≤ len)
    (hcnt : ∀ e, nodes.countP (fun n => n.e == e) ≤ 4294967295)
    (rows : Rows) (ents : List Entry)
    (hb : buildAll addI32 I32_MAX conn nodes (reset len) [] = .ok (rows, ents))
    (c : Int) (pe pi : Nat) (he : connectEos addI32 I32_MAX conn rows len = .ok (c, pe, pi)) :
    ∃ path, topPath rows (len + 1) (pe, pi) [] = .ok path ∧ ChainFrom conn Vit.bos.r 0 path ∧
      c = pathCostFrom conn Vit.bos.r path + conn (chainEnd Vit.bos.r 0 path).1 0 := by
  have hinv := buildAll_pathInv addI32 conn len hlen nodes (reset len) [] rows ents (reset_pathInv len nodes hcnt) hnodes hb
  have hcost := buildAll_costInv addI32 addI32_exact conn len hlen nodes (reset len) [] rows ents
    (reset_pathInv len nodes hcnt) (reset_costInv conn len) hnodes hb
  obtain ⟨row, hr, hc, hne⟩ := connectEos_eq_ok hlen he
  rcases connectNode_ptrC addI32 I32_MAX conn addI32_exact ⟨len, len, 0, 0, 0⟩ row (c, pe, pi) hc with hm | hptr
  · exact absurd hm hne
  · obtain ⟨g3, l, g1, g2, g5⟩ := Ptr.slot (R := fun l c => c = l.total + conn l.node.r 0 + 0) hptr hlen (hinv.small len row hr)
    simp only [] at g3 g1 g5
    rw [g3]
    obtain ⟨path, p1, p2, p3⟩ := topPath_cost conn len rows hinv hcost len (len + 1) pi l [] row hlen0 (by omega) hr g1 g2
      trivial
    refine ⟨path, p1, p2, ?_⟩
    have ht := chainEnd_total conn path Vit.bos.r 0 p2
    rw [p3] at ht ⊢
    simp only [chainEnd] at ht ⊢
    rw [g5, ht]; omega

end Total
