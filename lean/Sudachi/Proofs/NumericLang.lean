import Sudachi.Proofs.NumericSN
/-!
# The language of the numeral parser: what is accepted, variant by variant (C15)

`CHAR_TO_NUM` as a first-match table
(`charToNum_eq`) and the three kinds of character it knows (`charToNum_cases`); `append` of a small and of a large unit as equations and acceptance as iffs
(`append_small_iff`, `append_large_iff`); the classification of the accepted characters with the state
each leaves (`accepted_cases`), through which every invariant along a text is proved (with `run_induct`).  The near-miss
families F1–F4 are rejected wherever they occur in a text, each by its own repair switch, as instances
of one theorem (`parse_none_of_blocked`); F6: the error state of `done()`; F5: `has_unit` and the
leading zeros.
-/
namespace Numeric

variable (v : Variant)

/-! ## the units and `CHAR_TO_NUM` -/

inductive SmallU | ten | hundred | thousand
deriving DecidableEq, Repr
inductive LargeU | man | oku | cho
deriving DecidableEq, Repr
def SmallU.char : SmallU → Char | .ten => '十' | .hundred => '百' | .thousand => '千'
def SmallU.exp : SmallU → Nat | .ten => 1 | .hundred => 2 | .thousand => 3
def LargeU.char : LargeU → Char | .man => '万' | .oku => '億' | .cho => '兆'
def LargeU.exp : LargeU → Nat | .man => 4 | .oku => 8 | .cho => 12

theorem charToNum_small (u : SmallU) : charToNum u.char = some (-(u.exp : Int)) := by cases u <;> decide
theorem charToNum_large (u : LargeU) : charToNum u.char = some (-(u.exp : Int)) := by cases u <;> decide

theorem ascii_digit (c : Char) (h : '0' ≤ c ∧ c ≤ '9') :
    ∃ g : Dg, g.glyph = c ∧ Int.ofNat (c.toNat - 48) = Int.ofNat g.d.val := by
  obtain ⟨h1, h2⟩ := h
  rw [Char.le_def, UInt32.le_iff_toNat_le] at h1 h2
  have a1 : 48 ≤ c.toNat := h1
  have a2 : c.toNat ≤ 57 := h2
  refine ⟨⟨false, ⟨c.toNat - 48, by omega⟩⟩, ?_, rfl⟩
  simp only [Dg.glyph, SN.digitChar]
  have : 48 + (c.toNat - 48) = c.toNat := by omega
  simp [this, Char.ofNat_toNat]

def firstMatch (c : Char) : List (Char × Int) → Option Int → Option Int
  | [], d => d
  | (a, x) :: l, d => if c = a then some x else firstMatch c l d

theorem firstMatch_some {c : Char} {l : List (Char × Int)} {d : Option Int} {n : Int}
    (h : firstMatch c l d = some n) : (∃ e ∈ l, e.1 = c ∧ n = e.2) ∨ d = some n := by
  induction l with
  | nil => exact .inr h
  | cons e l ih =>
    obtain ⟨a, x⟩ := e
    by_cases hc : c = a
    · rw [firstMatch, if_pos hc] at h
      exact .inl ⟨(a, x), List.mem_cons_self, hc.symm, (Option.some.inj h).symm⟩
    · rw [firstMatch, if_neg hc] at h
      rcases ih h with ⟨e, he, h'⟩ | h'
      · exact .inl ⟨e, List.mem_cons_of_mem _ he, h'⟩
      · exact .inr h'

/-- `CHAR_TO_NUM` is a first-match lookup: the ten kanji digits, the small and the large units, then
the ASCII digits -/
theorem charToNum_eq (c : Char) : charToNum c =
    firstMatch c ((List.finRange 10).map (fun d => (kanjiDigit d, (d.val : Int))) ++
      [SmallU.ten, .hundred, .thousand].map (fun u => (u.char, -(u.exp : Int))) ++
      [LargeU.man, .oku, .cho].map (fun u => (u.char, -(u.exp : Int))))
      (if '0' ≤ c ∧ c ≤ '9' then some (Int.ofNat (c.toNat - 48)) else none) := rfl

theorem charToNum_cases (c : Char) (n : Int) (h : charToNum c = some n) :
    (∃ g : Dg, g.glyph = c ∧ n = Int.ofNat g.d.val) ∨ (∃ u : SmallU, u.char = c ∧ n = -(u.exp : Int)) ∨
    (∃ u : LargeU, u.char = c ∧ n = -(u.exp : Int)) := by
  rw [charToNum_eq] at h
  rcases firstMatch_some h with ⟨e, he, rfl, rfl⟩ | h
  · simp only [List.mem_append, List.mem_map] at he
    rcases he with (⟨d, -, rfl⟩ | ⟨u, -, rfl⟩) | ⟨u, -, rfl⟩
    · exact .inl ⟨⟨true, d⟩, rfl, rfl⟩
    · exact .inr (.inl ⟨u, rfl, rfl⟩)
    · exact .inr (.inr ⟨u, rfl, rfl⟩)
  · by_cases hd : '0' ≤ c ∧ c ≤ '9'
    · rw [if_pos hd] at h
      obtain ⟨g, hg, hn⟩ := ascii_digit c hd
      exact .inl ⟨g, hg, (Option.some.inj h).symm.trans hn⟩
    · rw [if_neg hd] at h; cases h

/-! ## what an accepted character tells about the state before and leaves behind -/

theorem small_ne (u : SmallU) : u.char ≠ '.' ∧ u.char ≠ ',' := by cases u <;> decide
theorem small_isSmall (u : SmallU) : isSmallUnit (-(u.exp : Int)) = true ∧ decide (-(u.exp : Int) < 0) = true := by
  cases u <;> decide
def Parser.afterSmall (p : Parser) (u : SmallU) : Parser :=
  let r := p.subtotal.add (p.tmp.shiftScale u.exp)
  { p with subtotal := r.2.1, tmp := r.2.2.clear, isFirstDigit := true, digitLength := 0, hasComma := false,
           hasUnit := v.f5 || p.hasUnit }

/-- `append` of a small unit: the two checks of the repairs F2 and F3, then `subtotal += tmp × 10^e` -/
theorem append_small (p : Parser) (u : SmallU) : p.append v u.char =
    if v.f2 && p.hasHangingPoint then (false, { p with err := .point })
    else if v.f3 && p.hasComma && p.digitLength != 3 then (false, { p with err := .comma })
    else if (p.subtotal.add (p.tmp.shiftScale u.exp)).1 then (true, p.afterSmall v u)
    else (false, { p with subtotal := (p.subtotal.add (p.tmp.shiftScale u.exp)).2.1,
                          tmp := (p.subtotal.add (p.tmp.shiftScale u.exp)).2.2 }) := by
  have hexp : (-(-(u.exp : Int))).toNat = u.exp := by simp
  unfold Parser.append Parser.afterSmall
  simp only [(small_ne u).1, (small_ne u).2, if_false, charToNum_small u, (small_isSmall u).1, (small_isSmall u).2,
    Bool.and_true, if_true, hexp]
  rcases p.subtotal.add (p.tmp.shiftScale u.exp) with ⟨_ | _, sub, tmp⟩ <;> rfl

/-- a small unit is accepted exactly when no point is hanging (F2), the open separator group is
complete (F3) and the term fits below the subtotal -/
theorem append_small_iff (p p' : Parser) (u : SmallU) :
    p.append v u.char = (true, p') ↔
      (v.f2 = true → p.hasHangingPoint = false) ∧ (v.f3 = true → p.hasComma = true → p.digitLength = 3) ∧
      (p.subtotal.add (p.tmp.shiftScale u.exp)).1 = true ∧ p' = p.afterSmall v u := by
  rw [append_small, reject_or, reject_or, accept_or]
  simp only [Bool.not_eq_true, Bool.and_eq_false_imp, bne_eq_false_iff_eq]
  simp only [Bool.and_eq_true, and_imp]

theorem large_ne (u : LargeU) : u.char ≠ '.' ∧ u.char ≠ ',' := by cases u <;> decide
theorem large_isLarge (u : LargeU) : isSmallUnit (-(u.exp : Int)) = false ∧ isLargeUnit (-(u.exp : Int)) = true ∧
    decide (-(u.exp : Int) < 0) = true := by
  cases u <;> decide

def Parser.afterLarge (p : Parser) (u : LargeU) : Parser :=
  let r := p.subtotal.add p.tmp
  let r2 := p.total.add (r.2.1.shiftScale u.exp)
  { p with total := r2.2.1, subtotal := r2.2.2.clear, tmp := r.2.2.clear, isFirstDigit := true, digitLength := 0,
           hasComma := false, lastLarge := if v.f4 then some (-(u.exp : Int)) else p.lastLarge,
           hasUnit := v.f5 || p.hasUnit }

/-- `append` of a large unit: the checks of the repairs F2, F3 and F4, then `subtotal += tmp`, which must
not be zero, and `total += subtotal × 10^e` -/
theorem append_large (p : Parser) (u : LargeU) : p.append v u.char =
    if v.f2 && p.hasHangingPoint then (false, { p with err := .point })
    else if v.f3 && p.hasComma && p.digitLength != 3 then (false, { p with err := .comma })
    else if v.f4 && p.notSmaller (-(u.exp : Int)) then (false, p)
    else
      let r := p.subtotal.add p.tmp
      let r2 := p.total.add (r.2.1.shiftScale u.exp)
      if !r.1 || r.2.1.isZero then (false, { p with subtotal := r.2.1, tmp := r.2.2 })
      else if r2.1 then (true, p.afterLarge v u)
      else (false, { p with total := r2.2.1, subtotal := r2.2.2, tmp := r.2.2 }) := by
  have hexp : (-(-(u.exp : Int))).toNat = u.exp := by simp
  unfold Parser.append Parser.afterLarge
  simp only [(large_ne u).1, (large_ne u).2, if_false, charToNum_large u, (large_isLarge u).1, (large_isLarge u).2.1,
    (large_isLarge u).2.2, Bool.and_true, if_true, hexp, Bool.false_eq_true]
  rcases p.subtotal.add p.tmp with ⟨r1, sub, tmp⟩
  dsimp only
  rcases p.total.add (sub.shiftScale u.exp) with ⟨_ | _, tot, sub2⟩ <;> rfl

/-- a large unit is accepted exactly when no point is hanging (F2), the open separator group is
complete (F3), the unit is smaller than the last large unit (F4), the group in front of it is not
empty and fits, and the group times the unit fits below the total -/
theorem append_large_iff (p p' : Parser) (u : LargeU) :
    p.append v u.char = (true, p') ↔
      (v.f2 = true → p.hasHangingPoint = false) ∧ (v.f3 = true → p.hasComma = true → p.digitLength = 3) ∧
      (v.f4 = true → ∀ l, p.lastLarge = some l → l < -(u.exp : Int)) ∧
      (p.subtotal.add p.tmp).1 = true ∧ (p.subtotal.add p.tmp).2.1.sig ≠ [] ∧
      (p.total.add ((p.subtotal.add p.tmp).2.1.shiftScale u.exp)).1 = true ∧ p' = p.afterLarge v u := by
  have h4 : p.notSmaller (-(u.exp : Int)) = false ↔ ∀ l, p.lastLarge = some l → l < -(u.exp : Int) := by
    unfold Parser.notSmaller
    cases p.lastLarge <;> simp
  rw [append_large, reject_or, reject_or, reject_or]
  simp only []
  rw [reject_or, accept_or]
  simp only [Bool.not_eq_true, Bool.and_eq_false_imp, bne_eq_false_iff_eq, h4, Bool.or_eq_false_iff,
    Bool.not_eq_false', SN.isZero, List.isEmpty_eq_false_iff, and_assoc, ne_eq]
  simp only [Bool.and_eq_true, and_imp]

theorem append_unknown (p : Parser) (c : Char) (h1 : c ≠ '.') (h2 : c ≠ ',') (h3 : charToNum c = none) :
    p.append v c = (false, p) := by
  unfold Parser.append
  simp [h1, h2, h3]

/-- the characters the parser accepts — the point, the separator, a digit, a small or a large unit —
and the state each of them leaves -/
theorem accepted_cases (p p' : Parser) (c : Char) (h : p.append v c = (true, p')) :
    (c = '.' ∧ p' = p.pushPoint) ∨ (c = ',' ∧ p' = p.pushComma) ∨ (∃ g : Dg, g.glyph = c ∧ p' = p.pushDigit g) ∨
    (∃ u : SmallU, u.char = c ∧ p' = p.afterSmall v u) ∨ (∃ u : LargeU, u.char = c ∧ p' = p.afterLarge v u) := by
  by_cases h1 : c = '.'
  · subst h1; exact .inl ⟨rfl, ((append_point_iff v p p').1 h).1⟩
  by_cases h2 : c = ','
  · subst h2; exact .inr (.inl ⟨rfl, ((append_comma_iff v p p').1 h).1⟩)
  cases h3 : charToNum c with
  | none => rw [append_unknown v p c h1 h2 h3] at h; cases h
  | some n =>
    rcases charToNum_cases c n h3 with ⟨g, rfl, _⟩ | ⟨u, rfl, _⟩ | ⟨u, rfl, _⟩
    · exact .inr (.inr (.inl ⟨g, rfl, (append_digit_iff v p p' g).1 h⟩))
    · exact .inr (.inr (.inr (.inl ⟨u, rfl, ((append_small_iff v p p' u).1 h).2.2.2⟩)))
    · exact .inr (.inr (.inr (.inr ⟨u, rfl, ((append_large_iff v p p' u).1 h).2.2.2.2.2.2⟩)))

/-! ## the near-miss families F1–F4, wherever they occur -/

/-- a unit character: one of 十 百 千 万 億 兆 -/
def IsUnit (c : Char) : Prop := (∃ u : SmallU, u.char = c) ∨ (∃ u : LargeU, u.char = c)

/-- a text is rejected when an accepted `c1` leaves a condition `B` on the parser (indexed by what was
read since) that the characters of `mid` keep and under which `c2` is rejected -/
theorem parse_none_of_blocked (B : List Char → Parser → Prop) (pre mid post : List Char) (c1 c2 : Char)
    (h1 : ∀ q q1 : Parser, q.append v c1 = (true, q1) → B [] q1)
    (hmid : ∀ (m : List Char) (c : Char) (q q' : Parser), c ∈ mid → B m q → q.append v c = (true, q') → B (m ++ [c]) q')
    (h2 : ∀ q : Parser, B mid q → (q.append v c2).1 = false) :
    parse v (pre ++ c1 :: (mid ++ c2 :: post)) = none := by
  rw [show pre ++ c1 :: (mid ++ c2 :: post) = (pre ++ c1 :: mid) ++ c2 :: post by simp]
  refine parse_none_of_char v _ _ _ fun q2 hq => h2 q2 ?_
  rw [run_append] at hq
  obtain ⟨q, -, hq⟩ := Option.bind_eq_some_iff.1 hq
  obtain ⟨q1, ha, hq⟩ := run_cons_some v q q2 c1 mid hq
  exact run_induct v B mid q1 q2 hq (h1 q q1 ha) hmid

theorem append_of_mem_renderDigits {ds : List Dg} {c : Char} (hc : c ∈ renderDigits ds) {q q' : Parser}
    (h : q.append v c = (true, q')) : ∃ g : Dg, q' = q.pushDigit g := by
  obtain ⟨g, -, rfl⟩ := List.mem_map.1 hc
  exact ⟨g, (append_digit_iff v q q' g).1 h⟩

/-- F1 family, anywhere in a text: after a point and fraction digits no separator is accepted -/
theorem reject_comma_in_fraction_any (hv : v.f1 = true) (pre : List Char) (fs : List Dg) (post : List Char) :
    parse v (pre ++ '.' :: (renderDigits fs ++ ',' :: post)) = none := by
  -- after the point `tmp` has its point, digits keep it, and `check_comma` (F1) then refuses
  refine parse_none_of_blocked v (fun _ q => q.tmp.point.isSome = true) pre (renderDigits fs) post '.' ',' ?_ ?_ ?_
  · intro q q1 h; rw [((append_point_iff v q q1).1 h).1]; exact Option.isSome_some
  · intro _ c q q' hc hB h
    obtain ⟨g, rfl⟩ := append_of_mem_renderDigits v hc h
    exact hB
  · intro q hB
    rw [append_comma_reject v q (by simp [Parser.checkComma, hv, hB])]

theorem append_unit_guard (p p' : Parser) (c : Char) (hc : IsUnit c) (h : p.append v c = (true, p')) :
    (v.f2 = true → p.hasHangingPoint = false) ∧ (v.f3 = true → p.hasComma = true → p.digitLength = 3) := by
  rcases hc with ⟨u, rfl⟩ | ⟨u, rfl⟩
  · exact ⟨((append_small_iff v p p' u).1 h).1, ((append_small_iff v p p' u).1 h).2.1⟩
  · exact ⟨((append_large_iff v p p' u).1 h).1, ((append_large_iff v p p' u).1 h).2.1⟩

/-- F2 family, anywhere in a text: a unit directly after a point is rejected -/
theorem reject_point_before_unit_any (hv : v.f2 = true) (pre : List Char) (c : Char) (hc : IsUnit c)
    (post : List Char) : parse v (pre ++ '.' :: c :: post) = none := by
  refine parse_none_of_blocked v (fun _ q => q.hasHangingPoint = true) pre [] post '.' c ?_
    (fun _ _ _ _ hc => absurd hc List.not_mem_nil) ?_
  · intro q q1 h; rw [((append_point_iff v q q1).1 h).1]; rfl
  · exact fun q hB => Bool.eq_false_iff.2 fun hd =>
      Bool.noConfusion (hB.symm.trans ((append_unit_guard v q _ c hc (Prod.ext hd rfl)).1 hv))

/-- F3 family, anywhere in a text: a unit directly after a separator group that does not have
exactly three digits is rejected -/
theorem reject_open_group_before_unit_any (hv : v.f3 = true) (pre : List Char) (g : List Dg)
    (hg : g.length ≠ 3) (c : Char) (hc : IsUnit c) (post : List Char) :
    parse v (pre ++ ',' :: (renderDigits g ++ c :: post)) = none := by
  -- the separator opens a group, `digit_length` counts the digits read since
  refine parse_none_of_blocked v (fun m q => q.hasComma = true ∧ q.digitLength = m.length) pre (renderDigits g) post
    ',' c ?_ ?_ ?_
  · intro q q1 h; rw [((append_comma_iff v q q1).1 h).1]; exact ⟨rfl, rfl⟩
  · intro m c q q' hc hB h
    obtain ⟨g, rfl⟩ := append_of_mem_renderDigits v hc h
    exact ⟨hB.1, by simp [Parser.pushDigit, hB.2]⟩
  · intro q hB
    refine Bool.eq_false_iff.2 fun hd => hg ?_
    have := (append_unit_guard v q _ c hc (Prod.ext hd rfl)).2 hv hB.1
    rw [hB.2] at this
    simpa [renderDigits] using this

theorem append_keeps_lastLarge (p p' : Parser) (c : Char) (hc : ∀ U : LargeU, U.char ≠ c)
    (h : p.append v c = (true, p')) : p'.lastLarge = p.lastLarge := by
  rcases accepted_cases v p p' c h with ⟨-, rfl⟩ | ⟨-, rfl⟩ | ⟨g, -, rfl⟩ | ⟨u, -, rfl⟩ | ⟨u, hu, -⟩
  · rfl
  · rfl
  · rfl
  · rfl
  · exact absurd hu (hc u)

/-- F4 family, anywhere in a text: a large unit that is not smaller than the previous large unit
is rejected -/
theorem reject_large_unit_order_any (hv : v.f4 = true) (pre mid post : List Char) (U1 U2 : LargeU)
    (hle : U1.exp ≤ U2.exp) (hmid : ∀ c ∈ mid, ∀ U : LargeU, U.char ≠ c) :
    parse v (pre ++ U1.char :: (mid ++ U2.char :: post)) = none := by
  refine parse_none_of_blocked v (fun _ q => q.lastLarge = some (-(U1.exp : Int))) pre mid post U1.char U2.char
    ?_ ?_ ?_
  · intro q q1 h
    rw [((append_large_iff v q q1 U1).1 h).2.2.2.2.2.2]
    simp only [Parser.afterLarge, hv, if_true]
  · intro _ c q q' hc hB h
    exact (append_keeps_lastLarge v q q' c (hmid c hc) h).trans hB
  · intro q hB
    refine Bool.eq_false_iff.2 fun hd => ?_
    have := ((append_large_iff v q _ U2).1 (Prod.ext hd rfl)).2.2.1 hv _ hB
    omega

/-! ## F6: the error state of `done()` -/

/-- with repair F6, `done()` reports POINT/COMMA only when both final additions succeeded, i.e. when
`total` really holds the value of what was read -/
theorem done_error_sums_ok (hv : v.f6 = true) (q : Parser) (he : q.err = .none)
    (h : (q.done v).2.err ≠ .none) :
    (q.subtotal.add q.tmp).1 = true ∧ (q.total.add (q.subtotal.add q.tmp).2.1).1 = true := by
  -- otherwise `done()` returns at once and leaves the error state as it was
  refine (sums_ok q).1 (Classical.not_not.1 fun hs => h ?_)
  have hs' : q.sums.1 = false := Bool.eq_false_iff.2 hs
  rw [done_eq, hv, hs']
  exact he

/-! ## F5: no leading zero once a unit was read -/

theorem done_hasUnit (q : Parser) : (q.done v).2.hasUnit = q.hasUnit := by
  rw [done_eq_sums_err v q]
  rfl

theorem append_hasUnit (hv : v.f5 = true) (p p' : Parser) (c : Char)
    (h : p.append v c = (true, p')) : (p.hasUnit = true → p'.hasUnit = true) ∧ (IsUnit c → p'.hasUnit = true) := by
  constructor
  · rcases accepted_cases v p p' c h with ⟨-, rfl⟩ | ⟨-, rfl⟩ | ⟨g, -, rfl⟩ | ⟨u, -, rfl⟩ | ⟨u, -, rfl⟩
    · exact id
    · exact id
    · exact id
    · simp [Parser.afterSmall, hv]
    · simp [Parser.afterLarge, hv]
  · rintro (⟨u, rfl⟩ | ⟨u, rfl⟩)
    · rw [((append_small_iff v p p' u).1 h).2.2.2]; simp [Parser.afterSmall, hv]
    · rw [((append_large_iff v p p' u).1 h).2.2.2.2.2.2]; simp [Parser.afterLarge, hv]

theorem run_hasUnit (hv : v.f5 = true) (text : List Char) (p q : Parser)
    (h : p.run v text = some q) (hu : p.hasUnit = true ∨ ∃ c ∈ text, IsUnit c) : q.hasUnit = true := by
  refine run_induct v (fun pre q => (p.hasUnit = true ∨ ∃ c ∈ pre, IsUnit c) → q.hasUnit = true) text p q h
    ?_ ?_ hu
  · rintro (hp | ⟨c, hc, -⟩)
    · exact hp
    · cases hc
  · intro pre c p1 p2 _ hj ha
    obtain ⟨k1, k2⟩ := append_hasUnit v hv p1 p2 c ha
    rintro (hp | ⟨x, hx, hxu⟩)
    · exact k1 (hj (.inl hp))
    · rcases List.mem_append.1 hx with hx | hx
      · exact k1 (hj (.inr ⟨x, hx, hxu⟩))
      · exact k2 (List.mem_singleton.1 hx ▸ hxu)

/-- no leading zero: the string is `0`, starts with a non-zero character, or starts with `0.` -/
def NoLeadingZero (s : List Char) : Prop :=
  s = ['0'] ∨ (∃ c rest, s = c :: rest ∧ c ≠ '0') ∨ (∃ rest, s = '0' :: '.' :: rest)

theorem stripLeadingZeros_noLeadingZero (s : List Char) : NoLeadingZero (Parser.stripLeadingZeros s) := by
  unfold Parser.stripLeadingZeros
  simp only
  cases ht : s.dropWhile (· == '0') with
  | nil => exact Or.inl rfl
  | cons c t =>
    have hc : (c == '0') = false := by
      have := List.head?_dropWhile_not (· == '0') s
      rw [ht] at this
      simpa using this
    simp only
    by_cases hp : (c == '.') = true
    · simp only [hp, if_true]
      have : c = '.' := by simpa using hp
      subst this
      exact Or.inr (Or.inr ⟨t, rfl⟩)
    · simp only [hp]
      refine Or.inr (Or.inl ⟨c, t, rfl, ?_⟩)
      simpa using hc

/-- **F5 repaired**: the normal form of a numeral that contains a unit has no leading zero -/
theorem unit_no_leading_zero (hv : v.f5 = true) (text s : List Char) (h : parse v text = some s)
    (hu : ∃ c ∈ text, IsUnit c) : NoLeadingZero s := by
  obtain ⟨q, hf, _, _, hg⟩ := parse_some v text s h
  have h1 := run_hasUnit v hv text Parser.new q hf (Or.inr hu)
  have h2 := done_hasUnit v q
  rw [h1] at h2
  unfold Parser.getNormalized at hg
  cases hts : (q.done v).2.total.toStr with
  | none => rw [hts] at hg; cases hg
  | some s0 =>
    rw [hts] at hg
    simp only [hv, h2, Bool.and_self, if_true, Option.some.injEq] at hg
    rw [← hg]
    exact stripLeadingZeros_noLeadingZero s0

end Numeric


