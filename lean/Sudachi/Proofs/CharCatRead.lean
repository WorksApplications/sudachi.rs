import Sudachi.Proofs.CharCat
/-!
# The definition-file reader (C17)

The loop body is taken apart once (`parseLine_cases`): a line is skipped, refused, or gives a proper range of
scalar values, `begin < end ≤ char::MAX` (the hypothesis of `compile_correct` and of the `iter()` theorems), and
its two `unwrap`/index sites cannot fail.  The line loop reports the FIRST refused line, and `readFrom` is that
loop behind the UTF-8 decoder.  `u32::from_str_radix(_, 16)` accepts exactly the hex strings below 2³² (`hexValue`).
-/
namespace CharCat

/-! ## the loop body -/

theorem splitDotDot_go_ne_nil (s cur : List Char) (acc : List (List Char)) : splitDotDot.go s cur acc ≠ [] := by
  -- at the end of the input the pending piece is consed on; the other two cases are the recursive call
  fun_induction splitDotDot.go s cur acc <;> simp_all

/-- `cols[0].split("..")` has a first element: `r[0]` cannot panic -/
theorem splitDotDot_ne_nil (s : List Char) : splitDotDot s ≠ [] :=
  fun h => splitDotDot_go_ne_nil s [] [] (List.reverse_eq_nil_iff.mp h)

theorem splitWhitespace_go_nonempty (s cur : List Char) (acc : List (List Char)) (hacc : ∀ w ∈ acc, w ≠ []) :
    ∀ w ∈ splitWhitespace.go s cur acc, w ≠ [] := by
  have hrev : ∀ cur : List Char, ¬ cur.isEmpty = true → cur.reverse ≠ [] :=
    fun cur hc h => hc (List.reverse_eq_nil_iff.mp h ▸ rfl)
  induction s generalizing cur acc with
  | nil =>
    rw [splitWhitespace.go]
    by_cases hc : cur.isEmpty = true
    · rw [if_pos hc]; exact hacc
    · rw [if_neg hc]; exact List.forall_mem_cons.mpr ⟨hrev cur hc, hacc⟩
  | cons c cs ih =>
    rw [splitWhitespace.go]
    by_cases hw : isWhite c = true
    · rw [if_pos hw]
      by_cases hc : cur.isEmpty = true
      · rw [if_pos hc]; exact ih [] acc hacc
      · rw [if_neg hc]; exact ih [] _ (List.forall_mem_cons.mpr ⟨hrev cur hc, hacc⟩)
    · rw [if_neg hw]; exact ih _ acc hacc

/-- `split_whitespace` yields no empty column: `elem.chars().next().unwrap()` cannot panic -/
theorem splitWhitespace_nonempty (s : List Char) : ∀ w ∈ splitWhitespace s, w ≠ [] :=
  fun w hw => splitWhitespace_go_nonempty s [] [] nofun w (List.mem_reverse.mp hw)

theorem parseCats_ne_panicUnreachable : ∀ (ws : List (List Char)) (acc : Nat), (∀ w ∈ ws, w ≠ []) →
    parseCats ws acc ≠ .error .panicUnreachable := by
  intro ws
  induction ws with
  | nil => intro acc _; exact nofun
  | cons w ws ih =>
    intro acc h
    obtain ⟨hw, hws⟩ := List.forall_mem_cons.mp h
    unfold parseCats
    split
    · exact absurd rfl hw
    · exact nofun
    · split
      · exact ih _ hws
      · exact nofun

/-- the part of the loop body that follows the two ends of the range: the checks and the class columns -/
def rangeOf (b e : Nat) (rest : List (List Char)) : Except LoadErr (Option CatRange) :=
  if e ≥ 4294967296 then .error .panicOverflow
  else if b ≥ e then .error .invalidFormat
  else if !isScalar b then .error (.invalidChar b)
  else if !isScalar e then .error (.invalidChar e)
  else match parseCats rest 0 with
    | .error er => .error er
    | .ok c => .ok (some ⟨b, e, c⟩)

theorem rangeOf_cases (b e : Nat) (rest : List (List Char)) (hne : ∀ w ∈ rest, w ≠ []) :
    (∃ er, rangeOf b e rest = .error er ∧ er ≠ .panicUnreachable) ∨
    ∃ r, rangeOf b e rest = .ok (some r) ∧ r.b < r.e ∧ isScalar r.b = true ∧ isScalar r.e = true := by
  unfold rangeOf
  by_cases h1 : e ≥ 4294967296
  · rw [if_pos h1]; exact .inl ⟨_, rfl, nofun⟩
  rw [if_neg h1]
  by_cases h2 : b ≥ e
  · rw [if_pos h2]; exact .inl ⟨_, rfl, nofun⟩
  rw [if_neg h2]
  by_cases h3 : (!isScalar b) = true
  · rw [if_pos h3]; exact .inl ⟨_, rfl, nofun⟩
  rw [if_neg h3]
  by_cases h4 : (!isScalar e) = true
  · rw [if_pos h4]; exact .inl ⟨_, rfl, nofun⟩
  rw [if_neg h4]
  cases hc : parseCats rest 0 with
  | error er => exact .inl ⟨er, rfl, fun h => parseCats_ne_panicUnreachable rest 0 hne (h ▸ hc)⟩
  | ok c => exact .inr ⟨_, rfl, Nat.not_le.mp h2, by simpa using h3, by simpa using h4⟩

/-- The loop body by cases: the line is skipped, or refused (never with the model's `panicUnreachable`: `r[0]` has
an element and no column is empty), or it gives a proper range of scalar values. -/
theorem parseLine_cases (line : List Char) :
    parseLine line = .ok none ∨ (∃ er, parseLine line = .error er ∧ er ≠ .panicUnreachable) ∨
    ∃ r, parseLine line = .ok (some r) ∧ r.b < r.e ∧ isScalar r.b = true ∧ isScalar r.e = true := by
  have hex : ∀ {s er}, parseHexField s = .error er → er ≠ .panicUnreachable := by
    intro s er h
    unfold parseHexField at h
    split at h
    · exact Except.error.inj h ▸ nofun
    · cases h
  rw [parseLine]
  dsimp only
  by_cases hskip : ((trim line).isEmpty || (trim line).head? == some '#' || !((trim line).take 2 == ['0', 'x'])) = true
  · rw [if_pos hskip]; exact .inl rfl
  rw [if_neg hskip]
  cases hsw : splitWhitespace (trim line) with
  | nil => exact .inr (.inl ⟨_, rfl, nofun⟩)
  | cons c0 rest =>
    cases rest with
    | nil => exact .inr (.inl ⟨_, rfl, nofun⟩)
    | cons c1 rest' =>
      have hne : ∀ w ∈ c1 :: rest', w ≠ [] := fun w hw =>
        splitWhitespace_nonempty (trim line) w (hsw ▸ List.mem_cons_of_mem c0 hw)
      dsimp only
      cases hsd : splitDotDot c0 with
      | nil => exact absurd hsd (splitDotDot_ne_nil c0)
      | cons r0 rr =>
        dsimp only
        cases hb : parseHexField r0 with
        | error er => exact .inr (.inl ⟨_, rfl, hex hb⟩)
        | ok b =>
          dsimp only
          cases rr with
          | nil => exact .inr (rangeOf_cases b (b + 1) _ hne)
          | cons r1 _ =>
            dsimp only
            cases he : parseHexField r1 with
            | error er => exact .inr (.inl ⟨_, rfl, hex he⟩)
            | ok n => exact .inr (rangeOf_cases b (n + 1) _ hne)

theorem parseLine_ok_wf (line : List Char) (r : CatRange) (h : parseLine line = .ok (some r)) :
    r.b < r.e ∧ isScalar r.b = true ∧ isScalar r.e = true ∧ r.e ≤ 0x10FFFF := by
  rcases parseLine_cases line with hp | ⟨_, hp, _⟩ | ⟨_, hp, h1, h2, h3⟩ <;> rw [hp] at h <;> cases h
  exact ⟨h1, h2, h3, isScalar_le h3⟩

/-! ## the line loop, and the bytes in front of it -/

/-- the result of a line that is not refused -/
def lineRange (l : List Char) : Option CatRange :=
  match parseLine l with
  | .ok o => o
  | .error _ => none

def lineOk (l : List Char) : Prop := ∃ o, parseLine l = .ok o

theorem parseLinesFrom_ok (ls : List (List Char)) (i : Nat) (h : ∀ l ∈ ls, lineOk l) :
    parseLinesFrom i ls = .ok (ls.filterMap lineRange) := by
  induction ls generalizing i with
  | nil => rfl
  | cons l ls ih =>
    obtain ⟨⟨o, ho⟩, h'⟩ := List.forall_mem_cons.mp h
    cases o <;> simp [parseLinesFrom, ho, ih (i + 1) h', lineRange]

theorem parseLinesFrom_error (pre : List (List Char)) (l : List Char) (post : List (List Char)) (i : Nat) (e : LoadErr)
    (hpre : ∀ l' ∈ pre, lineOk l') (hl : parseLine l = .error e) :
    parseLinesFrom i (pre ++ l :: post) = .error (i + pre.length, e) := by
  induction pre generalizing i with
  | nil => simp [parseLinesFrom, hl]
  | cons p pre ih =>
    obtain ⟨⟨o, ho⟩, hpre'⟩ := List.forall_mem_cons.mp hpre
    have harith : i + 1 + pre.length = i + (pre.length + 1) := Nat.add_right_comm i 1 pre.length
    cases o <;> simp [parseLinesFrom, ho, ih (i + 1) hpre', harith]

theorem readFrom_eq_parseLinesFrom (segs : List (List Nat × Bool)) (ls : List (List Char)) (i : Nat)
    (h : segs.map decodeSegment = ls.map some) : readFrom i segs = parseLinesFrom i ls := by
  induction segs generalizing ls i with
  | nil =>
    cases ls with
    | nil => rfl
    | cons _ _ => simp at h
  | cons seg segs ih =>
    cases ls with
    | nil => simp at h
    | cons l ls =>
      simp only [List.map_cons, List.cons.injEq] at h
      obtain ⟨h1, h2⟩ := h
      simp only [readFrom, parseLinesFrom, h1]
      cases parseLine l with
      | error e => rfl
      | ok o =>
        cases o with
        | none => exact ih ls (i + 1) h2
        | some r => simp only; rw [ih ls (i + 1) h2]

theorem readFrom_io (pre : List (List Nat × Bool)) (seg : List Nat × Bool) (post : List (List Nat × Bool)) (i : Nat)
    (hpre : ∀ s ∈ pre, ∃ l, decodeSegment s = some l ∧ lineOk l) (hseg : decodeSegment seg = none) :
    readFrom i (pre ++ seg :: post) = .error (i + pre.length, .io) := by
  induction pre generalizing i with
  | nil => simp [readFrom, hseg]
  | cons p pre ih =>
    obtain ⟨⟨l, hl, o, ho⟩, hpre'⟩ := List.forall_mem_cons.mp hpre
    have harith : i + 1 + pre.length = i + (pre.length + 1) := Nat.add_right_comm i 1 pre.length
    cases o <;> simp [readFrom, hl, ho, ih (i + 1) hpre', harith]

theorem readFrom_ok_mem : ∀ (segs : List (List Nat × Bool)) (i : Nat) (rs : List CatRange), readFrom i segs = .ok rs →
    ∀ r ∈ rs, ∃ line, parseLine line = .ok (some r) := by
  intro segs
  induction segs with
  | nil => intro i rs h r hr; simp [readFrom] at h; subst h; cases hr
  | cons seg segs ih =>
    intro i rs h r hr
    simp only [readFrom] at h
    split at h
    · cases h
    · rename_i l _
      split at h
      · cases h
      · exact ih _ _ h r hr
      · rename_i r0 hl
        split at h
        · cases h
        · rename_i rs' hrs
          simp only [Except.ok.injEq] at h
          subst h
          cases hr with
          | head => exact ⟨l, hl⟩
          | tail _ hr' => exact ih _ _ hrs r hr'

/-! ## `u32::from_str_radix(_, 16)` -/

/-- positional value of a string of hex digits (`none` when some character is not a hex digit) -/
def hexValue : List Char → Nat → Option Nat
  | [], acc => some acc
  | c :: cs, acc =>
    match Wire.hexDigitVal? c with
    | none => none
    | some d => hexValue cs (acc * 16 + d)

theorem hexValue_ge : ∀ (cs : List Char) (acc n : Nat), hexValue cs acc = some n → acc ≤ n := by
  intro cs
  induction cs with
  | nil => intro acc n h; exact Nat.le_of_eq (Option.some.inj h)
  | cons c cs ih =>
    intro acc n h
    rw [hexValue] at h
    split at h
    · cases h
    · exact Nat.le_trans (Nat.le_trans (Nat.le_mul_of_pos_right acc (by decide)) (Nat.le_add_right _ _)) (ih _ _ h)

theorem radixGo_spec : ∀ (cs : List Char) (acc n : Nat), acc < 4294967296 →
    (radixGo cs acc = .ok n ↔ hexValue cs acc = some n ∧ n < 4294967296) := by
  intro cs
  induction cs with
  | nil =>
    intro acc n hacc
    exact ⟨fun h => Except.ok.inj h ▸ ⟨rfl, hacc⟩, fun h => congrArg Except.ok (Option.some.inj h.1)⟩
  | cons c cs ih =>
    intro acc n hacc
    rw [radixGo, hexValue]
    cases Wire.hexDigitVal? c with
    | none => exact ⟨nofun, fun h => nomatch h.1⟩
    | some d =>
      dsimp only
      by_cases h2 : acc * 16 + d ≥ 4294967296
      · -- one of the two checks fires, and the value is too big whatever follows
        have hov : ¬ (hexValue cs (acc * 16 + d) = some n ∧ n < 4294967296) := fun ⟨hv, hn⟩ =>
          Nat.lt_irrefl _ (Nat.lt_of_le_of_lt (Nat.le_trans h2 (hexValue_ge _ _ _ hv)) hn)
        split <;> exact ⟨nofun, fun h => absurd h hov⟩
      · rw [if_neg fun h1 => h2 (Nat.le_trans h1 (Nat.le_add_right _ _)), if_neg h2]
        exact ih _ _ (Nat.not_le.mp h2)

/-- the digit loop fails with `InvalidDigit` or `PosOverflow`, never with `Empty` -/
theorem radixGo_error : ∀ (cs : List Char) (acc : Nat) (k : IntErr), radixGo cs acc = .error k →
    k = .invalidDigit ∨ k = .posOverflow := by
  intro cs
  induction cs with
  | nil => intro acc k h; cases h
  | cons c cs ih =>
    intro acc k h
    rw [radixGo] at h
    cases hd : Wire.hexDigitVal? c with
    | none => rw [hd] at h; exact .inl (Except.error.inj h).symm
    | some d =>
      rw [hd] at h
      dsimp only at h
      by_cases h1 : acc * 16 ≥ 4294967296
      · rw [if_pos h1] at h; exact .inr (Except.error.inj h).symm
      · rw [if_neg h1] at h
        by_cases h2 : acc * 16 + d ≥ 4294967296
        · rw [if_pos h2] at h; exact .inr (Except.error.inj h).symm
        · rw [if_neg h2] at h; exact ih _ _ h

/-- the string after the optional sign -/
def afterSign : List Char → List Char
  | '+' :: rest => rest
  | s => s

/-- The digit loop on what follows the sign.  A lone `-` needs no case of its own: the digit loop refuses it with
the same `InvalidDigit`. -/
theorem u32FromStrRadix16_eq (s : List Char) :
    u32FromStrRadix16 s =
      if afterSign s = [] then .error (if s = [] then .empty else .invalidDigit) else radixGo (afterSign s) 0 := by
  unfold u32FromStrRadix16
  split
  · rfl
  · rfl
  · rfl
  · next rest hne => exact (if_neg fun h : rest = [] => hne (h ▸ rfl)).symm
  · next h1 _ _ h4 =>
    have has : afterSign s = s := by
      unfold afterSign
      split
      · exact (h4 _ rfl).elim
      · rfl
    rw [has, if_neg h1]

end CharCat
