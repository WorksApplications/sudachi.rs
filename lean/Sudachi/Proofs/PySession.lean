import Sudachi.Proofs.RecycleWorld
import Sudachi.Model.PySession
/-!
# Python sessions (`Model/PySession.lean`): which lists and cells a call changes, and what it returns

A call changes the world only at its out list and, for `tokenize` and `lookup`, in the cell that list points to.
`Touch w w' j ps` (`Proofs/RecycleWorld.lean`) says so for one operation on the world and composes (`Touch.trans`), so the
frame of a call is the composition of the frames of the world operations it consists of; `Touch.cellOf_eq` turns it into
"every other list reads what it read".
`Morpheme.split` is traversed once, for any reflexive and transitive relation its four operations respect (`split_steps`):
the frame and "every list has a cell" are the two instances.  What `tokenize` delivers is a function of the analysis alone
(`tokResult`), and `tokenize_view` says that the returned list shows exactly that, whatever `out` is.  For the read model
(`begin()`, `end()`, `raw_surface()` against any cell content) the last section of `PySession` says what held when an accessor answers.  At the end, in `PyGlue`, the one lemma the
theorems about the argument handling of `Model/PyGlue.lean` need.
-/
namespace PySession
open Recycle

variable {E : Type}

/-! ## `copy_slice` -/

/-- `copy_slice`: nothing happens, or list `j` is rewritten and points to the part of list `i` (as `split_into`) -/
theorem copySlice_cases (w : World E) (i idx j : Nat) :
    (copySlice w i idx j).1 = w ∨
    ∃ Li ns, w.lists[i]? = some Li ∧ (copySlice w i idx j).1 = { w with lists := w.lists.set j ⟨Li.part, ns⟩ } := by
  unfold copySlice
  cases w.lists[i]? with
  | none => exact Or.inl rfl
  | some Li =>
    cases w.lists[j]? with
    | none => exact Or.inl rfl
    | some Lj => dsimp only; cases Li.nodes[idx]? <;> exact Or.inr ⟨Li, _, rfl, rfl⟩

theorem copySlice_touch (w : World E) (i idx j : Nat) (ps : Nat → Prop) : Touch w (copySlice w i idx j).1 j ps := by
  rcases copySlice_cases w i idx j with e | ⟨Li, ns, -, e⟩ <;> rw [e]
  · exact .of .rfl .rfl
  · exact .of (.set rfl) .rfl

/-! ## the out cell of `tokenize` and `lookup`: the given list, or a new list with a new cell -/

theorem lookupCell_touch (P : Payload E) (w : World E) (out : Option Nat) (j : Nat) (ps : Nat → Prop) :
    Touch w (lookupCell P w out) j ps := by
  cases out with
  | some o => exact .of .rfl .rfl
  | none => exact newList_touch .fix P w j ps

/-- the list a call writes and its cell exist once the out cell is chosen (`out`, or a new list with a new cell) -/
theorem lookupCell_out (P : Payload E) (w : World E) (out : Option Nat) (hok : ListsOk w)
    (ho : ∀ j, out = some j → j < w.lists.length) :
    ∃ L p, (lookupCell P w out).lists[outIdx w out]? = some L ∧ (lookupCell P w out).parts[L.part]? = some p ∧
      ∀ j, out = some j → partOf w j = some L.part := by
  cases out with
  | some j =>
    have hj := ho j rfl
    refine ⟨w.lists[j], _, List.getElem?_eq_getElem hj, List.getElem?_eq_getElem (hok _ (List.getElem_mem hj)),
      fun j' hj' => ?_⟩
    cases hj'; unfold partOf; rw [List.getElem?_eq_getElem hj]; rfl
  | none => exact ⟨⟨w.parts.length, []⟩, Part.default P, List.getElem?_concat_length, List.getElem?_concat_length, nofun⟩

/-- a new list points to a new cell: if the list a call writes points to a cell of `w`, it is `out` -/
theorem lookupCell_partOf (P : Payload E) (w : World E) (out : Option Nat) (q : Nat) (hq : q < w.parts.length)
    (h : partOf (lookupCell P w out) (outIdx w out) = some q) : partOf w (outIdx w out) = some q ∧ out.isSome = true := by
  cases out with
  | some j => exact ⟨h, rfl⟩
  | none =>
    have : partOf (lookupCell P w none) (outIdx w none) = some w.parts.length :=
      congrArg (Option.map MList.part) List.getElem?_concat_length
    exact absurd hq (Option.some.inj (this.symm.trans h) ▸ Nat.lt_irrefl _)

/-! ## `tokenize` -/

theorem tokenize_touch (v : ResetVariant) (P : Payload E) (w : World E) (mode : Option Mode) (out : Option Nat)
    (text : List E) :
    Touch w (tokenize v P w mode out text).1 (outIdx w out) (fun q => partOf w (outIdx w out) = some q ∧ out.isSome) := by
  unfold tokenize
  rw [pyTokenize_def]
  generalize (ovr v P mode w).tok.analyse v P text = t
  obtain ⟨t1, o⟩ := t
  cases o with
  | ok =>
    exact (show Touch w ({ lookupCell P w out with tok := t1 } : World E) _ _ from lookupCell_touch P w out _ _).trans
      (collect_touch _ _) (lookupCell_partOf P w out)
  | _ => exact .of .rfl .rfl

/-- what `tokenize(text, mode=…)` delivers whatever `out` is: the result path and the input buffer of the analysis
of `text` in the effective mode, or the class of the exception -/
def tokResult (v : ResetVariant) (P : Payload E) (w : World E) (mode : Option Mode) (text : List E) :
    Except String (List E × Input E) :=
  let t := (ovr v P mode w).tok.analyse v P text
  match t.2, t.1.topPath with
  | .ok, some path => .ok (path, t.1.input)
  | .ok, none => .error "PanicException"
  | .err _, _ => .error "SudachiError"
  | .panic, _ => .error "PanicException"

/-- **what `tokenize` returns, for every choice of `out`**: the exception of `tokResult`, or the list `outIdx w out`
whose view is exactly the pair of `tokResult` and which still points to the cell it pointed to -/
theorem tokenize_view (v : ResetVariant) (P : Payload E) (w : World E) (hok : ListsOk w) (mode : Option Mode)
    (out : Option Nat) (text : List E) (ho : ∀ j, out = some j → j < w.lists.length) :
    match tokResult v P w mode text with
    | .ok x => (tokenize v P w mode out text).2 = .list (outIdx w out) ∧
        view (tokenize v P w mode out text).1 (outIdx w out) = some x ∧
        ∀ j, out = some j → partOf (tokenize v P w mode out text).1 j = partOf w j
    | .error e => (tokenize v P w mode out text).2 = .exc e := by
  unfold tokenize tokResult
  rw [pyTokenize_def]
  generalize (ovr v P mode w).tok.analyse v P text = t
  obtain ⟨t1, o⟩ := t
  obtain ⟨L, p, hL, hp, hpo⟩ := lookupCell_out P w out hok ho
  cases o with
  | ok =>
    dsimp only
    cases hpath : t1.topPath with
    | none => dsimp only; rw [collect_panic ({ lookupCell P w out with tok := t1 } : World E) _ L p hL hp hpath]; rfl
    | some path =>
      obtain ⟨c1, c2, c3⟩ := collect_view ({ lookupCell P w out with tok := t1 } : World E) _ L p path hL hp hpath
      dsimp only
      rw [c1]
      refine ⟨rfl, c2, fun j hj => ?_⟩
      rw [hpo j hj]
      cases hj
      exact c3
  | _ => exact rfl

/-! ## `split` and `lookup`: frame -/

/-- a list created for a call that raises is dropped with the exception: the call then ends in `w` itself -/
theorem dropNew_rel {R : World E → World E → Prop} {w : World E} (out : Option Nat) (r : World E × Ret) (hr : R w w)
    (h : R w r.1) : R w (dropNew w out r).1 := by
  unfold dropNew
  cases r.2 with
  | list _ => exact h
  | exc _ => cases out <;> assumption

/-- `Morpheme.split` gets from `w` to the world it returns by `empty_clone`, `clear`, `split_into` and `copy_slice`
on the out list, or not at all: what each of these steps preserves, `split` preserves -/
theorem split_steps (R : World E → World E → Prop) (hr : ∀ u, R u u) (ht : ∀ {a b c}, R a b → R b c → R a c)
    (P : Payload E) (w : World E) (i idx : Nat) (a : SplitArgs)
    (h1 : ∀ u, R u (u.step .fix P (.emptyClone i)).1) (h2 : ∀ u, R u (u.step .fix P (.clear (outIdx w a.out))).1)
    (h3 : ∀ u, R u (u.splitInto P i idx a.mode (outIdx w a.out)).1)
    (h4 : ∀ u, R u (copySlice u i idx (outIdx w a.out)).1) : R w (split P w i idx a).1 := by
  unfold split
  by_cases hm : (!a.modeOk) = true
  · rw [if_pos hm]; exact hr w
  rw [if_neg hm]
  by_cases ho : a.out = some i
  · rw [if_pos ho]; exact hr w
  rw [if_neg ho]
  refine dropNew_rel _ _ (hr w) ?_
  have hw1 : R w ((splitCell P w i a.out).step .fix P (.clear (outIdx w a.out))).1 :=
    ht (by unfold splitCell; cases a.out; exact h1 w; exact hr w) (h2 _)
  generalize ((splitCell P w i a.out).step .fix P (.clear (outIdx w a.out))).1 = w1 at hw1 ⊢
  unfold splitCore
  have hw2 := ht hw1 (h3 w1)
  generalize w1.splitInto P i idx a.mode (outIdx w a.out) = r2 at hw2 ⊢
  obtain ⟨w2, o⟩ := r2
  cases o with
  | ok =>
    dsimp only
    by_cases hu : a.unwinds = true
    · rw [if_pos hu]; exact hw2
    rw [if_neg hu]
    by_cases hc : (PyGlue.addSingleOf a.addSingle && !hasNodes w2 (outIdx w a.out)) = true
    · rw [if_pos hc]
      have hw3 := ht hw2 (h4 w2)
      generalize copySlice w2 i idx (outIdx w a.out) = r3 at hw3 ⊢
      obtain ⟨w3, o3⟩ := r3
      cases o3 <;> exact hw3
    · rw [if_neg hc]; exact hw2
  | _ => exact hw2

theorem split_touch (P : Payload E) (w : World E) (i idx : Nat) (a : SplitArgs) :
    Touch w (split P w i idx a).1 (outIdx w a.out) (fun _ => False) :=
  split_steps (fun u u' => Touch u u' (outIdx w a.out) (fun _ => False)) (fun _ => .of .rfl .rfl) Touch.false_trans P w i idx a
    (fun u => emptyClone_touch .fix P u i _ _) (fun u => clear_touch .fix P u _ _)
    (fun u => splitInto_touch P u i idx a.mode _ _) (fun u => copySlice_touch u i idx _ _)

theorem dictLookup_touch (P : Payload E) (w : World E) (q : List E) (out : Option Nat) :
    Touch w (lookup P w q out).1 (outIdx w out) (fun x => partOf w (outIdx w out) = some x ∧ out.isSome) := by
  refine dropNew_rel (R := fun u u' => Touch u u' _ _) out _ (.of .rfl .rfl) ?_
  refine (((lookupCell_touch P w out _ (fun _ => False)).false_trans (clear_touch .fix P _ _ _)).mono
    (fun _ h => h.elim)).trans (lookup_touch P _ _ q Subset.all) ?_
  intro x hx hpo
  rw [partOf_clear] at hpo
  exact lookupCell_partOf P w out x hx hpo

/-! ## sharing -/

theorem shares_eq_true (w : World E) (o k : Nat) :
    shares w o k = true ↔ (partOf w k).isSome = true ∧ partOf w o = partOf w k := by
  unfold shares partOf
  cases w.lists[o]? <;> cases w.lists[k]? <;> simp

/-- the text a list reads is that of the cell it points to: two lists pointing to the same cell read the same text -/
theorem cellOf_text (u : World E) (k : Nat) :
    (cellOf u k).map (·.2) = (partOf u k).bind fun q => u.parts[q]?.map (·.input) := by
  unfold cellOf partOf
  cases u.lists[k]? with
  | none => rfl
  | some L => dsimp only [Option.map_some, Option.bind_some]; cases u.parts[L.part]? <;> rfl

/-! ## `split` on good input -/

theorem copySlice_eq (w : World E) (i idx o : Nat) (Li Lo : MList E) (node : E)
    (hLi : w.lists[i]? = some Li) (hLo : w.lists[o]? = some Lo) (hn : Li.nodes[idx]? = some node) :
    copySlice w i idx o = ({ w with lists := w.lists.set o ⟨Li.part, Lo.nodes ++ [node]⟩ }, .ok) := by
  simp only [copySlice, hLi, hLo, hn]

theorem hasNodes_of {w : World E} {o : Nat} {L : MList E} (h : w.lists[o]? = some L) :
    hasNodes w o = !L.nodes.isEmpty := by
  unfold hasNodes; rw [h]

theorem splitCore_eq (P : Payload E) (w : World E) (i idx o q : Nat) (a : SplitArgs) (Li : MList E) (p : Part E) (node : E)
    (hio : i ≠ o) (hu : a.unwinds = false) (hLi : w.lists[i]? = some Li) (hLo : w.lists[o]? = some ⟨q, []⟩)
    (hn : Li.nodes[idx]? = some node) (hp : w.parts[Li.part]? = some p) :
    splitCore P w i idx a o =
      ({ w with lists := w.lists.set o (
          if (P.splitNodes a.mode p.subset p.input.view node).isEmpty then
            (if PyGlue.addSingleOf a.addSingle then ⟨Li.part, [node]⟩ else ⟨q, []⟩)
          else ⟨Li.part, P.splitNodes a.mode p.subset p.input.view node⟩) }, .list o) := by
  have ho : o < w.lists.length := (List.getElem?_eq_some_iff.mp hLo).1
  unfold splitCore
  rw [splitInto_eq P w i idx o a.mode Li _ node p hio hLi hLo hn hp]
  dsimp only
  rw [if_neg (by rw [hu]; decide)]
  cases hemp : (P.splitNodes a.mode p.subset p.input.view node).isEmpty with
  | false =>
    -- units were written: `out` has nodes, `add_single` does nothing
    rw [if_neg Bool.false_ne_true, if_neg Bool.false_ne_true, if_neg]
    · rfl
    · rw [hasNodes_of (List.getElem?_set_self ho), List.nil_append, hemp]
      simp only [Bool.not_false, Bool.not_true, Bool.and_false, Bool.false_eq_true, not_false_eq_true]
  | true =>
    rw [if_pos rfl, if_pos rfl, hasNodes_of hLo]
    cases PyGlue.addSingleOf a.addSingle with
    | true => rw [if_pos rfl, if_pos (by rfl), copySlice_eq _ i idx o Li _ node hLi hLo hn]; rfl
    | false =>
      -- nothing is written: `out` stays as `clear` left it
      obtain ⟨_, e⟩ := List.getElem?_eq_some_iff.mp hLo
      rw [if_neg (show ¬ (false && _) = true from Bool.false_ne_true), if_neg Bool.false_ne_true, ← e, List.set_getElem_self]

/-- `split(out=o)` with a valid mode, `o` another existing list, the index in range and no unwinding: it returns `o`,
which holds the units and points to the parent's cell if there are units, else the morpheme itself (`add_single`), else
nothing — and then it keeps its own cell; nothing else changes -/
theorem split_eq (P : Payload E) (w : World E) (i idx o : Nat) (a : SplitArgs)
    (Li Lo : MList E) (p : Part E) (node : E)
    (hm : a.modeOk = true) (hout : a.out = some o) (hoi : o ≠ i) (hu : a.unwinds = false)
    (hLi : w.lists[i]? = some Li) (hLo : w.lists[o]? = some Lo) (hn : Li.nodes[idx]? = some node)
    (hp : w.parts[Li.part]? = some p) :
    split P w i idx a =
      ({ w with lists := w.lists.set o (
          if (P.splitNodes a.mode p.subset p.input.view node).isEmpty then
            (if PyGlue.addSingleOf a.addSingle then ⟨Li.part, [node]⟩ else ⟨Lo.part, []⟩)
          else ⟨Li.part, P.splitNodes a.mode p.subset p.input.view node⟩) }, .list o) := by
  have ho : o < w.lists.length := (List.getElem?_eq_some_iff.mp hLo).1
  unfold split
  rw [if_neg (by rw [hm]; decide), if_neg (by rw [hout]; exact fun h => hoi (Option.some.inj h))]
  simp only [hout, splitCell, outIdx, clear_eq .fix P w o Lo hLo]
  rw [splitCore_eq P ({ w with lists := w.lists.set o { Lo with nodes := [] } } : World E) i idx o Lo.part a Li p node (Ne.symm hoi) hu ((List.getElem?_set_ne hoi).trans hLi)
    (List.getElem?_set_self ho) hn hp]
  simp only [dropNew, List.set_set]

/-! ## every list of a session has a cell -/

theorem copySlice_listsOk (w : World E) (i idx j : Nat) (h : ListsOk w) : ListsOk (copySlice w i idx j).1 := by
  rcases copySlice_cases w i idx j with e | ⟨Li, ns, hLi, e⟩ <;> rw [e]
  · exact h
  · exact listsOk_set w j _ _ h rfl (h Li (List.mem_of_getElem? hLi))

theorem pyTokenize_listsOk (v : ResetVariant) (P : Payload E) (w : World E) (mode : Option Mode) (out : Option Nat)
    (text : List E) (h : ListsOk w) : ListsOk (w.pyTokenize v P mode out text).1 := by
  have := pyTokenize_eq_run v P w mode out text
  dsimp only at this
  rw [this]
  exact run_listsOk v _ w h

theorem call_listsOk (v : ResetVariant) (P : Payload E) (w : World E) (c : Call E) (h : ListsOk w) :
    ListsOk (step v P w c).1 := by
  cases c with
  | tokenize mode out text =>
    show ListsOk (tokenize v P w mode out text).1
    unfold tokenize
    exact pyTokenize_listsOk v P w mode out text h
  | lookup q out =>
    show ListsOk (lookup P w q out).1
    refine dropNew_rel (R := fun u u' => ListsOk u → ListsOk u') out _ id (fun h => ?_) h
    have h0 : ListsOk (lookupCell P w out) := by
      cases out with
      | none => exact step_listsOk .fix P w .newList h
      | some j => exact h
    exact step_listsOk .fix P _ (.lookup _ q) (step_listsOk .fix P _ (.clear _) h0)
  | split i idx a =>
    show ListsOk (split P w i idx a).1
    exact split_steps (fun u u' => ListsOk u → ListsOk u') (fun _ h => h) (fun f g h => g (f h)) P w i idx a
      (fun u => step_listsOk .fix P u _) (fun u => step_listsOk .fix P u _)
      (fun u => step_listsOk .fix P u (.splitInto i idx a.mode _)) (fun u => copySlice_listsOk u i idx _) h

theorem run_listsOk (v : ResetVariant) (calls : List (Payload E × Call E)) (w : World E) (h : ListsOk w) :
    ListsOk (run v w calls).1 := by
  induction calls generalizing w with
  | nil => exact h
  | cons x rest ih =>
    obtain ⟨P, c⟩ := x
    exact ih _ (call_listsOk v P w c h)

theorem cellOf_isSome (w : World E) (h : ListsOk w) (k : Nat) (hk : k < w.lists.length) : (cellOf w k).isSome = true := by
  unfold cellOf
  rw [List.getElem?_eq_getElem hk]
  dsimp only
  have := h w.lists[k] (List.getElem_mem hk)
  rw [List.getElem?_eq_getElem this]
  rfl

/-! ## when the accessors answer: what held of the cell's CURRENT tables (inversions of `origSlice`, `origCharIdx`) -/

theorem origSlice_eq_some {t : Tabs} {bb eb : Nat} {s : List Nat} (hs : origSlice t bb eb = some s) :
    t.state ≠ 0 ∧ ∃ a b, t.m2o[bb]? = some a ∧ t.m2o[eb]? = some b ∧ a ≤ b ∧ b ≤ t.orig.length ∧
      isBoundary t.orig a = true ∧ isBoundary t.orig b = true ∧ s = (t.orig.drop a).take (b - a) := by
  unfold origSlice at hs
  by_cases h0 : t.state = 0
  · rw [if_pos h0] at hs; cases hs
  rw [if_neg h0] at hs
  by_cases h1 : (!isBoundary t.modified bb || !isBoundary t.modified eb) = true
  · rw [if_pos h1] at hs; cases hs
  rw [if_neg h1] at hs
  cases ha : t.m2o[bb]? with
  | none => simp only [ha] at hs; cases hs
  | some a =>
    cases hb : t.m2o[eb]? with
    | none => simp only [ha, hb] at hs; cases hs
    | some b =>
      simp only [ha, hb] at hs
      by_cases hc : a ≤ b ∧ b ≤ t.orig.length ∧ isBoundary t.orig a = true ∧ isBoundary t.orig b = true
      · rw [if_pos hc] at hs
        exact ⟨h0, a, b, rfl, rfl, hc.1, hc.2.1, hc.2.2.1, hc.2.2.2, (Option.some.inj hs).symm⟩
      · rw [if_neg hc] at hs; cases hs

theorem origCharIdx_eq_some {t : Tabs} {ci c : Nat} (hc : origCharIdx t ci = some c) :
    t.state ≠ 0 ∧ c ≠ usizeMax ∧ ∃ b b', t.c2b[ci]? = some b ∧ t.m2o[b]? = some b' ∧ t.ob2c[b']? = some c := by
  unfold origCharIdx origByteIdx at hc
  by_cases h0 : t.state = 0
  · simp only [if_pos h0] at hc; cases hc
  rw [if_neg h0] at hc
  cases hb : t.c2b[ci]? with
  | none => simp only [hb] at hc; cases hc
  | some b =>
    cases hm : t.m2o[b]? with
    | none => simp only [hb, hm] at hc; cases hc
    | some b' =>
      cases hr : t.ob2c[b']? with
      | none => simp only [hb, hm, hr] at hc; cases hc
      | some r =>
        simp only [hb, hm, hr] at hc
        by_cases hu : r = usizeMax
        · rw [if_pos hu] at hc; cases hc
        · rw [if_neg hu] at hc
          obtain rfl := Option.some.inj hc
          exact ⟨h0, hu, b, b', rfl, hm, hr⟩

theorem obsOf_ne_crash {α : Type} (f : α → String) (x : Option α) : obsOf f x ≠ .crash := by
  cases x <;> nofun

end PySession

namespace PyGlue

/-- for `C19.py_never_crashes` (the argument handling of `Model/PyGlue.lean`): every leaf of an entry point is a value, an
exception or `unspecified`, and the theorem nests this lemma along the `if`s -/
theorem ite_ne {α : Type} {c : Prop} [Decidable c] {a b x : α} (ha : a ≠ x) (hb : b ≠ x) :
    (if c then a else b) ≠ x := by
  split <;> assumption

end PyGlue
