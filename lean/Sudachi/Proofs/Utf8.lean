import Sudachi.Model.Sentence
/-!
# UTF-8: one encoded character, an encoded text

The encoder of `Model/Sentence.lean` (`Model/TotalIO.lean` has the same one under another name, so every fact here is by
unfolding also a fact about `TotalIO.utf8Enc`): the shape and length of an encoded character, that the model's decoder
`Wire.utf8Decode` reads an encoded character back whatever follows it, and from these that UTF-8 is prefix-free and
self-synchronising (`utf8_sync`).  Used by the sentence splitter (C16) and by the UTF-8 invariant of the input buffer (C01).
-/
namespace Sentence

/-! ## byte length; one encoded character; prefix-freeness and self-synchronisation -/

theorem width_pos (c : Nat) : 1 ≤ width c := by
  unfold width
  by_cases h1 : c < 0x80
  · rw [if_pos h1]; decide
  rw [if_neg h1]
  by_cases h2 : c < 0x800
  · rw [if_pos h2]; decide
  rw [if_neg h2]
  by_cases h3 : c < 0x10000
  · rw [if_pos h3]; decide
  · rw [if_neg h3]; decide

theorem blen_append (a b : Text) : blen (a ++ b) = blen a + blen b := by
  induction a with
  | nil => simp [blen]
  | cons c cs ih => simp [blen, ih]; omega

theorem blen_pos_of_ne_nil {a : Text} (h : a ≠ []) : 1 ≤ blen a := by
  cases a with
  | nil => exact absurd rfl h
  | cons c cs => have := width_pos c; simp [blen]; omega

theorem utf8_append (a b : Text) : utf8 (a ++ b) = utf8 a ++ utf8 b := by
  induction a with
  | nil => simp [utf8]
  | cons c cs ih => simp [utf8, ih]

theorem utf8Enc_length (c : Nat) : (utf8Enc c).length = width c := by
  unfold utf8Enc width
  simp only [apply_ite List.length, List.length_cons, List.length_nil]

theorem utf8_length (a : Text) : (utf8 a).length = blen a := by
  induction a with
  | nil => simp [utf8, blen]
  | cons c cs ih => simp [utf8, blen, ih, utf8Enc_length]

/-- continuation byte `10xxxxxx` -/
def isCont (b : Nat) : Prop := 0x80 ≤ b ∧ b < 0xC0

theorem isCont_digit (x : Nat) : isCont (0x80 + x % 64) :=
  ⟨Nat.le_add_right _ _, Nat.add_lt_add_left (Nat.mod_lt _ (by decide)) _⟩

theorem lead_not_lt {a k : Nat} (h : k ≤ a) (y : Nat) : ¬ a + y < k :=
  Nat.not_lt.mpr (Nat.le_trans h (Nat.le_add_right _ _))

theorem utf8Enc_shape (c : Nat) : ∃ b bs, utf8Enc c = b :: bs ∧ ¬ isCont b ∧ ∀ x ∈ bs, isCont x := by
  unfold utf8Enc
  split
  · rename_i h
    exact ⟨c, [], rfl, fun hc => Nat.not_le.mpr h hc.1, fun _ hx => nomatch hx⟩
  · split
    · refine ⟨_, _, rfl, fun hc => lead_not_lt (Nat.le_refl _) _ hc.2, fun x hx => ?_⟩
      cases List.mem_singleton.mp hx
      exact isCont_digit _
    · split
      · refine ⟨_, _, rfl, fun hc => lead_not_lt (by decide) _ hc.2, fun x hx => ?_⟩
        simp only [List.mem_cons, List.not_mem_nil, or_false] at hx
        rcases hx with rfl | rfl <;> exact isCont_digit _
      · refine ⟨_, _, rfl, fun hc => lead_not_lt (by decide) _ hc.2, fun x hx => ?_⟩
        simp only [List.mem_cons, List.not_mem_nil, or_false] at hx
        rcases hx with rfl | rfl | rfl <;> exact isCont_digit _

/-- three and four digits in base 64 -/
theorem digits3 (c : Nat) : c / 4096 * 4096 + c / 64 % 64 * 64 + c % 64 = c := by
  have h : c / 4096 * 4096 = c / 64 / 64 * 64 * 64 := by rw [Nat.div_div_eq_div_mul, Nat.mul_assoc]
  rw [h, ← Nat.add_mul, Nat.div_add_mod', Nat.div_add_mod']

theorem digits4 (c : Nat) : c / 262144 * 262144 + c / 4096 % 64 * 4096 + c / 64 % 64 * 64 + c % 64 = c := by
  have h1 : c / 262144 * 262144 = c / 64 / 4096 * 4096 * 64 := by rw [Nat.div_div_eq_div_mul, Nat.mul_assoc]
  have h2 : c / 4096 % 64 * 4096 = c / 64 / 64 % 64 * 64 * 64 := by rw [Nat.div_div_eq_div_mul, Nat.mul_assoc]
  rw [h1, h2, ← Nat.add_mul, ← Nat.add_mul, digits3, Nat.div_add_mod']

/-- the decoder reads an encoded character back: the lead byte selects the branch the encoder took, the payloads are the
base-64 digits of `c` (the 4-byte branch of both functions has no upper bound) -/
theorem utf8Decode_utf8Enc_append (c : Nat) (r : List Nat) :
    Wire.utf8Decode (utf8Enc c ++ r) = (Wire.utf8Decode r).map (c :: ·) := by
  unfold utf8Enc
  by_cases h1 : c < 0x80
  · rw [if_pos h1, List.singleton_append, Wire.utf8Decode.eq_def]; dsimp only; rw [if_pos h1]
  rw [if_neg h1]
  by_cases h2 : c < 0x800
  · rw [if_pos h2, List.cons_append, List.singleton_append, Wire.utf8Decode.eq_def]; dsimp only
    rw [if_neg (lead_not_lt (by decide) _), if_neg (lead_not_lt (by decide) _),
      if_pos (show 0xC0 + c / 64 < 0xE0 from Nat.add_lt_add_left (Nat.div_lt_of_lt_mul h2 : c / 64 < 32) 0xC0),
      Nat.add_sub_cancel_left, Nat.add_sub_cancel_left, Nat.div_add_mod']
  rw [if_neg h2]
  by_cases h3 : c < 0x10000
  · rw [if_pos h3, List.cons_append, List.cons_append, List.singleton_append, Wire.utf8Decode.eq_def]; dsimp only
    rw [if_neg (lead_not_lt (by decide) _), if_neg (lead_not_lt (by decide) _), if_neg (lead_not_lt (by decide) _),
      if_pos (show 0xE0 + c / 4096 < 0xF0 from Nat.add_lt_add_left (Nat.div_lt_of_lt_mul h3 : c / 4096 < 16) 0xE0),
      Nat.add_sub_cancel_left, Nat.add_sub_cancel_left, Nat.add_sub_cancel_left, digits3]
  · rw [if_neg h3, List.cons_append, List.cons_append, List.cons_append, List.singleton_append,
      Wire.utf8Decode.eq_def]; dsimp only
    rw [if_neg (lead_not_lt (by decide) _), if_neg (lead_not_lt (by decide) _), if_neg (lead_not_lt (by decide) _),
      if_neg (lead_not_lt (by decide) _),
      Nat.add_sub_cancel_left, Nat.add_sub_cancel_left, Nat.add_sub_cancel_left, Nat.add_sub_cancel_left, digits4]

theorem utf8Decode_utf8 : ∀ t : Text, Wire.utf8Decode (utf8 t) = some t
  | [] => by rw [utf8, Wire.utf8Decode]
  | c :: cs => by rw [utf8, utf8Decode_utf8Enc_append, utf8Decode_utf8 cs]; rfl

theorem utf8_ne_nil {t : Text} (h : t ≠ []) : utf8 t ≠ [] := by
  intro hn
  have h1 := congrArg List.length hn
  rw [utf8_length] at h1
  have := blen_pos_of_ne_nil h
  simp only [List.length_nil] at h1
  omega

/-- both sides decode (`utf8Decode_utf8Enc_append`), so the first characters agree and the encoded character cancels -/
theorem utf8_prefix : ∀ (kt t : Text), utf8 kt <+: utf8 t → kt <+: t
  | [], _, _ => List.nil_prefix
  | c :: kt, [], h => absurd (List.prefix_nil.mp h) (utf8_ne_nil (List.cons_ne_nil c kt))
  | c :: kt, d :: t, ⟨z, hz⟩ => by
    rw [utf8, utf8, List.append_assoc] at hz
    have hd := congrArg Wire.utf8Decode hz
    rw [utf8Decode_utf8Enc_append, utf8Decode_utf8Enc_append, utf8Decode_utf8] at hd
    obtain ⟨w, _, hw⟩ := Option.map_eq_some_iff.mp hd
    cases hw
    exact List.cons_prefix_cons.mpr ⟨rfl, utf8_prefix kt t ⟨z, List.append_cancel_left hz⟩⟩

theorem utf8Enc_inner_not_lead {c d : Nat} {x y : List Nat} {i : Nat} (h0 : 0 < i) (hi : i < width d)
    (h : utf8Enc c ++ x <+: (utf8Enc d ++ y).drop i) : False := by
  obtain ⟨b, bs, hc, hb, _⟩ := utf8Enc_shape c
  obtain ⟨b', bs', hd, _, hbs'⟩ := utf8Enc_shape d
  rw [← utf8Enc_length, hd, List.length_cons] at hi
  obtain ⟨j, rfl⟩ : ∃ j, i = j + 1 := ⟨i - 1, by omega⟩
  have hj : j < bs'.length := by omega
  rw [hc, hd, List.cons_append, List.cons_append, List.drop_succ_cons,
    List.drop_append_of_le_length (Nat.le_of_lt hj), List.drop_eq_getElem_cons hj, List.cons_append,
    List.cons_prefix_cons] at h
  exact hb (h.1 ▸ hbs' _ (List.getElem_mem hj))

/-- **UTF-8 self-synchronisation.**  A non-empty valid UTF-8 string `utf8 kt` that matches the bytes of
`input` at byte offset `i` starts at a character boundary and covers exactly the characters `kt`. -/
theorem utf8_sync : ∀ (input : Text) (i : Nat) (kt : Text), kt ≠ [] → utf8 kt <+: (utf8 input).drop i →
    ∃ pre post, input = pre ++ kt ++ post ∧ blen pre = i := by
  intro input
  induction input with
  | nil =>
    intro i kt hne h
    rw [utf8, List.drop_nil, List.prefix_nil] at h
    exact absurd h (utf8_ne_nil hne)
  | cons d rest ih =>
    intro i kt hne h
    cases i with
    | zero =>
      obtain ⟨post, hpost⟩ := utf8_prefix kt (d :: rest) h
      exact ⟨[], post, hpost.symm, rfl⟩
    | succ i =>
      by_cases hlt : i + 1 < width d
      · cases kt with
        | nil => exact absurd rfl hne
        | cons c kt' => exact (utf8Enc_inner_not_lead (Nat.succ_pos i) hlt h).elim
      · have hw : (utf8Enc d).length ≤ i + 1 := by rw [utf8Enc_length]; omega
        rw [utf8, List.drop_append, List.drop_eq_nil_of_le hw, List.nil_append,
          utf8Enc_length] at h
        obtain ⟨pre, post, hs, hb⟩ := ih _ kt hne h
        exact ⟨d :: pre, post, by rw [hs]; rfl, by rw [blen, hb]; omega⟩
end Sentence
