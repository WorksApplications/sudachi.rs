import Sudachi.Proofs.Recycle
import Sudachi.Model.PySession
/-!
# What an operation on result lists does to the world  (C10, C19)

`collect_results`, `split_into`, `lookup`, `clear`, `empty_clone` and the creation of a list read and write the tokenizer's
buffer and path, the `InputPart`s and the lists; nothing else of the world.  For each operation, side by side: the case
lemma (nothing happens, or which part and which list are written), the equation on good input, the frame (`Touch`: which
lists and cells may change), that it neither reads nor writes the lattice (`setLat`), that it keeps mode, subset and field
request.  Then the three invariants of a history (`run_keeps`): `WInv` (the buffers `reset` does not clear are empty, also in
every part a list can swap into the tokenizer), `Covers` (the effective subset, closed under `InfoSubset::normalize`,
contains what a new tokenizer would load; false without the closure: `C10.subset_monotone_counterexample`) and `ListsOk`
(every list points to an existing part).  `World.result` / `PySession.cellOf` are what a caller reads from a list; the last
part is the Python binding's `tokenize`, as one equation (`pyTokenize_def`) and as a plain history of calls (`pyTokenize_eq_run`).

The frame relation (`Touch`, `SameBut`), the two readings of a list (`partOf`, `view`) and two steps of `World.step` written as
equations (`PySession.setMode_eq`, `PySession.analyse_eq`) carry names in `PySession`, where C19 states its theorems with them,
but they speak about `Recycle.World` only and the lemmas of this file need them: they stand here, in one section.  `Model/PySession.lean` is imported for `cellOf` and for `lookupCell` / `outIdx` (the list a Python call
writes: the given `out`, or a new list with a new cell), in which `pyTokenize_def` is stated.
-/
namespace Recycle
variable {E : Type}

def ListsOk (w : World E) : Prop := ∀ L ∈ w.lists, L.part < w.parts.length

def World.setLat (w : World E) (l : Lattice E) : World E := { w with tok := { w.tok with lattice := l } }

end Recycle

namespace PySession
open Recycle
variable {E : Type}

/-! ## declarations of `PySession` about `Recycle.World`: the frame relation (which lists and cells an operation may change) -/

/-- `w'` differs from `w` at most in the tokenizer, in list `j`, in the cells satisfying `ps`, and in lists / cells
that did not exist in `w` -/
def Touch (w w' : World E) (j : Nat) (ps : Nat → Prop) : Prop :=
  w.lists.length ≤ w'.lists.length ∧ w.parts.length ≤ w'.parts.length ∧
  (∀ k, k ≠ j → k < w.lists.length → w'.lists[k]? = w.lists[k]?) ∧
  (∀ q, q < w.parts.length → ¬ ps q → w'.parts[q]? = w.parts[q]?)

/-- `l'` is `l` except at the positions satisfying `p`, and may be longer -/
def SameBut {α : Type} (p : Nat → Prop) (l l' : List α) : Prop :=
  l.length ≤ l'.length ∧ ∀ k, k < l.length → ¬ p k → l'[k]? = l[k]?

theorem SameBut.rfl {α : Type} {p : Nat → Prop} {l : List α} : SameBut p l l := ⟨Nat.le_refl _, fun _ _ _ => Eq.refl _⟩

theorem SameBut.set {α : Type} {p : Nat → Prop} {l : List α} {i : Nat} {a : α} (hi : p i) : SameBut p l (l.set i a) :=
  ⟨Nat.le_of_eq List.length_set.symm, fun k _ hk => List.getElem?_set_ne fun h : i = k => hk (h ▸ hi)⟩

theorem SameBut.append {α : Type} {p : Nat → Prop} {l m : List α} : SameBut p l (l ++ m) :=
  ⟨List.length_append ▸ Nat.le_add_right _ _, fun _ hk _ => List.getElem?_append_left hk⟩

theorem Touch.of {w w' : World E} {j : Nat} {ps : Nat → Prop} (hl : SameBut (· = j) w.lists w'.lists)
    (hp : SameBut ps w.parts w'.parts) : Touch w w' j ps :=
  ⟨hl.1, hp.1, fun k hk hlt => hl.2 k hlt hk, hp.2⟩

theorem Touch.trans {w w1 w2 : World E} {j : Nat} {ps ps' : Nat → Prop} (h1 : Touch w w1 j ps) (h2 : Touch w1 w2 j ps')
    (hps : ∀ q, q < w.parts.length → ps' q → ps q) : Touch w w2 j ps := by
  obtain ⟨a1, a2, a3, a4⟩ := h1
  obtain ⟨b1, b2, b3, b4⟩ := h2
  refine ⟨Nat.le_trans a1 b1, Nat.le_trans a2 b2, ?_, ?_⟩
  · intro k hk hlt; rw [b3 k hk (Nat.lt_of_lt_of_le hlt a1), a3 k hk hlt]
  · intro q hq hn
    rw [b4 q (Nat.lt_of_lt_of_le hq a2) (fun h => hn (hps q hq h)), a4 q hq hn]

theorem Touch.false_trans {w w1 w2 : World E} {j : Nat} (h1 : Touch w w1 j (fun _ => False))
    (h2 : Touch w1 w2 j (fun _ => False)) : Touch w w2 j (fun _ => False) :=
  h1.trans h2 (fun _ _ h => h)

theorem Touch.mono {w w' : World E} {j : Nat} {ps ps' : Nat → Prop} (h : Touch w w' j ps) (hps : ∀ q, ps q → ps' q) :
    Touch w w' j ps' :=
  ⟨h.1, h.2.1, h.2.2.1, fun q hq hn => h.2.2.2 q hq (fun hp => hn (hps q hp))⟩

/-- why `Touch`: a list other than `j` whose cell is not touched reads what it read before -/
theorem Touch.cellOf_eq {w w' : World E} {j : Nat} {ps : Nat → Prop} (h : Touch w w' j ps) (hok : ListsOk w) (k : Nat)
    (hk : k ≠ j) (hlt : k < w.lists.length) (hps : ∀ L, w.lists[k]? = some L → ¬ ps L.part) :
    cellOf w' k = cellOf w k := by
  unfold cellOf
  rw [h.2.2.1 k hk hlt]
  cases hL : w.lists[k]? with
  | none => rfl
  | some L => dsimp only; rw [h.2.2.2 L.part (hok L (List.mem_of_getElem? hL)) (hps L hL)]

/-! ### the cell a list points to; what every accessor reads from a list -/

def partOf (w : World E) (j : Nat) : Option Nat := w.lists[j]?.map (·.part)

theorem partOf_congr {w w' : World E} {k : Nat} (h : w'.lists[k]? = w.lists[k]?) : partOf w' k = partOf w k := by
  unfold partOf; rw [h]

/-- nodes of a list and the content of its cell: what every accessor reads -/
def view (w : World E) (j : Nat) : Option (List E × Input E) := (cellOf w j).map (fun x => (x.1.nodes, x.2))

/-! ### two steps of `World.step` as equations -/

theorem setMode_eq (v : ResetVariant) (P : Payload E) (u : World E) (m : Mode) :
    (u.step v P (.setMode m)).1 = { u with tok := u.tok.setMode m } := rfl

theorem analyse_eq (v : ResetVariant) (P : Payload E) (u : World E) (text : List E) :
    u.step v P (.analyse text) = ({ u with tok := (u.tok.analyse v P text).1 }, (u.tok.analyse v P text).2) := rfl

end PySession

namespace Recycle
open PySession
variable {E F : Type}

/-! ## `collect_results` -/

/-- `collect_results`: nothing happens, or the buffer of the list's part is swapped with the tokenizer's (the
half-swap of the panicking exit) and, when a path is there, path and list nodes are swapped too -/
theorem collect_cases (w : World E) (j : Nat) :
    (w.collect j).1 = w ∨
    ∃ L p sub path, w.lists[j]? = some L ∧ w.parts[L.part]? = some p ∧
      ((w.collect j).1 = { w with tok := { w.tok with input := p.input, topPath := path },
                                  parts := w.parts.set L.part ⟨w.tok.input, sub⟩ } ∨
       ∃ ns, (w.collect j).1 = { w with tok := { w.tok with input := p.input, topPath := path },
                                        parts := w.parts.set L.part ⟨w.tok.input, sub⟩,
                                        lists := w.lists.set j { L with nodes := ns } }) := by
  unfold World.collect
  cases hL : w.lists[j]? with
  | none => exact Or.inl rfl
  | some L =>
    dsimp only
    cases hp : w.parts[L.part]? with
    | none => exact Or.inl rfl
    | some p =>
      dsimp only
      cases ht : w.tok.topPath with
      | none => exact Or.inr ⟨L, p, p.subset, none, rfl, hp, Or.inl rfl⟩
      | some path => exact Or.inr ⟨L, p, _, _, rfl, hp, Or.inr ⟨_, rfl⟩⟩

theorem collect_eq (w : World E) (j : Nat) (L : MList E) (p : Part E) (path : List E)
    (hL : w.lists[j]? = some L) (hp : w.parts[L.part]? = some p) (ht : w.tok.topPath = some path) :
    w.collect j =
      ({ w with tok := { w.tok with input := p.input, topPath := some L.nodes },
                parts := w.parts.set L.part ⟨w.tok.input, w.tok.subset⟩,
                lists := w.lists.set j { L with nodes := path } }, .ok) := by
  simp only [World.collect, hL, hp, ht]

/-- `collect_results` only fails on the `unwrap` of a missing path -/
theorem collect_ok (w : World E) (j : Nat) (h : w.tok.topPath.isSome = true) : (w.collect j).2 = .ok := by
  unfold World.collect
  cases w.lists[j]? with
  | none => rfl
  | some L =>
    dsimp only
    cases w.parts[L.part]? with
    | none => rfl
    | some p =>
      dsimp only
      cases ht : w.tok.topPath with
      | none => rw [ht] at h; cases h
      | some path => rfl

theorem collect_panic (w : World E) (j : Nat) (L : MList E) (p : Part E)
    (hL : w.lists[j]? = some L) (hp : w.parts[L.part]? = some p) (ht : w.tok.topPath = none) :
    (w.collect j).2 = .panic := by
  unfold World.collect
  simp [hL, hp, ht]

theorem collect_touch (w : World E) (j : Nat) : Touch w (w.collect j).1 j (fun q => partOf w j = some q) := by
  rcases collect_cases w j with e | ⟨L, p, sub, path, hL, -, e | ⟨ns, e⟩⟩ <;> rw [e]
  · exact .of .rfl .rfl
  · exact .of .rfl (.set (congrArg (Option.map MList.part) hL))
  · exact .of (.set rfl) (.set (congrArg (Option.map MList.part) hL))

theorem collect_setLat (w : World E) (l : Lattice E) (j : Nat) :
    (w.setLat l).collect j = (((w.collect j).1.setLat l), (w.collect j).2) := by
  unfold World.collect World.setLat
  dsimp only
  cases w.lists[j]? with
  | none => rfl
  | some L =>
    dsimp only
    cases w.parts[L.part]? with
    | none => rfl
    | some p =>
      dsimp only
      cases w.tok.topPath <;> rfl

theorem collect_tok_fields (w : World E) (j : Nat) :
    (w.collect j).1.tok.mode = w.tok.mode ∧ (w.collect j).1.tok.subset = w.tok.subset ∧
    (w.collect j).1.request = w.request := by
  rcases collect_cases w j with e | ⟨L, p, sub, path, -, -, e | ⟨ns, e⟩⟩ <;> rw [e] <;> exact ⟨rfl, rfl, rfl⟩

/-! ## `split_into` -/

theorem splitInto_cases (P : Payload E) (w : World E) (i idx : Nat) (m : Mode) (j : Nat) :
    (w.splitInto P i idx m j).1 = w ∨
    ∃ Li ns, w.lists[i]? = some Li ∧ (w.splitInto P i idx m j).1 = { w with lists := w.lists.set j ⟨Li.part, ns⟩ } := by
  unfold World.splitInto
  by_cases hij : i = j
  · rw [if_pos hij]; exact Or.inl rfl
  · rw [if_neg hij]
    cases hLi : w.lists[i]? with
    | none => exact Or.inl rfl
    | some Li =>
      cases w.lists[j]? with
      | none => exact Or.inl rfl
      | some Lj =>
        dsimp only
        cases Li.nodes[idx]? with
        | none => exact Or.inl rfl
        | some node =>
          cases w.parts[Li.part]? with
          | none => exact Or.inl rfl
          | some p =>
            dsimp only
            by_cases hns : (P.splitNodes m p.subset p.input.view node).isEmpty = true
            · rw [if_pos hns]; exact Or.inl rfl
            · rw [if_neg hns]; exact Or.inr ⟨Li, _, rfl, rfl⟩

theorem splitInto_eq (P : Payload E) (w : World E) (i idx o : Nat) (m : Mode) (Li Lo : MList E) (node : E) (p : Part E)
    (hio : i ≠ o) (hLi : w.lists[i]? = some Li) (hLo : w.lists[o]? = some Lo) (hn : Li.nodes[idx]? = some node)
    (hp : w.parts[Li.part]? = some p) :
    w.splitInto P i idx m o =
      (if (P.splitNodes m p.subset p.input.view node).isEmpty then w
       else { w with lists := w.lists.set o ⟨Li.part, Lo.nodes ++ P.splitNodes m p.subset p.input.view node⟩ }, .ok) := by
  unfold World.splitInto
  simp only [hio, if_false, hLi, hLo, hn, hp]
  split <;> rfl

theorem splitInto_touch (P : Payload E) (w : World E) (i idx : Nat) (m : Mode) (j : Nat) (ps : Nat → Prop) :
    Touch w (w.splitInto P i idx m j).1 j ps := by
  rcases splitInto_cases P w i idx m j with e | ⟨Li, ns, -, e⟩ <;> rw [e]
  · exact .of .rfl .rfl
  · exact .of (.set rfl) .rfl

theorem splitInto_setLat (P : Payload E) (w : World E) (l : Lattice E) (i idx : Nat) (m : Mode) (j : Nat) :
    (w.setLat l).splitInto P i idx m j = (((w.splitInto P i idx m j).1.setLat l), (w.splitInto P i idx m j).2) := by
  unfold World.splitInto World.setLat
  dsimp only
  by_cases hij : i = j
  · rw [if_pos hij, if_pos hij]
  · rw [if_neg hij, if_neg hij]
    cases w.lists[i]? with
    | none => rfl
    | some Li =>
      cases w.lists[j]? with
      | none => rfl
      | some Lj =>
        dsimp only
        cases Li.nodes[idx]? with
        | none => rfl
        | some node =>
          cases w.parts[Li.part]? with
          | none => rfl
          | some p =>
            dsimp only
            by_cases hns : (P.splitNodes m p.subset p.input.view node).isEmpty = true
            · rw [if_pos hns, if_pos hns]
            · rw [if_neg hns, if_neg hns]

theorem splitInto_tok (P : Payload E) (w : World E) (i idx : Nat) (m : Mode) (j : Nat) :
    (w.splitInto P i idx m j).1.tok = w.tok ∧ (w.splitInto P i idx m j).1.request = w.request := by
  rcases splitInto_cases P w i idx m j with e | ⟨Li, ns, -, e⟩ <;> rw [e] <;> exact ⟨rfl, rfl⟩

/-! ## `lookup` -/

/-- `lookup`: nothing happens, or the buffer of the list's part is rebuilt for the query (its `replaces` untouched)
and, when that succeeds, list `j` is extended -/
theorem lookup_cases (P : Payload E) (w : World E) (j : Nat) (q : List E) (s : Subset) :
    (w.lookup P j q s).1 = w ∨
    ∃ L p i sub, w.lists[j]? = some L ∧ w.parts[L.part]? = some p ∧ i.replaces = p.input.replaces ∧
      ((w.lookup P j q s).1 = { w with parts := w.parts.set L.part ⟨i, sub⟩ } ∨
       ∃ ns, (w.lookup P j q s).1 =
         { w with parts := w.parts.set L.part ⟨i, sub⟩, lists := w.lists.set j { L with nodes := ns } }) := by
  unfold World.lookup
  cases hL : w.lists[j]? with
  | none => exact Or.inl rfl
  | some L =>
    dsimp only
    cases hp : w.parts[L.part]? with
    | none => exact Or.inl rfl
    | some p =>
      dsimp only
      have h1 := (Input.startBuild_keeps P { p.input.reset with original := p.input.reset.original ++ q }).2
      rcases hs : Input.startBuild P { p.input.reset with original := p.input.reset.original ++ q } with ⟨i1, o1⟩
      rw [hs] at h1
      cases o1 with
      | err e => exact Or.inr ⟨L, p, i1, _, rfl, hp, h1, Or.inl rfl⟩
      | panic => exact Or.inr ⟨L, p, i1, _, rfl, hp, h1, Or.inl rfl⟩
      | ok =>
        dsimp only
        have h2 := Input.build_replaces P i1
        rcases hb : Input.build P i1 with ⟨i2, o2⟩
        rw [hb] at h2
        cases o2 with
        | ok => exact Or.inr ⟨L, p, i2, _, rfl, hp, h2.trans h1, Or.inr ⟨_, rfl⟩⟩
        | err e => exact Or.inr ⟨L, p, i2, _, rfl, hp, h2.trans h1, Or.inl rfl⟩
        | panic => exact Or.inr ⟨L, p, i2, _, rfl, hp, h2.trans h1, Or.inl rfl⟩

theorem lookup_touch (P : Payload E) (w : World E) (j : Nat) (q : List E) (s : Subset) :
    Touch w (w.lookup P j q s).1 j (fun x => partOf w j = some x) := by
  rcases lookup_cases P w j q s with e | ⟨L, p, i, sub, hL, -, -, e | ⟨ns, e⟩⟩ <;> rw [e]
  · exact .of .rfl .rfl
  · exact .of .rfl (.set (congrArg (Option.map MList.part) hL))
  · exact .of (.set rfl) (.set (congrArg (Option.map MList.part) hL))

theorem lookup_setLat (P : Payload E) (w : World E) (l : Lattice E) (j : Nat) (q : List E) (s : Subset) :
    (w.setLat l).lookup P j q s = (((w.lookup P j q s).1.setLat l), (w.lookup P j q s).2) := by
  unfold World.lookup World.setLat
  dsimp only
  cases w.lists[j]? with
  | none => rfl
  | some L =>
    dsimp only
    cases w.parts[L.part]? with
    | none => rfl
    | some p =>
      dsimp only
      rcases Input.startBuild P { p.input.reset with original := p.input.reset.original ++ q } with ⟨i1, o1⟩
      cases o1 with
      | err e => rfl
      | panic => rfl
      | ok =>
        dsimp only
        rcases Input.build P i1 with ⟨i2, o2⟩
        cases o2 <;> rfl

theorem lookup_tok (P : Payload E) (w : World E) (j : Nat) (q : List E) (s : Subset) :
    (w.lookup P j q s).1.tok = w.tok ∧ (w.lookup P j q s).1.request = w.request := by
  rcases lookup_cases P w j q s with e | ⟨L, p, i, sub, -, -, -, e | ⟨ns, e⟩⟩ <;> rw [e] <;> exact ⟨rfl, rfl⟩

/-! ## `empty_clone`, `clear`, a new list -/

theorem emptyClone_cases (v : ResetVariant) (P : Payload E) (w : World E) (j : Nat) :
    (w.step v P (.emptyClone j)).1 = w ∨
    ∃ L, w.lists[j]? = some L ∧ (w.step v P (.emptyClone j)).1 = { w with lists := w.lists ++ [⟨L.part, []⟩] } := by
  simp only [World.step]
  cases w.lists[j]? with
  | none => exact Or.inl rfl
  | some L => exact Or.inr ⟨L, rfl, rfl⟩

theorem clear_cases (v : ResetVariant) (P : Payload E) (w : World E) (j : Nat) :
    (w.step v P (.clear j)).1 = w ∨
    ∃ L, w.lists[j]? = some L ∧ (w.step v P (.clear j)).1 = { w with lists := w.lists.set j { L with nodes := [] } } := by
  simp only [World.step]
  cases w.lists[j]? with
  | none => exact Or.inl rfl
  | some L => exact Or.inr ⟨L, rfl, rfl⟩

theorem clear_eq (v : ResetVariant) (P : Payload E) (w : World E) (o : Nat) (Lo : MList E) (hLo : w.lists[o]? = some Lo) :
    (w.step v P (.clear o)).1 = { w with lists := w.lists.set o { Lo with nodes := [] } } := by
  simp only [World.step, hLo]

theorem emptyClone_touch (v : ResetVariant) (P : Payload E) (w : World E) (i j : Nat) (ps : Nat → Prop) :
    Touch w (w.step v P (.emptyClone i)).1 j ps := by
  rcases emptyClone_cases v P w i with e | ⟨L, -, e⟩ <;> rw [e]
  · exact .of .rfl .rfl
  · exact .of .append .rfl

theorem clear_touch (v : ResetVariant) (P : Payload E) (w : World E) (j : Nat) (ps : Nat → Prop) :
    Touch w (w.step v P (.clear j)).1 j ps := by
  rcases clear_cases v P w j with e | ⟨L, -, e⟩ <;> rw [e]
  · exact .of .rfl .rfl
  · exact .of (.set rfl) .rfl

theorem partOf_clear (v : ResetVariant) (P : Payload E) (w : World E) (j k : Nat) :
    partOf (w.step v P (.clear j)).1 k = partOf w k := by
  simp only [World.step]
  cases hL : w.lists[j]? with
  | none => rfl
  | some L =>
    unfold partOf
    dsimp only
    by_cases hk : j = k
    · subst hk; rw [List.getElem?_set_self (List.getElem?_eq_some_iff.mp hL).1, hL]; rfl
    · rw [List.getElem?_set_ne hk]

theorem newList_touch (v : ResetVariant) (P : Payload E) (w : World E) (j : Nat) (ps : Nat → Prop) :
    Touch w (w.step v P .newList).1 j ps :=
  .of .append .append

/-! ## invariants of a history.  `WInv`: the buffers `reset` does not clear, in the tokenizer and in every part -/

theorem run_keeps (v : ResetVariant) (Q : World E → Prop) (hQ : ∀ P w op, Q w → Q (World.step v P w op).1) :
    ∀ (ops : List (Payload E × Op E)) (w : World E), Q w → Q (w.run v ops)
  | [], _, h => h
  | (P, op) :: rest, w, h => run_keeps v Q hQ rest _ (hQ P w op h)

def WInv (w : World E) : Prop := Inv w.tok ∧ ∀ p ∈ w.parts, p.input.replaces = []

theorem WInv.init (m : Mode) : WInv (World.init (E := E) m) :=
  ⟨⟨rfl, rfl⟩, by intro p hp; cases hp⟩

theorem WInv.set_part {w : World E} (h : WInv w) (k : Nat) (p : Part E) (hp : p.input.replaces = []) :
    ∀ x ∈ w.parts.set k p, x.input.replaces = [] := fun x hx =>
  (List.mem_or_eq_of_mem_set hx).elim (h.2 x) (fun e => e ▸ hp)

theorem collect_inv (w : World E) (j : Nat) (h : WInv w) : WInv (w.collect j).1 := by
  rcases collect_cases w j with e | ⟨L, p, sub, path, -, hp, e | ⟨ns, e⟩⟩ <;> rw [e]
  · exact h
  all_goals exact ⟨⟨h.1.1, h.2 p (List.mem_of_getElem? hp)⟩, h.set_part _ _ h.1.2⟩

theorem splitInto_inv (P : Payload E) (w : World E) (i idx : Nat) (m : Mode) (j : Nat) (h : WInv w) :
    WInv (w.splitInto P i idx m j).1 := by
  rcases splitInto_cases P w i idx m j with e | ⟨Li, ns, -, e⟩ <;> rw [e] <;> exact h

theorem lookup_inv (P : Payload E) (w : World E) (j : Nat) (q : List E) (s : Subset) (h : WInv w) :
    WInv (w.lookup P j q s).1 := by
  rcases lookup_cases P w j q s with e | ⟨L, p, i, sub, -, hp, hi, e | ⟨ns, e⟩⟩ <;> rw [e]
  · exact h
  all_goals exact ⟨h.1, h.set_part _ _ (hi.trans (h.2 p (List.mem_of_getElem? hp)))⟩

theorem step_inv (v : ResetVariant) (P : Payload E) (w : World E) (op : Op E) (h : WInv w) :
    WInv (w.step v P op).1 := by
  cases op with
  | setMode m => exact h
  | setSubset s => exact h
  | analyse text => exact ⟨analyse_inv v P w.tok text h.1, h.2⟩
  | collect j => exact collect_inv w j h
  | newList =>
    refine ⟨h.1, fun p hp => ?_⟩
    rcases List.mem_append.mp hp with hp | hp
    · exact h.2 p hp
    · rw [List.mem_singleton.mp hp]
      exact (Input.startBuild_keeps P Input.empty).2
  | emptyClone j => rcases emptyClone_cases v P w j with e | ⟨L, -, e⟩ <;> rw [e] <;> exact h
  | clear j => rcases clear_cases v P w j with e | ⟨L, -, e⟩ <;> rw [e] <;> exact h
  | splitInto i idx m j => exact splitInto_inv P w i idx m j h
  | lookup j q => exact lookup_inv P w j q Subset.all h

theorem run_inv (v : ResetVariant) (ops : List (Payload E × Op E)) (w : World E) (h : WInv w) :
    WInv (w.run v ops) :=
  run_keeps v WInv (step_inv v) ops w h

/-! ## `Covers`: the effective subset after any history contains what a new tokenizer would load -/

theorem imp_bool (a b : Bool) : (!a || b) = true ↔ (a = true → b = true) := by
  cases a <;> cases b <;> simp

theorem Subset.le_iff (a b : Subset) : Subset.le a b = true ↔
    ((a.surface = true → b.surface = true) ∧ (a.headLen = true → b.headLen = true) ∧ (a.pos = true → b.pos = true) ∧
     (a.norm = true → b.norm = true) ∧ (a.dicForm = true → b.dicForm = true) ∧ (a.reading = true → b.reading = true) ∧
     (a.splitA = true → b.splitA = true) ∧ (a.splitB = true → b.splitB = true) ∧
     (a.wordStruct = true → b.wordStruct = true) ∧ (a.syn = true → b.syn = true)) := by
  simp only [Subset.le, Bool.and_eq_true, imp_bool, and_assoc]

theorem Subset.normalize_fields (s : Subset) :
    s.normalize = { s with surface := s.surface || (s.reading || s.norm || s.dicForm),
                           headLen := s.headLen || (s.splitA || s.splitB) } := by
  unfold Subset.normalize
  cases (s.reading || s.norm || s.dicForm) <;> cases h : (s.splitA || s.splitB) <;>
    simp only [h, Bool.or_false, Bool.or_true, if_true, Bool.false_eq_true, if_false]

/-! Flag inclusion is a preorder with `union` as least upper bound, and `normalize` is a closure operator on it:
every covering fact below follows from these six lemmas. -/

theorem Subset.le_trans {a b c : Subset} (h1 : a.le b = true) (h2 : b.le c = true) : a.le c = true := by
  rw [Subset.le_iff] at *
  grind

theorem Subset.le_union_left (a b : Subset) : a.le (a.union b) = true := by
  simp only [Subset.le_iff, Subset.union, Bool.or_eq_true]
  grind

theorem Subset.le_union_right (a b : Subset) : b.le (a.union b) = true := by
  simp only [Subset.le_iff, Subset.union, Bool.or_eq_true]
  grind

theorem Subset.union_le {a b c : Subset} (h1 : a.le c = true) (h2 : b.le c = true) : (a.union b).le c = true := by
  simp only [Subset.le_iff, Subset.union, Bool.or_eq_true] at *
  grind

theorem Subset.le_normalize (s : Subset) : s.le s.normalize = true := by
  simp only [Subset.le_iff, Subset.normalize_fields, Bool.or_eq_true]
  grind

theorem Subset.normalize_le {a b : Subset} (h : a.le b.normalize = true) : a.normalize.le b.normalize = true := by
  simp only [Subset.le_iff, Subset.normalize_fields, Bool.or_eq_true] at *
  grind

/-- the subset of a tokenizer created for mode `m` and request `req`.  It does not depend on the element type (`Unit` is
put in for it), so that it can stand in hypotheses that quantify over the payload -/
def freshSubset (m : Mode) (req : Option Subset) : Subset := (Tok.freshFor (E := Unit) m req).subset

theorem freshSubset_eq (m : Mode) (req : Option Subset) : (Tok.freshFor (E := E) m req).subset = freshSubset m req := by
  cases req <;> rfl

/-- the effective subset, closed under `InfoSubset::normalize`, contains the subset of a tokenizer created now for the mode and
the last field request; without the closure this fails (`C10.subset_monotone_counterexample`) -/
def Covers (w : World E) : Prop :=
  Subset.le (freshSubset w.tok.mode w.request) w.tok.subset.normalize = true

theorem covers_mono {r a b : Subset} (hab : a.le b = true) (h : r.le a.normalize = true) : r.le b.normalize = true :=
  Subset.le_trans h (Subset.normalize_le (Subset.le_trans hab (Subset.le_normalize b)))

/-- `set_mode` keeps the covering: without a request the new tokenizer's subset is `all` whatever the mode; with a
request `s` it is `(s ∪ mode).normalize ∪ mode`, and both `s` and the flag of the new mode are covered -/
theorem covers_setMode (req : Option Subset) (m1 m2 : Mode) (sub : Subset)
    (h : Subset.le (freshSubset m1 req) sub.normalize = true) :
    Subset.le (freshSubset m2 req) (sub.union (Subset.ofMode m2)).normalize = true := by
  have hsub := fun r => covers_mono (r := r) (Subset.le_union_left sub (Subset.ofMode m2))
  cases req with
  | none => exact hsub _ h
  | some s =>
    have hs : s.le sub.normalize = true :=
      Subset.le_trans (Subset.le_trans (Subset.le_union_left s _)
        (Subset.le_trans (Subset.le_normalize _) (Subset.le_union_left _ _))) h
    have hm : (Subset.ofMode m2).le (sub.union (Subset.ofMode m2)).normalize = true :=
      Subset.le_trans (Subset.le_union_right _ _) (Subset.le_normalize _)
    exact Subset.union_le (Subset.normalize_le (Subset.union_le (hsub _ hs) hm)) hm

theorem Covers.init (m : Mode) : Covers (World.init (E := E) m) :=
  Subset.le_normalize Subset.all

theorem Covers.congr {w w' : World E} (h : Covers w) (hm : w'.tok.mode = w.tok.mode) (hs : w'.tok.subset = w.tok.subset)
    (hr : w'.request = w.request) : Covers w' := by
  unfold Covers
  rw [hm, hs, hr]
  exact h

theorem step_covers (v : ResetVariant) (P : Payload E) (w : World E) (op : Op E) (h : Covers w) :
    Covers (w.step v P op).1 := by
  cases op with
  | setMode m => exact covers_setMode w.request w.tok.mode m w.tok.subset h
  | setSubset s => exact Subset.le_normalize _   -- the subset `set_subset` stores is the one a new tokenizer gets
  | analyse text =>
    have hk := analyse_mode_subset v P w.tok text
    exact h.congr hk.1 hk.2 rfl
  | collect j =>
    have hk := collect_tok_fields w j
    exact h.congr hk.1 hk.2.1 hk.2.2
  | newList => exact h
  | emptyClone j => rcases emptyClone_cases v P w j with e | ⟨L, -, e⟩ <;> rw [e] <;> exact h
  | clear j => rcases clear_cases v P w j with e | ⟨L, -, e⟩ <;> rw [e] <;> exact h
  | splitInto i idx m j =>
    have hk := splitInto_tok P w i idx m j
    exact h.congr (congrArg Tok.mode hk.1) (congrArg Tok.subset hk.1) hk.2
  | lookup j q =>
    have hk := lookup_tok P w j q Subset.all
    exact h.congr (congrArg Tok.mode hk.1) (congrArg Tok.subset hk.1) hk.2

theorem run_covers (v : ResetVariant) (ops : List (Payload E × Op E)) (w : World E) (h : Covers w) :
    Covers (w.run v ops) :=
  run_keeps v Covers (step_covers v) ops w h

/-! ## `ListsOk` -/

theorem ListsOk.init (m : Mode) : ListsOk (World.init (E := E) m) := by
  intro L hL; cases hL

theorem listsOk_set (w : World E) (j : Nat) (L' : MList E) (parts' : List (Part E)) (h : ListsOk w)
    (hp : parts'.length = w.parts.length) (hL : L'.part < w.parts.length) :
    ∀ L ∈ w.lists.set j L', L.part < parts'.length := by
  intro L hmem
  rw [hp]
  rcases List.mem_or_eq_of_mem_set hmem with h1 | h1
  · exact h L h1
  · rw [h1]; exact hL

theorem ListsOk.set_part {w : World E} (h : ListsOk w) (k : Nat) (p : Part E) :
    ∀ L ∈ w.lists, L.part < (w.parts.set k p).length := fun L hL => by
  rw [List.length_set]
  exact h L hL

theorem collect_listsOk (w : World E) (j : Nat) (h : ListsOk w) : ListsOk (w.collect j).1 := by
  rcases collect_cases w j with e | ⟨L, p, sub, path, hL, -, e | ⟨ns, e⟩⟩ <;> rw [e]
  · exact h
  · exact h.set_part _ _
  · exact listsOk_set w j _ _ h List.length_set (h L (List.mem_of_getElem? hL))

theorem step_listsOk (v : ResetVariant) (P : Payload E) (w : World E) (op : Op E) (h : ListsOk w) :
    ListsOk (w.step v P op).1 := by
  cases op with
  | setMode m => exact h
  | setSubset s => exact h
  | analyse text => exact h
  | collect j => exact collect_listsOk w j h
  | newList =>
    intro L hmem
    show L.part < (w.parts ++ [Part.default P]).length
    rw [List.length_append]
    rcases List.mem_append.mp hmem with h1 | h1
    · exact Nat.lt_add_right _ (h L h1)
    · rw [List.mem_singleton.mp h1]; exact Nat.lt_succ_self _
  | emptyClone j =>
    rcases emptyClone_cases v P w j with e | ⟨L0, hL, e⟩ <;> rw [e]
    · exact h
    · intro L hmem
      rcases List.mem_append.mp hmem with h1 | h1
      · exact h L h1
      · rw [List.mem_singleton.mp h1]; exact h L0 (List.mem_of_getElem? hL)
  | clear j =>
    rcases clear_cases v P w j with e | ⟨L0, hL, e⟩ <;> rw [e]
    · exact h
    · exact listsOk_set w j _ _ h rfl (h L0 (List.mem_of_getElem? hL))
  | splitInto i idx m j =>
    show ListsOk (w.splitInto P i idx m j).1
    rcases splitInto_cases P w i idx m j with e | ⟨Li, ns, hLi, e⟩ <;> rw [e]
    · exact h
    · exact listsOk_set w j _ _ h rfl (h Li (List.mem_of_getElem? hLi))
  | lookup j q =>
    show ListsOk (w.lookup P j q Subset.all).1
    rcases lookup_cases P w j q Subset.all with e | ⟨L, p, i, sub, hL, -, -, e | ⟨ns, e⟩⟩ <;> rw [e]
    · exact h
    · exact h.set_part _ _
    · exact listsOk_set w j _ _ h List.length_set (h L (List.mem_of_getElem? hL))

theorem run_listsOk (v : ResetVariant) (ops : List (Payload E × Op E)) (w : World E) (h : ListsOk w) :
    ListsOk (w.run v ops) :=
  run_keeps v ListsOk (step_listsOk v) ops w h

/-! ## what a caller reads from a result list -/

/-- the morphemes of list `j` seen through `proj` (the requested fields) and the input buffer they refer to -/
def World.result (proj : E → F) (w : World E) (j : Nat) : Option (List F × Input E) :=
  match w.lists[j]? with
  | none => none
  | some L =>
    match w.parts[L.part]? with
    | none => none
    | some p => some (L.nodes.map proj, p.input.view)

theorem World.result_eq_cellOf (proj : E → F) (w : World E) (j : Nat) :
    World.result proj w j = (cellOf w j).map fun x => (x.1.nodes.map proj, x.2.view) := by
  unfold World.result cellOf
  cases w.lists[j]? with
  | none => rfl
  | some L => dsimp only; cases w.parts[L.part]? <;> rfl

theorem cellOf_collect (w : World E) (j : Nat) (L : MList E) (p : Part E) (path : List E)
    (hL : w.lists[j]? = some L) (hp : w.parts[L.part]? = some p) (ht : w.tok.topPath = some path) :
    cellOf (w.collect j).1 j = some ({ L with nodes := path }, w.tok.input) := by
  rw [collect_eq w j L p path hL hp ht]
  unfold cellOf
  dsimp only
  rw [List.getElem?_set_self (List.getElem?_eq_some_iff.mp hL).1]
  dsimp only
  rw [List.getElem?_set_self (List.getElem?_eq_some_iff.mp hp).1]

theorem collect_view (w : World E) (j : Nat) (L : MList E) (p : Part E) (path : List E)
    (hL : w.lists[j]? = some L) (hp : w.parts[L.part]? = some p) (ht : w.tok.topPath = some path) :
    (w.collect j).2 = .ok ∧ view (w.collect j).1 j = some (path, w.tok.input) ∧ partOf (w.collect j).1 j = some L.part := by
  refine ⟨by rw [collect_eq w j L p path hL hp ht], ?_, ?_⟩
  · unfold view
    rw [cellOf_collect w j L p path hL hp ht]
    rfl
  · rw [collect_eq w j L p path hL hp ht]
    unfold partOf
    dsimp only
    rw [List.getElem?_set_self (List.getElem?_eq_some_iff.mp hL).1]
    rfl

theorem collect_result (proj : E → F) (w : World E) (j : Nat) (path : List E) (hj : j < w.lists.length)
    (hok : ListsOk w) (ht : w.tok.topPath = some path) :
    (w.collect j).2 = .ok ∧ World.result proj (w.collect j).1 j = some (path.map proj, w.tok.input.view) := by
  have hL : w.lists[j]? = some w.lists[j] := List.getElem?_eq_getElem hj
  have hp : w.lists[j].part < w.parts.length := hok _ (List.getElem_mem hj)
  have hP : w.parts[w.lists[j].part]? = some w.parts[w.lists[j].part] := List.getElem?_eq_getElem hp
  refine ⟨by rw [collect_eq w j _ _ path hL hP ht], ?_⟩
  rw [World.result_eq_cellOf, cellOf_collect w j _ _ path hL hP ht]
  rfl

theorem analyse_collect_result (v : ResetVariant) (proj : E → F) (P : Payload E) (w : World E) (text : List E) (j : Nat)
    (path : List E) (hj : j < w.lists.length) (hok : ListsOk w) (hp : (w.tok.analyse v P text).1.topPath = some path) :
    ((w.step v P (.analyse text)).1.collect j).2 = .ok ∧
    World.result proj ((w.step v P (.analyse text)).1.collect j).1 j =
      some (path.map proj, (w.tok.analyse v P text).1.input.view) :=
  collect_result proj { w with tok := (w.tok.analyse v P text).1 } j path hj hok hp

/-! ## `World.pyTokenize` -/

/-- the world a call analyses in: `u` with the per-call override `set_mode(m)` applied, or `u` itself -/
def ovr (v : ResetVariant) (P : Payload E) (mode : Option Mode) (u : World E) : World E :=
  match mode with
  | some m => (u.step v P (.setMode m)).1
  | none => u

/-- the scope guard: after a call with an override, `set_mode(d)` again (`d` is the mode held when the call started) -/
def rstTok (mode : Option Mode) (d : Mode) (t : Tok E) : Tok E :=
  match mode with
  | some _ => t.setMode d
  | none => t

/-- one `tokenize` call: override, analysis, `collect_results` into the out cell, restore -/
theorem pyTokenize_def (v : ResetVariant) (P : Payload E) (w : World E) (mode : Option Mode) (out : Option Nat)
    (text : List E) :
    w.pyTokenize v P mode out text =
      (match ((ovr v P mode w).tok.analyse v P text).2 with
       | .ok =>
         let c := ({ lookupCell P w out with tok := ((ovr v P mode w).tok.analyse v P text).1 } : World E).collect (outIdx w out)
         ({ c.1 with tok := rstTok mode w.tok.mode c.1.tok }, c.2)
       | o => ({ w with tok := rstTok mode w.tok.mode ((ovr v P mode w).tok.analyse v P text).1 }, o)) := by
  unfold World.pyTokenize ovr
  cases mode with
  | none =>
    dsimp only
    rw [analyse_eq]
    cases (w.tok.analyse v P text).2 with
    | ok => cases out <;> rfl
    | _ => rfl
  | some m =>
    dsimp only
    rw [analyse_eq]
    cases ((w.step v P (.setMode m)).1.tok.analyse v P text).2 with
    | ok => cases out <;> rfl
    | _ => rfl

theorem rstTok_mode (mode : Option Mode) (d : Mode) (t : Tok E) (h : mode = none → t.mode = d) : (rstTok mode d t).mode = d := by
  cases mode with
  | some m => rfl
  | none => exact h rfl

theorem setMode_step_mode (v : ResetVariant) (P : Payload E) (w : World E) (m : Mode) :
    (w.step v P (.setMode m)).1.tok.mode = m := rfl

/-- both sides unfold to the same four steps - override, analysis, `collect_results` into `out` or a new list, restore.  With
and without override the script is the same: `r` is the analysis step on whichever world it is applied to; then by its outcome
and by `out` -/
theorem pyTokenize_eq_run (v : ResetVariant) (P : Payload E) (w : World E) (mode : Option Mode) (out : Option Nat)
    (text : List E) :
    let w1 := match mode with
      | some m => (w.step v P (.setMode m)).1
      | none => w
    (w.pyTokenize v P mode out text).1 =
      w.run v (pyOps P w.tok.mode w.lists.length mode out text (decide ((w1.step v P (.analyse text)).2 = .ok))) := by
  intro w1
  unfold World.pyTokenize pyOps
  cases mode <;> dsimp only <;>
  · generalize hs : World.step v P _ (Op.analyse text) = r
    have hl : r.1.lists.length = w.lists.length := hs ▸ rfl
    obtain ⟨w2, o⟩ := r
    simp only at hl
    cases o with
    | ok =>
      cases out with
      | none => simp [World.run, hs, hl]
      | some j => simp [World.run, hs]
    | err e => simp [World.run, hs]
    | panic => simp [World.run, hs]

end Recycle
