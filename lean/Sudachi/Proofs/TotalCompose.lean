import Sudachi.Proofs.Total
import Sudachi.Proofs.LatticeI32
import Sudachi.Proofs.OovLattice
import Sudachi.Proofs.CharCat
import Sudachi.Proofs.Rewrite
import Sudachi.Model.TotalIO
/-!
# `do_tokenize` as a chain of stages, and what each stage needs from the configuration (C03 `tokenize_total`)

`do_tokenize` is read as the exits before the lattice followed by a chain of `Outcome.bind` stages (`analyse`,
`tokenize_cases`), so that "no panic" and "the result" are each read off stage by stage.  What a stage needs
is derived here from a property of the configuration: the candidates of `build_lattice` lie inside the text of a buffer of
the built shape (`BufOk`); `InputBuffer::build` gives a well-formed buffer (`Oov.Buf.WF`) for every compiled class table;
on such a buffer `build_lattice` never panics when a provider is configured and every regex provider is the repaired one
(`skipEmpty`), and returns a lattice when the fallback provider stands last; the path-rewrite plugins keep what C14 proves
of them.  The size of the rows of the lattice is bounded in `Proofs/TotalRows.lean`.  `totalCfg` at the end is a
configuration that meets all these hypotheses at once; that it does is shown in `Props/C03.lean`.
-/
namespace Total
open Oov (Outcome)

/-! ## the ends of `RegexOovProvider::provide_oov` -/

theorem regexProvide_ok_cases (cfg : Oov.RegexCfg) (buf : Oov.Buf) (o created : Nat) (existing nodes : List Oov.Node)
    (h : Oov.regexProvide cfg buf o created existing = .ok nodes) :
    nodes = [] ∨ ∃ k, k ≠ 0 ∧ o + k ≤ buf.chars.length ∧ k ≤ cfg.maxLength ∧ nodes = [Oov.regexNode cfg o k] := by
  rcases Oov.regexProvide_cases cfg buf o created existing with ⟨_, e⟩ | ⟨_, e⟩ | ⟨_, e⟩ | e | ⟨k, h1, h2, h3, _, e⟩ <;>
    rw [e] at h <;> cases h
  · exact Or.inl rfl
  · exact Or.inr ⟨k, h1, h2, h3, rfl⟩

/-- the repaired regex provider (`skipEmpty`) does not panic at all at a position inside a buffer that has a run
length per character: the two `cat_continuous_len` reads are in range, the slice start is inside the text, and an
empty match returns before `CreatedWords::single` is reached -/
theorem regexProvide_fix_noPanic (cfg : Oov.RegexCfg) (hfix : cfg.skipEmpty = true) (buf : Oov.Buf)
    (hcont : buf.cont.length = buf.chars.length) (o : Nat) (ho : o < buf.chars.length) (created : Nat)
    (existing : List Oov.Node) : NoPanic (Oov.regexProvide cfg buf o created existing) := by
  intro w h
  rcases Oov.regexProvide_cases cfg buf o created existing with ⟨hb, _⟩ | ⟨hs, _⟩ | ⟨hs, _⟩ | e | ⟨_, _, _, _, _, e⟩
  · unfold Oov.regexAtBoundary at hb
    rw [List.getElem?_eq_getElem (show o < buf.cont.length by omega),
      List.getElem?_eq_getElem (show o - 1 < buf.cont.length by omega)] at hb
    split at hb <;> cases hb
  · omega
  · rw [hfix] at hs; cases hs
  · rw [e] at h; cases h
  · rw [e] at h; cases h

/-! ## candidates of `build_lattice` are non-empty and inside the text (`b < e ≤ n`) -/

/-- the shape of a built `InputBuffer` the providers rely on: one class word and one word-start flag per character,
and every run of `mod_cat_continuity` ends inside the text -/
structure BufOk (buf : Oov.Buf) : Prop where
  cats : buf.cats.length = buf.chars.length
  bow : buf.bow.length = buf.chars.length
  cont : ∀ (o c : Nat), buf.cont[o]? = some c → o + c ≤ buf.chars.length

theorem buildLattice_forall (P : Oov.Node → Prop) (ps : List Oov.Provider) (lex : List Oov.Word) (buf : Oov.Buf)
    (hstep : ∀ p new, Oov.stepAt ps lex buf p = .ok new → ∀ x ∈ new, P x) (nodes : List Oov.Node)
    (h : Oov.buildLattice ps lex buf = .ok nodes) : ∀ x ∈ nodes, P x :=
  Oov.buildFrom_forall P ps lex buf _ nodes hstep (Oov.buildLattice_ok h).1

/-- **every candidate `build_lattice` inserts is non-empty and ends inside the text** (`b < e ≤ n`), for the
dictionary look-up and all three OOV providers, given the shape of a built buffer (`BufOk`) -/
theorem buildLattice_cand (ps : List Oov.Provider) (lex : List Oov.Word) (buf : Oov.Buf) (hb : BufOk buf)
    (nodes : List Oov.Node) (h : Oov.buildLattice ps lex buf = .ok nodes) :
    ∀ x ∈ nodes, x.b < x.e ∧ x.e ≤ buf.chars.length :=
  buildLattice_forall _ ps lex buf (fun p new hnew x hx =>
    let ⟨a1, a2, a3⟩ := Oov.stepAt_nodeOk ps lex buf p new hb.cats hb.bow (hb.cont p) hnew x hx
    ⟨a1 ▸ a2, a3⟩) nodes h

theorem lexNodes_mem (lex : List Oov.Word) (buf : Oov.Buf) (o : Nat) (x : Oov.Node) (hx : x ∈ Oov.lexNodes lex buf o) :
    ∃ w ∈ lex, x = ⟨o, o + w.surface.length, w.l, w.r, w.c, false, 0⟩ := by
  unfold Oov.lexNodes at hx
  simp only [List.mem_filterMap, List.mem_filter] at hx
  obtain ⟨w, ⟨hw, _⟩, hx⟩ := hx
  refine ⟨w, hw, ?_⟩
  split at hx
  · split at hx
    · cases hx
    · cases hx; rfl
  · cases hx; rfl

/-! ## well-formed buffers -/

theorem wf_bufOk (buf : Oov.Buf) (h : buf.WF) : BufOk buf :=
  ⟨h.cats_len, h.bow_len, fun o c hc => (h.cont_bound o c hc).2⟩

theorem mkBufV_chars (v : Oov.Variant) (bf : Bool) (tab : List (Nat × Nat)) (chars : List Nat) (buf : Oov.Buf)
    (h : Oov.mkBufV v bf tab chars = some buf) : buf.chars = chars := by
  unfold Oov.mkBufV at h
  cases hc : Wire.allSome (chars.map (CharCat.lookup tab)) with
  | none => rw [hc] at h; cases h
  | some cats => rw [hc] at h; simp only [Option.some.injEq] at h; subst h; rfl

/-- every buffer the model of `InputBuffer::build` produces (any run-table variant, either word-start variant) has the
shape `BufOk`, is well formed (`Oov.Buf.WF`: additionally one run length per character, every run at least 1) and
holds the characters it was built from -/
theorem mkBufV_ok (v : Oov.Variant) (bf : Bool) (tab : List (Nat × Nat)) (chars : List Nat) (buf : Oov.Buf)
    (h : Oov.mkBufV v bf tab chars = some buf) : buf.WF ∧ BufOk buf ∧ buf.chars = chars :=
  ⟨Oov.mkBufV_wf v bf tab chars buf h, wf_bufOk buf (Oov.mkBufV_wf v bf tab chars buf h), mkBufV_chars v bf tab chars buf h⟩

/-- the buffer `InputBuffer::build` produces over a strictly increasing class table, written out (no `Option`): the
class of a character is `CharCat.denF tab` (C17: what the bisection returns) -/
def builtBuf (v : Oov.Variant) (bf : Bool) (tab : List (Nat × Nat)) (chars : List Nat) : Oov.Buf :=
  ⟨chars, chars.map (CharCat.denF tab), Oov.fillCatContinuity v (chars.map (CharCat.denF tab)),
    if bf then Oov.bowTableFix (chars.map (CharCat.denF tab)) else Oov.bowTable (chars.map (CharCat.denF tab))⟩

/-- `InputBuffer::build` is total over a strictly increasing class table (the look-up never leaves the table:
`CharCat.lookup_eq_denF`) -/
theorem mkBufV_total (v : Oov.Variant) (bf : Bool) (tab : List (Nat × Nat)) (hs : CharCat.SInc (CharCat.fsts tab))
    (chars : List Nat) : Oov.mkBufV v bf tab chars = some (builtBuf v bf tab chars) := by
  unfold Oov.mkBufV builtBuf
  rw [Wire.allSome_map_some (CharCat.lookup tab) (CharCat.denF tab) chars (fun x _ => CharCat.lookup_eq_denF tab hs x)]

theorem mkBufV_compile_total (v : Oov.Variant) (bf : Bool) (rs : List CharCat.CatRange) (chars : List Nat) :
    Oov.mkBufV v bf (CharCat.compile rs) chars = some (builtBuf v bf (CharCat.compile rs) chars) :=
  mkBufV_total v bf _ (CharCat.sinc_compile rs) chars

theorem mkBufOf_compile (rv : Oov.Variant) (bowFix : Bool) (rs : List CharCat.CatRange) (chars : List Nat) :
    TotalIO.mkBufOf rv bowFix (CharCat.compile rs) chars = builtBuf rv bowFix (CharCat.compile rs) chars := by
  unfold TotalIO.mkBufOf
  rw [mkBufV_compile_total rv bowFix rs chars]

theorem mkBufV_mkBufOf (rv : Oov.Variant) (bowFix : Bool) (rs : List CharCat.CatRange) (chars : List Nat) :
    Oov.mkBufV rv bowFix (CharCat.compile rs) chars = some (TotalIO.mkBufOf rv bowFix (CharCat.compile rs) chars) := by
  rw [mkBufOf_compile]
  exact mkBufV_compile_total rv bowFix rs chars

/-! ## the lattice builder never panics -/

/-- the configured regex providers are the repaired ones (`if match_length == 0 { return Ok(0) }`) -/
def RegexRepaired (ps : List Oov.Provider) : Prop := ∀ p ∈ ps, ∀ c, p = .regex c → c.skipEmpty = true

theorem mecabProvide_noPanic (cfg : Oov.MecabCfg) (buf : Oov.Buf) (hwf : buf.WF) (o : Nat) (ho : o < buf.chars.length)
    (created : Nat) : NoPanic (Oov.mecabProvide cfg buf o created) := by
  obtain ⟨nodes, h⟩ := Oov.mecabProvide_total cfg buf o created (by rw [hwf.cont_len]; exact ho) (by rw [hwf.cats_len]; exact ho)
  rw [h]; exact fun w h => nomatch h

theorem simpleProvide_noPanic (cfg : Oov.SimpleCfg) (buf : Oov.Buf) (hwf : buf.WF) (o : Nat) (ho : o < buf.chars.length)
    (created : Nat) : NoPanic (Oov.simpleProvide cfg buf o created) := by
  intro w h
  unfold Oov.simpleProvide at h
  split at h
  · cases h
  · have hl : o < buf.bow.length := by rw [hwf.bow_len]; exact ho
    simp only [Oov.wordCandidateLength, hl, if_true] at h
    cases h

theorem provide_noPanic (p : Oov.Provider) (hp : ∀ c, p = .regex c → c.skipEmpty = true) (buf : Oov.Buf) (hwf : buf.WF)
    (o : Nat) (ho : o < buf.chars.length) (created : Nat) (existing : List Oov.Node) :
    NoPanic (Oov.provide p buf o created existing) := by
  cases p with
  | mecab cfg => exact mecabProvide_noPanic cfg buf hwf o ho created
  | simple cfg => exact simpleProvide_noPanic cfg buf hwf o ho created
  | regex cfg => exact regexProvide_fix_noPanic cfg (hp cfg rfl) buf hwf.cont_len o ho created existing

theorem bind_noPanic {α β : Type} (x : Outcome α) (f : α → Outcome β) (hx : NoPanic x)
    (hf : ∀ a, x = .ok a → NoPanic (f a)) : NoPanic (x.bind f) := by
  intro w h
  cases x with
  | ok a => exact hf a rfl w h
  | err k => cases h
  | panic w' => exact hx w' rfl

/-- one position inside the text: the class read is in range, the provider list is not empty
(`oov_providers.last().unwrap()`), and no call of a provider panics -/
theorem stepAt_noPanic (ps : List Oov.Provider) (hne : ps ≠ []) (hrx : RegexRepaired ps) (lex : List Oov.Word)
    (buf : Oov.Buf) (hwf : buf.WF) (o : Nat) (ho : o < buf.chars.length) : NoPanic (Oov.stepAt ps lex buf o) := by
  intro w h
  rcases Oov.stepAt_panic h with hc | hps | ⟨p, hp, c, ex, hpr⟩
  · obtain ⟨cat, hcat⟩ : ∃ cat, buf.cats[o]? = some cat := ⟨_, List.getElem?_eq_getElem (by rw [hwf.cats_len]; exact ho)⟩
    rw [hc] at hcat; cases hcat
  · exact hne hps
  · exact provide_noPanic p (hrx p hp) buf hwf o ho c ex w hpr

theorem buildFrom_noPanic (ps : List Oov.Provider) (hne : ps ≠ []) (hrx : RegexRepaired ps) (lex : List Oov.Word)
    (buf : Oov.Buf) (hwf : buf.WF) :
    ∀ (pos : List Nat), (∀ p ∈ pos, p < buf.chars.length) → ∀ (acc : List Oov.Node),
      NoPanic (Oov.buildFrom ps lex buf pos acc) := fun pos hpos acc w h =>
  let ⟨p, hp, hs⟩ := Oov.buildFrom_fail (r := .panic w) nofun pos acc h
  stepAt_noPanic ps hne hrx lex buf hwf p (hpos p hp) w hs

/-- **`build_lattice` never panics** on a well-formed buffer, with at least one OOV provider configured and every
regex provider repaired: no table read of a provider, no `get_word_candidate_length`, no slice, no
`CreatedWords::single(0)`, no `last().unwrap()` goes wrong, at any position, whatever the dictionary words are -/
theorem buildLattice_noPanic (ps : List Oov.Provider) (hne : ps ≠ []) (hrx : RegexRepaired ps) (lex : List Oov.Word)
    (buf : Oov.Buf) (hwf : buf.WF) : NoPanic (Oov.buildLattice ps lex buf) := by
  intro w h
  unfold Oov.buildLattice at h
  split at h
  · split at h <;> cases h
  · cases h
  · rename_i w' hw
    exact buildFrom_noPanic ps hne hrx lex buf hwf _ (fun p hp => List.mem_range.mp hp) [] w' hw

/-! ## the "succeeds" side of the builder: with the fallback provider last it returns a lattice -/

theorem buildLattice_returns (ps : List Oov.Provider) (cfg : Oov.SimpleCfg) (hlast : ps.getLast? = some (.simple cfg))
    (hrx : RegexRepaired ps) (lex : List Oov.Word) (buf : Oov.Buf) (hwf : buf.WF) :
    ∃ nodes, Oov.buildLattice ps lex buf = .ok nodes := by
  have hne : ps ≠ [] := by intro h; rw [h] at hlast; cases hlast
  cases h : Oov.buildLattice ps lex buf with
  | ok nodes => exact ⟨nodes, rfl⟩
  | err k => exact absurd h (Oov.buildLattice_ne_err ps cfg lex buf hwf hlast k)
  | panic w => exact absurd h (buildLattice_noPanic ps hne hrx lex buf hwf w)

/-! ## configured costs: the `i16` range (`providerCostOk_iff`: `Proofs/TotalBundled.lean`) -/

def I16 (c : Int) : Prop := -32768 ≤ c ∧ c ≤ 32767

/-- the costs a provider can give a node are `i16` (they are parsed into `i16` fields: `cost` of the Simple / Regex
settings, the third column of a MeCab `unk.def` line) -/
def ProviderCostOk : Oov.Provider → Prop
  | .mecab cfg => ∀ kv ∈ cfg.oovs, ∀ d ∈ kv.2, I16 d.c
  | .simple cfg => I16 cfg.c
  | .regex cfg => I16 cfg.c

/-! ## the rewrite stage built from the C14 model (`rewriteOfStack`): it keeps byte ends, and panics only if a plugin loop does -/

/-- a `Cfg.rewrite` built from the C14 model: `info` = the word-info look-up (`get_word_info_subset`: fills the
dictionary fields of a result node), `Rewrite.rewriteAll` = the configured stack of path-rewrite plugins, `units` = the
split table of a node in the requested mode.  `InvalidRange` is an error; a plugin panic and a loop that does not
finish are panics. -/
def rewriteOfStack (nv : Rewrite.NVariant) (cat : List Nat) (P : List Char → Rewrite.POut) (pls : List Rewrite.Plugin)
    (info : NodeRange → Rewrite.Node) (units : Rewrite.Node → List Nat) (path : List NodeRange) :
    Outcome (List (NodeRange × List Nat)) :=
  match Rewrite.rewriteAll nv cat P pls (path.map info) with
  | .ok q => .ok (q.map (fun m => (⟨m.b, m.e, m.bb, m.eb⟩, units m)))
  | .err => .err "InvalidRange"
  | .panic => .panic "rewrite"
  | .fuel => .panic "loop"

/-- every configured plugin stack (both numeral-loop variants) keeps byte ends inside the text — the hypothesis `hkeep` of
`C03.tokenize_total`: every output node ends where some input node ends (C14 `rewrite_stack_coarsens`, `boundaries_subset`),
provided the word-info look-up keeps the byte end of a node -/
theorem rewriteOfStack_keep (nv : Rewrite.NVariant) (cat : List Nat) (P : List Char → Rewrite.POut)
    (pls : List Rewrite.Plugin) (info : NodeRange → Rewrite.Node) (units : Rewrite.Node → List Nat)
    (hinfo : ∀ n, (info n).eb = n.eb) :
    ∀ (nb : Nat) path path', (∀ q ∈ path, q.eb ≤ nb) → rewriteOfStack nv cat P pls info units path = .ok path' →
      ∀ p ∈ path', p.1.eb ≤ nb := by
  intro nb path path' hin h p hp
  unfold rewriteOfStack at h
  split at h
  · rename_i q hq
    cases h
    obtain ⟨m, hm, rfl⟩ := List.mem_map.mp hp
    obtain ⟨n, hn, _, he⟩ := ((Rewrite.rewriteAll_coarsens nv cat P pls _ q hq).boundaries m hm).2
    obtain ⟨r, hr, rfl⟩ := List.mem_map.mp hn
    exact he ▸ hinfo r ▸ hin r hr
  · cases h
  · cases h
  · cases h

/-- the hypothesis `hrew` of `C03.tokenize_total` for the repaired numeral loop (`fix`): the loops terminate (C14
`rewrite_stack_total`), so what is left is index safety of the plugin loops, `rewriteAll ≠ panic`.  `C14.rewrite_stack_never_panics`
proves that of a path satisfying `Rewrite.Tiles`; the step from `Partition.PathOk` to `Rewrite.Tiles` is not formalised. -/
theorem rewriteOfStack_noPanic (cat : List Nat) (P : List Char → Rewrite.POut) (pls : List Rewrite.Plugin)
    (info : NodeRange → Rewrite.Node) (units : Rewrite.Node → List Nat) (path : List NodeRange)
    (hidx : Rewrite.rewriteAll .fix cat P pls (path.map info) ≠ .panic) :
    NoPanic (rewriteOfStack .fix cat P pls info units path) := by
  intro w h
  unfold rewriteOfStack at h
  split at h
  · cases h
  · cases h
  · rename_i hp; exact hidx hp
  · rename_i hf; exact Rewrite.rewriteAll_fix_ne_fuel cat P pls _ hf

/-! ## the text that is reached (`Reaches`); the stages before the lattice and the rewrite stage when no plugin is configured -/

theorem startBuild_text (orig : List Nat) (l0 : List (EditM.P Nat)) (h : EditM.startBuild orig = some l0) :
    EditM.textOf l0 = orig :=
  (EditM.startBuild_some h).1 ▸ EditM.textOf_identFrom orig 0

theorem tokenize_tooLong (v : SplitV) (lv : EditM.LenV) (cfg : Cfg) (orig : List Nat)
    (h : orig.length > EditM.MAX_LENGTH) : tokenize v lv cfg orig = .err "TooLong" := by
  unfold tokenize EditM.startBuild
  rw [if_pos h]

theorem rewriteInput_nil (lv : EditM.LenV) (l : List (EditM.P Nat)) : rewriteInput lv [] l = .ok l := rfl

/-- `chars` is the text the lattice is built over when `orig` is analysed: `start_build` accepted the input, the
input-text plugins rewrote it, the result decodes to `chars` -/
def Reaches (lv : EditM.LenV) (cfg : Cfg) (orig chars : List Nat) : Prop :=
  ∃ l0 l, EditM.startBuild orig = some l0 ∧ rewriteInput lv cfg.inputPlugins l0 = .ok l ∧
    Wire.utf8Decode (EditM.textOf l) = some chars

theorem rewriteInput_nil_text (lv : EditM.LenV) (cfg : Cfg) (hnp : cfg.inputPlugins = []) (orig : List Nat)
    (l0 l : List (EditM.P Nat)) (h0 : EditM.startBuild orig = some l0)
    (h1 : rewriteInput lv cfg.inputPlugins l0 = .ok l) : EditM.textOf l = orig := by
  rw [hnp, rewriteInput_nil] at h1
  cases h1
  exact startBuild_text orig l0 h0

theorem reaches_nil (lv : EditM.LenV) (cfg : Cfg) (hnp : cfg.inputPlugins = []) (orig chars : List Nat)
    (h : Reaches lv cfg orig chars) : Wire.utf8Decode orig = some chars := by
  obtain ⟨l0, l, h0, h1, h2⟩ := h
  rwa [rewriteInput_nil_text lv cfg hnp orig l0 l h0 h1] at h2

/-- the rewrite stage without path-rewrite plugin (every node keeps its range and gets a unit table): what holds of the
nodes it is given holds of the nodes it returns -/
theorem forall_map_units {Q : NodeRange → Prop} (units : NodeRange → List Nat) (path : List NodeRange)
    (h : ∀ q ∈ path, Q q) : ∀ p ∈ path.map (fun n => (n, units n)), Q p.1 := by
  intro p hp
  obtain ⟨q, hq, rfl⟩ := List.mem_map.mp hp
  exact h q hq

theorem map_fst_map_units (units : NodeRange → List Nat) (path : List NodeRange) :
    (path.map (fun n => (n, units n))).map (·.1) = path := by
  rw [List.map_map]
  exact List.map_id path

/-! ## `do_tokenize` as a chain of stages -/

theorem ok_bind {α β : Type} (a : α) (f : α → Outcome β) : (Outcome.ok a).bind f = f a := rfl

/-- `do_tokenize` from the lattice on, over the rewritten text `l` decoded to `chars` -/
def analyse (v : SplitV) (cfg : Cfg) (l : List (EditM.P Nat)) (chars : List Nat) : Outcome Result :=
  (Oov.buildLattice cfg.providers cfg.lex (cfg.mkBuf chars)).bind fun nodes =>
  (buildAll addI32 I32_MAX cfg.conn (nodes.map toVit) (reset chars.length) []).bind fun re =>
  (connectEos addI32 I32_MAX cfg.conn re.1 chars.length).bind fun r =>
  (topPath re.1 (chars.length + 1) (r.2.1, r.2.2) []).bind fun ents =>
  (mapM (resultNode (EditM.c2b (EditM.textOf l))) ents).bind fun path =>
  (cfg.rewrite path).bind fun path' =>
  (splitPath v (EditM.b2c (EditM.textOf l)) (EditM.c2b (EditM.textOf l)) path').bind fun ms => .ok ⟨l, ms⟩

/-- the exits of `do_tokenize` before the lattice (`start_build`, `rewrite_input`, the decoding, the empty text), and
`analyse` after them -/
theorem tokenize_cases (v : SplitV) (lv : EditM.LenV) (cfg : Cfg) (orig : List Nat) :
    (EditM.startBuild orig = none ∧ tokenize v lv cfg orig = .err "TooLong") ∨
    ∃ l0, EditM.startBuild orig = some l0 ∧
      ((∃ k, rewriteInput lv cfg.inputPlugins l0 = .err k ∧ tokenize v lv cfg orig = .err k) ∨
       (∃ w, rewriteInput lv cfg.inputPlugins l0 = .panic w ∧ tokenize v lv cfg orig = .panic w) ∨
       ∃ l, rewriteInput lv cfg.inputPlugins l0 = .ok l ∧
        ((Wire.utf8Decode (EditM.textOf l) = none ∧ tokenize v lv cfg orig = .panic "utf8") ∨
         (Wire.utf8Decode (EditM.textOf l) = some [] ∧ tokenize v lv cfg orig = .ok ⟨l, []⟩) ∨
         ∃ chars, Wire.utf8Decode (EditM.textOf l) = some chars ∧ chars ≠ [] ∧
           tokenize v lv cfg orig = analyse v cfg l chars)) := by
  unfold tokenize
  cases h0 : EditM.startBuild orig with
  | none => exact Or.inl ⟨rfl, rfl⟩
  | some l0 =>
    refine Or.inr ⟨l0, rfl, ?_⟩
    simp only []
    cases h1 : rewriteInput lv cfg.inputPlugins l0 with
    | err k => exact Or.inl ⟨k, rfl, rfl⟩
    | panic w => exact Or.inr (Or.inl ⟨w, rfl, rfl⟩)
    | ok l =>
      refine Or.inr (Or.inr ⟨l, rfl, ?_⟩)
      simp only []
      cases h2 : Wire.utf8Decode (EditM.textOf l) with
      | none => exact Or.inl ⟨rfl, rfl⟩
      | some chars =>
        cases chars with
        | nil => exact Or.inr (Or.inl ⟨rfl, rfl⟩)
        | cons c cs =>
          refine Or.inr (Or.inr ⟨c :: cs, rfl, List.cons_ne_nil _ _, ?_⟩)
          simp only [List.isEmpty_cons, Bool.false_eq_true, if_false]
          unfold analyse
          cases Oov.buildLattice cfg.providers cfg.lex (cfg.mkBuf (c :: cs)) with
          | err k => rfl
          | panic w => rfl
          | ok nodes =>
          simp only [ok_bind]
          cases buildAll addI32 I32_MAX cfg.conn (nodes.map toVit) (reset (c :: cs).length) [] with
          | err k => rfl
          | panic w => rfl
          | ok re =>
          simp only [ok_bind]
          cases connectEos addI32 I32_MAX cfg.conn re.1 (c :: cs).length with
          | err k => rfl
          | panic w => rfl
          | ok r =>
          simp only [ok_bind]
          cases topPath re.1 ((c :: cs).length + 1) (r.2.1, r.2.2) [] with
          | err k => rfl
          | panic w => rfl
          | ok ents =>
          simp only [ok_bind]
          cases mapM (resultNode (EditM.c2b (EditM.textOf l))) ents with
          | err k => rfl
          | panic w => rfl
          | ok path =>
          simp only [ok_bind]
          cases cfg.rewrite path with
          | err k => rfl
          | panic w => rfl
          | ok path' =>
          simp only [ok_bind]
          cases splitPath v (EditM.b2c (EditM.textOf l)) (EditM.c2b (EditM.textOf l)) path' <;> rfl

theorem tokenize_eq_analyse (v : SplitV) (lv : EditM.LenV) (cfg : Cfg) (orig : List Nat) (l0 l : List (EditM.P Nat))
    (chars : List Nat) (h0 : EditM.startBuild orig = some l0) (h1 : rewriteInput lv cfg.inputPlugins l0 = .ok l)
    (h2 : Wire.utf8Decode (EditM.textOf l) = some chars) (hne : chars ≠ []) :
    tokenize v lv cfg orig = analyse v cfg l chars := by
  rcases tokenize_cases v lv cfg orig with
    ⟨g0, _⟩ | ⟨l0', g0, ⟨k, g1, _⟩ | ⟨w', g1, _⟩ | ⟨l', g1, ⟨g2, _⟩ | ⟨g2, _⟩ | ⟨chars', g2, _, e⟩⟩⟩
  · rw [h0] at g0; cases g0
  all_goals (rw [h0] at g0; cases g0; rw [h1] at g1; cases g1)
  all_goals (rw [h2] at g2; cases g2)
  · exact absurd rfl hne
  · exact e

theorem tokenize_noPanic_of (v : SplitV) (lv : EditM.LenV) (cfg : Cfg) (orig : List Nat)
    (hplug : ∀ p ∈ cfg.inputPlugins, ∀ t, NoPanic (p t))
    (hutf : ∀ l0 l, EditM.startBuild orig = some l0 → rewriteInput lv cfg.inputPlugins l0 = .ok l →
      Wire.utf8Decode (EditM.textOf l) ≠ none)
    (hmain : ∀ l0 l chars, EditM.startBuild orig = some l0 → rewriteInput lv cfg.inputPlugins l0 = .ok l →
      Wire.utf8Decode (EditM.textOf l) = some chars → chars ≠ [] → NoPanic (analyse v cfg l chars)) :
    NoPanic (tokenize v lv cfg orig) := by
  intro w h
  rcases tokenize_cases v lv cfg orig with ⟨_, e⟩ | ⟨l0, h0, ⟨k, _, e⟩ | ⟨w', h1, _⟩ | ⟨l, h1, ⟨h2, _⟩ | ⟨_, e⟩ | ⟨chars, h2, hne, e⟩⟩⟩
  · rw [e] at h; cases h
  · rw [e] at h; cases h
  · exact rewriteInput_noPanic lv _ _ hplug w' h1
  · exact hutf l0 l h0 h1 h2
  · rw [e] at h; cases h
  · rw [e] at h; exact hmain l0 l chars h0 h1 h2 hne w h

/-- a result of `do_tokenize`: the text was built, rewritten and decoded; it is the empty analysis of a text without
character, or what the stages from the lattice on return -/
theorem tokenize_eq_ok (v : SplitV) (lv : EditM.LenV) (cfg : Cfg) (orig : List Nat) (r : Result)
    (h : tokenize v lv cfg orig = .ok r) :
    ∃ l0 l chars, EditM.startBuild orig = some l0 ∧ rewriteInput lv cfg.inputPlugins l0 = .ok l ∧
      Wire.utf8Decode (EditM.textOf l) = some chars ∧
      ((chars = [] ∧ r = ⟨l, []⟩) ∨ (chars ≠ [] ∧ analyse v cfg l chars = .ok r)) := by
  rcases tokenize_cases v lv cfg orig with ⟨_, e⟩ | ⟨l0, h0, ⟨k, _, e⟩ | ⟨w', _, e⟩ | ⟨l, h1, ⟨_, e⟩ | ⟨h2, e⟩ | ⟨chars, h2, hne, e⟩⟩⟩ <;>
    rw [e] at h
  · cases h
  · cases h
  · cases h
  · cases h
  · cases h; exact ⟨l0, l, [], h0, h1, h2, Or.inl ⟨rfl, rfl⟩⟩
  · exact ⟨l0, l, chars, h0, h1, h2, Or.inr ⟨hne, h⟩⟩

theorem analyse_eq_ok (v : SplitV) (cfg : Cfg) (l : List (EditM.P Nat)) (chars : List Nat) (r : Result)
    (h : analyse v cfg l chars = .ok r) :
    ∃ nodes rows ents c pe pi es path path' ms,
      Oov.buildLattice cfg.providers cfg.lex (cfg.mkBuf chars) = .ok nodes ∧
      buildAll addI32 I32_MAX cfg.conn (nodes.map toVit) (reset chars.length) [] = .ok (rows, ents) ∧
      connectEos addI32 I32_MAX cfg.conn rows chars.length = .ok (c, pe, pi) ∧
      topPath rows (chars.length + 1) (pe, pi) [] = .ok es ∧
      mapM (resultNode (EditM.c2b (EditM.textOf l))) es = .ok path ∧
      cfg.rewrite path = .ok path' ∧
      splitPath v (EditM.b2c (EditM.textOf l)) (EditM.c2b (EditM.textOf l)) path' = .ok ms ∧ r = ⟨l, ms⟩ := by
  unfold analyse at h
  obtain ⟨nodes, h3, h⟩ := Oov.bind_eq_ok _ _ _ h
  obtain ⟨⟨rows, ents⟩, h4, h⟩ := Oov.bind_eq_ok _ _ _ h
  obtain ⟨⟨c, pe, pi⟩, h5, h⟩ := Oov.bind_eq_ok _ _ _ h
  obtain ⟨es, h6, h⟩ := Oov.bind_eq_ok _ _ _ h
  obtain ⟨path, h7, h⟩ := Oov.bind_eq_ok _ _ _ h
  obtain ⟨path', h8, h⟩ := Oov.bind_eq_ok _ _ _ h
  obtain ⟨ms, h9, h⟩ := Oov.bind_eq_ok _ _ _ h
  exact ⟨nodes, rows, ents, c, pe, pi, es, path, path', ms, h3, h4, h5, h6, h7, h8, h9, (Outcome.ok.inj h).symm⟩

/-- the `as u16` casts of `Node::new` are the identity on a candidate inside a text of at most 65535 characters -/
theorem toVit_be (len : Nat) (hlen : len ≤ 65535) (x : Oov.Node) (hx : x.b < x.e ∧ x.e ≤ len) :
    (toVit x).b = x.b ∧ (toVit x).e = x.e :=
  ⟨asU16_id x.b (by omega), asU16_id x.e (by omega)⟩

theorem toVit_inside (len : Nat) (hlen : len ≤ 65535) (nodes : List Oov.Node)
    (hin : ∀ x ∈ nodes, x.b < x.e ∧ x.e ≤ len) : ∀ n ∈ nodes.map toVit, n.b < n.e ∧ n.e ≤ len := by
  intro n hn
  obtain ⟨x, hx, rfl⟩ := List.mem_map.mp hn
  obtain ⟨e1, e2⟩ := toVit_be len hlen x (hin x hx)
  rw [e1, e2]; exact hin x hx

theorem toVit_nodeOk (len : Nat) (hlen : len ≤ 65535) (nodes : List Oov.Node)
    (hin : ∀ x ∈ nodes, x.b < x.e ∧ x.e ≤ len) (hcost : ∀ x ∈ nodes, I16 x.c) :
    ∀ n ∈ nodes.map toVit, NodeOk len n := by
  intro n hn
  obtain ⟨a1, a2⟩ := toVit_inside len hlen nodes hin n hn
  obtain ⟨x, hx, rfl⟩ := List.mem_map.mp hn
  exact ⟨a1, a2, hcost x hx⟩

/-! ## a configuration that satisfies all hypotheses of `C03.tokenize_total` at once (non-vacuity) -/

/-- an input-text plugin (one that returns no edit), the buffer built over the empty class table (every character
DEFAULT), the repaired regex provider `[a]{0,}` (a pattern that can match the empty string) and the Simple provider
last, a one-word lexicon, no path-rewrite plugin -/
def totalCfg : Cfg :=
  { inputPlugins := [fun _ => .ok []],
    mkBuf := builtBuf .forward true [],
    providers := [.regex ⟨0, 0, 200, 0, [⟨[97], 0, none⟩], 8, false, true⟩, .simple ⟨0, 0, 100, 0⟩],
    lex := [⟨[97], 0, 0, 5⟩], conn := fun _ _ => 10,
    rewrite := fun p => .ok (p.map (fun n => (n, []))) }

theorem totalCfg_rewriteInput (lv : EditM.LenV) (l0 l : List (EditM.P Nat))
    (h : rewriteInput lv totalCfg.inputPlugins l0 = .ok l) : l = l0 := by
  simp only [totalCfg, rewriteInput, EditM.commitV, List.isEmpty_nil, if_true] at h
  cases h; rfl

theorem totalCfg_reaches (lv : EditM.LenV) (orig chars : List Nat) (h : Reaches lv totalCfg orig chars) :
    Wire.utf8Decode orig = some chars := by
  obtain ⟨l0, l, h0, h1, h2⟩ := h
  rwa [totalCfg_rewriteInput lv l0 l h1, startBuild_text orig l0 h0] at h2

theorem utf8_ab : Wire.utf8Decode [97, 98] = some [97, 98] := by simp [Wire.utf8Decode]

end Total
