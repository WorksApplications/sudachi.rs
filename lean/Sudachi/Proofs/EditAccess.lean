import Sudachi.Proofs.Edit
import Sudachi.Model.EditAccess
/-!
# Lemmas for the accessor family of `InputBuffer` (C08)

`EditM.Inv` (the offset-map invariant reached by any admissible batches) is read through the tables built by
`InputBuffer::build`: `mod_c2b` (`c2b`), `mod_b2c` (`b2c`) and the original byte → code-point table (`origB2C`).
-/
namespace EditM

/-- `to_orig_char_idx(ci)`: never the `usize::MAX` marker; the number of code points of the original before the byte
`to_orig_byte_idx(ci)` -/
theorem toOrigCharIdx_spec (o : List Nat) (hne : o ≠ []) (h0 : BoOf o 0) (l : List (P Nat))
    (hinv : Inv isStart (BoOf o) o.length l) (ci : Nat) (h : ci ≤ nchars (textOf l)) :
    ∃ ob, toOrigByteIdx l ci = some ob ∧ BoOf o ob ∧ toOrigCharIdx o l ci = some (nchars (o.take ob)) := by
  obtain ⟨x, hx⟩ := c2b_getElem_some (textOf l) ci h
  obtain ⟨_, _, h3, _, h5, h6⟩ := hinv.at_c2b (nchars_pos_of o hne h0) hx
  exact ⟨_, h5, h3, h6⟩

end EditM

namespace EditAcc
open EditM

theorem isCharBoundary_of_boOf {t : List Nat} {x : Nat} (h : BoOf t x) : isCharBoundary t x = true := by
  unfold isCharBoundary
  rcases h with rfl | ⟨hlt, hst⟩
  · rw [beq_self_eq_true, Bool.or_true, Bool.true_or]
  · rw [List.getElem?_eq_getElem hlt]; simp only [hst, Bool.or_true]

theorem boOf_of_isCharBoundary {t : List Nat} {x : Nat} (hx : 0 < x) (h : isCharBoundary t x = true) : BoOf t x := by
  unfold isCharBoundary at h
  simp only [Bool.or_eq_true, beq_iff_eq] at h
  rcases h with (h | h) | h
  · exact absurd h (Nat.ne_of_gt hx)
  · exact Or.inl h
  · cases hg : t[x]? with
    | none => rw [hg] at h; cases h
    | some y =>
      rw [hg] at h
      obtain ⟨hlt, hy⟩ := List.getElem?_eq_some_iff.mp hg
      exact Or.inr ⟨hlt, hy ▸ h⟩

theorem idx_ok {α : Type} {v : List α} {i : Nat} {x : α} {w : String} (h : v[i]? = some x) : idx v i w = .ok x := by
  unfold idx; rw [h]

theorem strSlice_ok {t : List Nat} {a b : Nat} (hab : a ≤ b) (ha : BoOf t a) (hb : BoOf t b) :
    strSlice t a b = .ok (slice t a b) :=
  if_pos ⟨hab, hb.le, isCharBoundary_of_boOf ha, isCharBoundary_of_boOf hb⟩

/-- the `Acc` form of `to_orig_byte_idx` is the `Option` form of `Model/Edit.lean` (what C01/C03/C19 use) -/
theorem toOrigByteIdxA_eq (b : Buf) {ci v : Nat} (h : toOrigByteIdx b.l ci = some v) : toOrigByteIdxA b ci = .ok v := by
  unfold toOrigByteIdx at h
  unfold toOrigByteIdxA toCurrByteIdx Buf.cur
  cases hc : (c2b (textOf b.l))[ci]? with
  | none => rw [hc] at h; cases h
  | some bi => rw [hc] at h; rw [idx_ok hc]; exact idx_ok h

theorem toOrigCharIdxA_eq (b : Buf) {ci v c : Nat} (h : toOrigByteIdx b.l ci = some v)
    (hc : (origB2C b.orig)[v]? = some (some c)) : toOrigCharIdxA b ci = .ok c := by
  unfold toOrigCharIdxA
  rw [toOrigByteIdxA_eq b h]; simp only []
  rw [idx_ok hc]

theorem origSlice_ok (b : Buf) {s e x y : Nat} (hs : BoOf b.cur s) (he : BoOf b.cur e) (hx : b.m2o[s]? = some x)
    (hy : b.m2o[e]? = some y) (hxy : x ≤ y) (hbx : BoOf b.orig x) (hby : BoOf b.orig y) :
    origSlice b s e = .ok (slice b.orig x y) := by
  unfold origSlice toOrig
  rw [if_pos ⟨isCharBoundary_of_boOf hs, isCharBoundary_of_boOf he⟩, idx_ok hx, idx_ok hy]
  exact strSlice_ok hxy hbx hby

end EditAcc
