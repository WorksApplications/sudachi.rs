import Sudachi.Proofs.ParamsCheck
import Sudachi.Proofs.Codec
/-!
# C20: the connection matrix

`ConnectionMatrix::index/cost/update` on a well-formed matrix, what the edits of the inhibit plugin write
(`inhSpec`), and the reads of the lattice: no index outside the matrix when every id is in range.
-/
namespace Params
open Outcome

/-! ## matrix -/

def Matrix.WF (m : Matrix) : Prop := m.cells.length = m.nl * m.nr

def Matrix.cell (m : Matrix) (l r : Nat) : Option Int := m.cells[r * m.nl + l]?

section
variable (dbg : Bool) {m m' : Matrix} {l r : Nat}

/-- `Matrix.index` spells the cell index out as `right * nl + left`; `Codec.connIndex nl left right` unfolds to the same
term, which is why the two facts about the index are taken from Proofs/Codec.lean (`idx_lt`, `idx_inj`) -/
theorem Matrix.WF.index_lt (hwf : m.WF) (hl : l < m.nl) (hr : r < m.nr) : r * m.nl + l < m.cells.length := by
  rw [hwf]; exact Codec.idx_lt _ _ _ _ hl hr

theorem Matrix.index_ok (hwf : m.WF) (hl : l < m.nl) (hr : r < m.nr) : m.index dbg l r = ok (r * m.nl + l) := by
  simp [Matrix.index, hl, hr, hwf.index_lt hl hr]

theorem Matrix.cost_ok (hwf : m.WF) (hl : l < m.nl) (hr : r < m.nr) :
    ∃ c, m.cell l r = some c ∧ m.cost dbg l r = ok c := by
  have hi := hwf.index_lt hl hr
  exact ⟨m.cells[r * m.nl + l], List.getElem?_eq_getElem hi, by simp [Matrix.cost, Matrix.index_ok dbg hwf hl hr, hi]⟩

theorem Matrix.update_ok (hwf : m.WF) (hl : l < m.nl) (hr : r < m.nr) (v : Int) :
    m.update dbg l r v = ok { m with cells := m.cells.set (r * m.nl + l) v } := by
  simp [Matrix.update, Matrix.index_ok dbg hwf hl hr, hwf.index_lt hl hr]

/-- dimensions and size survive a successful update (also an out-of-range one in a release build) -/
theorem Matrix.update_dims {v : Int} (h : m.update dbg l r v = ok m') :
    m'.nl = m.nl ∧ m'.nr = m.nr ∧ m'.cells.length = m.cells.length := by
  unfold Matrix.update at h
  cases hi : m.index dbg l r <;> rw [hi] at h <;> try cases h
  dsimp only at h
  split at h
  · cases h; exact ⟨rfl, rfl, List.length_set⟩
  · cases h

end

/-! ## inhibit-connection edits -/

/-- the cells after inhibiting `pairs`: cell `(l, r)` of every pair is overwritten, in order -/
def inhSpec (cells : List Int) (nl : Nat) (pairs : List (Int × Int)) : List Int :=
  pairs.foldl (fun cs p => cs.set (p.2.toNat * nl + p.1.toNat) INHIBITED) cells

section
variable (dbg : Bool) {m m' : Matrix} {p : Int × Int} (pairs rest : List (Int × Int)) (cells : List Int) {nl nr : Nat}

theorem inhSpec_cons :
    inhSpec cells nl (p :: rest) = inhSpec (cells.set (p.2.toNat * nl + p.1.toNat) INHIBITED) nl rest := rfl

theorem inhSpec_length : (inhSpec cells nl pairs).length = cells.length := by
  induction pairs generalizing cells with
  | nil => rfl
  | cons p rest ih => rw [inhSpec_cons, ih, List.length_set]

theorem inhSpec_cell (hlen : cells.length = nl * nr) (hp : ∀ p ∈ pairs, 0 ≤ p.1 ∧ p.1 < nl ∧ 0 ≤ p.2 ∧ p.2 < nr)
    {l r : Nat} (hl : l < nl) (hr : r < nr) :
    (inhSpec cells nl pairs)[r * nl + l]? =
      if ((l : Int), (r : Int)) ∈ pairs then some INHIBITED else cells[r * nl + l]? := by
  induction pairs generalizing cells with
  | nil => simp only [List.not_mem_nil, if_false]; rfl
  | cons p rest ih =>
    obtain ⟨hp0, hrest⟩ := List.forall_mem_cons.mp hp
    rw [inhSpec_cons, ih _ (by rw [List.length_set, hlen]) hrest]
    simp only [List.mem_cons]
    by_cases hmem : ((l : Int), (r : Int)) ∈ rest
    · rw [if_pos hmem, if_pos (Or.inr hmem)]
    rw [if_neg hmem]
    by_cases hpe : ((l : Int), (r : Int)) = p
    · subst hpe
      rw [if_pos (Or.inl rfl)]
      exact List.getElem?_set_self (by rw [hlen]; exact Codec.idx_lt _ _ _ _ hl hr)
    · rw [if_neg (fun h => h.elim hpe hmem), List.getElem?_set_ne]
      intro heq
      -- distinct in-range pairs address distinct cells
      have := Codec.idx_inj _ _ _ _ _ ((Int.toNat_lt hp0.1).mpr hp0.2.1) hl heq
      exact hpe (Prod.ext (by rw [← this.1]; exact (Int.toNat_of_nonneg hp0.1).symm)
        (by rw [← this.2]; exact (Int.toNat_of_nonneg hp0.2.2.1).symm)).symm

theorem setConnectCost_ok (hwf : m.WF) (hnl : m.nl ≤ 65536) (hnr : m.nr ≤ 65536) (hp : PairOk m p) (c : Int) :
    setConnectCost dbg m p.1 p.2 c = ok { m with cells := m.cells.set (p.2.toNat * m.nl + p.1.toNat) c } := by
  obtain ⟨h1, h2, h3, h4⟩ := hp
  unfold setConnectCost
  rw [asU16_toNat h1 (by omega), asU16_toNat h3 (by omega)]
  exact Matrix.update_ok dbg hwf ((Int.toNat_lt h1).mpr h2) ((Int.toNat_lt h3).mpr h4) c

theorem inhEdit_cons (m : Matrix) (p : Int × Int) :
    inhEdit dbg m (p :: rest) = (setConnectCost dbg m p.1 p.2 INHIBITED).bind fun m' => inhEdit dbg m' rest := by
  rw [inhEdit]
  cases setConnectCost dbg m p.1 p.2 INHIBITED <;> rfl

theorem inhEdit_append (m : Matrix) (ps qs : List (Int × Int)) :
    inhEdit dbg m (ps ++ qs) = (inhEdit dbg m ps).bind fun m' => inhEdit dbg m' qs := by
  induction ps generalizing m with
  | nil => rfl
  | cons p rest ih =>
    rw [List.cons_append, inhEdit_cons, inhEdit_cons]
    cases setConnectCost dbg m p.1 p.2 INHIBITED <;> first | rfl | exact ih _

theorem inhEdits_eq (m : Matrix) (pss : List (List (Int × Int))) : inhEdits dbg m pss = inhEdit dbg m pss.flatten := by
  induction pss generalizing m with
  | nil => rfl
  | cons ps rest ih =>
    rw [List.flatten_cons, inhEdit_append, inhEdits]
    cases inhEdit dbg m ps <;> first | rfl | exact ih _

theorem inhEdit_ok (hwf : m.WF) (hnl : m.nl ≤ 65536) (hnr : m.nr ≤ 65536) (hp : ∀ p ∈ pairs, PairOk m p) :
    inhEdit dbg m pairs = ok { m with cells := inhSpec m.cells m.nl pairs } := by
  induction pairs generalizing m with
  | nil => rfl
  | cons p rest ih =>
    obtain ⟨h0, hrest⟩ := List.forall_mem_cons.mp hp
    rw [inhEdit_cons, setConnectCost_ok dbg hwf hnl hnr h0]
    exact ih (by unfold Matrix.WF; rw [List.length_set]; exact hwf) hnl hnr hrest

theorem inhEdit_dims (h : inhEdit dbg m pairs = ok m') :
    m'.nl = m.nl ∧ m'.nr = m.nr ∧ m'.cells.length = m.cells.length := by
  induction pairs generalizing m with
  | nil => cases h; exact ⟨rfl, rfl, rfl⟩
  | cons p rest ih =>
    rw [inhEdit_cons] at h
    obtain ⟨m1, h1, h2⟩ := bind_eq_ok.mp h
    have d1 := Matrix.update_dims _ h1
    have d2 := ih h2
    exact ⟨d2.1.trans d1.1, d2.2.1.trans d1.2.1, d2.2.2.trans d1.2.2⟩

end

/-! ## lattice: no index outside the matrix when every id is in range

The lattice calls `cost(l_node.right_id, r_node.left_id)`, and `ConnectionMatrix::cost(left, right)` bounds its
first argument by `num_left`, its second by `num_right`.  So a node's RIGHT id is bounded by `num_left` and its
LEFT id by `num_right`: the crossing in the three definitions is that of the code. -/

/-- a row of `ends`: the right ids stored in it are first arguments of `cost` -/
def RowOk (m : Matrix) (row : List (Nat × Bool)) : Prop := ∀ rc ∈ row, rc.1 < m.nl
def EndsOk (m : Matrix) (ends : Ends) : Prop := ∀ row ∈ ends, RowOk m row
/-- a candidate inside the text whose left id can be a second and whose right id a first argument of `cost` -/
def NodeOk (m : Matrix) (len : Nat) (n : LNode) : Prop := n.left < m.nr ∧ n.right < m.nl ∧ n.b ≤ len ∧ n.e ≤ len

theorem bosEnds_endsOk {m : Matrix} (hnl : 0 < m.nl) (len : Nat) :
    (bosEnds len).length = len + 1 ∧ EndsOk m (bosEnds len) := by
  refine ⟨by simp [bosEnds], List.forall_mem_cons.mpr ⟨List.forall_mem_singleton.mpr hnl, fun row hrow => ?_⟩⟩
  obtain rfl := List.eq_of_mem_replicate hrow
  exact fun _ hrc => nomatch hrc

section
variable (dbg : Bool) {m : Matrix} (hwf : m.WF) (len : Nat)
include hwf

theorem connectNode_ok {leftId : Nat} (hl : leftId < m.nr) :
    ∀ (ls : List (Nat × Bool)) (acc : Bool), RowOk m ls → ∃ c, connectNode dbg m ls leftId acc = ok c
  | [], acc, _ => ⟨acc, rfl⟩
  | (r, c) :: rest, acc, h => by
    obtain ⟨h0, hrest⟩ := List.forall_mem_cons.mp h
    unfold connectNode
    split
    · exact connectNode_ok hl rest acc hrest
    · obtain ⟨cst, -, hc⟩ := Matrix.cost_ok dbg hwf h0 hl
      rw [hc]
      exact connectNode_ok hl rest true hrest

theorem buildLattice_ok (hnr : 0 < m.nr) :
    ∀ (nodes : List LNode) (ends : Ends), ends.length = len + 1 → EndsOk m ends →
    (∀ n ∈ nodes, NodeOk m len n) → ∃ c, buildLattice dbg m len nodes ends = ok c
  | [], ends, hlen, hends, _ => by
    have hlt : len < ends.length := hlen ▸ Nat.lt_succ_self len
    unfold buildLattice
    rw [List.getElem?_eq_getElem hlt]
    exact connectNode_ok dbg hwf hnr _ false (hends _ (List.getElem_mem hlt))
  | n :: rest, ends, hlen, hends, hn => by
    obtain ⟨⟨h1, h2, h3, h4⟩, hrest⟩ := List.forall_mem_cons.mp hn
    have hb : n.b < ends.length := hlen ▸ Nat.lt_succ_of_le h3
    have he : n.e < ends.length := hlen ▸ Nat.lt_succ_of_le h4
    obtain ⟨c, hc⟩ := connectNode_ok dbg hwf h1 ends[n.b] false (hends _ (List.getElem_mem hb))
    unfold buildLattice
    rw [List.getElem?_eq_getElem hb]
    dsimp only
    rw [hc, List.getElem?_eq_getElem he]
    refine buildLattice_ok hnr rest _ (by rw [List.length_set]; exact hlen) (fun row hrow => ?_) hrest
    rcases List.mem_or_eq_of_mem_set hrow with hrow | rfl
    · exact hends row hrow
    · exact List.forall_mem_append.mpr ⟨hends _ (List.getElem_mem he), List.forall_mem_singleton.mpr h2⟩

/-- for every well-formed matrix with at least one row and one column, square or not -/
theorem lattice_ok (hnl : 0 < m.nl) (hnr : 0 < m.nr) (nodes : List LNode) (hnodes : ∀ n ∈ nodes, NodeOk m len n) :
    ∃ c, buildLattice dbg m len nodes (bosEnds len) = ok c :=
  buildLattice_ok dbg hwf len hnr nodes _ (bosEnds_endsOk hnl len).1 (bosEnds_endsOk hnl len).2 hnodes

end

end Params
