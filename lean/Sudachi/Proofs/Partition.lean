import Sudachi.Proofs.Edit
import Sudachi.Proofs.TotalCompose
/-!
# Composition lemmas for C01 (`tokens_partition_original`)

The whole analysis (`Total.tokenize`: `start_build`, the input-text plugins with `commit`, `build`, the lattice with its
`i32` totals and back-pointers (`u16` end, `u32` index in the row), `fill_top_path`, `resolve_best_path`, the word-info / path-rewrite stage,
`split_path` with `NodeSplitIterator::next`) is followed stage by stage, carrying ONE invariant of the token list:

`PathOk b2c c2b nc nb path` — the tokens are laid end to end from `(0, 0)` to `(nc, nb)` (characters, bytes of the
rewritten text), every token runs forward and begins and ends on the start of a character (`Total.At`: the pair
(character offset, byte offset) is an entry of `mod_c2b` and of `mod_b2c`).

The sections follow the stages: the input-text plugins keep the C08 invariant of the offset map (`EditM.Inv`) or empty
the text; the back-pointer walk returns a chain of lattice entries (for any addition: costs play no role);
`resolve_best_path` turns the chain into a `PathOk` list; the C14 relation `Coarsens` of the path-rewrite plugins and the
repaired split iterator (for ANY unit lengths) keep `PathOk`; under the C08 invariant a `PathOk` list is read back
(`surface()`, `begin()`, `end()`, `begin_c()`, `end_c()`) as a partition of the ORIGINAL text.  Then come two facts about the
model's UTF-8 decoder, a configuration for the non-vacuity examples of `Props/C01.lean`, and at the end the stages composed:
the partition theorem with the plugin stage abstracted to two hypotheses (`hreach`, `hutf`) and the path-rewrite stage to
one (`hrew`).  `reach_of_pluginOk` (stage A) and `Utf8Inv.bundled_reach` (`Proofs/PartitionUtf8.lean`) are the two ways of
meeting the first two, `rewriteOfStack_pathOk` (stage D) meets the third.

Two blocks stand in the namespace of the other file of the pair: the composed theorem is `Utf8Inv.tokens_partition_core`,
declared at the end of THIS file in `namespace Utf8Inv`; the facts about the model's UTF-8 encoder, `Partition.utf8Enc_shape` …
`Partition.nchars_encode`, are declared at the head of `Proofs/PartitionUtf8.lean` in `namespace Partition`, beside the
other UTF-8 facts.
-/
namespace Partition
open Oov (Outcome)
open Total EditM

/-! ## stage A: the input-text plugins -/

/-- what `resolve_edits` needs from an input-text plugin (it checks none of it): on every text the analysis can hand
to it the plugin's edits are sorted, non-overlapping, inside the text (`EditsOk`) and on character starts (`EditsB`);
and a plugin has nothing to replace in an empty text.  (`EditsOk` is `EditM.EditsOk`, on byte offsets.  C07 proves its
code-point twin `Normalize.EditsOk` for the three bundled plugins: `C07.default_edits_ok`, `psm_edits_ok`, `yomigana_edits_ok`;
`Utf8Inv.editsOk_bytes` of `Proofs/PartitionUtf8.lean` carries it to the byte offsets of an encoded text.) -/
structure PluginOk (orig : List Nat) (p : List Nat → Outcome (List (Edit Nat))) : Prop where
  adm : ∀ (l : List (P Nat)) (es : List (Edit Nat)), Inv isStart (BoOf orig) orig.length l → p (textOf l) = .ok es →
    EditsOk (l.length - 1) 0 es ∧ EditsB isStart l es
  empty : ∀ es, p [] = .ok es → es = []

/-- state of the buffer between two plugins: the C08 invariant, or the text was deleted completely -/
def BufInv (orig : List Nat) (l : List (P Nat)) : Prop :=
  (Inv isStart (BoOf orig) orig.length l ∨ textOf l = []) ∧ (textOf l).length ≤ REALLY_MAX_LENGTH

theorem commitV_imp_final (lv : LenV) (l : List (P Nat)) (es : List (Edit Nat)) (l' : List (P Nat))
    (h : commitV lv l es = some l') : commitV .final l es = some l' := by
  cases lv with
  | final => exact h
  | running => exact commit_imp_commitV_final l es l' (by rw [← commitV_running]; exact h)

theorem commitV_nil (lv : LenV) (l : List (P Nat)) : commitV lv l [] = some l := rfl

theorem rewriteInput_cons_ok {lv : LenV} {p : List Nat → Outcome (List (Edit Nat))}
    {ps : List (List Nat → Outcome (List (Edit Nat)))} {l l' : List (P Nat)} (h : rewriteInput lv (p :: ps) l = .ok l') :
    ∃ es l1, p (textOf l) = .ok es ∧ commitV lv l es = some l1 ∧ rewriteInput lv ps l1 = .ok l' := by
  unfold rewriteInput at h
  cases hp : p (textOf l) with
  | err k => rw [hp] at h; cases h
  | panic w => rw [hp] at h; cases h
  | ok es =>
    rw [hp] at h; dsimp only at h
    cases hc : commitV lv l es with
    | none => rw [hc] at h; cases h
    | some l1 => rw [hc] at h; exact ⟨es, l1, rfl, hc, h⟩

theorem rewriteInput_induct (lv : LenV) (Q : List (P Nat) → Prop) :
    ∀ (ps : List (List Nat → Outcome (List (Edit Nat)))) (l l' : List (P Nat)),
      (∀ p ∈ ps, ∀ l es l1, Q l → p (textOf l) = .ok es → commitV lv l es = some l1 → Q l1) →
      Q l → rewriteInput lv ps l = .ok l' → Q l' := by
  intro ps
  induction ps with
  | nil => intro l l' _ hq h; cases h; exact hq
  | cons p ps ih =>
    intro l l' hstep hq h
    obtain ⟨es, l1, hpe, hc, h⟩ := rewriteInput_cons_ok h
    exact ih l1 l' (fun q hq => hstep q (List.mem_cons_of_mem _ hq))
      (hstep p (List.mem_cons_self ..) l es l1 hq hpe hc) h

/-- one accepted commit of a batch that is admissible when the buffer has the C08 invariant and empty when the text is
empty: the buffer is left alone, or it had the invariant and is now `resolve_edits` of the batch; either way `BufInv` holds
again (an accepted batch fits the length guard, and `resolve_inv` keeps the invariant unless it deletes the whole text) -/
theorem commitV_bufInv (lv : LenV) (orig : List Nat) (h0 : BoOf orig 0) (l : List (P Nat)) (es : List (Edit Nat))
    (l1 : List (P Nat)) (hi : BufInv orig l)
    (hadm : Inv isStart (BoOf orig) orig.length l → EditsOk (l.length - 1) 0 es ∧ EditsB isStart l es)
    (hemp : textOf l = [] → es = []) (hc : commitV lv l es = some l1) :
    BufInv orig l1 ∧ (l1 = l ∨ (Inv isStart (BoOf orig) orig.length l ∧ l1 = resolve l es)) := by
  rcases hi with ⟨hinv | he, hlen⟩
  · by_cases hes : es = []
    · subst hes; cases hc
      exact ⟨⟨Or.inl hinv, hlen⟩, Or.inl rfl⟩
    · obtain ⟨a1, a2⟩ := hadm hinv
      obtain ⟨rfl, hle⟩ := (commitV_final_some_iff orig.length l hinv.shape es hes a1 l1).mp
        (commitV_imp_final lv l es l1 hc)
      refine ⟨⟨?_, hle⟩, Or.inr ⟨hinv, rfl⟩⟩
      by_cases hne : textOf (resolve l es) = []
      · exact Or.inr hne
      · exact Or.inl (resolve_inv isStart (BoOf orig) orig.length h0 l hinv es a1 a2 hne)
  · cases hemp he; cases hc
    exact ⟨⟨Or.inr he, hlen⟩, Or.inl rfl⟩

theorem rewriteInput_inv (lv : LenV) (orig : List Nat) (h0 : BoOf orig 0) :
    ∀ (ps : List (List Nat → Outcome (List (Edit Nat)))) (l l' : List (P Nat)),
      (∀ p ∈ ps, PluginOk orig p) → BufInv orig l → rewriteInput lv ps l = .ok l' → BufInv orig l' :=
  fun ps l l' hp => rewriteInput_induct lv (BufInv orig) ps l l' fun p hp' l es l1 hi hpe hc =>
    (commitV_bufInv lv orig h0 l es l1 hi (fun hinv => (hp p hp').adm l es hinv hpe)
      (fun he => (hp p hp').empty es (he ▸ hpe)) hc).1

theorem rewriteInput_empty (lv : LenV) (ps : List (List Nat → Outcome (List (Edit Nat)))) (l1 l2 : List (P Nat))
    (hp : ∀ p ∈ ps, ∀ es, p [] = .ok es → es = []) : textOf l1 = [] → rewriteInput lv ps l1 = .ok l2 → textOf l2 = [] :=
  rewriteInput_induct lv (fun l => textOf l = []) ps l1 l2 fun p hp' l es l1 he hpe hc => by
    cases hp p hp' es (he ▸ hpe); cases hc; exact he

theorem startBuild_bufInv (orig : List Nat) (l0 : List (P Nat)) (h : startBuild orig = some l0) :
    BufInv orig l0 := by
  obtain ⟨rfl, hle⟩ := startBuild_some h
  unfold BufInv
  rw [textOf_identFrom]
  refine ⟨?_, by simp only [REALLY_MAX_LENGTH, MAX_LENGTH] at *; omega⟩
  by_cases hne : orig = []
  · exact Or.inr hne
  · exact Or.inl (ident_inv orig hne)

/-- the hypothesis `hreach` of `Utf8Inv.tokens_partition_core` from `PluginOk` of every plugin -/
theorem reach_of_pluginOk (lv : LenV) (orig : List Nat) (h0 : BoOf orig 0)
    (ps : List (List Nat → Outcome (List (Edit Nat)))) (hplug : ∀ p ∈ ps, PluginOk orig p) (l0 l : List (P Nat))
    (a1 : startBuild orig = some l0) (a2 : rewriteInput lv ps l0 = .ok l) :
    BufInv orig l ∧ (textOf l0 = [] → textOf l = []) :=
  ⟨rewriteInput_inv lv orig h0 ps l0 l hplug (startBuild_bufInv orig l0 a1) a2,
    fun e0 => rewriteInput_empty lv ps l0 l (fun p hp => (hplug p hp).empty) e0 a2⟩

/-! ## stage B: the back-pointer walk is a chain (`EChain`); tilings by `Good` tokens (`Tiles`, `PathOk`) -/

/-- the entries are laid end to end from character `s` to character `t`, none empty -/
def EChain : List Entry → Nat → Nat → Prop
  | [], s, t => s = t
  | x :: xs, s, t => x.node.b = s ∧ x.node.b < x.node.e ∧ EChain xs x.node.e t

theorem EChain.append : ∀ (a b : List Entry) (s m t : Nat), EChain a s m → EChain b m t → EChain (a ++ b) s t := by
  intro a b
  induction a with
  | nil => intro s m t ha hb; cases (ha : s = m); exact hb
  | cons x xs ih => intro s m t ha hb; exact ⟨ha.1, ha.2.1, ih _ m t ha.2.2 hb⟩

theorem EChain.ends_le : ∀ (a : List Entry) (s t : Nat), EChain a s t → s ≤ t ∧ ∀ x ∈ a, x.node.e ≤ t := by
  intro a
  induction a with
  | nil => intro s t h; exact ⟨Nat.le_of_eq h, fun x hx => by cases hx⟩
  | cons x xs ih =>
    intro s t h
    obtain ⟨g1, g2⟩ := ih _ t h.2.2
    exact ⟨h.1 ▸ Nat.le_trans (Nat.le_of_lt h.2.1) g1, List.forall_mem_cons.2 ⟨g1, g2⟩⟩

theorem EChain.fwd : ∀ (a : List Entry) (s t : Nat), EChain a s t → ∀ x ∈ a, x.node.b < x.node.e
  | [], _, _, _, _, hx => nomatch hx
  | y :: ys, _, t, h, x, hx => by
    rcases List.mem_cons.mp hx with rfl | hx
    · exact h.2.1
    · exact EChain.fwd ys _ t h.2.2 x hx

/-- `fill_top_path` from a connected entry of row `e`: what it puts in front of `acc` is a chain from 0 to `e` -/
theorem topPath_chain (len : Nat) (rows : Rows) (hinv : PathInv len [] rows) :
    ∀ (e fuel i : Nat) (p : Entry) (acc : List Entry) (row : List Entry), 1 ≤ e → e ≤ fuel →
      rows[e]? = some row → row[i]? = some p → p.total ≠ I32_MAX →
      ∃ pre, topPath rows fuel (e, i) acc = .ok (pre ++ acc) ∧ EChain pre 0 e ∧ pre ≠ [] := by
  intro e
  induction e using Nat.strongRecOn with
  | _ e ih =>
    intro fuel i p acc row he hf hrow hp hconn
    cases fuel with
    | zero => exact absurd (Nat.le_trans he hf) (Nat.not_succ_le_zero 0)
    | succ f =>
      obtain ⟨a1, a2, hstep, hq⟩ := topPath_step len rows hinv e f i p acc row he hrow hp hconn
      rw [hstep]
      by_cases hb0 : p.node.b ≠ 0
      · rw [if_pos hb0]
        obtain ⟨row', q, c1, c2, c3⟩ := hq hb0
        obtain ⟨pre, g1, g2, _⟩ := ih p.node.b a2 f p.pi q (p :: acc) row' (Nat.pos_of_ne_zero hb0)
          (Nat.le_of_lt_succ (Nat.lt_of_lt_of_le a2 hf)) c1 c2 c3
        refine ⟨pre ++ [p], ?_, ?_, List.append_ne_nil_of_right_ne_nil _ (List.cons_ne_nil _ _)⟩
        · rw [g1, List.append_assoc]; rfl
        · exact EChain.append pre [p] 0 p.node.b e g2 ⟨rfl, a1 ▸ a2, a1⟩
      · rw [if_neg hb0]
        exact ⟨[p], rfl, ⟨Decidable.not_not.1 hb0, a1 ▸ a2, a1⟩, List.cons_ne_nil _ _⟩

/-- the walk from the back-pointer a successful `connect_eos` returns: the entries of the best path, a chain over the whole text -/
theorem bestPath_chain {add : Int → Int → Option Int} {conn : Nat → Nat → Int} {len : Nat} (hlen : 1 ≤ len ∧ len ≤ 65535)
    {rows : Rows} (hinv : PathInv len [] rows) {c : Int} {pe pi : Nat}
    (heos : connectEos add I32_MAX conn rows len = .ok (c, pe, pi)) :
    pe = len ∧ ∃ es, topPath rows (len + 1) (pe, pi) [] = .ok es ∧ EChain es 0 len := by
  obtain ⟨hpe, row, p, q1, q2, q3⟩ := connectEos_ptr add conn len hlen.2 rows hinv c pe pi heos
  obtain ⟨es, g1, g2, _⟩ := topPath_chain len rows hinv len (len + 1) pi p [] row hlen.1 (Nat.le_succ _) q1 q2 q3
  rw [List.append_nil] at g1
  exact ⟨hpe, es, by rw [hpe]; exact g1, g2⟩

/-- a token runs forward and begins and ends on the start of a character of the rewritten text -/
def Good (tb2c tc2b : List Nat) (n : EditM.NodeRange) : Prop :=
  n.bb ≤ n.eb ∧ n.bc ≤ n.ec ∧ At tb2c tc2b n.bc n.bb ∧ At tb2c tc2b n.ec n.eb

/-- tokens laid end to end from `(0, 0)` to `(nc, nb)`, each of them `Good` -/
def PathOk (tb2c tc2b : List Nat) (nc nb : Nat) (path : List EditM.NodeRange) : Prop :=
  Tiles path 0 0 nc nb ∧ ∀ n ∈ path, Good tb2c tc2b n

theorem Tiles.append : ∀ (a b : List EditM.NodeRange) (cs bs cm bm ce be : Nat),
    Tiles a cs bs cm bm → Tiles b cm bm ce be → Tiles (a ++ b) cs bs ce be := by
  intro a b
  induction a with
  | nil => intro cs bs cm bm ce be ha hb; cases ha.1; cases ha.2; exact hb
  | cons x xs ih => intro cs bs cm bm ce be ha hb; exact ⟨ha.1, ha.2.1, ih _ _ cm bm ce be ha.2.2 hb⟩

theorem Tiles.split : ∀ (a b : List EditM.NodeRange) (cs bs ce be : Nat), Tiles (a ++ b) cs bs ce be →
    ∃ cm bm, Tiles a cs bs cm bm ∧ Tiles b cm bm ce be := by
  intro a b
  induction a with
  | nil => intro cs bs ce be h; exact ⟨cs, bs, ⟨rfl, rfl⟩, h⟩
  | cons x xs ih =>
    intro cs bs ce be h
    obtain ⟨cm, bm, g1, g2⟩ := ih _ _ ce be h.2.2
    exact ⟨cm, bm, ⟨h.1, h.2.1, g1⟩, g2⟩

theorem Tiles.getLast : ∀ (a : List EditM.NodeRange) (cs bs ce be : Nat) (h : a ≠ []), Tiles a cs bs ce be →
    (a.getLast h).ec = ce ∧ (a.getLast h).eb = be
  | [], _, _, _, _, h, _ => absurd rfl h
  | [x], _, _, _, _, _, ht => ht.2.2
  | x :: y :: r, _, _, ce, be, _, ht => by
    rw [List.getLast_cons (List.cons_ne_nil y r)]
    exact Tiles.getLast (y :: r) _ _ ce be _ ht.2.2

/-! ## stage C: `resolve_best_path` -/

/-- a chain of lattice entries from character `s` to the last character becomes, through `mod_c2b`
(`to_curr_byte_idx(begin)`, `to_curr_byte_idx(end)`, `as u16`), a tiling by `Good` tokens -/
theorem resultNodes_tiles (tb2c tc2b : List Nat) (nb nc : Nat) (ht : TablesOk tb2c tc2b nb nc) (hnb : nb ≤ 65535)
    (hlast : tc2b[nc]? = some nb) :
    ∀ (ents : List Entry) (s bs : Nat) (path : List EditM.NodeRange), EChain ents s nc → tc2b[s]? = some bs →
      mapM (resultNode tc2b) ents = .ok path →
      Tiles path s bs nc nb ∧ ∀ n ∈ path, Good tb2c tc2b n := by
  intro ents
  induction ents with
  | nil =>
    intro s bs path hc hs h
    cases h; cases (hc : s = nc)
    cases hs.symm.trans hlast
    exact ⟨⟨rfl, rfl⟩, fun n hn => by cases hn⟩
  | cons x xs ih =>
    intro s bs path hc hs h
    obtain ⟨c1, c2, c3⟩ := hc
    obtain ⟨r, rest, h1, h2, rfl⟩ := mapM_cons_eq_ok h
    have hele := (EChain.ends_le xs _ nc c3).1
    obtain ⟨eb, heb, hebn⟩ := ht.c2b_def x.node.e hele
    have hsb : tc2b[x.node.b]? = some bs := c1 ▸ hs
    have hbe : bs ≤ eb := ht.c2b_mono x.node.b x.node.e bs eb (Nat.le_of_lt c2) hsb heb
    -- both look-ups succeed and the `as u16` casts are the identity
    have hr : r = ⟨x.node.b, x.node.e, bs, eb⟩ := by
      unfold resultNode at h1
      rw [hsb, heb] at h1
      dsimp only at h1
      rw [asU16_id bs (Nat.le_trans hbe (Nat.le_trans hebn hnb)), asU16_id eb (Nat.le_trans hebn hnb)] at h1
      cases h1; rfl
    obtain ⟨g1, g2⟩ := ih x.node.e eb rest c3 heb h2
    subst hr
    exact ⟨⟨c1, rfl, g1⟩, List.forall_mem_cons.2
      ⟨⟨hbe, Nat.le_of_lt c2, ⟨ht.b2c_c2b _ _ hsb, hsb⟩, ⟨ht.b2c_c2b _ _ heb, heb⟩⟩, g2⟩⟩

/-- stages B and C together: what `resolve_best_path` returns for the back-pointer of a successful `connect_eos`, over a text
with as many character starts as the lattice has positions -/
theorem bestPath_pathOk (add : Int → Int → Option Int) (conn : Nat → Nat → Int) (t : List Nat)
    (htab : TablesOk (b2c t) (c2b t) t.length (nchars t)) (hbo0 : BoOf t 0) (hnb : t.length ≤ 65535)
    (len : Nat) (hnc : len = nchars t) (hpos : 1 ≤ len) (rows : Rows) (hinv : PathInv len [] rows) (c : Int) (pe pi : Nat)
    (heos : connectEos add I32_MAX conn rows len = .ok (c, pe, pi)) (es : List Entry)
    (htop : topPath rows (len + 1) (pe, pi) [] = .ok es) (path : List EditM.NodeRange)
    (hres : mapM (resultNode (c2b t)) es = .ok path) : PathOk (b2c t) (c2b t) (nchars t) t.length path := by
  subst hnc
  obtain ⟨_, es', g1, g2⟩ := bestPath_chain ⟨hpos, Nat.le_trans (List.length_filter_le _ _) hnb⟩ hinv heos
  cases htop.symm.trans g1
  exact resultNodes_tiles (b2c t) (c2b t) _ _ htab hnb (c2b_last t) es 0 0 path g2 (c2b_head t hbo0) hres

/-! ## stage D: the path-rewrite plugins (C14) -/

/-- the four offsets of a node of the C14 model -/
def rng (m : Rewrite.Node) : EditM.NodeRange := ⟨m.b, m.e, m.bb, m.eb⟩

theorem Good.trans {tb2c tc2b : List Nat} {c0 c1 c2 b0 b1 b2 : Nat} (h1 : Good tb2c tc2b ⟨c0, c1, b0, b1⟩)
    (h2 : Good tb2c tc2b ⟨c1, c2, b1, b2⟩) : Good tb2c tc2b ⟨c0, c2, b0, b2⟩ :=
  ⟨Nat.le_trans h1.1 h2.1, Nat.le_trans h1.2.1 h2.2.1, h1.2.2.1, h2.2.2.2⟩

theorem Tiles.good (tb2c tc2b : List Nat) : ∀ (a : List EditM.NodeRange) (cs bs ce be : Nat), a ≠ [] →
    Tiles a cs bs ce be → (∀ n ∈ a, Good tb2c tc2b n) → Good tb2c tc2b ⟨cs, ce, bs, be⟩
  | [], _, _, _, _, h, _, _ => absurd rfl h
  | [x], _, _, _, _, _, ht, hg => by
    obtain ⟨rfl, rfl, rfl, rfl⟩ := ht
    exact hg x (List.mem_singleton_self x)
  | x :: y :: r, _, _, ce, be, _, ht, hg => by
    obtain ⟨rfl, rfl, ht⟩ := ht
    exact Good.trans (hg x (List.mem_cons_self ..)) (Tiles.good tb2c tc2b (y :: r) _ _ ce be (List.cons_ne_nil y r) ht
      (fun n hn => hg n (List.mem_cons_of_mem _ hn)))

theorem spans_rng {blk : List Rewrite.Node} {m : Rewrite.Node} (hs : Rewrite.Spans blk m) (cs bs ce be : Nat)
    (ht : Tiles (blk.map rng) cs bs ce be) : rng m = ⟨cs, ce, bs, be⟩ := by
  cases blk with
  | nil => exact absurd rfl hs.ne_nil
  | cons x xs =>
    obtain ⟨f1, f2⟩ := Prod.mk.inj (Option.some.inj hs.first)
    obtain ⟨l1, l2⟩ := Prod.mk.inj (Option.some.inj hs.last)
    obtain ⟨g1, g2⟩ := Tiles.getLast ((x :: xs).map rng) cs bs ce be (List.cons_ne_nil _ _) ht
    rw [List.getLast_map] at g1 g2
    rw [rng, f1.symm.trans ht.1, f2.symm.trans ht.2.1, l1.symm.trans g1, l2.symm.trans g2]

/-- **`Coarsens` keeps the tiling**: kept tokens are kept, a merged token begins where its block begins and ends
where it ends (`Spans`), so it runs forward and sits on character starts because the block does -/
theorem coarsens_tiles {R : List Rewrite.Node → Rewrite.Node → Prop} (tb2c tc2b : List Nat) :
    ∀ {p q : List Rewrite.Node}, Rewrite.Coarsens R p q → ∀ (cs bs ce be : Nat), Tiles (p.map rng) cs bs ce be →
      (∀ n ∈ p.map rng, Good tb2c tc2b n) →
      Tiles (q.map rng) cs bs ce be ∧ ∀ n ∈ q.map rng, Good tb2c tc2b n := by
  intro p q h
  induction h with
  | nil => intro cs bs ce be ht hg; exact ⟨ht, hg⟩
  | keep n _ ih =>
    intro cs bs ce be ht hg
    rw [List.map_cons] at ht hg ⊢
    obtain ⟨g1, g2⟩ := ih _ _ ce be ht.2.2 (List.forall_mem_cons.1 hg).2
    exact ⟨⟨ht.1, ht.2.1, g1⟩, List.forall_mem_cons.2 ⟨(List.forall_mem_cons.1 hg).1, g2⟩⟩
  | merge blk m hs _ _ ih =>
    intro cs bs ce be ht hg
    rw [List.map_append] at ht hg
    obtain ⟨cm, bm, t1, t2⟩ := Tiles.split _ _ cs bs ce be ht
    obtain ⟨g1, g2⟩ := ih cm bm ce be t2 (fun x hx => hg x (List.mem_append_right _ hx))
    have hm := Tiles.good tb2c tc2b _ cs bs cm bm (fun h => hs.ne_nil (List.map_eq_nil_iff.1 h)) t1
      (fun x hx => hg x (List.mem_append_left _ hx))
    rw [List.map_cons, spans_rng hs cs bs cm bm t1]
    exact ⟨⟨rfl, rfl, g1⟩, List.forall_mem_cons.2 ⟨hm, g2⟩⟩

/-- every configured stack of path-rewrite plugins (`Total.rewriteOfStack`: the C14 model between `resolve_best_path` and
`split_path`), both variants of the numeral loop, keeps `PathOk`, provided the word-info look-up leaves the four offsets of a
node alone (`hinfo`): the hypothesis `hrew` of `Utf8Inv.tokens_partition_core` for these stacks -/
theorem rewriteOfStack_pathOk (nv : Rewrite.NVariant) (cat : List Nat) (P : List Char → Rewrite.POut)
    (pls : List Rewrite.Plugin) (info : EditM.NodeRange → Rewrite.Node) (units : Rewrite.Node → List Nat)
    (hinfo : ∀ n, rng (info n) = n) (tb2c tc2b : List Nat) (nc nb : Nat)
    (path : List EditM.NodeRange) (path' : List (EditM.NodeRange × List Nat))
    (hp : PathOk tb2c tc2b nc nb path) (h : rewriteOfStack nv cat P pls info units path = .ok path') :
    PathOk tb2c tc2b nc nb (path'.map (·.1)) := by
  unfold rewriteOfStack at h
  cases hq : Rewrite.rewriteAll nv cat P pls (path.map info) with
  | ok q =>
    rw [hq] at h; cases h
    have e1 : (path.map info).map rng = path := by
      rw [List.map_map]
      exact (List.map_congr_left fun n _ => hinfo n).trans (List.map_id path)
    rw [List.map_map]
    exact coarsens_tiles tb2c tc2b (Rewrite.rewriteAll_coarsens nv cat P pls _ q hq) 0 0 nc nb (e1.symm ▸ hp.1)
      (e1.symm ▸ hp.2)
  | err => rw [hq] at h; cases h
  | panic => rw [hq] at h; cases h
  | fuel => rw [hq] at h; cases h

/-! ## stage E: `split_path` with the repaired iterator, ANY unit lengths -/

theorem splitPath_d6fix_tiles (tb2c tc2b : List Nat) (nb nc : Nat) (ht : TablesOk tb2c tc2b nb nc)
    (hnb : nb ≤ 65535) (hnc : nc ≤ 65535) :
    ∀ (path : List (EditM.NodeRange × List Nat)) (ms : List EditM.NodeRange) (cs bs ce be : Nat),
      splitPath .d6fix tb2c tc2b path = .ok ms → Tiles (path.map (·.1)) cs bs ce be →
      (∀ n ∈ path.map (·.1), Good tb2c tc2b n ∧ n.eb ≤ nb) →
      Tiles ms cs bs ce be ∧ ∀ n ∈ ms, Good tb2c tc2b n := by
  intro path
  induction path with
  | nil =>
    intro ms cs bs ce be h ht' _
    cases h
    exact ⟨ht', fun n hn => by cases hn⟩
  | cons nu rest ih =>
    intro ms cs bs ce be h ht' hg
    obtain ⟨n, units⟩ := nu
    obtain ⟨a, b, ha, hb, rfl⟩ := splitPath_cons_ok _ _ _ n units rest ms h
    obtain ⟨t1, t2, t3⟩ := ht'
    obtain ⟨⟨gn1, gn2, gn3, gn4⟩, gnb⟩ := hg n (List.mem_cons_self ..)
    obtain ⟨r1, r2⟩ := ih b n.ec n.eb ce be hb t3 (fun x hx => hg x (List.mem_cons_of_mem _ hx))
    -- the node itself, or its units: a tiling of the node's range by `Good` tokens
    have hn : Tiles a cs bs n.ec n.eb ∧ ∀ x ∈ a, Good tb2c tc2b x := by
      by_cases hlen : units.length ≤ 1
      · rw [if_pos hlen] at ha; cases ha
        exact ⟨⟨t1, t2, rfl, rfl⟩, fun x hx => by cases List.mem_singleton.1 hx; exact ⟨gn1, gn2, gn3, gn4⟩⟩
      · rw [if_neg hlen] at ha
        have hu : units ≠ [] := fun hn => hlen (hn ▸ Nat.zero_le 1)
        obtain ⟨us, h1, h2, h3⟩ := splitGo_d6fix_spec tb2c tc2b nb nc ht hnb hnc n gnb gn4 units n.bc n.bb hu gn3
          (Nat.le_refl _) gn1 (Nat.le_refl _)
        cases ha.symm.trans h1
        refine ⟨t1 ▸ t2 ▸ h2, fun x hx => ?_⟩
        obtain ⟨_, u2, _, _, u5, _, u7, u8⟩ := h3 x hx
        exact ⟨u2, u5, u7, u8⟩
    exact ⟨Tiles.append a b _ _ _ _ ce be hn.1 r1, List.forall_mem_append.2 ⟨hn.2, r2⟩⟩

/-! ## stage F: reading the tokens back in the ORIGINAL text -/

/-- ranges laid end to end from `s` to `t` -/
def ChainR : List (Nat × Nat) → Nat → Nat → Prop
  | [], s, t => s = t
  | x :: xs, s, t => x.1 = s ∧ ChainR xs x.2 t

/-- **the property's words**: the ranges `[begin, end)` are contiguous from 0 to the length of the original text
(first begins at 0, each begins where the previous one ended, the last ends at the length), none runs backwards
(empty ranges are permitted), every boundary is a character boundary, and the slices concatenate to the text -/
structure IsPartition (o : List Nat) (rs : List (Nat × Nat)) : Prop where
  chain : ChainR rs 0 o.length
  fwd : ∀ x ∈ rs, x.1 ≤ x.2
  bnd : ∀ x ∈ rs, BoOf o x.1 ∧ BoOf o x.2
  concat : (rs.map (fun x => slice o x.1 x.2)).flatten = o

theorem isBoundary_of_boOf (t : List Nat) (i : Nat) (h : BoOf t i) : isBoundary t i = true := by
  unfold isBoundary
  rcases h with rfl | ⟨hlt, hs⟩
  · simp
  · rw [List.getElem?_eq_getElem hlt]; simp [hs]

theorem chainR_flatten {α : Type} (o : List α) : ∀ (rs : List (Nat × Nat)) (s t : Nat), ChainR rs s t →
    (∀ x ∈ rs, x.1 ≤ x.2) → s ≤ t ∧ (rs.map (fun x => slice o x.1 x.2)).flatten = slice o s t := by
  intro rs
  induction rs with
  | nil => intro s t h _; cases (h : s = t); exact ⟨Nat.le_refl _, (slice_self o s).symm⟩
  | cons x xs ih =>
    intro s t h hf
    obtain ⟨hle, e⟩ := ih _ t h.2 (fun y hy => hf y (List.mem_cons_of_mem _ hy))
    have hx : s ≤ x.2 := h.1 ▸ hf x (List.mem_cons_self ..)
    rw [List.map_cons, List.flatten_cons, e, h.1]
    exact ⟨Nat.le_trans hx hle, slice_append_slice o hx hle⟩

theorem tiles_chainR (l : List (P Nat)) : ∀ (ms : List EditM.NodeRange) (cs bs ce be : Nat), Tiles ms cs bs ce be →
    ChainR (ms.map (fun m => (valAt l m.bb, valAt l m.eb))) (valAt l bs) (valAt l be) := by
  intro ms
  induction ms with
  | nil => intro _ _ _ _ ht; exact congrArg (valAt l) ht.2
  | cons m ms ih => intro cs bs ce be ht; exact ⟨congrArg (valAt l) ht.2.1, ih _ _ ce be ht.2.2⟩

theorem at_orig {orig : List Nat} {l : List (P Nat)} (hinv : Inv isStart (BoOf orig) orig.length l) (hnco : 0 < nchars orig)
    {c b : Nat} (h : At (b2c (textOf l)) (c2b (textOf l)) c b) :
    b < l.length ∧ BoOf orig (valAt l b) ∧ isBoundary (textOf l) b = true ∧ (snds l)[b]? = some (valAt l b) ∧
    toOrigByteIdx l c = some (valAt l b) ∧ toOrigCharIdx orig l c = some (nchars (orig.take (valAt l b))) :=
  have ⟨hb, hlt, ho, _, rb, rc⟩ := hinv.at_c2b hnco h.2
  ⟨hlt, ho, isBoundary_of_boOf _ _ hb, snds_getElem? l b hlt, rb, rc⟩

/-- what the accessors of a token return: the images of its byte offsets (by either route) and the numbers of code
points before them -/
def readBack (orig : List Nat) (l : List (P Nat)) (m : EditM.NodeRange) : Access :=
  ⟨valAt l m.bb, valAt l m.eb, nchars (orig.take (valAt l m.bb)), nchars (orig.take (valAt l m.eb)), valAt l m.bb, valAt l m.eb⟩

theorem access_ok {orig : List Nat} {l : List (P Nat)} (hinv : Inv isStart (BoOf orig) orig.length l) (hnco : 0 < nchars orig)
    (m : EditM.NodeRange) (hg : Good (b2c (textOf l)) (c2b (textOf l)) m) : access orig l m = .ok (readBack orig l m) := by
  obtain ⟨g1, _, g3, g4⟩ := hg
  obtain ⟨_, b2, b3, b4, b5, b6⟩ := at_orig hinv hnco g3
  obtain ⟨e1, e2, e3, e4, e5, e6⟩ := at_orig hinv hnco g4
  have sr : surfaceRange orig l m = .ok (valAt l m.bb, valAt l m.eb) := by
    unfold surfaceRange morphRangeB
    rw [b3, e3, b4, e4]
    simp only [Bool.not_true, Bool.false_eq_true, if_false]
    rw [if_pos ⟨mono_valAt hinv.mono g1 e1, isBoundary_of_boOf _ _ b2, isBoundary_of_boOf _ _ e2⟩]
  unfold access morphRangeC
  rw [b5, e5]; dsimp only
  rw [b6, e6]; dsimp only
  rw [sr]; rfl

/-- **the accessors of a `PathOk` token list partition the original text**: every accessor of every token is defined
(`Total.access`: no index out of range, no `debug_assert`, no slice panic), `begin()`/`end()` (character route) are the
bounds of `surface()` (byte route), `begin_c()`/`end_c()` the numbers of code points before them -/
theorem pathOk_partition (orig : List Nat) (hne : orig ≠ []) (h0 : BoOf orig 0) (l : List (P Nat))
    (hinv : Inv isStart (BoOf orig) orig.length l) (nc : Nat)
    (ms : List EditM.NodeRange) (hms : ms ≠ [])
    (hp : PathOk (b2c (textOf l)) (c2b (textOf l)) nc (textOf l).length ms) :
    ∃ acs, mapM (access orig l) ms = .ok acs ∧
      IsPartition orig (acs.map (fun a => (a.b, a.e))) ∧
      ∀ a ∈ acs, a.sb = a.b ∧ a.se = a.e ∧ a.bc = nchars (orig.take a.b) ∧ a.ec = nchars (orig.take a.e) := by
  obtain ⟨htile, hgood⟩ := hp
  have hnco := nchars_pos_of orig hne h0
  refine ⟨ms.map (readBack orig l), mapM_map_ok _ _ ms (fun m hm => access_ok hinv hnco m (hgood m hm)), ?_, ?_⟩
  · rw [List.map_map]
    have hch := tiles_chainR l ms 0 0 nc _ htile
    rw [hinv.first, inv_last hinv] at hch
    have hfwd : ∀ x ∈ ms.map (fun m => (valAt l m.bb, valAt l m.eb)), x.1 ≤ x.2 := by
      intro x hx
      obtain ⟨m, hm, rfl⟩ := List.mem_map.mp hx
      exact mono_valAt hinv.mono (hgood m hm).1 (at_orig hinv hnco (hgood m hm).2.2.2).1
    refine ⟨hch, hfwd, ?_, ?_⟩
    · intro x hx
      obtain ⟨m, hm, rfl⟩ := List.mem_map.mp hx
      exact ⟨(at_orig hinv hnco (hgood m hm).2.2.1).2.1, (at_orig hinv hnco (hgood m hm).2.2.2).2.1⟩
    · exact ((chainR_flatten orig _ 0 _ hch hfwd).2).trans (slice_all orig)
  · intro a ha
    obtain ⟨m, _, rfl⟩ := List.mem_map.mp ha
    exact ⟨rfl, rfl, rfl, rfl⟩

/-- the byte ends of lattice nodes, read from `mod_c2b` at indices inside the table, are character boundaries of the
rewritten text; when they form a non-decreasing chain from the first to the last table entry (`hm`, `hlast`: the form in
which C02 states it), their images cut the original text into surfaces that concatenate to it, begin at 0, end at its
length and lie on its character boundaries -/
theorem c2b_cuts_partition (o : List Nat) (l : List (P Nat)) (hi : Inv isStart (BoOf o) o.length l)
    (hstart : BoOf (textOf l) 0) (tab : List Nat) (htab : tab = c2b (textOf l)) (ns : List Vit.Node)
    (hin : ∀ n ∈ ns, n.e < tab.length)
    (hm : Mono (((tab[0]?).getD 0) :: ns.map (fun n => (tab[n.e]?).getD 0)))
    (hlast : (((tab[0]?).getD 0) :: ns.map (fun n => (tab[n.e]?).getD 0)).getLast (List.cons_ne_nil _ _) =
      (tab[nchars (textOf l)]?).getD 0) :
    let cuts := ns.map (fun n => (tab[n.e]?).getD 0)
    (pieces o 0 (cuts.map (valAt l))).flatten = o ∧ valAt l 0 = 0 ∧
    valAt l ((0 :: cuts).getLast (List.cons_ne_nil _ _)) = o.length ∧
    (∀ c ∈ cuts, BoOf o (valAt l c)) ∧ (∀ c ∈ cuts, valAt l c ≤ o.length) := by
  subst htab
  intro cuts
  simp only [c2b_head (textOf l) hstart, c2b_last (textOf l), Option.getD_some] at hm hlast
  have hbo : ∀ c ∈ cuts, BoOf (textOf l) c := by
    intro c hc
    obtain ⟨n, hn, rfl⟩ := List.mem_map.mp hc
    rw [List.getElem?_eq_getElem (hin n hn), Option.getD_some]
    exact (c2b_spec (textOf l)).2 _ (List.getElem_mem _)
  refine ⟨surfaces_concat isStart o l hi cuts hm hlast, hi.first, ?_, fun c hc => (hi.image (hbo c hc)).2.1,
    fun c hc => (hi.image (hbo c hc)).2.2⟩
  rw [hlast]; exact inv_last hi

/-- from the conclusion of `C01.tokens_partition_original` (the accessor values of all morphemes partition the original and
count code points) to the per-morpheme statement of C08: code-point slice = byte slice = surface -/
theorem codepoints_of_partition (orig : List Nat) (r : Result)
    (hpart : (textOf r.tables = [] ∧ r.morphs = []) ∨
      (textOf r.tables ≠ [] ∧ r.morphs ≠ [] ∧ ∃ acs, accessAll orig r = .ok acs ∧
        IsPartition orig (acs.map (fun a => (a.b, a.e))) ∧
        ∀ a ∈ acs, a.sb = a.b ∧ a.se = a.e ∧ a.bc = nchars (orig.take a.b) ∧ a.ec = nchars (orig.take a.e))) :
    ∀ m ∈ r.morphs, ∃ a, access orig r.tables m = .ok a ∧
      a.b ≤ a.e ∧ a.e ≤ orig.length ∧ BoOf orig a.b ∧ BoOf orig a.e ∧
      a.bc = nchars (orig.take a.b) ∧ a.ec = nchars (orig.take a.e) ∧
      (c2b orig)[a.bc]? = some a.b ∧ (c2b orig)[a.ec]? = some a.e ∧
      a.ec - a.bc = nchars (slice orig a.b a.e) ∧
      a.sb = a.b ∧ a.se = a.e := by
  intro m hm
  rcases hpart with ⟨_, hnil⟩ | ⟨_, _, acs, h1, hp, h3⟩
  · rw [hnil] at hm; cases hm
  · obtain ⟨a, ha, hacc⟩ := mapM_ok_mem (access orig r.tables) r.morphs acs h1 m hm
    obtain ⟨e1, e2, e3, e4⟩ := h3 a ha
    have hmem : (a.b, a.e) ∈ acs.map (fun a => (a.b, a.e)) := List.mem_map.mpr ⟨a, ha, rfl⟩
    have hfw : a.b ≤ a.e := hp.fwd _ hmem
    obtain ⟨hb1, hb2⟩ := hp.bnd _ hmem
    refine ⟨a, hacc, hfw, hb2.le, hb1, hb2, e3, e4, ?_, ?_, ?_, e1, e2⟩
    · rw [e3]; exact c2b_nchars_take orig a.b hb1
    · rw [e4]; exact c2b_nchars_take orig a.e hb2
    · rw [e3, e4]; exact (nchars_slice orig hfw).symm

/-! ## the model's UTF-8 decoder: a non-empty text has a first character, which begins with a character start -/

theorem utf8Decode_cons_ne_nil (b0 : Nat) (rest : List Nat) : Wire.utf8Decode (b0 :: rest) ≠ some [] := by
  rcases utf8Decode_cons b0 rest with h | ⟨_, c, k, h⟩ <;> rw [h]
  · exact fun h => by cases h
  · cases Wire.utf8Decode (rest.drop k) <;> exact fun h => by cases h

theorem utf8Decode_eq_nil {t : List Nat} (h : Wire.utf8Decode t = some []) : t = [] := by
  cases t with
  | nil => rfl
  | cons b0 rest => exact absurd h (utf8Decode_cons_ne_nil b0 rest)

theorem isStart_head_of_utf8 (b0 : Nat) (rest chars : List Nat) (h : Wire.utf8Decode (b0 :: rest) = some chars) :
    isStart b0 = true := by
  rcases utf8Decode_cons b0 rest with hn | ⟨hs, _⟩
  · rw [hn] at h; cases h
  · exact hs

/-! ## a configuration for the non-vacuity examples of `C01.tokens_partition_original` -/

/-- an input-text plugin that appends `!` to a non-empty text (one insertion at the end: the byte length changes and the
inserted character has no original text of its own) -/
def bang (t : List Nat) : Outcome (List (Edit Nat)) :=
  if t = [] then .ok [] else .ok [⟨t.length, t.length, [0x21]⟩]

theorem bang_ok (orig : List Nat) : PluginOk orig bang := by
  constructor
  · intro l es hinv h
    unfold bang at h
    by_cases ht : textOf l = []
    · rw [if_pos ht] at h; cases h; exact ⟨Nat.zero_le _, fun ed hed => by cases hed⟩
    · rw [if_neg ht] at h; cases h
      -- the one edit sits at the end of the text, which is a character boundary
      have hle : (textOf l).length ≤ l.length - 1 := Nat.le_of_eq (Nat.eq_sub_of_add_eq (shape_length hinv.shape))
      have key : ∀ h : (textOf l).length < l.length, isB isStart l[(textOf l).length] :=
        isB_of_boOf hinv.shape _ (Or.inl rfl)
      refine ⟨⟨Nat.zero_le _, Nat.le_refl _, hle, hle⟩, fun ed hed => ?_⟩
      cases List.mem_singleton.1 hed
      exact ⟨key, key⟩
  · intro es h
    cases h; rfl

/-- `bang`, the buffer over the empty class table, the Simple provider, the words `a` and `ab`, and a word-info stage that
declares the ILL-FORMED units `[1, 9]` (the second unit longer than what is left) for every token of two characters -/
def partCfg : Cfg :=
  { inputPlugins := [bang],
    mkBuf := builtBuf .forward true [],
    providers := [.simple ⟨0, 0, 100, 0⟩],
    lex := [⟨[97], 0, 0, 5⟩, ⟨[97, 98], 0, 0, 5⟩], conn := fun _ _ => 10,
    rewrite := fun p => .ok (p.map (fun n => (n, if n.ec = n.bc + 2 then [1, 9] else []))) }

end Partition

namespace Utf8Inv
open Total EditM Partition

/-! ## the stages composed: the partition theorem with the plugin stage abstracted -/

open Oov in
/-- `C01.tokens_partition_original` with the input-text plugin stage abstracted to what the rest of the analysis uses of it
(`hreach`): after the stack the offset map satisfies the C08 invariant or the text is empty, the text is at most 65535 bytes long,
and an empty input stays empty.  `C01.tokens_partition_original` meets `hreach` from `PluginOk` (any plugins),
`C01.tokens_partition_original_bundled` from `bundled_reach` (no plugin hypothesis). -/
theorem tokens_partition_core (lv : LenV) (cfg : Cfg) (orig : List Nat) (horig : BoOf orig 0)
    (hreach : ∀ l0 l, startBuild orig = some l0 → rewriteInput lv cfg.inputPlugins l0 = .ok l →
      BufInv orig l ∧ (textOf l0 = [] → textOf l = []))
    (hutf : ∀ l0 l chars, startBuild orig = some l0 → rewriteInput lv cfg.inputPlugins l0 = .ok l →
      Wire.utf8Decode (textOf l) = some chars → chars.length = nchars (textOf l))
    (rv : Oov.Variant) (bowFix : Bool) (tab : List (Nat × Nat))
    (hmk : ∀ chars, Oov.mkBufV rv bowFix tab chars = some (cfg.mkBuf chars))
    (hrowsz : ∀ chars nodes, Reaches lv cfg orig chars → Oov.buildLattice cfg.providers cfg.lex (cfg.mkBuf chars) = .ok nodes →
      ∀ e, (nodes.map toVit).countP (fun n => n.e == e) ≤ 4294967295)
    (hrew : ∀ (tb2c tc2b : List Nat) (nc nb : Nat) path path', PathOk tb2c tc2b nc nb path → cfg.rewrite path = .ok path' →
      PathOk tb2c tc2b nc nb (path'.map (·.1)))
    (r : Result) (h : tokenize .d6fix lv cfg orig = .ok r) :
    (textOf r.tables = [] ∧ r.morphs = []) ∨
    (textOf r.tables ≠ [] ∧ r.morphs ≠ [] ∧ ∃ acs, accessAll orig r = .ok acs ∧
      IsPartition orig (acs.map (fun a => (a.b, a.e))) ∧
      ∀ a ∈ acs, a.sb = a.b ∧ a.se = a.e ∧ a.bc = nchars (orig.take a.b) ∧ a.ec = nchars (orig.take a.e)) := by
  obtain ⟨l0, l, chars, h0, h1, h2, hcase⟩ := tokenize_eq_ok .d6fix lv cfg orig r h
  obtain ⟨⟨hbuf, hlen⟩, hemp0⟩ := hreach l0 l h0 h1
  rcases hcase with ⟨rfl, rfl⟩ | ⟨hcne, ha⟩
  · -- no character: no morpheme; the text is empty
    exact Or.inl ⟨utf8Decode_eq_nil h2, rfl⟩
  · obtain ⟨nodes, rows, ents, c, pe, pi, es, path, path', ms, h3, h4, h5, h6, h7, h8, h9, rfl⟩ :=
      analyse_eq_ok .d6fix cfg l chars r ha
    right
    have hpos : 1 ≤ chars.length := List.length_pos_iff.2 hcne
    have hr : Reaches lv cfg orig chars := ⟨l0, l, h0, h1, h2⟩
    have hb := mkBufV_ok rv bowFix tab chars (cfg.mkBuf chars) (hmk chars)
    have hnc := hutf l0 l chars h0 h1 h2
    have htne : textOf l ≠ [] := by
      intro hn; rw [hn] at hnc
      exact absurd hnc (Nat.ne_of_gt hpos)
    have hinv : Inv isStart (BoOf orig) orig.length l := hbuf.resolve_right htne
    have horne : orig ≠ [] := by
      intro hn
      subst hn
      cases h0
      exact htne (hemp0 rfl)
    obtain ⟨htab, hbo0⟩ := tablesOk_of_utf8 (textOf l) chars h2 hcne
    have hnb : (textOf l).length ≤ 65535 := hlen
    have hncb : nchars (textOf l) ≤ 65535 := Nat.le_trans (List.length_filter_le _ _) hnb
    have hcl : chars.length ≤ 65535 := hnc ▸ hncb
    have hin := buildLattice_cand cfg.providers cfg.lex (cfg.mkBuf chars) hb.2.1 nodes h3
    rw [hb.2.2] at hin
    have hpinv := buildAll_pathInv addI32 cfg.conn chars.length hcl (nodes.map toVit) (reset chars.length) []
      rows ents (reset_pathInv chars.length _ (hrowsz chars nodes hr h3)) (toVit_inside chars.length hcl nodes hin) h4
    have hpath := bestPath_pathOk addI32 cfg.conn (textOf l) htab hbo0 hnb chars.length hnc hpos rows hpinv c pe pi h5 es h6
      path h7
    obtain ⟨u1, u2⟩ := hrew _ _ _ _ path path' hpath h8
    have hle : ∀ n ∈ path'.map (·.1), Good (b2c (textOf l)) (c2b (textOf l)) n ∧ n.eb ≤ (textOf l).length := by
      intro n hn
      refine ⟨u2 n hn, ?_⟩
      exact (c2b_getElem_boOf (u2 n hn).2.2.2.2).2
    obtain ⟨v1, v2⟩ := splitPath_d6fix_tiles _ _ _ _ htab hnb hncb path' ms 0 0 _ _ h9 u1 hle
    have hmsne : ms ≠ [] := by
      intro hn; subst hn
      exact absurd (hnc.trans v1.1.symm) (Nat.ne_of_gt hpos)
    obtain ⟨acs, w1, w2, w3⟩ := pathOk_partition orig horne horig l hinv _ ms hmsne ⟨v1, v2⟩
    exact ⟨htne, hmsne, acs, w1, w2, w3⟩

end Utf8Inv
