import Sudachi.Proofs.RewriteConcat
/-!
# C14: the katakana joiner

The three scans of `rewrite_gen` are one count (`countWhile`), so one iteration is a gate on the node followed by
three counts on the path (`krun`, `kstep_eq`): what an iteration does on a path of some shape is what `countWhile` does
on three lists, and the lemmas on `krun` say it shape by shape.  The loop is taken one iteration at a time (`knext`, or by
`kloop`'s own induction where only `ok` results are spoken of): every run is a coarsening, and the index moves towards the end of the path, so `path.length + 1`
iterations suffice.

Which block is joined: one iteration is read in both directions — when it joins `[b, e)` the path decomposes
around the maximal katakana run (`kstep_join_spec`), and on such a decomposition the iteration is determined
(`kstep_on_run`).  Idempotence, `joinKatakana cfg cat path = .ok q → joinKatakana cfg cat q = .ok q` under `KWF path`:
after a join every index up to the node after the merged token decides "no join" (`join_settled`), so the result of
the loop is settled everywhere, and a settled path is a fixed point.
-/
namespace Rewrite

/-! ## the three scans of the katakana joiner -/

/-- number of leading nodes that pass the test `t`: what each of the three scans of the katakana joiner
counts (`scanFwdL_eq`, `skipBowL_eq`, `scanBackL_eq`) -/
def countWhile (t : Node → Outcome Bool) : List Node → Outcome Nat
  | [] => .ok 0
  | n :: rest => (t n).bind fun c => if c then (countWhile t rest).bind fun k => .ok (k + 1) else .ok 0

/-- `!can_oov_bow_node` -/
def noBow (cat : List Nat) (n : Node) : Outcome Bool := (canOovBow cat n).bind fun c => .ok (!c)

theorem scanFwdL_eq (cat : List Nat) (l : List Node) (e0 : Nat) :
    scanFwdL cat l e0 = (countWhile (isKatakana cat) l).bind fun k => .ok (e0 + k) := by
  fun_induction scanFwdL cat l e0 with
  | case1 => rfl
  | case2 _ _ _ hk ih =>
    simp only [countWhile, hk, ih, Outcome.ok_bind, if_true, Outcome.bind_assoc, Nat.add_assoc, Nat.add_comm 1]
  | case3 _ _ _ hk | case4 _ _ _ hk | case5 _ _ _ hk | case6 _ _ _ hk => simp only [countWhile, hk]; rfl

theorem skipBowL_eq (cat : List Nat) (l : List Node) (b0 : Nat) :
    skipBowL cat l b0 = (countWhile (noBow cat) l).bind fun k => .ok (b0 + k) := by
  fun_induction skipBowL cat l b0 with
  | case1 => rfl
  | case2 _ _ _ hk ih =>
    simp only [countWhile, noBow, hk, ih, Outcome.ok_bind, Bool.not_false, if_true, Outcome.bind_assoc, Nat.add_assoc,
      Nat.add_comm 1]
  | case3 _ _ _ hk | case4 _ _ _ hk | case5 _ _ _ hk | case6 _ _ _ hk => simp only [countWhile, noBow, hk]; rfl

/-- the backwards scan counts down from `k`, and answers 0 when it runs off the front of the path -/
theorem scanBackL_eq (cat : List Nat) (l : List Node) (k : Nat) :
    scanBackL cat l k =
      (countWhile (isKatakana cat) l).bind fun c => .ok (if c = l.length then 0 else k - c) := by
  fun_induction scanBackL cat l k with
  | case1 => rfl
  | case2 _ _ _ hk ih =>
    simp only [countWhile, hk, ih, Outcome.ok_bind, if_true, Outcome.bind_assoc, List.length_cons,
      Nat.add_right_cancel_iff]
    refine Outcome.bind_congr fun c _ => ?_
    split
    · rfl
    · exact congrArg _ (by omega)
  | case3 _ _ _ hk =>
    simp only [countWhile, hk, Outcome.ok_bind, Bool.false_eq_true, if_false, List.length_cons]
    rw [if_neg (by omega)]; rfl
  | case4 _ _ _ hk | case5 _ _ _ hk | case6 _ _ _ hk => simp only [countWhile, hk]; rfl

theorem countWhile_spec {t : Node → Outcome Bool} : ∀ {l : List Node} {k : Nat}, countWhile t l = .ok k →
    ∃ a p, l = a ++ p ∧ k = a.length ∧ (∀ n ∈ a, t n = .ok true) ∧
      (∀ x, p.head? = some x → t x = .ok false) := by
  intro l
  induction l with
  | nil => intro k h; cases h; exact ⟨[], [], rfl, rfl, nofun, nofun⟩
  | cons n rest ih =>
    intro k h
    obtain ⟨c, hc, h⟩ := Outcome.bind_eq_ok h
    cases c
    · cases h
      exact ⟨[], n :: rest, rfl, rfl, nofun, fun x hx => by cases hx; exact hc⟩
    · obtain ⟨k', hk', h⟩ := Outcome.bind_eq_ok h
      cases h
      obtain ⟨a, p, e1, e2, h1, h2⟩ := ih hk'
      refine ⟨n :: a, p, by rw [e1]; rfl, by rw [e2]; rfl, fun x hx => ?_, h2⟩
      rcases List.mem_cons.mp hx with rfl | hx
      · exact hc
      · exact h1 x hx

theorem countWhile_of_decomp {t : Node → Outcome Bool} : ∀ (a p : List Node), (∀ n ∈ a, t n = .ok true) →
    (∀ x, p.head? = some x → t x = .ok false) → countWhile t (a ++ p) = .ok a.length := by
  intro a
  induction a with
  | nil =>
    intro p _ hp
    cases p with
    | nil => rfl
    | cons x rest => simp only [List.nil_append, countWhile, hp x rfl, Outcome.bind]; rfl
  | cons n a ih =>
    intro p ha hp
    simp only [List.cons_append, countWhile, ha n (List.mem_cons_self ..),
      ih p (fun x hx => ha x (List.mem_cons_of_mem _ hx)) hp, Outcome.bind, if_true, List.length_cons]

theorem countWhile_ne_fuel {t : Node → Outcome Bool} (ht : ∀ n, t n ≠ .fuel) :
    ∀ l, countWhile t l ≠ .fuel := by
  intro l
  induction l with
  | nil => exact nofun
  | cons n rest ih =>
    refine Outcome.bind_ne_fuel _ _ (ht n) fun c => ?_
    cases c
    · exact nofun
    · exact Outcome.bind_ne_fuel _ _ ih (fun _ => nofun)

theorem countWhile_ok {t : Node → Outcome Bool} : ∀ l : List Node, (∀ n ∈ l, ∃ c, t n = .ok c) →
    ∃ k, countWhile t l = .ok k := by
  intro l
  induction l with
  | nil => intro _; exact ⟨0, rfl⟩
  | cons n rest ih =>
    intro hl
    obtain ⟨c, hc⟩ := hl n (List.mem_cons_self ..)
    obtain ⟨k, hk⟩ := ih fun m hm => hl m (List.mem_cons_of_mem _ hm)
    cases c
    · exact ⟨0, by simp only [countWhile, hc, Outcome.bind]; rfl⟩
    · exact ⟨k + 1, by simp only [countWhile, hc, hk, Outcome.bind, if_true]⟩

theorem countWhile_le {t : Node → Outcome Bool} {l : List Node} {k : Nat} (h : countWhile t l = .ok k) :
    k ≤ l.length := by
  obtain ⟨a, p, e1, e2, -⟩ := countWhile_spec h
  rw [e1, e2, List.length_append]
  exact Nat.le_add_right _ _

theorem countWhile_stop {t : Node → Outcome Bool} {p : List Node} (hp : ∀ x, p.head? = some x → t x = .ok false) :
    ∀ a : List Node, countWhile t (a ++ p) = countWhile t a := by
  intro a
  induction a with
  | nil =>
    cases p with
    | nil => rfl
    | cons x rest => simp only [List.nil_append, countWhile, hp x rfl, Outcome.bind]; rfl
  | cons n a ih => simp only [List.cons_append, countWhile, ih]

theorem noBow_ok {cat : List Nat} {n : Node} {b : Bool} (h : noBow cat n = .ok b) :
    canOovBow cat n = .ok (!b) := by
  obtain ⟨c, hc, h⟩ := Outcome.bind_eq_ok h
  cases h
  rw [hc, Bool.not_not]

theorem noBow_of_ok {cat : List Nat} {n : Node} {c : Bool} (h : canOovBow cat n = .ok c) :
    noBow cat n = .ok (!c) := by
  unfold noBow
  rw [h]
  rfl

theorem countWhile_drop_le {t : Node → Outcome Bool} {q : List Node} {i c : Nat} (hi : i < q.length)
    (h : countWhile t (q.drop (i + 1)) = .ok c) : i + 1 + c ≤ q.length := by
  have := countWhile_le h
  rw [List.length_drop] at this
  omega

/-! ## one iteration: a gate on the node, then three counts on the path -/

/-- what the iteration at index `i` decides once the node there has passed the candidate test and the katakana test:
the katakana nodes directly before `i` (`nl`), directly after it (`nr`), and the leading NOOOVBOW nodes (`ns`) of the
run `[i - nl, i + 1 + nr)` these delimit.  Everything `kstep` reads of the path is here. -/
def krun (cat : List Nat) (path : List Node) (i : Nat) : Outcome KStep :=
  (countWhile (isKatakana cat) (path.take i).reverse).bind fun nl =>
  (countWhile (isKatakana cat) (path.drop (i + 1))).bind fun nr =>
  (countWhile (noBow cat) (block path (i - nl) (i + 1 + nr))).bind fun ns =>
  if i + 1 + nr - (i - nl + ns) > 1 then .ok (.join (i - nl + ns) (i + 1 + nr)) else .ok .next

theorem kstep_eq (cfg : KCfg) (cat : List Nat) (path : List Node) (i : Nat) (node : Node) (hi : i ≤ path.length) :
    kstep cfg cat path i node =
      (if isOov node then Outcome.ok true else isShorter cfg node).bind fun cand =>
      if !cand then .ok .next else
      (isKatakana cat node).bind fun kt => if !kt then .ok .next else krun cat path i := by
  -- the backwards scan answers 0 when it runs off the front of the path: that is `i - nl` too
  have e : ∀ c, (if c = i then 0 else i - c) = i - c := fun c => by split <;> omega
  unfold kstep scanBack scanFwd skipBow krun
  simp only [scanBackL_eq, scanFwdL_eq, skipBowL_eq, Outcome.bind_assoc, Outcome.ok_bind, List.length_reverse,
    List.length_take, Nat.min_eq_left hi, e]

theorem krun_join_bounds {cat : List Nat} {path : List Node} {i b e : Nat} (hi : i < path.length)
    (h : krun cat path i = .ok (.join b e)) : i < e ∧ e ≤ path.length ∧ 1 < e - b := by
  obtain ⟨nl, -, h⟩ := Outcome.bind_eq_ok h
  obtain ⟨nr, hr, h⟩ := Outcome.bind_eq_ok h
  obtain ⟨ns, -, h⟩ := Outcome.bind_eq_ok h
  have := countWhile_drop_le hi hr
  split at h
  · cases h; exact ⟨by omega, this, by assumption⟩
  · cases h

/-! ## the katakana loop, one iteration at a time -/

inductive KNext where
  | done (p : List Node)
  | cont (p : List Node) (i : Nat)

def knext (cfg : KCfg) (cat : List Nat) (path : List Node) (i : Nat) : Outcome KNext :=
  if i ≥ path.length then .ok (.done path)
  else match path[i]? with
    | none => .panic
    | some node =>
      (kstep cfg cat path i node).bind fun s =>
        match s with
        | .next => .ok (.cont path (i + 1))
        | .join b e => (concatOovNodes path b e cfg.oovPos).bind fun p' => .ok (.cont p' (b + 2))

def kcont (cfg : KCfg) (cat : List Nat) (fuel : Nat) : Outcome KNext → Outcome (List Node)
  | .ok (.done p) => .ok p
  | .ok (.cont p j) => kloop cfg cat fuel p j
  | .err => .err
  | .panic => .panic
  | .fuel => .fuel

theorem kloop_succ_eq (cfg : KCfg) (cat : List Nat) (fuel : Nat) (path : List Node) (i : Nat) :
    kloop cfg cat (fuel + 1) path i = kcont cfg cat fuel (knext cfg cat path i) := by
  unfold knext
  by_cases hi : i ≥ path.length
  · simp only [kloop, hi, if_true, kcont]
  · simp only [kloop, if_neg hi]
    cases path[i]? with
    | none => rfl
    | some node =>
      simp only []
      cases kstep cfg cat path i node with
      | ok s =>
        cases s with
        | next => rfl
        | join b e =>
          simp only [Outcome.bind]
          cases concatOovNodes path b e cfg.oovPos <;> rfl
      | err => rfl
      | panic => rfl
      | fuel => rfl

theorem knext_cases {cfg : KCfg} {cat : List Nat} {path : List Node} {i : Nat} {r : KNext}
    (h : knext cfg cat path i = .ok r) :
    (path.length ≤ i ∧ r = .done path) ∨ ∃ node, path[i]? = some node ∧
      ((kstep cfg cat path i node = .ok .next ∧ r = .cont path (i + 1)) ∨
        ∃ b e p', kstep cfg cat path i node = .ok (.join b e) ∧
          concatOovNodes path b e cfg.oovPos = .ok p' ∧ r = .cont p' (b + 2)) := by
  unfold knext at h
  by_cases hi : i ≥ path.length
  · rw [if_pos hi] at h; cases h; exact .inl ⟨hi, rfl⟩
  · rw [if_neg hi] at h
    cases hn : path[i]? with
    | none => rw [hn] at h; cases h
    | some node =>
      rw [hn] at h
      obtain ⟨s, hs, h⟩ := Outcome.bind_eq_ok h
      refine .inr ⟨node, rfl, ?_⟩
      cases s with
      | next => cases h; exact .inl ⟨hs, rfl⟩
      | join b e =>
        obtain ⟨p', hc, h⟩ := Outcome.bind_eq_ok h
        cases h; exact .inr ⟨b, e, p', hs, hc, rfl⟩

theorem kstep_join_parts {cfg : KCfg} {cat : List Nat} {path : List Node} {i : Nat} {node : Node} {b e : Nat}
    (hi : i ≤ path.length) (h : kstep cfg cat path i node = .ok (.join b e)) :
    (isOov node = true ∨ isShorter cfg node = .ok true) ∧ isKatakana cat node = .ok true ∧
      krun cat path i = .ok (.join b e) := by
  rw [kstep_eq cfg cat path i node hi] at h
  obtain ⟨cand, hc, h⟩ := Outcome.bind_eq_ok h
  cases cand
  · cases h
  obtain ⟨kt, hk, h⟩ := Outcome.bind_eq_ok h
  cases kt
  · cases h
  refine ⟨?_, hk, h⟩
  by_cases ho : isOov node = true
  · exact .inl ho
  · rw [if_neg ho] at hc; exact .inr hc

theorem knext_cont_bounds {cfg : KCfg} {cat : List Nat} {path p : List Node} {i j : Nat}
    (h : knext cfg cat path i = .ok (.cont p j)) :
    j ≤ p.length + 1 ∧ p.length - j < path.length - i := by
  rcases knext_cases h with ⟨-, h⟩ | ⟨node, hn, ⟨-, h⟩ | ⟨b, e, p', hs, hc, h⟩⟩
  · cases h
  · cases h
    have := (List.getElem?_eq_some_iff.mp hn).1
    omega
  · cases h
    have hi := (List.getElem?_eq_some_iff.mp hn).1
    have := (krun_join_bounds hi (kstep_join_parts (Nat.le_of_lt hi) hs).2.2).1
    obtain ⟨f, l, hbe, he, _, _, rfl⟩ := concatOovNodes_ok hc
    simp only [List.length_append, List.length_take, List.length_cons, List.length_drop]
    omega

/-! ## termination of the katakana loop -/

theorem isKatakana_ne_fuel (cat : List Nat) (n : Node) : isKatakana cat n ≠ .fuel := by
  unfold isKatakana; split <;> (intro h; cases h)

theorem canOovBow_ne_fuel (cat : List Nat) (n : Node) : canOovBow cat n ≠ .fuel := by
  unfold canOovBow; split <;> (intro h; cases h)

theorem isShorter_ne_fuel (cfg : KCfg) (n : Node) : isShorter cfg n ≠ .fuel := by
  unfold isShorter; split <;> (intro h; cases h)

theorem noBow_ne_fuel (cat : List Nat) (n : Node) : noBow cat n ≠ .fuel :=
  Outcome.bind_ne_fuel _ _ (canOovBow_ne_fuel cat n) (fun _ => nofun)

theorem krun_ne_fuel (cat : List Nat) (path : List Node) (i : Nat) : krun cat path i ≠ .fuel :=
  Outcome.bind_ne_fuel _ _ (countWhile_ne_fuel (isKatakana_ne_fuel cat) _) fun _ =>
    Outcome.bind_ne_fuel _ _ (countWhile_ne_fuel (isKatakana_ne_fuel cat) _) fun _ =>
      Outcome.bind_ne_fuel _ _ (countWhile_ne_fuel (noBow_ne_fuel cat) _) fun _ => by split <;> exact nofun

theorem kstep_ne_fuel (cfg : KCfg) (cat : List Nat) (path : List Node) (i : Nat) (node : Node)
    (hi : i ≤ path.length) : kstep cfg cat path i node ≠ .fuel := by
  rw [kstep_eq cfg cat path i node hi]
  refine Outcome.bind_ne_fuel _ _ ?_ fun cand => ?_
  · split
    · exact nofun
    · exact isShorter_ne_fuel cfg node
  · split
    · exact nofun
    · refine Outcome.bind_ne_fuel _ _ (isKatakana_ne_fuel cat node) fun kt => ?_
      split
      · exact nofun
      · exact krun_ne_fuel cat path i

theorem knext_ne_fuel (cfg : KCfg) (cat : List Nat) (path : List Node) (i : Nat) :
    knext cfg cat path i ≠ .fuel := by
  unfold knext
  split
  · exact nofun
  · rename_i hi
    split
    · exact nofun
    · apply Outcome.bind_ne_fuel _ _ (kstep_ne_fuel _ _ _ _ _ (by omega))
      intro s
      cases s with
      | next => exact nofun
      | join b e => exact Outcome.bind_ne_fuel _ _ (concatWith_ne_fuel (mergedOovNode · · · _) _ _ _) (fun _ => nofun)

theorem kloop_terminates (cfg : KCfg) (cat : List Nat) :
    ∀ (fuel : Nat) (path : List Node) (i : Nat), path.length - i < fuel →
      kloop cfg cat fuel path i ≠ .fuel := by
  intro fuel
  induction fuel with
  | zero => intro path i h; omega
  | succ fuel ih =>
    intro path i hlt
    rw [kloop_succ_eq]
    cases hk : knext cfg cat path i with
    | ok r =>
      cases r with
      | done p => exact nofun
      | cont p j => exact ih p j (by have := (knext_cont_bounds hk).2; omega)
    | err => exact nofun
    | panic => exact nofun
    | fuel => exact absurd hk (knext_ne_fuel _ _ _ _)

/-! ## `minLength` -/

theorem kstep_not_candidate (cfg : KCfg) (cat : List Nat) (path : List Node) (i : Nat) (node : Node)
    (ho : isOov node = false) (hbe : node.b ≤ node.e) (hl : cfg.minLength ≤ node.e - node.b) :
    kstep cfg cat path i node = .ok .next := by
  unfold kstep
  have : isShorter cfg node = .ok false := by
    unfold isShorter
    rw [if_neg (by omega)]
    congr 1
    simp only [decide_eq_false_iff_not]
    omega
  simp [ho, this, Outcome.bind]

/-! ## which block is joined (start-of-run rule, NOOOVBOW) -/

/-- The decision of `rewrite_gen` for the node at index `i`, in one statement: when it joins `[b, e)`,
the path reads `pre ++ skipped ++ blk ++ post` where `skipped ++ blk` is the MAXIMAL run of katakana
nodes around `i` (the node before it and the node after it, if any, are not katakana), `skipped` are
the leading nodes of the run that begin with a NOOOVBOW character, `blk` — the joined block — begins
with a node that may begin an OOV word, has at least two nodes, and the node at `i`, which lies in the
run, is OOV or shorter than `minLength`. -/
theorem kstep_join_spec (cfg : KCfg) (cat : List Nat) (path : List Node) (i : Nat) (node : Node) (b e : Nat)
    (hn : path[i]? = some node) (h : kstep cfg cat path i node = .ok (.join b e)) :
    ∃ pre skipped blk post, path = pre ++ skipped ++ blk ++ post ∧
      b = pre.length + skipped.length ∧ e = b + blk.length ∧ 2 ≤ blk.length ∧ block path b e = blk ∧
      (∀ n ∈ skipped, isKatakana cat n = .ok true ∧ canOovBow cat n = .ok false) ∧
      (∀ n ∈ blk, isKatakana cat n = .ok true) ∧
      (∀ x, blk.head? = some x → canOovBow cat x = .ok true) ∧
      (∀ x, pre.getLast? = some x → isKatakana cat x = .ok false) ∧
      (∀ x, post.head? = some x → isKatakana cat x = .ok false) ∧
      pre.length ≤ i ∧ i < e ∧ (isOov node = true ∨ isShorter cfg node = .ok true) := by
  obtain ⟨hi, hnode⟩ := List.getElem?_eq_some_iff.mp hn
  obtain ⟨hcand, hkat, h⟩ := kstep_join_parts (Nat.le_of_lt hi) h
  obtain ⟨nl, hl, h⟩ := Outcome.bind_eq_ok h
  obtain ⟨nr, hr, h⟩ := Outcome.bind_eq_ok h
  obtain ⟨ns, hs, h⟩ := Outcome.bind_eq_ok h
  -- the maximal run around `i` is `r1 ++ node :: r2`
  obtain ⟨r1', p', e1, rfl, hr1, hpre⟩ := countWhile_spec hl
  obtain ⟨r2, post, e2, rfl, hr2, hpost⟩ := countWhile_spec hr
  have e1 : path.take i = p'.reverse ++ r1'.reverse := by
    rw [← List.reverse_append, ← e1, List.reverse_reverse]
  rw [← List.length_reverse (as := r1')] at hs h
  replace hpre : ∀ x, p'.reverse.getLast? = some x → isKatakana cat x = .ok false :=
    fun x hx => hpre x (List.getLast?_reverse ▸ hx)
  replace hr1 : ∀ n ∈ r1'.reverse, isKatakana cat n = .ok true := fun n hn => hr1 n (List.mem_reverse.mp hn)
  -- the lists are generalised and the index arithmetic done by named rewrites: `omega` in a context full of
  -- `.reverse.length`, `min` and `(_ ++ _).length` is slow to check here
  generalize p'.reverse = pre at e1 hpre
  generalize r1'.reverse = r1 at e1 hr1 hs h
  have hil : i = pre.length + r1.length := by
    have := congrArg List.length e1
    rwa [List.length_take, Nat.min_eq_left (Nat.le_of_lt hi), List.length_append] at this
  have hpath : path = pre ++ (r1 ++ node :: r2) ++ post := by
    conv => lhs; rw [← List.take_append_drop i path, e1, List.drop_eq_getElem_cons hi, hnode, e2]
    simp only [List.append_assoc, List.cons_append]
  have hrun : ∀ n ∈ r1 ++ node :: r2, isKatakana cat n = .ok true := by
    intro n hn
    rcases List.mem_append.mp hn with h1 | h1
    · exact hr1 n h1
    · rcases List.mem_cons.mp h1 with rfl | h1
      · exact hkat
      · exact hr2 n h1
  have hb0 : i - r1.length = pre.length := by omega
  have he0 : i + 1 + r2.length = pre.length + (r1 ++ node :: r2).length := by
    rw [List.length_append, List.length_cons]; omega
  have hir : i < pre.length + (r1 ++ node :: r2).length := by omega
  rw [hb0, he0] at hs h
  generalize r1 ++ node :: r2 = run at hpath hrun hs h hir
  subst hpath
  -- its leading NOOOVBOW nodes are `s`
  rw [block_of_decomp _ _ _ rfl rfl] at hs
  obtain ⟨s, t, rfl, rfl, hsk, ht⟩ := countWhile_spec hs
  rw [List.length_append, ← Nat.add_assoc] at h hir
  split at h
  · rename_i hgt
    cases h
    rw [Nat.add_sub_cancel_left] at hgt
    exact ⟨pre, s, t, post, by rw [List.append_assoc pre s t], rfl, rfl, hgt,
      by rw [← List.append_assoc pre s t]; exact block_of_decomp _ _ _ List.length_append.symm rfl,
      fun n hn => ⟨hrun n (List.mem_append_left _ hn), noBow_ok (hsk n hn)⟩,
      fun n hn => hrun n (List.mem_append_right _ hn), fun x hx => noBow_ok (ht x hx), hpre, hpost,
      hil ▸ Nat.le_add_right _ _, hir, hcand⟩
  · cases h

/-! ## class facts about every merged block, through the whole loop -/

def RKc (cfg : KCfg) (cat : List Nat) (blk : List Node) (m : Node) : Prop :=
  RK cfg blk m ∧ canOovBow cat m = .ok true ∧ ∀ n ∈ blk, isKatakana cat n = .ok true

theorem RKc_compositional (cfg : KCfg) (cat : List Nat) : Compositional (RKc cfg cat) := by
  intro p blk m hc hs h
  refine ⟨RK_compositional cfg p blk m (hc.mono (fun _ _ h => h.1)) hs h.1, h.2.1, ?_⟩
  exact hc.forall_left (fun _ _ hr => hr.2.2) h.2.2

theorem concatOovNodes_coarsens_cat (cfg : KCfg) (cat : List Nat) {path : List Node} {i b e : Nat}
    {node : Node} {q : List Node} (hn : path[i]? = some node)
    (hk : kstep cfg cat path i node = .ok (.join b e))
    (h : concatOovNodes path b e cfg.oovPos = .ok q) : Coarsens (RKc cfg cat) path q := by
  obtain ⟨pre, sk, blk, post, _, _, _, h2, hblk, _, hkat, hbow, _, _, _, _, _⟩ :=
    kstep_join_spec cfg cat path i node b e hn hk
  refine concatWith_coarsens (merges_mergedOovNode _) h fun f l hbe _ hf => ?_
  have hhead := block_head path b e hbe f hf
  rw [hblk] at hhead ⊢
  exact ⟨⟨rfl, rfl, rfl, h2, rfl, rfl, rfl, rfl, rfl, rfl, rfl, rfl⟩, hbow f hhead, hkat⟩

theorem kloop_coarsens_cat (cfg : KCfg) (cat : List Nat) (fuel : Nat) (path : List Node) (i : Nat) (q : List Node)
    (h : kloop cfg cat fuel path i = .ok q) : Coarsens (RKc cfg cat) path q := by
  fun_induction kloop cfg cat fuel path i with
  | case2 => cases h; exact Coarsens.refl _
  | case4 _ _ _ _ _ _ _ ih => exact ih h
  | case5 _ _ _ _ _ hn _ _ hs _ hc ih =>
    exact (ih h).trans (RKc_compositional cfg cat) (concatOovNodes_coarsens_cat cfg cat hn hs hc)
  | case1 | case3 | case6 | case7 | case8 | case9 | case10 | case11 => cases h

theorem kloop_coarsens (cfg : KCfg) (cat : List Nat) (fuel : Nat) (path : List Node) (i : Nat) (q : List Node)
    (h : kloop cfg cat fuel path i = .ok q) : Coarsens (RK cfg) path q :=
  (kloop_coarsens_cat cfg cat fuel path i q h).mono fun _ _ hr => hr.1

/-! ## idempotence

Everything from here to the end of the file serves `kloop_settles` and `kloop_of_settled`: the loop body on a maximal
katakana run (`kstep_on_run`), its locality, the state after a join (`join_settled`), and the loop. -/

/-! ## well-formed paths, settled indices -/

/-- what `num_codepts()` (usize `end - begin`) needs, of the nodes and of every token a join may make: a merged node
takes `b` from the first and `e` from the last node of its block, and the NEXT run evaluates `num_codepts()` of it -/
def KWF (path : List Node) : Prop := (∀ n ∈ path, n.b ≤ n.e) ∧ path.Pairwise (fun a c => a.b ≤ c.e)

def Settled (cfg : KCfg) (cat : List Nat) (path : List Node) (j : Nat) : Prop :=
  ∀ node, path[j]? = some node → kstep cfg cat path j node = .ok .next

/-! ## one loop iteration on a maximal katakana run -/

theorem krun_on_run (cat : List Nat) (pre s t post : List Node) (k : Nat)
    (hpre : ∀ x, pre.getLast? = some x → isKatakana cat x = .ok false)
    (hs : ∀ n ∈ s, isKatakana cat n = .ok true ∧ canOovBow cat n = .ok false)
    (ht : ∀ n ∈ t, isKatakana cat n = .ok true)
    (hth : ∀ x, t.head? = some x → canOovBow cat x = .ok true)
    (hpost : ∀ x, post.head? = some x → isKatakana cat x = .ok false)
    (hk : k < (s ++ t).length) :
    krun cat (pre ++ s ++ t ++ post) (pre.length + k) =
      if t.length > 1 then .ok (.join (pre.length + s.length) (pre.length + s.length + t.length))
      else .ok .next := by
  have hst : ∀ n ∈ s ++ t, isKatakana cat n = .ok true := fun n hn =>
    (List.mem_append.mp hn).elim (fun h => (hs n h).1) (ht n)
  -- `s ++ t` is generalised and every index equation is a named rewrite, not `omega` on the goal: slow to check otherwise
  generalize hrun : s ++ t = run at hk hst
  have htake : (pre ++ run ++ post).take (pre.length + k) = pre ++ run.take k := by
    rw [List.append_assoc, List.take_length_add_append, List.take_append_of_le_length (Nat.le_of_lt hk)]
  have hdrop : (pre ++ run ++ post).drop (pre.length + k + 1) = run.drop (k + 1) ++ post := by
    rw [List.append_assoc, Nat.add_assoc, List.drop_length_add_append, List.drop_append_of_le_length hk]
  have e1 : pre.length + k + 1 + (run.length - (k + 1)) = pre.length + run.length := by omega
  unfold krun
  rw [List.append_assoc pre s t, hrun, htake, hdrop, List.reverse_append,
    countWhile_of_decomp _ _ (fun n hn => hst n (List.mem_of_mem_take (List.mem_reverse.mp hn)))
      (fun x hx => hpre x (List.head?_reverse ▸ hx)),
    countWhile_of_decomp _ _ (fun n hn => hst n (List.mem_of_mem_drop hn)) hpost,
    Outcome.ok_bind, Outcome.ok_bind, List.length_reverse, List.length_take, List.length_drop,
    Nat.min_eq_left (Nat.le_of_lt hk), Nat.add_sub_cancel, e1, block_of_decomp pre run post rfl rfl, ← hrun,
    countWhile_of_decomp s t (fun n hn => noBow_of_ok (hs n hn).2) (fun x hx => noBow_of_ok (hth x hx)),
    Outcome.ok_bind, List.length_append, ← Nat.add_assoc, Nat.add_sub_cancel_left]

/-- FULL characterisation of the loop body for a node of a maximal katakana run `s ++ t`, where `s` are
the leading nodes that may not begin an OOV word: the run's tail `t` is joined iff the node is a
candidate (OOV or shorter than `minLength`) and `t` has at least two nodes -/
theorem kstep_on_run (cfg : KCfg) (cat : List Nat) (pre s t post : List Node) (k : Nat) (node : Node)
    (hpre : ∀ x, pre.getLast? = some x → isKatakana cat x = .ok false)
    (hs : ∀ n ∈ s, isKatakana cat n = .ok true ∧ canOovBow cat n = .ok false)
    (ht : ∀ n ∈ t, isKatakana cat n = .ok true)
    (hth : ∀ x, t.head? = some x → canOovBow cat x = .ok true)
    (hpost : ∀ x, post.head? = some x → isKatakana cat x = .ok false)
    (hk : (s ++ t)[k]? = some node) :
    kstep cfg cat (pre ++ s ++ t ++ post) (pre.length + k) node =
      (if isOov node then Outcome.ok true else isShorter cfg node).bind fun cand =>
        if !cand then .ok .next
        else if t.length > 1 then
          .ok (.join (pre.length + s.length) (pre.length + s.length + t.length))
        else .ok .next := by
  obtain ⟨hklt, -⟩ := List.getElem?_eq_some_iff.mp hk
  have hnode : isKatakana cat node = .ok true :=
    (List.mem_append.mp (List.mem_of_getElem? hk)).elim (fun h => (hs node h).1) (ht node)
  rw [kstep_eq cfg cat _ _ node (by simp only [List.length_append] at hklt ⊢; omega), hnode,
    krun_on_run cat pre s t post k hpre hs ht hth hpost hklt]
  rfl

theorem cand_ok (cfg : KCfg) (node : Node) (h : node.b ≤ node.e) :
    ∃ c, (if isOov node then Outcome.ok true else isShorter cfg node) = .ok c := by
  cases isOov node
  · refine ⟨decide (node.e - node.b < cfg.minLength), ?_⟩
    unfold isShorter
    simp only [Bool.false_eq_true, if_false]
    rw [if_neg (by omega)]
  · exact ⟨true, by simp⟩

theorem kstep_on_short_run (cfg : KCfg) (cat : List Nat) (pre s t post : List Node) (k : Nat) (node : Node)
    (hpre : ∀ x, pre.getLast? = some x → isKatakana cat x = .ok false)
    (hs : ∀ n ∈ s, isKatakana cat n = .ok true ∧ canOovBow cat n = .ok false)
    (ht : ∀ n ∈ t, isKatakana cat n = .ok true)
    (hth : ∀ x, t.head? = some x → canOovBow cat x = .ok true)
    (hpost : ∀ x, post.head? = some x → isKatakana cat x = .ok false)
    (ht1 : t.length ≤ 1) (hk : k < (s ++ t).length) (hbe : node.b ≤ node.e)
    (hn : (pre ++ s ++ t ++ post)[pre.length + k]? = some node) :
    kstep cfg cat (pre ++ s ++ t ++ post) (pre.length + k) node = .ok .next := by
  rw [List.append_assoc pre, getElem?_mid pre (s ++ t) post k hk] at hn
  obtain ⟨c, hc⟩ := cand_ok cfg node hbe
  rw [kstep_on_run cfg cat pre s t post k node hpre hs ht hth hpost hn, hc]
  cases c
  · rfl
  · exact if_neg (Nat.not_lt.mpr ht1)

theorem kstep_eq_of_not_katakana (cfg : KCfg) (cat : List Nat) (path : List Node) (j : Nat) (node : Node)
    (hk : isKatakana cat node = .ok false) :
    kstep cfg cat path j node =
      (if isOov node then Outcome.ok true else isShorter cfg node).bind fun _ => .ok .next := by
  unfold kstep
  congr 1
  funext cand
  cases cand
  · rfl
  · simp [hk, Outcome.bind]

theorem kstep_not_katakana (cfg : KCfg) (cat : List Nat) (path : List Node) (j : Nat) (node : Node)
    (hk : isKatakana cat node = .ok false) (hbe : node.b ≤ node.e) :
    kstep cfg cat path j node = .ok .next := by
  rw [kstep_eq_of_not_katakana cfg cat path j node hk]
  obtain ⟨c, hc⟩ := cand_ok cfg node hbe
  rw [hc]
  rfl

/-! ## locality: the loop body before a non-katakana node does not see what follows that node -/

theorem krun_left (cat : List Nat) (a r : List Node) (x : Node) (i : Nat)
    (hx : isKatakana cat x = .ok false) (hi : i < a.length) :
    krun cat (a ++ x :: r) i = krun cat a i := by
  unfold krun
  rw [List.take_append_of_le_length (by omega), List.drop_append_of_le_length (by omega),
    countWhile_stop (fun y hy => by cases hy; exact hx)]
  refine Outcome.bind_congr fun nl _ => Outcome.bind_congr fun nr hnr => ?_
  rw [block_append_left _ _ _ _ (countWhile_drop_le hi hnr)]

theorem kstep_left (cfg : KCfg) (cat : List Nat) (a r : List Node) (x : Node) (i : Nat) (node : Node)
    (hx : isKatakana cat x = .ok false) (hi : i < a.length) :
    kstep cfg cat (a ++ x :: r) i node = kstep cfg cat a i node := by
  rw [kstep_eq cfg cat _ i node (by simp only [List.length_append]; omega), krun_left cat a r x i hx hi,
    kstep_eq cfg cat a i node (by omega)]

/-- … and up to and including a non-katakana node it does not see what follows that node -/
theorem kstep_prefix_local (cfg : KCfg) (cat : List Nat) (pre r1 r2 : List Node) (j : Nat) (node : Node)
    (hpre : ∀ x, pre.getLast? = some x → isKatakana cat x = .ok false)
    (hj : pre[j]? = some node) :
    kstep cfg cat (pre ++ r1) j node = kstep cfg cat (pre ++ r2) j node := by
  cases hl : pre.getLast? with
  | none =>
    rw [List.getLast?_eq_none_iff] at hl
    subst hl
    cases hj
  | some x =>
    obtain ⟨pre0, rfl⟩ := List.getLast?_eq_some_iff.mp hl
    have hx := hpre x hl
    have hjl := (List.getElem?_eq_some_iff.mp hj).1
    rw [List.length_append, List.length_singleton] at hjl
    rw [List.append_assoc, List.append_assoc, List.singleton_append, List.singleton_append]
    by_cases hlt : j < pre0.length
    · rw [kstep_left cfg cat pre0 r1 x j node hx hlt, kstep_left cfg cat pre0 r2 x j node hx hlt]
    · rw [show j = pre0.length by omega, List.getElem?_append_right (Nat.le_refl _), Nat.sub_self] at hj
      cases hj
      rw [kstep_eq_of_not_katakana cfg cat _ _ _ hx, kstep_eq_of_not_katakana cfg cat _ _ _ hx]

/-! ## replacing a block keeps `KWF` -/

theorem isKatakana_true_bounds (cat : List Nat) (n : Node) (h : isKatakana cat n = .ok true) :
    n.b < n.e ∧ n.e ≤ cat.length := by
  by_cases hbe : n.b ≥ n.e
  · exfalso
    unfold isKatakana catOfRange at h
    rw [if_pos hbe] at h
    simp only [Outcome.ok.injEq] at h
    revert h
    decide
  · by_cases hl : n.e > cat.length
    · unfold isKatakana catOfRange at h
      rw [if_neg hbe, if_pos hl] at h
      cases h
    · omega

theorem isKatakana_ok_of_bounds (cat : List Nat) (n : Node) (h : n.e ≤ n.b ∨ n.e ≤ cat.length) :
    ∃ kt, isKatakana cat n = .ok kt := by
  unfold isKatakana catOfRange
  by_cases hbe : n.b ≥ n.e
  · rw [if_pos hbe]; exact ⟨_, rfl⟩
  · rw [if_neg hbe, if_neg (by omega)]; exact ⟨_, rfl⟩

theorem KWF.replace_block {a blk c : List Node} {f l m : Node} (hwf : KWF (a ++ blk ++ c))
    (hf : blk.head? = some f) (hl : blk.getLast? = some l) (hmb : m.b = f.b) (hme : m.e = l.e) :
    KWF (a ++ m :: c) := by
  obtain ⟨hwf1, hwf2⟩ := hwf
  rw [List.pairwise_append, List.pairwise_append] at hwf2
  obtain ⟨⟨hpw1, hpw2, hx1⟩, hpw3, hx2⟩ := hwf2
  have hfm : f ∈ blk := List.mem_of_head? hf
  have hlm : l ∈ blk := List.mem_of_getLast? hl
  have hfl : f.b ≤ l.e := by
    obtain ⟨rest, rfl⟩ := List.head?_eq_some_iff.mp hf
    by_cases hne : rest = []
    · subst hne
      cases hl
      exact hwf1 f (List.mem_append_left _ (List.mem_append_right _ hfm))
    · rw [List.getLast?_cons_of_ne_nil hne] at hl
      exact (List.pairwise_cons.mp hpw2).1 l (List.mem_of_getLast? hl)
  constructor
  · intro n hn
    rcases List.mem_append.mp hn with h | h
    · exact hwf1 n (List.mem_append_left _ (List.mem_append_left _ h))
    · rcases List.mem_cons.mp h with rfl | h
      · rw [hmb, hme]; exact hfl
      · exact hwf1 n (List.mem_append_right _ h)
  · rw [List.pairwise_append, List.pairwise_cons]
    refine ⟨hpw1, ⟨?_, hpw3⟩, ?_⟩
    · intro c' hc'
      rw [hmb]
      exact hx2 f (List.mem_append_right _ hfm) c' hc'
    · intro a' ha c' hc'
      rcases List.mem_cons.mp hc' with rfl | hc'
      · rw [hme]; exact hx1 a' ha l hlm
      · exact hx2 a' (List.mem_append_left _ ha) c' hc'

/-! ## the key lemma: after a join, everything up to and including the node after the merged node is
settled, and the path is still well-formed -/

theorem join_settled (cfg : KCfg) (cat : List Nat) (path : List Node) (i : Nat) (node : Node)
    (b e : Nat) (p' : List Node) (hwf : KWF path) (hn : path[i]? = some node)
    (hk : kstep cfg cat path i node = .ok (.join b e))
    (hc : concatOovNodes path b e cfg.oovPos = .ok p')
    (hset : ∀ j < i, Settled cfg cat path j) :
    KWF p' ∧ ∀ j < b + 2, Settled cfg cat p' j := by
  obtain ⟨pre, sk, blk, post, hpath, hb, he, h2, hblk, hsk, hkat, hbow, hpre, hpost, hpi, _, _⟩ :=
    kstep_join_spec cfg cat path i node b e hn hk
  obtain ⟨f, l, hbe, hel, hf, hl, hp'⟩ := concatOovNodes_ok hc
  have hfh : blk.head? = some f := hblk ▸ block_head path b e hbe f hf
  have hll : blk.getLast? = some l := hblk ▸ block_getLast path b e hbe l hl
  have htake : path.take b = pre ++ sk := by
    rw [hpath, List.append_assoc (pre ++ sk)]
    exact List.take_left' (by simp only [List.length_append]; omega)
  have hdrop : path.drop e = post := by
    rw [hpath]
    exact List.drop_left' (by simp only [List.length_append]; omega)
  rw [hblk, htake, hdrop] at hp'
  generalize hm : mergedOovNode f l blk cfg.oovPos = m at hp'
  have hmb : m.b = f.b := by rw [← hm]; rfl
  have hme : m.e = l.e := by rw [← hm]; rfl
  have hwf' : KWF p' := by
    rw [hp']
    exact (hpath ▸ hwf).replace_block hfh hll hmb hme
  refine ⟨hwf', ?_⟩
  have hmbow : canOovBow cat m = .ok true := by
    have : canOovBow cat m = canOovBow cat f := by
      unfold canOovBow; rw [hmb]
    rw [this]; exact hbow f hfh
  obtain ⟨kt, hmk⟩ : ∃ kt, isKatakana cat m = .ok kt := by
    apply isKatakana_ok_of_bounds
    right
    rw [hme]
    exact (isKatakana_true_bounds cat l (hkat l (List.mem_of_getLast? hll))).2
  -- by the position of `j`: inside `pre`, among the skipped nodes, the merged node, the node after it
  intro j hj node' hn'
  have hnwf : node'.b ≤ node'.e := hwf'.1 node' (List.mem_of_getElem? hn')
  rw [hp'] at hn' ⊢
  by_cases hj1 : j < pre.length
  · -- inside `pre`: locality
    have hpj : pre[j]? = some node' := by
      rw [List.append_assoc, List.getElem?_append_left hj1] at hn'
      exact hn'
    have hold : path[j]? = some node' := by
      rw [hpath, List.append_assoc, List.append_assoc, List.getElem?_append_left hj1]
      exact hpj
    have := hset j (by omega) node' hold
    rw [hpath] at this
    rw [← this, List.append_assoc, List.append_assoc, List.append_assoc]
    exact kstep_prefix_local cfg cat pre _ _ j node' hpre hpj
  · obtain ⟨k, rfl⟩ := Nat.exists_eq_add_of_le (Nat.le_of_not_lt hj1)
    by_cases hj2 : k = sk.length + 1
    · rw [hj2, ← Nat.add_assoc, ← List.length_append, List.getElem?_append_right (Nat.le_add_right _ 1),
        Nat.add_sub_cancel_left, List.getElem?_cons_succ, ← List.head?_eq_getElem?] at hn'
      exact kstep_not_katakana cfg cat _ _ node' (hpost node' hn') hnwf
    · cases kt with
      | true =>
        -- the merged node is katakana: skipped nodes and merged node form the run `sk ++ [m]`
        rw [show pre ++ sk ++ m :: post = pre ++ sk ++ [m] ++ post by simp] at hn' ⊢
        exact kstep_on_short_run cfg cat pre sk [m] post k node' hpre hsk
          (by intro n hn''; rw [List.mem_singleton.mp hn'']; exact hmk)
          (by intro x hx; cases hx; exact hmbow) hpost (Nat.le_refl 1)
          (by simp only [List.length_append, List.length_singleton]; omega) hnwf hn'
      | false =>
        by_cases hj3 : k = sk.length
        · rw [hj3, ← List.length_append, List.getElem?_append_right (Nat.le_refl _), Nat.sub_self] at hn'
          cases hn'
          exact kstep_not_katakana cfg cat _ _ _ hmk hnwf
        · -- the skipped nodes: the run is `sk`
          rw [show pre ++ sk ++ m :: post = pre ++ sk ++ [] ++ m :: post by simp] at hn' ⊢
          exact kstep_on_short_run cfg cat pre sk [] (m :: post) k node' hpre hsk
            (by intro n hn''; cases hn'') (by intro x hx; cases hx)
            (by intro x hx; cases hx; exact hmk) (Nat.zero_le 1)
            (by simp only [List.length_append, List.length_nil]; omega) hnwf hn'

/-! ## a settled path is a fixed point; the loop settles every index -/

theorem kloop_of_settled (cfg : KCfg) (cat : List Nat) (q : List Node)
    (hset : ∀ j, Settled cfg cat q j) :
    ∀ (fuel i : Nat), q.length - i < fuel → kloop cfg cat fuel q i = .ok q := by
  intro fuel
  induction fuel with
  | zero => intro i hf; omega
  | succ fuel ih =>
    intro i hf
    unfold kloop
    by_cases hi : i ≥ q.length
    · rw [if_pos hi]
    · rw [if_neg hi]
      have hlt : i < q.length := by omega
      rw [List.getElem?_eq_getElem hlt]
      dsimp only
      rw [hset i _ (List.getElem?_eq_getElem hlt)]
      dsimp only
      exact ih (i + 1) (by omega)

theorem joinKatakana_of_settled (cfg : KCfg) (cat : List Nat) (q : List Node)
    (hset : ∀ j, Settled cfg cat q j) : joinKatakana cfg cat q = .ok q := by
  unfold joinKatakana
  exact kloop_of_settled cfg cat q hset (kFuel q) 0 (by unfold kFuel; omega)

/-- loop invariant: everything before the loop index is settled; at the end everything is -/
theorem kloop_settles (cfg : KCfg) (cat : List Nat) (fuel : Nat) (path : List Node) (i : Nat) (q : List Node)
    (h : kloop cfg cat fuel path i = .ok q) (hwf : KWF path) (hset : ∀ j < i, Settled cfg cat path j) :
    ∀ j, Settled cfg cat q j := by
  fun_induction kloop cfg cat fuel path i with
  | case2 _ path i hi =>
    cases h
    intro j
    by_cases hj : j < i
    · exact hset j hj
    · intro node hn
      rw [List.getElem?_eq_none (by omega)] at hn
      cases hn
  | case4 _ path i _ node hn hk ih =>
    refine ih h hwf fun j hj => ?_
    by_cases hji : j < i
    · exact hset j hji
    · have : j = i := by omega
      subst this
      intro node' hn'
      rw [hn] at hn'
      cases hn'
      exact hk
  | case5 _ path i _ node hn b e hk p' hc ih =>
    obtain ⟨hwf', hs'⟩ := join_settled cfg cat path i node b e p' hwf hn hk hc hset
    exact ih h hwf' hs'
  | case1 | case3 | case6 | case7 | case8 | case9 | case10 | case11 => cases h

/-! ## real paths are contiguous, hence well-formed and ordered -/

theorem contig_head_le (a : Node) : ∀ (rest : List Node), Contig (a :: rest) →
    (∀ n ∈ a :: rest, n.b ≤ n.e) → ∀ c ∈ rest, a.b ≤ c.e := by
  intro rest
  induction rest generalizing a with
  | nil => intro _ _ c hc; cases hc
  | cons x rest ih =>
    intro hc hb c hcm
    obtain ⟨h1, _, h3⟩ := hc
    have ha := hb a (by simp)
    have hx := hb x (by simp)
    rcases List.mem_cons.mp hcm with rfl | hcm
    · omega
    · have := ih x h3 (fun n hn => hb n (List.mem_cons_of_mem _ hn)) c hcm
      omega

theorem kwf_of_contig (path : List Node) (hc : Contig path) (hb : ∀ n ∈ path, n.b ≤ n.e) :
    KWF path := by
  refine ⟨hb, ?_⟩
  induction path with
  | nil => exact List.Pairwise.nil
  | cons a rest ih =>
    rw [List.pairwise_cons]
    exact ⟨contig_head_le a rest hc hb, ih hc.tail (fun n hn => hb n (List.mem_cons_of_mem _ hn))⟩

end Rewrite
