import Sudachi.Model.CodecBuild
import Sudachi.Proofs.CodecDec
/-!
# The CSV FIELD layer of the dictionary builder (property C05)

`dic/build/parse.rs` (`unescape`, number / id parsers, slash lists), `lexicon.rs` (`parse_split(s)`, `pos_of`,
`parse_record`) and `resolve.rs` (the inline-reference resolver) as modelled in `Model/CodecBuild.lean`, against
the REFERENCE RENDERER the generator of the harness uses (`esc_text`, `to_string`, `join("/")`): for each
column `parser (render x) = some x` within the limits of the column, put together in `parseRecord_fields` for a whole
declared row (`DeclRow`).
-/
namespace Codec
open Wire (allSome_eq_some_iff allSome_map_some)

/-! ## `unescape`: one step of the scan (`unescapeGo`) on each form of text -/

/-- the text after `\u` has the shape of a literal: `{` 1..6 hex digits `}`, or 4 hex digits
(`UNICODE_LITERAL = \\u(?:\{([0-9a-fA-F]{1,6})\}|([0-9a-fA-F]{4}))`) -/
def escShape (rest : Str) : Bool :=
  match rest with
  | 123 :: r2 =>
    let h := r2.takeWhile isHex
    decide (1 ≤ h.length ∧ h.length ≤ 6 ∧ (r2.drop h.length).head? = some 125)
  | _ => decide ((rest.take 4).length = 4 ∧ (rest.take 4).all isHex)

/-- the text after a backslash begins a literal -/
def startsEsc (t : Str) : Bool :=
  match t with
  | 117 :: r => escShape r
  | _ => false

theorem unescapeGo_nil (f : Nat) : unescapeGo f [] = some [] := by
  cases f <;> rfl

theorem unescapeGo_plain (f : Nat) (c : Nat) (rest : Str) (hc : c ≠ 92) :
    unescapeGo (f + 1) (c :: rest) = (unescapeGo f rest).map (c :: ·) :=
  unescapeGo.eq_5 f c rest (fun _ e _ => hc e)

/-- a backslash that does not begin a literal is copied (the regex finds no match at this position) -/
theorem unescapeGo_backslash (f : Nat) (rest : Str) (h : startsEsc rest = false) :
    unescapeGo (f + 1) (92 :: rest) = (unescapeGo f rest).map (92 :: ·) := by
  by_cases h1 : ∃ r, rest = 117 :: r
  · obtain ⟨r, rfl⟩ := h1
    by_cases h2 : ∃ r2, r = 123 :: r2
    · obtain ⟨r2, rfl⟩ := h2
      exact (unescapeGo.eq_3 f r2).trans (if_neg (of_decide_eq_false h))
    · have n2 : ∀ r2, r = 123 :: r2 → False := fun r2 e => h2 ⟨r2, e⟩
      rw [startsEsc, escShape.eq_2 r n2] at h
      exact (unescapeGo.eq_4 f r n2).trans (if_neg (of_decide_eq_false h))
  · exact unescapeGo.eq_5 f 92 rest (fun r _ e => h1 ⟨r, e⟩)

theorem takeWhile_hex (h rest : Str) (hh : h.all isHex = true) :
    (h ++ 125 :: rest).takeWhile isHex = h := by
  rw [List.takeWhile_append_of_pos (List.all_eq_true.1 hh), List.takeWhile_cons_of_neg (by decide), List.append_nil]

theorem unescapeGo_brace (f : Nat) (h rest : Str) (hh : h.all isHex = true) (h1 : 1 ≤ h.length) (h6 : h.length ≤ 6) :
    unescapeGo (f + 1) (92 :: 117 :: 123 :: (h ++ 125 :: rest)) =
      if isScalar (hexNum h) then (unescapeGo f rest).map (hexNum h :: ·) else none := by
  rw [unescapeGo]
  simp only [takeWhile_hex h rest hh, List.drop_left, List.head?_cons, h1, h6, and_self, if_true, List.drop_succ_cons, List.drop_zero]

/-- `\uXXXX` with exactly four hex digits is ONE match of the literal, whatever follows (a fifth hex digit is text) -/
theorem unescapeGo_u4 (f : Nat) (h rest : Str) (hh : h.all isHex = true) (h4 : h.length = 4) :
    unescapeGo (f + 1) (92 :: 117 :: (h ++ rest)) =
      if isScalar (hexNum h) then (unescapeGo f rest).map (hexNum h :: ·) else none := by
  match h, h4 with
  | [a, b, c, d], _ =>
    -- `{` is no hex digit, so this is not the braced form
    have ha : isHex a = true := (Bool.and_eq_true_iff.1 hh).1
    exact (unescapeGo.eq_4 f _ (fun r2 e => by rw [(List.cons.inj e).1] at ha; exact absurd ha (by decide))).trans
      (if_pos ⟨rfl, hh⟩)

/-! ## the reference escaper (`esc_text` of the generator): a text cut into units -/

/-- one unit of an escaped text: a character written as itself, as `\uXXXX`, or as `\u{H}` -/
inductive Tok where
  | raw (c : Nat)
  | u4 (h : Str)
  | br (h : Str)
deriving Repr, DecidableEq

namespace Tok
def text : Tok → Str
  | .raw c => [c]
  | .u4 h => 92 :: 117 :: h
  | .br h => 92 :: 117 :: 123 :: (h ++ [125])
def val : Tok → Nat
  | .raw c => c
  | .u4 h => hexNum h
  | .br h => hexNum h
def shapeOk : Tok → Bool
  | .raw _ => true
  | .u4 h => h.length = 4 && h.all isHex
  | .br h => 1 ≤ h.length && h.length ≤ 6 && h.all isHex
/-- `char::from_u32` accepts the value of a literal (raw characters are characters already) -/
def valOk : Tok → Bool
  | .raw _ => true
  | t => isScalar t.val
end Tok

def toksText (ts : List Tok) : Str := ts.flatMap Tok.text

/-- no backslash written as itself begins a literal in the finished text (`has_escape` of the generator) -/
def noAccident : List Tok → Bool
  | [] => true
  | .raw c :: rest => (c != 92 || !startsEsc (toksText rest)) && noAccident rest
  | _ :: rest => noAccident rest

theorem toksText_cons (t : Tok) (ts : List Tok) : toksText (t :: ts) = t.text ++ toksText ts := by
  simp [toksText]

theorem unescapeGo_tok (f : Nat) (t : Tok) (ts : List Tok) (hs : t.shapeOk = true) (hn : noAccident (t :: ts) = true) :
    unescapeGo (f + 1) (toksText (t :: ts)) = if t.valOk then (unescapeGo f (toksText ts)).map (t.val :: ·) else none := by
  rw [toksText_cons]
  cases t with
  | raw c =>
    have ha : c ≠ 92 ∨ startsEsc (toksText ts) = false := by
      simpa only [Bool.or_eq_true, bne_iff_ne, ne_eq, Bool.not_eq_true'] using (Bool.and_eq_true_iff.1 hn).1
    by_cases hc : c = 92
    · exact hc ▸ unescapeGo_backslash f _ (ha.resolve_left (fun h => h hc))
    · exact unescapeGo_plain f c _ hc
  | u4 h =>
    have hsh : h.length = 4 ∧ h.all isHex = true := by
      simpa only [Tok.shapeOk, Bool.and_eq_true, decide_eq_true_eq] using hs
    exact unescapeGo_u4 f h _ hsh.2 hsh.1
  | br h =>
    have hsh : (1 ≤ h.length ∧ h.length ≤ 6) ∧ h.all isHex = true := by
      simpa only [Tok.shapeOk, Bool.and_eq_true, decide_eq_true_eq] using hs
    rw [Tok.text, List.cons_append, List.cons_append, List.cons_append, List.append_assoc]
    exact unescapeGo_brace f h _ hsh.2 hsh.1.1 hsh.1.2

theorem noAccident_tail (t : Tok) (ts : List Tok) (h : noAccident (t :: ts) = true) : noAccident ts = true := by
  cases t with
  | raw c => exact (Bool.and_eq_true_iff.1 h).2
  | u4 _ => exact h
  | br _ => exact h

/-- **`unescape_slow` on a tokenised text**: every well-shaped literal is replaced by its value, every other character
(also a backslash that begins no literal) is copied; the result is an error iff some literal names no scalar value. -/
theorem unescapeGo_toks (ts : List Tok) : ∀ (f : Nat), (∀ t ∈ ts, t.shapeOk = true) → noAccident ts = true →
    (toksText ts).length ≤ f →
    unescapeGo f (toksText ts) = if ts.all Tok.valOk then some (ts.map Tok.val) else none := by
  induction ts with
  | nil => intro f _ _ _; exact unescapeGo_nil f
  | cons t ts ih =>
    intro f hs hn hl
    -- the text of a unit is not empty, so there is fuel for it
    obtain ⟨f', rfl, hf'⟩ : ∃ f', f = f' + 1 ∧ (toksText ts).length ≤ f' := by
      have : 0 < t.text.length := by cases t <;> exact Nat.succ_pos _
      rw [toksText_cons, List.length_append] at hl
      exact ⟨f - 1, by omega⟩
    rw [unescapeGo_tok f' t ts (hs t (List.mem_cons_self ..)) hn,
      ih f' (fun x hx => hs x (List.mem_cons_of_mem _ hx)) (noAccident_tail t ts hn) hf', List.all_cons, List.map_cons]
    cases t.valOk <;> cases ts.all Tok.valOk <;> rfl

/-- `{:X}` / `{:x}` digit -/
def hexDigit (upper : Bool) (d : Nat) : Nat := if d < 10 then 48 + d else if upper then 55 + d else 87 + d

/-- `format!("{:0w$x}", v)` for a value below `16^w`: exactly `w` digits, zero padded -/
def hexFixed (upper : Bool) : Nat → Nat → Str
  | 0, _ => []
  | w + 1, v => hexFixed upper w (v / 16) ++ [hexDigit upper (v % 16)]

theorem hexDigit_spec : ∀ (up : Bool), ∀ d, d < 16 → isHex (hexDigit up d) = true ∧ hexVal (hexDigit up d) = d := by
  decide

theorem hexFixed_length (up : Bool) (w v : Nat) : (hexFixed up w v).length = w := by
  induction w generalizing v with
  | zero => rfl
  | succ w ih => simp [hexFixed, ih]

theorem hexFixed_all (up : Bool) (w v : Nat) : (hexFixed up w v).all isHex = true := by
  induction w generalizing v with
  | zero => rfl
  | succ w ih =>
    simp only [hexFixed, List.all_append, ih, List.all_cons, List.all_nil, Bool.and_true, Bool.true_and]
    exact (hexDigit_spec up _ (Nat.mod_lt _ (by decide))).1

theorem hexNum_append (xs : Str) (d : Nat) : hexNum (xs ++ [d]) = hexNum xs * 16 + hexVal d := by
  simp [hexNum, List.foldl_append]

theorem hexNum_hexFixed (up : Bool) (w v : Nat) : hexNum (hexFixed up w v) = v % 16 ^ w := by
  induction w generalizing v with
  | zero => simp [hexFixed, hexNum, Nat.mod_one]
  | succ w ih =>
    rw [hexFixed, hexNum_append, ih, (hexDigit_spec up _ (Nat.mod_lt _ (by decide))).2, Nat.pow_succ,
      Nat.mul_comm (16 ^ w) 16, Nat.mod_mul]
    omega

/-- how the generator writes one character -/
inductive Choice where
  | raw
  | u4 (upper : Bool)
  | br (width : Nat) (upper : Bool)
deriving Repr, DecidableEq

def escChar (c : Nat) : Choice → Tok
  | .raw => .raw c
  | .u4 up => .u4 (hexFixed up 4 c)
  | .br w up => .br (hexFixed up w c)

/-- `\uXXXX` only for the BMP; `\u{H}` with at least the minimal and at most six digits -/
def choiceOk (c : Nat) : Choice → Bool
  | .raw => true
  | .u4 _ => c < 65536
  | .br w _ => 1 ≤ w && w ≤ 6 && c < 16 ^ w

/-- a declared string together with the way each of its characters is written in the CSV field -/
abbrev EStr := List (Nat × Choice)

namespace EStr
def val (e : EStr) : Str := e.map (·.1)
def toks (e : EStr) : List Tok := e.map (fun x => escChar x.1 x.2)
/-- the field text (`esc_text`) -/
def text (e : EStr) : Str := toksText e.toks
/-- every character is a scalar value, every choice is one the generator makes, no raw backslash begins a literal,
and the field passes `check_str_len` -/
def ok (e : EStr) : Bool :=
  e.all (fun x => isScalar x.1 && choiceOk x.1 x.2) && noAccident e.toks && decide (utf8LenStr e.text ≤ 32767)
def plain (s : Str) : EStr := s.map (fun c => (c, Choice.raw))
end EStr

theorem escChar_spec (c : Nat) (ch : Choice) (hc : isScalar c = true) (h : choiceOk c ch = true) :
    (escChar c ch).shapeOk = true ∧ (escChar c ch).val = c ∧ (escChar c ch).valOk = true := by
  cases ch with
  | raw => exact ⟨rfl, rfl, rfl⟩
  | u4 up =>
    have hv : hexNum (hexFixed up 4 c) = c := by
      rw [hexNum_hexFixed]; exact Nat.mod_eq_of_lt (of_decide_eq_true h)
    refine ⟨?_, hv, (congrArg isScalar hv).trans hc⟩
    simp only [escChar, Tok.shapeOk, hexFixed_length, hexFixed_all, decide_true, Bool.and_self]
  | br w up =>
    simp only [choiceOk, Bool.and_eq_true, decide_eq_true_eq] at h
    have hv : hexNum (hexFixed up w c) = c := by
      rw [hexNum_hexFixed]; exact Nat.mod_eq_of_lt h.2
    refine ⟨?_, hv, (congrArg isScalar hv).trans hc⟩
    simp only [escChar, Tok.shapeOk, hexFixed_length, hexFixed_all, h.1.1, h.1.2, decide_true, Bool.and_self]

theorem unescape_of_le (s : Str) (h : utf8LenStr s ≤ 32767) : unescape s = unescapeGo (s.length + 1) s :=
  if_neg (Nat.not_lt.2 h)

theorem unescape_estr (e : EStr) (h : e.ok = true) : unescape e.text = some e.val := by
  simp only [EStr.ok, Bool.and_eq_true, List.all_eq_true, decide_eq_true_eq] at h
  obtain ⟨⟨hall, hacc⟩, hlen⟩ := h
  have hspec := fun x hx => escChar_spec x.1 x.2 (hall x hx).1 (hall x hx).2
  have hshape : ∀ t ∈ e.toks, t.shapeOk = true ∧ t.valOk = true := fun t ht => by
    obtain ⟨x, hx, rfl⟩ := List.mem_map.1 ht
    exact ⟨(hspec x hx).1, (hspec x hx).2.2⟩
  rw [unescape_of_le _ hlen, EStr.text,
    unescapeGo_toks e.toks _ (fun t ht => (hshape t ht).1) hacc (Nat.le_succ _),
    if_pos (List.all_eq_true.2 fun t ht => (hshape t ht).2), EStr.toks, List.map_map]
  exact congrArg some (List.map_congr_left fun x hx => (hspec x hx).2.1)

theorem noAccident_of_no_raw_backslash (e : EStr) (h : ∀ x ∈ e, x.1 = 92 → x.2 ≠ Choice.raw) : noAccident e.toks = true := by
  induction e with
  | nil => rfl
  | cons x r ih =>
    have ih' := ih (fun y hy => h y (List.mem_cons_of_mem _ hy))
    obtain ⟨c, ch⟩ := x
    cases ch with
    | raw =>
      simp only [EStr.toks, List.map_cons, escChar, noAccident, Bool.and_eq_true, Bool.or_eq_true, bne_iff_ne, ne_eq]
      exact ⟨Or.inl (fun e => h _ (List.mem_cons_self ..) e rfl), ih'⟩
    | u4 up => exact ih'
    | br w up => exact ih'

theorem noAccident_plain_no_backslash (s : Str) (h : 92 ∉ s) : noAccident (EStr.plain s).toks = true :=
  noAccident_of_no_raw_backslash _ fun x hx e => by
    obtain ⟨c, hc, rfl⟩ := List.mem_map.1 hx
    exact absurd (e ▸ hc) h

theorem plain_toks (s : Str) : (EStr.plain s).toks = s.map Tok.raw := by
  rw [EStr.toks, EStr.plain, List.map_map]; rfl

theorem plain_text (s : Str) : (EStr.plain s).text = s := by
  rw [EStr.text, plain_toks, toksText, List.flatMap_map]
  exact List.flatMap_singleton' s

theorem plain_val (s : Str) : (EStr.plain s).val = s := by
  rw [EStr.val, EStr.plain, List.map_map]; exact List.map_id' s

theorem unescapeGo_no_backslash (s : Str) : ∀ f, 92 ∉ s → s.length ≤ f → unescapeGo f s = some s := by
  intro f h hl
  -- the text is the plain cutting of itself: every unit a character written as itself
  have raw : ∀ t ∈ s.map Tok.raw, t.shapeOk = true ∧ t.valOk = true := fun t ht => by
    obtain ⟨c, _, rfl⟩ := List.mem_map.1 ht; exact ⟨rfl, rfl⟩
  have := unescapeGo_toks (s.map Tok.raw) f (fun t ht => (raw t ht).1)
    (plain_toks s ▸ noAccident_plain_no_backslash s h) (by rw [← plain_toks, ← EStr.text, plain_text]; exact hl)
  rw [← plain_toks, ← EStr.text, plain_text, plain_toks, if_pos (List.all_eq_true.2 fun t ht => (raw t ht).2), List.map_map] at this
  exact this.trans (congrArg some (List.map_id' s))

/-! ## `Wire.allSome`: what an accepted list says of its members (the rest is in `Proofs/Basic.lean`) -/

theorem allSome_some_mem {α : Type} {l : List (Option α)} {r : List α} (h : Wire.allSome l = some r) :
    ∀ x ∈ l, ∃ y, x = some y := by
  intro x hx
  rw [(allSome_eq_some_iff _ _).1 h] at hx
  obtain ⟨y, -, rfl⟩ := List.mem_map.1 hx
  exact ⟨y, rfl⟩

theorem allSome_eq_none_iff {α : Type} (l : List (Option α)) : Wire.allSome l = none ↔ none ∈ l :=
  Wire.allSome_eq_none_iff l

/-! ## the inline-reference resolver (`resolve.rs`) -/

def rowMatches (s : Str) (p : Nat) (r : Option Str) (row : ResolverRow) : Bool :=
  row.1 = s && row.2.1 = p && row.2.2.1 = r

theorem resolveInline_eq (rows : List ResolverRow) (s : Str) (p : Nat) (r : Option Str) :
    resolveInline rows s p r = (rows.find? (rowMatches s p r)).map (·.2.2.2) := rfl

/-- FIRST matching row, by position -/
theorem resolveInline_eq_some_iff (rows : List ResolverRow) (s : Str) (p : Nat) (r : Option Str) (w : Nat) :
    resolveInline rows s p r = some w ↔
      ∃ i row, rows[i]? = some row ∧ rowMatches s p r row = true ∧ row.2.2.2 = w ∧
        ∀ (j : Nat) (row' : ResolverRow), j < i → rows[j]? = some row' → rowMatches s p r row' = false := by
  rw [resolveInline_eq, Option.map_eq_some_iff]
  constructor
  · rintro ⟨row, hf, rfl⟩
    obtain ⟨hm, i, hi, hrow, hbefore⟩ := List.find?_eq_some_iff_getElem.1 hf
    refine ⟨i, row, by rw [List.getElem?_eq_some_iff]; exact ⟨hi, hrow⟩, hm, rfl, ?_⟩
    intro j row' hj hrow'
    obtain ⟨hj', e⟩ := List.getElem?_eq_some_iff.1 hrow'
    have := hbefore j hj
    rw [e] at this
    simpa using this
  · rintro ⟨i, row, hi, hm, rfl, hbefore⟩
    obtain ⟨hi', e⟩ := List.getElem?_eq_some_iff.1 hi
    refine ⟨row, List.find?_eq_some_iff_getElem.2 ⟨hm, i, hi', e, ?_⟩, rfl⟩
    intro j hj
    have := hbefore j rows[j] hj (by rw [List.getElem?_eq_some_iff]; exact ⟨by omega, rfl⟩)
    simp [this]

theorem resolveInline_eq_none_iff (rows : List ResolverRow) (s : Str) (p : Nat) (r : Option Str) :
    resolveInline rows s p r = none ↔ ∀ row ∈ rows, rowMatches s p r row = false := by
  rw [resolveInline_eq, Option.map_eq_none_iff, List.find?_eq_none]
  constructor
  · intro h row hr; simpa using h row hr
  · intro h row hr; simp [h row hr]

theorem rawResolverRows_getElem? (es : List RawEntry) (user : Bool) (i : Nat) :
    (rawResolverRows es user)[i]? = es[i]?.map (fun e =>
      (e.surface, e.pos, (if e.surface = e.readingS then none else some e.readingS), widNew (if user then 1 else 0) i)) := by
  unfold rawResolverRows
  rw [List.getElem?_map, List.zip_eq_zipWith, List.getElem?_zipWith]
  by_cases h : i < es.length
  · rw [List.getElem?_range h, List.getElem?_eq_getElem h]; rfl
  · have : es[i]? = none := by simp; omega
    rw [this]
    cases (List.range es.length)[i]? <;> rfl

/-- the ids `resolve_splits` leaves in an entry; the `getD []` is junk unless both lists resolve, so this is only used under
`resolveSplits … = some out` (`resolveSplits_some`) -/
def resolvedIds (own sys : List ResolverRow) (e : RawEntry) : List Nat × List Nat :=
  ((Wire.allSome (e.splitsA.map (resolveUnit own sys))).getD [], (Wire.allSome (e.splitsB.map (resolveUnit own sys))).getD [])

theorem resolveSplits_some (own sys : List ResolverRow) (es : List RawEntry) : ∀ (out : List Entry),
    resolveSplits own sys es = some out →
    out = es.map (fun e => toEntry e (resolvedIds own sys e).1 (resolvedIds own sys e).2) ∧
    ∀ e ∈ es, e.splitsA.map (resolveUnit own sys) = (resolvedIds own sys e).1.map some ∧
      e.splitsB.map (resolveUnit own sys) = (resolvedIds own sys e).2.map some := by
  intro out h
  -- every element of the list `allSome` accepted is a `some`: both split lists of every entry resolved
  have hres : ∀ e ∈ es, Wire.allSome (e.splitsA.map (resolveUnit own sys)) = some (resolvedIds own sys e).1 ∧
      Wire.allSome (e.splitsB.map (resolveUnit own sys)) = some (resolvedIds own sys e).2 := by
    intro e he
    obtain ⟨y, hy⟩ := allSome_some_mem h _ (List.mem_map_of_mem he)
    unfold resolvedIds
    cases hA : Wire.allSome (e.splitsA.map (resolveUnit own sys)) with
    | none => rw [hA] at hy; cases hy
    | some a =>
      cases hB : Wire.allSome (e.splitsB.map (resolveUnit own sys)) with
      | none => rw [hA, hB] at hy; cases hy
      | some b => exact ⟨rfl, rfl⟩
  refine ⟨?_, fun e he => ⟨(allSome_eq_some_iff _ _).1 (hres e he).1, (allSome_eq_some_iff _ _).1 (hres e he).2⟩⟩
  exact Option.some.inj (h.symm.trans (allSome_map_some _ _ es fun e he => by rw [(hres e he).1, (hres e he).2]))

theorem resolve_refs (own sys : List ResolverRow) (ids : List Nat) :
    Wire.allSome ((ids.map SplitUnit.ref).map (resolveUnit own sys)) = some ids := by
  rw [allSome_eq_some_iff, List.map_map]
  exact List.map_congr_left (fun _ _ => rfl)

/-! ## POS interning (`pos_of`) -/

/-- a row already in the table is answered by its FIRST occurrence (the clause `∀ j < i, … ≠ some p`) -/
theorem posOf_spec (rd : Reader) (p : List Str) :
    (p ∈ rd.pos.toList → ∃ i, posOf rd p = some (i, rd) ∧ rd.pos.toList[i]? = some p ∧
        ∀ j, j < i → rd.pos.toList[j]? ≠ some p) ∧
    (p ∉ rd.pos.toList → rd.pos.size ≤ 32767 → posOf rd p = some (rd.pos.size, { rd with pos := rd.pos.push p })) ∧
    (p ∉ rd.pos.toList → rd.pos.size > 32767 → posOf rd p = none) := by
  cases hf : rd.pos.toList.findIdx? (· = p) with
  | some i =>
    obtain ⟨hi, hp, hbefore⟩ := List.findIdx?_eq_some_iff_getElem.1 hf
    have hp' : rd.pos.toList[i] = p := of_decide_eq_true hp
    have hmem : p ∈ rd.pos.toList := hp' ▸ List.getElem_mem hi
    refine ⟨fun _ => ⟨i, by simp only [posOf, hf], List.getElem?_eq_some_iff.2 ⟨hi, hp'⟩, fun j hj hc => ?_⟩,
      fun h => absurd hmem h, fun h => absurd hmem h⟩
    obtain ⟨_, e⟩ := List.getElem?_eq_some_iff.1 hc
    exact hbefore j hj (decide_eq_true e)
  | none =>
    have hnm : p ∉ rd.pos.toList := fun hm => of_decide_eq_false (List.findIdx?_eq_none_iff.1 hf p hm) rfl
    refine ⟨fun h => absurd h hnm, fun _ hsz => ?_, fun _ hsz => ?_⟩
    · simp only [posOf, hf]; exact if_neg (Nat.not_lt.2 hsz)
    · simp only [posOf, hf]; exact if_pos hsz

/-! ## list columns: items joined by `/`, `*` when empty -/

/-- `parts.join(sep)` -/
def joinSep (sep : Nat) : List Str → Str
  | [] => []
  | [a] => a
  | a :: b :: r => a ++ sep :: joinSep sep (b :: r)

theorem splitGo_part (sep : Nat) (p rest cur : Str) (acc : List Str) (h : sep ∉ p) :
    splitChar.go sep (p ++ rest) cur acc = splitChar.go sep rest (p.reverse ++ cur) acc := by
  induction p generalizing cur with
  | nil => rfl
  | cons c t ih =>
    simp only [List.mem_cons, not_or] at h
    have hc : ¬ c = sep := fun e => h.1 e.symm
    simp only [List.cons_append, splitChar.go, hc, if_false]
    rw [ih _ h.2]
    simp

theorem splitGo_join (sep : Nat) (ps : List Str) : ∀ (cur : Str) (acc : List Str), ps ≠ [] → (∀ p ∈ ps, sep ∉ p) →
    splitChar.go sep (joinSep sep ps) cur acc = acc.reverse ++ ((cur.reverse ++ ps.headD []) :: ps.tail) := by
  induction ps with
  | nil => intro _ _ h; exact absurd rfl h
  | cons a r ih =>
    intro cur acc _ h
    cases r with
    | nil =>
      have := splitGo_part sep a [] cur acc (h a (List.mem_cons_self ..))
      simp only [List.append_nil] at this
      simp only [joinSep, this, splitChar.go]
      simp
    | cons b r' =>
      simp only [joinSep]
      rw [splitGo_part sep a _ cur acc (h a (List.mem_cons_self ..))]
      simp only [splitChar.go, if_true]
      rw [ih [] _ (by simp) (fun p hp => h p (List.mem_cons_of_mem _ hp))]
      simp

theorem splitChar_joinSep (sep : Nat) (ps : List Str) (hne : ps ≠ []) (h : ∀ p ∈ ps, sep ∉ p) :
    splitChar sep (joinSep sep ps) = ps := by
  unfold splitChar
  rw [splitGo_join sep ps [] [] hne h]
  cases ps with
  | nil => exact absurd rfl hne
  | cons a r => simp

theorem parseSlashList_joinSep {α β : Type} (f : Str → Option β) (render : α → Str) (val : α → β) (xs : List α)
    (hne : xs ≠ []) (hlen : xs.length ≤ 127) (hsep : ∀ x ∈ xs, 47 ∉ render x) (hf : ∀ x ∈ xs, f (render x) = some (val x)) :
    parseSlashList (joinSep 47 (xs.map render)) f = some (xs.map val) := by
  unfold parseSlashList
  rw [splitChar_joinSep 47 _ (by simpa using hne) (by
    intro p hp; simp only [List.mem_map] at hp; obtain ⟨x, hx, rfl⟩ := hp; exact hsep x hx)]
  rw [List.map_map, allSome_map_some (f ∘ render) val xs (fun x hx => hf x hx)]
  simp only [List.length_map]
  simp [show ¬ xs.length > 127 by omega]

theorem joinSep_head (sep : Nat) (a : Str) (r : List Str) (h : a ≠ []) : ∃ d t, joinSep sep (a :: r) = d :: t ∧ a.head? = some d := by
  cases a with
  | nil => exact absurd rfl h
  | cons d t => cases r <;> exact ⟨d, _, rfl, rfl⟩

/-- a joined list whose first part begins with something other than `*` is neither empty nor `*` -/
theorem emptyOrStar_joinSep_map {α : Type} (render : α → Str) (xs : List α) (hne : xs ≠ [])
    (h : ∀ x ∈ xs, render x ≠ [] ∧ ∀ c, (render x).head? = some c → c ≠ 42) :
    emptyOrStar (joinSep 47 (xs.map render)) = false := by
  cases xs with
  | nil => exact absurd rfl hne
  | cons x r =>
    obtain ⟨h1, h2⟩ := h x (List.mem_cons_self ..)
    obtain ⟨d, t, e, hh⟩ := joinSep_head 47 (render x) (r.map render) h1
    rw [List.map_cons, e]
    have hd : (d :: t) ≠ lit "*" := fun hc => h2 d hh (List.cons.inj hc).1
    simp only [emptyOrStar, List.isEmpty_cons, Bool.false_or, decide_eq_false_iff_not]
    exact hd

theorem showRef_head (x : Bool × Nat) : showRef x ≠ [] ∧ ∀ c, (showRef x).head? = some c → c ≠ 42 :=
  ⟨showRef_ne_nil x, fun c hc => by have := showRef_mem x c (List.mem_of_mem_head? hc); omega⟩

theorem showRef_no_slash (x : Bool × Nat) : 47 ∉ showRef x :=
  fun hc => by have := showRef_mem x 47 hc; omega

/-- the text of a reference list column (`word-structure`, id-only split columns): `*` when empty -/
def showRefs (xs : List (Bool × Nat)) : Str := if xs = [] then [42] else joinSep 47 (xs.map showRef)

theorem parseWordIdList_showRefs (xs : List (Bool × Nat)) (hlen : xs.length ≤ 127) (h : ∀ x ∈ xs, x.2 < 268435456) :
    parseWordIdList (showRefs xs) = some (xs.map refId) := by
  unfold parseWordIdList showRefs
  by_cases he : xs = []
  · subst he; rfl
  · rw [if_neg he, emptyOrStar_joinSep_map showRef xs he (fun x _ => showRef_head x)]
    exact parseSlashList_joinSep parseWordId showRef refId xs he hlen
      (fun x _ => showRef_no_slash x) (fun x hx => parseWordId_showRef x (h x hx))

/-- the text of the synonym-group column: `*` when empty -/
def showSyn (xs : List Nat) : Str := if xs = [] then [42] else joinSep 47 (xs.map showNat)

theorem parseU32List_showSyn (xs : List Nat) (hlen : xs.length ≤ 127) (h : ∀ x ∈ xs, x < 4294967296) :
    parseU32List (showSyn xs) = some xs := by
  unfold parseU32List showSyn
  by_cases he : xs = []
  · subst he; rfl
  · rw [if_neg he, emptyOrStar_joinSep_map showNat xs he (fun x _ => ⟨(showNat_spec x).1, fun c hc => by
      have := showNat_mem_digit x c (List.mem_of_mem_head? hc); omega⟩)]
    have := parseSlashList_joinSep parseU32 showNat id xs he hlen
      (fun x _ hc => by have := showNat_mem_digit x 47 hc; omega) (fun x hx => parseU32_showNat x (h x hx))
    rwa [List.map_id] at this

theorem parseSplitList_refs (rd : Reader) (xs : List (Bool × Nat)) (h : ∀ x ∈ xs, x.2 < 268435456) :
    parseSplitList rd (xs.map showRef) = some (xs.map (fun x => SplitUnit.ref (refId x)), rd) := by
  induction xs with
  | nil => rfl
  | cons x r ih =>
    simp only [List.map_cons, parseSplitList, parseSplit, isWordIdLiteral_showRef, if_true,
      parseWordId_showRef x (h x (List.mem_cons_self ..)), Option.map_some,
      ih (fun y hy => h y (List.mem_cons_of_mem _ hy))]

theorem parseSplits_refs (rd : Reader) (xs : List (Bool × Nat)) (hlen : xs.length ≤ 127) (h : ∀ x ∈ xs, x.2 < 268435456) :
    parseSplits rd (showRefs xs) = some (xs.map (fun x => SplitUnit.ref (refId x)), 0, rd) := by
  unfold parseSplits showRefs
  by_cases he : xs = []
  · subst he; rfl
  · rw [if_neg he, emptyOrStar_joinSep_map showRef xs he (fun x _ => showRef_head x)]
    rw [if_neg Bool.false_ne_true, splitChar_joinSep 47 _ (fun hc => he (List.map_eq_nil_iff.1 hc)) (by
      intro p hp; obtain ⟨x, _, rfl⟩ := List.mem_map.1 hp; exact showRef_no_slash x)]
    rw [parseSplitList_refs rd xs h]
    dsimp only
    -- no unit is inline
    rw [List.length_map, if_neg (Nat.not_lt.2 hlen), List.filter_eq_nil_iff.2 (fun u hu => by
      obtain ⟨x, _, rfl⟩ := List.mem_map.1 hu; exact Bool.false_ne_true)]
    rfl

/-- the text of the dictionary-form column -/
def showDf : Option (Bool × Nat) → Str
  | none => [42]
  | some x => showRef x
def dfId : Option (Bool × Nat) → Nat
  | none => INVALID_WID
  | some x => refId x

theorem parseDicForm_showDf (x : Option (Bool × Nat)) (h : ∀ y, x = some y → y.2 < 268435456) :
    parseDicForm (showDf x) = some (dfId x) := by
  cases x with
  | none => rfl
  | some y =>
    have hne : showRef y ≠ lit "*" := fun hc => (showRef_head y).2 42 (by rw [hc]; rfl) rfl
    rw [showDf, parseDicForm, if_neg hne]
    exact parseWordId_showRef y (h y rfl)

/-! ## a declared row against `parse_record` -/

/-- one declared lexicon row: strings with the way they are written, numbers, references by number -/
structure DeclRow where
  surface : EStr
  left : Int
  right : Int
  cost : Int
  headword : EStr
  p1 : EStr
  p2 : EStr
  p3 : EStr
  p4 : EStr
  p5 : EStr
  p6 : EStr
  reading : EStr
  norm : EStr
  dicForm : Option (Bool × Nat)
  /-- the text of the mode column, as written -/
  mode : Str
  splitsA : List (Bool × Nat)
  splitsB : List (Bool × Nat)
  ws : List (Bool × Nat)
  syn : List Nat

namespace DeclRow
/-- the 19 fields of the CSV record (the reference renderer `csv_of` of the generator) -/
def fields (d : DeclRow) : Array Str :=
  #[d.surface.text, showInt d.left, showInt d.right, showInt d.cost, d.headword.text,
    d.p1.text, d.p2.text, d.p3.text, d.p4.text, d.p5.text, d.p6.text, d.reading.text, d.norm.text,
    showDf d.dicForm, d.mode, showRefs d.splitsA, showRefs d.splitsB, showRefs d.ws, showSyn d.syn]
def posKey (d : DeclRow) : List Str := [d.p1.val, d.p2.val, d.p3.val, d.p4.val, d.p5.val, d.p6.val]
def i16 (x : Int) : Bool := decide (-32768 ≤ x ∧ x ≤ 32767)
def refsOk (xs : List (Bool × Nat)) : Bool := decide (xs.length ≤ 127) && xs.all (fun x => decide (x.2 < 268435456))
def ok (d : DeclRow) : Bool :=
  d.surface.ok && d.headword.ok && d.p1.ok && d.p2.ok && d.p3.ok && d.p4.ok && d.p5.ok && d.p6.ok && d.reading.ok && d.norm.ok
    && i16 d.left && i16 d.right && i16 d.cost
    && (match d.dicForm with | none => true | some y => decide (y.2 < 268435456))
    && (parseMode d.mode).isSome
    && !(decide (parseMode d.mode = some .A) && !(d.splitsA.isEmpty && d.splitsB.isEmpty))
    && refsOk d.splitsA && refsOk d.splitsB && refsOk d.ws
    && decide (d.syn.length ≤ 127) && d.syn.all (fun x => decide (x < 4294967296))
    && !d.surface.val.isEmpty && !d.surface.val.contains 0
/-- the `RawLexiconEntry` the row declares, given its POS id -/
def raw (d : DeclRow) (pos : Nat) : RawEntry :=
  { left := d.left, right := d.right, cost := d.cost, surface := d.surface.val,
    headword := noneIfEqual d.surface.val d.headword.val, dicForm := dfId d.dicForm,
    normForm := noneIfEqual d.headword.val d.norm.val, pos := pos,
    splitsA := d.splitsA.map (fun x => .ref (refId x)), splitsB := d.splitsB.map (fun x => .ref (refId x)),
    reading := noneIfEqual d.headword.val d.reading.val, wordStructure := d.ws.map refId, synonyms := d.syn }
end DeclRow

theorem noneIfEqual_getD (a b : Str) : (noneIfEqual a b).getD a = b := by
  unfold noneIfEqual
  by_cases h : a = b
  · rw [if_pos h]; exact h
  · rw [if_neg h]; rfl

theorem refsOk_spec (xs : List (Bool × Nat)) (h : DeclRow.refsOk xs = true) :
    xs.length ≤ 127 ∧ ∀ x ∈ xs, x.2 < 268435456 := by
  simp only [DeclRow.refsOk, Bool.and_eq_true, decide_eq_true_eq, List.all_eq_true] at h
  exact h

/-- **`parse_record` on a rendered row**.  `unresolved + 0 + 0`: the two split columns hold numeric references only
(`parseSplits_refs`: inline count 0 each), and the sum is left as `parse_record` computes it. -/
theorem parseRecord_fields (rd : Reader) (d : DeclRow) (h : d.ok = true) :
    parseRecord rd d.fields = (posOf rd d.posKey).map (fun x =>
      { x.2 with unresolved := x.2.unresolved + 0 + 0, entries := x.2.entries.push (d.raw x.1) }) := by
  simp only [DeclRow.ok, Bool.and_eq_true, DeclRow.i16, decide_eq_true_eq, Bool.not_eq_true', List.all_eq_true] at h
  obtain ⟨⟨⟨⟨⟨⟨⟨⟨⟨⟨⟨⟨⟨⟨⟨⟨⟨⟨⟨⟨⟨⟨hs, hh⟩, h1⟩, h2⟩, h3⟩, h4⟩, h5⟩, h6⟩, hr⟩, hn⟩, hl⟩, hrt⟩, hc⟩, hdf⟩, hm⟩, hA⟩, ha⟩, hb⟩, hw⟩, hsl⟩, hsy⟩, hne⟩, hnul⟩ := h
  obtain ⟨m, hm⟩ := Option.isSome_iff_exists.1 hm
  obtain ⟨ha1, ha2⟩ := refsOk_spec _ ha
  obtain ⟨hb1, hb2⟩ := refsOk_spec _ hb
  obtain ⟨hw1, hw2⟩ := refsOk_spec _ hw
  have hdf' : ∀ y, d.dicForm = some y → y.2 < 268435456 := by
    intro y hy; rw [hy] at hdf; simpa using hdf
  unfold parseRecord DeclRow.fields
  simp only [List.getElem?_toArray, List.getElem?_cons_zero, List.getElem?_cons_succ, Option.bind_eq_bind, Option.bind_some,
    unescape_estr _ hs, unescape_estr _ hh, unescape_estr _ h1, unescape_estr _ h2, unescape_estr _ h3,
    unescape_estr _ h4, unescape_estr _ h5, unescape_estr _ h6, unescape_estr _ hr, unescape_estr _ hn,
    parseI16_showInt _ hl, parseI16_showInt _ hrt, parseI16_showInt _ hc, parseDicForm_showDf _ hdf', hm,
    parseSplits_refs rd _ ha1 ha2, parseSplits_refs rd _ hb1 hb2, parseWordIdList_showRefs _ hw1 hw2,
    parseU32List_showSyn _ hsl (by simpa using hsy)]
  have hmode : ¬ (m = Mode.A ∧ (!(List.map (fun x => SplitUnit.ref (refId x)) d.splitsA).isEmpty ||
      !(List.map (fun x => SplitUnit.ref (refId x)) d.splitsB).isEmpty) = true) := by
    rintro ⟨rfl, h2⟩
    rw [hm] at hA
    simp only [decide_true, Bool.true_and, Bool.not_eq_false', Bool.and_eq_true] at hA
    simp [List.isEmpty_map, hA.1, hA.2] at h2
  simp only [hmode, if_false, hne, hnul, Bool.or_self, Bool.false_eq_true, DeclRow.posKey]
  cases posOf rd [d.p1.val, d.p2.val, d.p3.val, d.p4.val, d.p5.val, d.p6.val] <;> rfl

/-- `read_record` over declared rows, on the DECLARED values (no text): POS interning + push -/
def declRead (rd : Reader) : List DeclRow → Option Reader
  | [] => some rd
  | d :: rest =>
    match posOf rd d.posKey with
    | none => none
    | some (i, rd') => declRead { rd' with unresolved := rd'.unresolved + 0 + 0, entries := rd'.entries.push (d.raw i) } rest

theorem readRecords_fields (ds : List DeclRow) : ∀ (rd : Reader), (∀ d ∈ ds, d.ok = true) →
    readRecords rd (ds.map DeclRow.fields) = declRead rd ds := by
  induction ds with
  | nil => intro rd _; rfl
  | cons d rest ih =>
    intro rd h
    simp only [List.map_cons, readRecords, declRead, parseRecord_fields rd d (h d (List.mem_cons_self ..))]
    cases posOf rd d.posKey with
    | none => rfl
    | some x => exact ih _ (fun y hy => h y (List.mem_cons_of_mem _ hy))

end Codec
