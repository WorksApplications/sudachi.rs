import Sudachi.Proofs.Numeric
import Sudachi.Proofs.NumericLang
import Sudachi.Proofs.NumericSim
import Sudachi.Proofs.NumericValue
import Sudachi.Proofs.NumericDenote
import Sudachi.Proofs.NumericClear
import Sudachi.Proofs.RewriteNumericRun
import Sudachi.Proofs.RewriteNumericTrace
import Sudachi.Proofs.RewriteTrace
import Sudachi.Proofs.RewriteNumericSplit
/-!
# C15 — joined numerals are normalised to their decimal value

Model: `Numeric.SN` (`StringNumber`), `Numeric.Parser` (`NumericParser`), `Numeric.rewrite`
(`JoinNumericPlugin::rewrite_gen` transcribed in `Model/Numeric.lean`, op `pipeline`; only evaluated, in the
F6 witnesses) and
`RewriteNumeric.joinNumeral` (C14's transcription of the plugin run with this parser model, op `pipe`;
the theorems about the joined TOKEN at the end of this file are about it), tied to the Rust code on every run by the correspondence check
(every string over the 28-symbol numeral alphabet up to length 4, value-driven numerals, the plugin
on real dictionaries).  `Numeric.parse text = some s` means: every character is accepted, `done()`
returns true and the normalised form is `s`.

Reference notation (`Proofs/Numeric.lean`): a written digit `Dg` (ASCII or kanji glyph), an integer
part `IntPart` (plain digits, or a first group and three-digit groups separated by `,`), optional
fraction.  `canonDigits`/`canonInt` are the decimal renderings (separators removed, ASCII digits,
leading zeros of plain digit strings kept), `trimZeros` drops trailing fractional zeros and
`fracPart` drops the point when nothing is left.

The model carries one switch per repair of the findings F1–F6 (`Numeric.Variant`): `Variant.pinned`
is the code as pinned, `Variant.repaired` the code after `fix_F1.patch` … `fix_F6.patch`; the harness
names the variant of the tree it is linked against on every case line.  Theorems that hold for every
variant are stated with `(v : Variant)`; a theorem that needs a repair names the switch it needs.

Full statement of the property's first clause ("parse ∘ render = canon"): for every numeral AST `a` built from
digits, separators, a fraction and the units 十百千万億兆 that is well-formed (`Numeral.WF`) and whose
terms fit positionally (`Numeral.Fits`), `parse (render a) = some (canon a)`, the normal form read
back as a decimal is the value of `a` (sum of coefficient × unit), and it is in canonical form.
PROVED in full, for EVERY variant (`parse_render_units`, `normal_form_value`, `normal_form_shape`;
`Proofs/NumericSN.lean` = digit content of `shift_scale`/`add`/`normalize_scale`/`to_string`,
`Proofs/NumericSim.lean` = the refinement between parser and numeral, `Proofs/NumericValue.lean` = the
forward simulation, `Proofs/NumericDenote.lean` = values); the unit-free special cases
`parse_render_digits`, `parse_render_grouped`, `parse_render_decimal` are stated on their own.  What the repair F5
changes is only the rendering: for the pinned code the normal form of a numeral with units keeps the
leading zeros of a coefficient below one (`parse_render_counterexample_leading_zero`, F5), its VALUE
is right for every variant; with repair F5 it has no leading zero.  Together with `reject_malformed`:
the repaired parser accepts exactly the renderings of well-formed fitting numerals
(`accepted_iff_wellformed`).

The parser object is reused inside a sentence (`clear()` before every run): `clear_is_new`,
`reused_parser_is_fresh`.

Full statement of the second clause (`reject_malformed`): if `parse text = some s` then `text` is
`render a` for some well-formed AST `a` (so a malformed grouping is never joined into a value).
This is FALSE for the pinned code (counterexample theorems F1–F4, and F6 at the plugin) and PROVED
for the repaired code (`reject_malformed`): the AST obeys the separator rules in every written
number, has no dangling point, every large unit has something in front of it, the large units
strictly decrease and the terms fit positionally (`Numeral.WF`, `Numeral.Fits`; the small units of a
group then strictly decrease, `wellformed_small_units_decrease`).  Each of the four near-miss
families is also rejected wherever it occurs in a text by its own repair alone (`reject_*_anywhere`).
The near-miss families that are rejected by every variant are `reject_dangling_point`,
`reject_bad_last_group`, `reject_leading_separator`.
-/
namespace C15
open Numeric

/-- Clause 1, plain digit strings (ASCII, kanji or mixed digits, any length, leading zeros kept):
the normalised form is the ASCII digit string. -/
theorem parse_render_digits (v : Variant) (ds : List Dg) (hne : ds ≠ []) :
    parse v (renderDigits ds) = some (canonDigits ds) := by
  simpa [renderRun, renderInt, renderGroups, canonInt, fracPart, trimZeros, canonDigits]
    using parse_run v ⟨⟨ds, []⟩, []⟩ ⟨hne, by simp, by simp⟩

/-- Clause 1, integers with thousands separators: a first group of 1–3 digits that is not all zeros
and any number of three-digit groups; the separators are removed.  (`gs = []` is the plain case.) -/
theorem parse_render_grouped (v : Variant) (i : IntPart) (hwf : i.WF) :
    parse v (renderInt i) = some (canonInt i) := by
  simpa [renderRun, fracPart, trimZeros, canonDigits] using parse_run v ⟨i, []⟩ hwf

/-- Clause 1, decimals: integer part as above, a point and at least one fraction digit; trailing
fractional zeros are dropped, and the point too when the fraction is all zeros. -/
theorem parse_render_decimal (v : Variant) (i : IntPart) (hwf : i.WF) (fs : List Dg) (hfs : fs ≠ []) :
    parse v (renderInt i ++ '.' :: renderDigits fs) =
      some (canonInt i ++ fracPart (trimZeros (canonDigits fs))) := by
  simpa [renderRun, hfs] using parse_run v ⟨i, fs⟩ hwf

/-- Clause 1, unit notation, decided instances (the unit-test numerals and one numeral per
combination rule); the general theorem is `parse_render_units` below. -/
theorem parse_render_units_instances (v : Variant) (hv : v = Variant.pinned ∨ v = Variant.repaired) :
    parse v "千三百二十七".toList = some "1327".toList ∧
    parse v "千十七".toList = some "1017".toList ∧
    parse v "三兆2千億千三百二十七万一四.〇五".toList = some "3200013270014.05".toList ∧
    parse v "1.5百万1.5千20".toList = some "1501520".toList ∧
    parse v "259万2,300".toList = some "2592300".toList ∧
    parse v "200000000000000000000万".toList = some "2000000000000000000000000".toList ∧
    parse v "一億〇五".toList = some "100000005".toList ∧
    parse v "1.23456万".toList = some "12345.6".toList := by
  -- the kernel reads a string literal as `String.ofList` of its characters: rewriting with
  -- `String.toList_ofList` puts the character list in place without running the UTF-8 decoder
  repeat rw [String.toList_ofList]
  rcases hv with rfl | rfl <;> decide +kernel

/-- Clause 1 fails for a coefficient below one in front of a unit: the value is right but the
rendering keeps the integer zero (finding F5). -/
theorem parse_render_counterexample_leading_zero :
    parse .pinned "0.1万".toList = some "01000".toList ∧ parse .pinned "0.5百".toList = some "050".toList := by
  repeat rw [String.toList_ofList]
  decide +kernel

/-- Clause 2, dangling point: an integer part followed by a point and nothing else is never
accepted. -/
theorem reject_dangling_point (v : Variant) (i : IntPart) (hwf : i.WF) :
    parse v (renderInt i ++ ['.']) = none := by
  refine parse_none_of_done_false v _ (Parser.new.pushInt i).pushPoint ?_ (done_hanging v _ rfl)
  rw [run_append, run_int v _ atStart_new i hwf]
  exact run_cons v _ _ _ [] (append_point_int v _ atStart_new i hwf)

/-- Clause 2, bad last group: a well-formed integer part followed by a separator and a group that
does not have exactly three digits (including the empty group, i.e. a trailing separator) is never
accepted. -/
theorem reject_bad_last_group (v : Variant) (i : IntPart) (hwf : i.WF) (g : List Dg) (hg : g.length ≠ 3) :
    parse v (renderInt i ++ ',' :: renderDigits g) = none := by
  cases hc : (Parser.new.pushInt i).checkComma v with
  | false =>
    refine parse_none_of_char v _ _ _ fun q hq => ?_
    rw [run_int v _ atStart_new i hwf] at hq
    rw [← Option.some.inj hq, append_comma_reject v _ hc]
  | true =>
    refine parse_none_of_done_false v _ ((Parser.new.pushInt i).pushComma.pushDigits g) ?_ ?_
    · rw [run_append, run_int v _ atStart_new i hwf]
      exact (run_cons v _ _ _ _ (append_comma v _ hc)).trans (run_digits v g _)
    · apply done_bad_group <;> rw [pushDigits_eq]
      · rfl
      · simpa [Parser.pushComma] using hg

/-- Clause 2, a numeral never starts with a separator. -/
theorem reject_leading_separator (v : Variant) (rest : List Char) :
    parse v ('.' :: rest) = none ∧ parse v (',' :: rest) = none := by
  constructor
  · refine parse_none_of_char v [] '.' rest fun q hq => ?_
    cases hq
    rw [append_point_eq]; rfl
  · refine parse_none_of_char v [] ',' rest fun q hq => ?_
    cases hq
    rw [append_comma_reject v _ rfl]

/-- Clause 2 is violated by the code as it is: separators inside the fraction are accepted
(finding F1). -/
theorem reject_malformed_counterexample_comma_in_fraction :
    parse .pinned "1.5,000".toList = some "1.5".toList ∧ parse .pinned "7.,227".toList = some "7.227".toList := by
  repeat rw [String.toList_ofList]
  decide +kernel

/-- Clause 2 violated: a dangling point directly before a unit is accepted once a digit follows
(finding F2). -/
theorem reject_malformed_counterexample_point_before_unit :
    parse .pinned "1.千5".toList = some "1005".toList := by
  repeat rw [String.toList_ofList]
  decide +kernel

/-- Clause 2 violated: a bad last separator group directly before a unit is accepted (finding F3). -/
theorem reject_malformed_counterexample_comma_before_unit :
    parse .pinned "1,千".toList = some "1000".toList ∧ parse .pinned "1,00万".toList = some "1000000".toList := by
  repeat rw [String.toList_ofList]
  decide +kernel

/-- Clause 2 violated: large units out of order are accepted when the digits do not overlap
(finding F4). -/
theorem reject_malformed_counterexample_unit_order :
    parse .pinned "十万一万".toList = some "110000".toList ∧
      parse .pinned "千万百万".toList = some "11000000".toList := by
  repeat rw [String.toList_ofList]
  decide +kernel

/-- the un-joined path of the text `7十九三.`: five one-character nodes, all tagged as numerals -/
def f6Path : List Node :=
  [⟨0, 1, ['7'], [], true⟩, ⟨1, 2, ['十'], [], true⟩, ⟨2, 3, ['九'], [], true⟩, ⟨3, 4, ['三'], [], true⟩,
   ⟨4, 5, ['.'], [], true⟩]

/-- Clause 2 violated at the plugin: `7十九三` is malformed (the terms overlap) and `done()` fails,
but because a point follows, the error state is POINT and the plugin joins the four characters into
one token whose normalised form is "0" — a wrong value (finding F6). -/
theorem reject_malformed_counterexample_trailing_separator :
    (match rewrite .pinned true [1, 2, 2, 2, 0] f6Path with
      | .ok p => p.map (fun n => (n.b, n.e, n.norm))
      | _ => []) = [(0, 4, ['0']), (4, 5, ['.'])] := by decide +kernel

/-- the same malformed numeral without the trailing point is left alone -/
theorem trailing_separator_contrast (v : Variant) (hv : v = Variant.pinned ∨ v = Variant.repaired) :
    (match rewrite v true [1, 2, 2, 2] (f6Path.take 4) with
      | .ok p => p.map (fun n => (n.b, n.e, n.norm))
      | _ => []) = [(0, 1, ['7']), (1, 2, ['十']), (2, 3, ['九']), (3, 4, ['三'])] := by
  rcases hv with rfl | rfl <;> decide +kernel

/-! ## the repaired parser -/

/-- **Clause 2, full statement, repaired code** (it only needs the repairs F1–F4): whatever the
parser accepts is the rendering of a numeral AST that is well-formed — every written number obeys
the separator rules (`IntPart.WF`: first group of 1–3 digits that is not all zeros, then groups of
exactly three; a fraction has digits and no separators; no dangling point — there is no AST for
it), every large unit has a coefficient or small-unit terms in front of it, the large units
strictly decrease — and whose terms fit positionally (`Numeral.Fits`: each term lies entirely in
the decimal positions the previous one leaves free, inside a group and from group to group).
(The empty text is the rendering of the empty numeral; the plugin never parses an empty run.) -/
theorem reject_malformed (v : Variant) (h1 : v.f1 = true) (h2 : v.f2 = true) (h3 : v.f3 = true)
    (h4 : v.f4 = true) (text s : List Char) (h : parse v text = some s) :
    ∃ a : Numeral, a.WF ∧ a.Fits ∧ render a = text :=
  accepted_wellformed v h1 h2 h3 h4 text s h

/-- a consequence of `Numeral.Fits`: inside every group the small units strictly decrease -/
theorem wellformed_small_units_decrease (a : Numeral) (hw : a.WF) (hf : a.Fits) :
    (∀ t ∈ a.larges, (t.1.smalls.map (fun x => x.2.exp)).Pairwise (· > ·)) ∧
    (a.rest.smalls.map (fun x => x.2.exp)).Pairwise (· > ·) :=
  ⟨fun t ht => fit_small_order _ (hw.1 t ht).1.1 (fit_group_smalls _ (hf.1 t ht)),
    fit_small_order _ hw.2.2.1 (fit_group_smalls _ hf.2.1)⟩

/-- Clause 2, family F1, for every instance and wherever it occurs (repair F1 alone): after a point
and any fraction digits a thousands separator is never accepted. -/
theorem reject_comma_in_fraction_anywhere (v : Variant) (hv : v.f1 = true) (pre : List Char) (fs : List Dg)
    (post : List Char) : parse v (pre ++ '.' :: (renderDigits fs ++ ',' :: post)) = none :=
  reject_comma_in_fraction_any v hv pre fs post

/-- Clause 2, family F2 (repair F2 alone): a unit directly after a point is never accepted. -/
theorem reject_point_before_unit_anywhere (v : Variant) (hv : v.f2 = true) (pre : List Char) (c : Char)
    (hc : IsUnit c) (post : List Char) : parse v (pre ++ '.' :: c :: post) = none :=
  reject_point_before_unit_any v hv pre c hc post

/-- Clause 2, family F3 (repair F3 alone): a unit directly after a separator group that does not
have exactly three digits (the empty group included) is never accepted. -/
theorem reject_open_group_before_unit_anywhere (v : Variant) (hv : v.f3 = true) (pre : List Char)
    (g : List Dg) (hg : g.length ≠ 3) (c : Char) (hc : IsUnit c) (post : List Char) :
    parse v (pre ++ ',' :: (renderDigits g ++ c :: post)) = none :=
  reject_open_group_before_unit_any v hv pre g hg c hc post

/-- Clause 2, family F4 (repair F4 alone): a large unit that is not smaller than the previous large
unit (`mid` is whatever stands between them) is never accepted. -/
theorem reject_large_unit_order_anywhere (v : Variant) (hv : v.f4 = true) (pre mid post : List Char)
    (U1 U2 : LargeU) (hle : U1.exp ≤ U2.exp) (hmid : ∀ c ∈ mid, ∀ U : LargeU, U.char ≠ c) :
    parse v (pre ++ U1.char :: (mid ++ U2.char :: post)) = none :=
  reject_large_unit_order_any v hv pre mid post U1 U2 hle hmid

/-- Clause 1, rendering (repair F5 alone): the normal form of an accepted numeral that contains a
unit has no leading zero — it is `0`, starts with a non-zero digit, or starts with `0.`. -/
theorem unit_normal_form_no_leading_zero (v : Variant) (hv : v.f5 = true) (text s : List Char)
    (h : parse v text = some s) (hu : ∃ c ∈ text, IsUnit c) : NoLeadingZero s :=
  unit_no_leading_zero v hv text s h hu

/-- F6 at the parser (repair F6 alone): `done()` sets the error state POINT/COMMA only when both
final additions succeeded, i.e. when `total` holds the value of what was read — the condition under
which the plugin may join the prefix in front of a trailing separator. -/
theorem done_error_state_sound (v : Variant) (hv : v.f6 = true) (q : Parser) (he : q.err = .none)
    (h : (q.done v).2.err ≠ .none) :
    (q.subtotal.add q.tmp).1 = true ∧ (q.total.add (q.subtotal.add q.tmp).2.1).1 = true :=
  done_error_sums_ok v hv q he h

/-- the witnesses of F1–F6 on the repaired code: the F1–F4 texts are not accepted, the F5 numerals are
rendered without the leading zero, and the plugin leaves the overlapping numeral in front of the
trailing point alone (F6) -/
theorem repaired_witnesses :
    parse .repaired "1.5,000".toList = none ∧ parse .repaired "7.,227".toList = none ∧
    parse .repaired "1.千5".toList = none ∧
    parse .repaired "1,千".toList = none ∧ parse .repaired "1,00万".toList = none ∧
    parse .repaired "十万一万".toList = none ∧ parse .repaired "千万百万".toList = none ∧
    parse .repaired "0.1万".toList = some "1000".toList ∧ parse .repaired "0.5百".toList = some "50".toList ∧
    (match rewrite .repaired true [1, 2, 2, 2, 0] f6Path with
      | .ok p => p.map (fun n => (n.b, n.e, n.norm))
      | _ => []) = [(0, 1, ['7']), (1, 2, ['十']), (2, 3, ['九']), (3, 4, ['三']), (4, 5, ['.'])] := by
  repeat rw [String.toList_ofList]
  decide +kernel

/-- the last two repairs taken alone on their witnesses (F1–F4 alone: the `_anywhere` theorems) -/
theorem single_repair_witnesses :
    parse { Variant.pinned with f5 := true } "0.1万".toList = some "1000".toList ∧
    (match rewrite { Variant.pinned with f6 := true } true [1, 2, 2, 2, 0] f6Path with
      | .ok p => p.map (fun n => (n.b, n.e, n.norm))
      | _ => []) = [(0, 1, ['7']), (1, 2, ['十']), (2, 3, ['九']), (3, 4, ['三']), (4, 5, ['.'])] := by
  repeat rw [String.toList_ofList]
  decide +kernel

/-! ## unit notation (every variant), the repaired parser characterised, the `StringNumber` operations -/

/-- **Clause 1, full statement**: every well-formed numeral AST
`a` (digits in any script, thousands separators, fraction, small units 十百千 with or without
coefficient, large units 万億兆, coefficients with fractions such as `1.5百万`) whose terms fit
positionally is accepted — every character, and `done()` — and its normal form is `canon v a`:
`to_string` of the digits of the terms written at their decimal positions with the gaps filled with
zeros (`numeralPN`, `PN.render`), and with repair F5 the leading zeros stripped when a unit was
written.  Holds for EVERY variant (pinned included); no restriction on the magnitude. -/
theorem parse_render_units (v : Variant) (a : Numeral) (hw : a.WF) (hf : a.Fits) :
    parse v (render a) = some (canon v a) :=
  parse_render_canon v a hw hf

/-- **Clause 1, the value**: the normal form, read back as a decimal (`decimalOf`: digits before
and after the point), is the value of the numeral — the sum over its groups of (sum of
coefficient × small unit, plus the plain number) × large unit, a unit without coefficient counting
as 1 (`Numeral.value`; `Dec.eqv` = the same rational `m / 10^k`).  Every variant: repair F5 changes
the rendering, not the value — this is the part of the clause that survives for the pinned code. -/
theorem normal_form_value (v : Variant) (a : Numeral) (hw : a.WF) (hf : a.Fits) :
    ∃ s, parse v (render a) = some s ∧ (decimalOf s).eqv a.value :=
  ⟨canon v a, parse_render_canon v a hw hf, canon_value v a hw hf⟩

/-- **Clause 1, canonical form**, stated exactly as the code renders: (1) a numeral WITHOUT units is
rendered as the written number — all integer digits (leading zeros KEPT), separators removed,
trailing fraction zeros dropped and the point too when nothing is left — for every variant; (2) with
repair F5 a numeral WITH a unit has no leading zero (`0`, a non-zero first digit, or `0.`…);
(3) for the pinned code a numeral with a unit is `to_string` of the positional number as it is
(leading zeros of a coefficient below one kept: finding F5); in all cases the fraction is the
`fracPart (trimZeros …)` of `PN.render`. -/
theorem normal_form_shape (v : Variant) (a : Numeral) :
    (a.hasUnit = false → canon v a = match a.rest.last with
      | none => ['0']
      | some r => canonInt r.int ++ fracPart (trimZeros (canonDigits r.frac))) ∧
    (v.f5 = true → a.hasUnit = true → NoLeadingZero (canon v a)) ∧
    (v.f5 = false → canon v a = PN.renderO (numeralPN a)) := by
  refine ⟨canon_plain v a, fun hv hu => canon_units v hv a hu, ?_⟩
  intro h5
  simp [canon, h5]

/-- **accepted ⇔ well-formed** (repaired code; `⇒` is `reject_malformed` and needs F1–F4, `⇐` holds
for every variant): the parser accepts a text exactly when it is the rendering of a well-formed
numeral whose terms fit, and then the normal form is `canon` of ANY such numeral -/
theorem accepted_iff_wellformed (v : Variant) (h1 : v.f1 = true) (h2 : v.f2 = true) (h3 : v.f3 = true)
    (h4 : v.f4 = true) (text : List Char) :
    (∃ s, parse v text = some s) ↔ ∃ a : Numeral, a.WF ∧ a.Fits ∧ render a = text :=
  ⟨fun ⟨s, hs⟩ => let ⟨a, hw, hf, hr, _⟩ := (parse_iff_render_canon v h1 h2 h3 h4 text s).1 hs; ⟨a, hw, hf, hr⟩,
    fun ⟨a, hw, hf, hr⟩ => ⟨canon v a, (parse_iff_render_canon v h1 h2 h3 h4 text _).2 ⟨a, hw, hf, hr, rfl⟩⟩⟩

/-- Denotation of `shift_scale`: a `StringNumber` that holds the positional number `x` (digits `ds`,
last digit at the decimal position `ex`; `SN.Rep` abstracts from the scale/point encoding) holds
`x` moved up by `e` positions afterwards, and that is `x × 10^e`. -/
theorem shift_scale_denotation (s : SN) (x : PN) (e : Nat) (h : s.Rep x) :
    (s.shiftScale e).Rep (x.shift e) ∧ (x.shift e).val.eqv (x.val.shl e) :=
  ⟨rep_shift s x e h, val_shift x e⟩

/-- Denotation of `add` for two non-zero numbers: it succeeds EXACTLY when the second number lies
entirely in the positions the first leaves free (`y.hi ≤ x.ex`, the condition of `add_good`); then
the result holds the digits of the first, the zeros of the gap and the digits of the second — and
that is the SUM; the argument, normalised by `int_length`, still holds its number. -/
theorem add_denotation (a b : SN) (x y : PN) (ha : a.Rep x) (hb : b.Rep y) :
    ((a.add b).1 = true ↔ y.hi ≤ x.ex) ∧
    (y.hi ≤ x.ex → (a.add b).2.1.Rep (x.join y) ∧ (a.add b).2.2.Rep y ∧ (x.join y).val.eqv (x.val.add y.val)) := by
  obtain ⟨h1, h2⟩ := rep_add a b x y ha hb
  exact ⟨h1, fun hfit => ⟨(h2 hfit).1, (h2 hfit).2, val_join x y hfit⟩⟩

/-- Denotation of `normalize_scale`: the number held does not change; afterwards there is no point,
or no scale and the point strictly inside the digits. -/
theorem normalize_scale_denotation (s : SN) (x : PN) (h : s.Rep x) :
    s.normalizeScale.Rep x ∧
    (s.normalizeScale.point = none ∨
      ∃ p, s.normalizeScale.point = some p ∧ s.normalizeScale.scale = 0 ∧ 1 ≤ p ∧ p < s.sig.length) :=
  ⟨rep_normalize s x h, normalize_form s h.1⟩

/-- Denotation of `to_string`: the rendering of the number held (`PN.render`: zeros up to the units,
or the point before the fraction digits with trailing zeros — and then the point — dropped; no
panic), and the rendering read back is the value of the number. -/
theorem to_string_denotation (s : SN) (x : PN) (h : s.Rep x) (hd : Digits x.ds) :
    s.toStr = some x.render ∧ (decimalOf x.render).eqv x.val := by
  refine ⟨rep_toStr s x h (fun c hc => digit_ne_point c (hd c hc)), decimalOf_render x hd ?_⟩
  rw [← rep_hi s x h]
  exact good_hi_pos s h.1

/-! ## the parser object is reused: `clear()` -/

/-- **`clear()` restores the initial state**: whatever texts the parser went through (accepted or
rejected characters, `done()`, `get_normalized()` with its write-back into `total`), after `clear()`
it is `NumericParser::new()`, field by field.  (Hypothesis: the parser did not panic — the
model-only mark `bad` of a `usize` underflow; `clear()` keeps the mark: `Numeric.clear_anyBad`.) -/
theorem clear_is_new (p : Parser) (h : p.anyBad = false) : p.clear = Parser.new :=
  Numeric.clear_is_new p h

/-- **a reused parser behaves like a new one** (the observation tied by the hook `verif_parse_seq`):
any sequence of texts sent through ONE parser with `clear()` in between is observed exactly like
each text through a fresh parser; a panic of one of them is a panic of the sequence. -/
theorem reused_parser_is_fresh (v : Variant) (ts : List (List Char)) :
    verifParseSeq v ts = Wire.allSome (ts.map (verifParse v)) :=
  seq_is_fresh v ts

/-! non-vacuity of the hypotheses -/

/-- the repaired variant has the four switches `reject_malformed` asks for, and there are accepted
texts with units (`1.5百万1.5千20`) -/
example : Variant.repaired.f1 = true ∧ Variant.repaired.f2 = true ∧ Variant.repaired.f3 = true ∧
    Variant.repaired.f4 = true ∧ Variant.repaired.f5 = true ∧ Variant.repaired.f6 = true ∧
    parse .repaired "1.5百万1.5千20".toList = some "1501520".toList := by
  refine ⟨rfl, rfl, rfl, rfl, rfl, rfl, ?_⟩
  repeat rw [String.toList_ofList]
  decide +kernel

/-- `1.5百万1.5千20` as an AST: one large group `1.5百` before 万, then `1.5千` and `20`; it is
well-formed, fits, and renders to the text -/
def exUnits : Numeral :=
  let r15 : Run := ⟨⟨[⟨false, 1⟩], []⟩, [⟨false, 5⟩]⟩
  ⟨[(⟨[(some r15, .hundred)], none⟩, .man)], ⟨[(some r15, .thousand)], some ⟨⟨[⟨false, 2⟩, ⟨false, 0⟩], []⟩, []⟩⟩⟩

example : render exUnits = "1.5百万1.5千20".toList ∧ exUnits.Fits := by
  rw [String.toList_ofList]
  refine ⟨by decide +kernel, fun t ht => ?_, ⟨by decide +kernel, trivial⟩, ⟨by decide +kernel, trivial⟩⟩
  obtain rfl := List.mem_singleton.1 ht
  trivial

example : exUnits.WF := by
  refine ⟨?_, by simp [exUnits], ?_, ?_⟩
  · intro t ht
    simp only [exUnits, List.mem_singleton] at ht
    subst ht
    refine ⟨⟨?_, trivial⟩, Or.inl (by simp)⟩
    intro x hx
    simp only [List.mem_singleton] at hx
    subst hx
    exact ⟨by simp, by simp, by simp⟩
  · intro x hx
    simp only [exUnits, List.mem_singleton] at hx
    subst hx
    exact ⟨by simp, by simp, by simp⟩
  · exact ⟨by simp, by simp, by simp⟩

/-- units exist; a large unit that is not smaller; text between two large units without a large unit -/
example : IsUnit '千' ∧ IsUnit '万' ∧ LargeU.man.exp ≤ LargeU.man.exp ∧ LargeU.man.exp ≤ LargeU.oku.exp ∧
    (∀ c ∈ ['一'], ∀ U : LargeU, U.char ≠ c) := by
  refine ⟨Or.inl ⟨.thousand, rfl⟩, Or.inr ⟨.man, rfl⟩, by decide, by decide, ?_⟩
  intro c hc U
  simp only [List.mem_singleton] at hc
  subst hc
  cases U <;> decide

/-- a parser state in which `done()` (repaired) reports POINT: after `6.` -/
example : ((Parser.new.feed .repaired "6.".toList 0).2.2.done .repaired).2.err = .point ∧
    (Parser.new.feed .repaired "6.".toList 0).2.2.err = .none := by
  rw [String.toList_ofList]
  decide +kernel

/-- a text with a unit that is accepted by the variant with repair F5 alone -/
example : parse { Variant.pinned with f5 := true } "0.5百".toList = some "50".toList ∧
    (∃ c ∈ "0.5百".toList, IsUnit c) := by
  repeat rw [String.toList_ofList]
  exact ⟨by decide +kernel, '百', by decide +kernel, Or.inl ⟨.hundred, rfl⟩⟩

/-- `exUnits` (`1.5百万1.5千20`, well-formed and fitting, see above): its normal form in both
variants, its value 1501520, it has units -/
example : canon .repaired exUnits = "1501520".toList ∧ canon .pinned exUnits = "1501520".toList ∧
    exUnits.value.eqv ⟨1501520, 0⟩ ∧ exUnits.hasUnit = true := by
  repeat rw [String.toList_ofList]
  refine ⟨by decide +kernel, by decide +kernel, ?_, rfl⟩
  unfold Dec.eqv
  decide +kernel

/-- `0.1万` as an AST: where the variants differ (F5) — the rendering, not the value (1000) -/
def exTenth : Numeral :=
  ⟨[(⟨[], some ⟨⟨[⟨false, 0⟩], []⟩, [⟨false, 1⟩]⟩⟩, .man)], ⟨[], none⟩⟩

example : render exTenth = "0.1万".toList ∧ canon .pinned exTenth = "01000".toList ∧
    canon .repaired exTenth = "1000".toList ∧ (decimalOf (canon .pinned exTenth)).eqv exTenth.value ∧
    (decimalOf (canon .repaired exTenth)).eqv exTenth.value ∧ exTenth.value.eqv ⟨1000, 0⟩ := by
  repeat rw [String.toList_ofList]
  refine ⟨by decide +kernel, by decide +kernel, by decide +kernel, ?_, ?_, ?_⟩ <;> (unfold Dec.eqv; decide +kernel)

/-- a numeral without units (`007.50`): hypothesis of `normal_form_shape` (1) -/
example : (⟨[], ⟨[], some ⟨⟨[⟨false, 0⟩, ⟨false, 0⟩, ⟨true, 7⟩], []⟩, [⟨false, 5⟩, ⟨false, 0⟩]⟩⟩⟩ : Numeral).hasUnit = false ∧
    canon .repaired ⟨[], ⟨[], some ⟨⟨[⟨false, 0⟩, ⟨false, 0⟩, ⟨true, 7⟩], []⟩, [⟨false, 5⟩, ⟨false, 0⟩]⟩⟩⟩ = "007.5".toList := by
  rw [String.toList_ofList]
  exact ⟨rfl, by decide +kernel⟩

/-- a `StringNumber` that holds a positional number: `1.5` with scale 3 (that is 1500) holds the
digits `15` with the last digit at position 2; the digit `2` at position 0 fits below it -/
example : SN.Rep { sig := "15".toList, scale := 3, point := some 1 } ⟨"15".toList, 2⟩ ∧
    SN.Rep { sig := "2".toList } ⟨"2".toList, 0⟩ ∧ (⟨"2".toList, 0⟩ : PN).hi ≤ (⟨"15".toList, 2⟩ : PN).ex ∧
    Digits ['1', '5'] := by
  repeat rw [String.toList_ofList]
  refine ⟨⟨⟨by decide, ?_⟩, rfl, rfl, by decide⟩, ⟨⟨by decide, ?_⟩, rfl, rfl, by decide⟩, by decide, ?_⟩
  · intro p hp
    simp only [Option.some.injEq] at hp
    subst hp
    exact ⟨by decide, by decide⟩
  · intro p hp; cases hp
  · intro c hc
    simp only [List.mem_cons, List.not_mem_nil, or_false] at hc
    rcases hc with rfl | rfl
    · exact ⟨1, rfl⟩
    · exact ⟨5, rfl⟩

/-- a parser that has been used (`1万` with `done()`) is not the new parser, did not panic, and
`clear()` makes it the new parser -/
example : ((Parser.new.feed .repaired "1万".toList 0).2.2.done .repaired).2.anyBad = false ∧
    ((Parser.new.feed .repaired "1万".toList 0).2.2.done .repaired).2 ≠ Parser.new ∧
    ((Parser.new.feed .repaired "1万".toList 0).2.2.done .repaired).2.clear = Parser.new := by
  rw [String.toList_ofList]
  decide +kernel

/-- one parser for two texts: a unit numeral, `clear()`, a zero-led digit string (a `has_unit` that
survived `clear()` would strip the zeros of the second) -/
example : verifParseSeq .repaired ["三千".toList, "007".toList] =
    some [(2, 0, true, "3000".toList), (3, 0, true, "007".toList)] := by
  repeat rw [String.toList_ofList]
  decide +kernel

/-- `12,345` -/
def ex12345 : IntPart := ⟨[⟨false, 1⟩, ⟨false, 2⟩], [[⟨false, 3⟩, ⟨true, 4⟩, ⟨false, 5⟩]]⟩

example : ex12345.WF ∧ renderInt ex12345 = "12,3四5".toList ∧ canonInt ex12345 = "12345".toList := by
  repeat rw [String.toList_ofList]
  exact ⟨⟨by decide, fun _ => ⟨by decide, by decide⟩, by decide⟩, by decide +kernel, by decide +kernel⟩

example : ([⟨false, 0⟩, ⟨true, 7⟩] : List Dg) ≠ [] ∧
    renderDigits [⟨false, 0⟩, ⟨true, 7⟩] = "0七".toList ∧ canonDigits [⟨false, 0⟩, ⟨true, 7⟩] = "07".toList := by
  repeat rw [String.toList_ofList]
  decide +kernel

/-- `12,345.60` ↦ `12345.6`, `12,345.00` ↦ `12345` -/
example : canonInt ex12345 ++ fracPart (trimZeros (canonDigits [⟨false, 6⟩, ⟨false, 0⟩])) = "12345.6".toList ∧
    canonInt ex12345 ++ fracPart (trimZeros (canonDigits [⟨false, 0⟩, ⟨false, 0⟩])) = "12345".toList := by
  repeat rw [String.toList_ofList]
  decide +kernel

/-- a group length that is not three exists (the hypothesis of `reject_bad_last_group`) -/
example : ([⟨false, 0⟩, ⟨false, 0⟩] : List Dg).length ≠ 3 := by decide

/-! # The joined TOKEN (`Model/RewriteNumeric.lean`, op `pipe`)

The property speaks about the token, not about the parser.  `RewriteNumeric.joinNumeral v nv cfg cat path`
is `Rewrite.joinNumeric` (the transcription of `rewrite_gen` / `concat` / `concat_nodes` of property
C14) run with the parser model of this property as its parser.  Paths are taken AS GIVEN: "not
shadowed by a longer dictionary word" is a statement about the lattice / Viterbi (C02) and is outside;
so is "the dictionary tags digits and units as numerals" — here: the first node of the run has the
numeral part of speech (the plugin's own gate, `C14.numeral_gate`), the nodes are numeral candidates
by CHARACTER CLASS (NUMERIC / KANJINUMERIC) or separators by normalised form, which is what the code
tests.  The characters the plugin feeds are the NORMALISED forms of the nodes (`１` is fed as `1`), so
"the surface is the rendering of the AST" is stated on the concatenated normalised forms (`accOf`).
The theorems about well-formed runs are for the repaired loop (`NVariant.fix`: the loop after the repair of C14's finding F2; the
locality theorem `Rewrite.joinNumeric_split` they use needs termination) and for EVERY parser
variant; `malformed_run_never_gets_a_value` needs the parser repairs F1–F4 (it uses the simulation
behind `reject_malformed`) and F6 (the back-off). -/

open RewriteNumeric
open Rewrite (NCfg NVariant Resets accOf mergedNode normForm catSurface joinNumeric_split
  joinNumeric_reset_last E_COMMA E_POINT)

/-- a numeral run at the START of the text, followed by a node `y` that resets the loop: ONE token
`numeralTok`, then `y`, then what the joiner makes of `B` on its own (the hypotheses are read as in
`numeral_run_joined` below, which puts a left context in front by one more use of the locality theorem) -/
theorem numeral_run_joined_at_text_start (v : Variant) (cfg : NCfg) (cat : List Nat) (B : List Rewrite.Node) (y f : Rewrite.Node)
    (R : List Rewrite.Node) (a : Numeral) (hrun : NumeralRun cfg cat f R a) (hy : Resets cat y)
    (r : List Rewrite.Node) (hr : joinNumeral v .fix cfg cat B = .ok r) :
    joinNumeral v .fix cfg cat (f :: R ++ y :: B) = .ok (numeralTok cfg v f R a :: y :: r) := by
  obtain ⟨hok, htok⟩ := runOK_of_numeralRun v cfg cat f R a hrun
  have h1 := joinNumeric_run_reset cfg cat (numericP v) f R y hok hy
  have h2 := joinNumeric_split cfg cat (numericP v) (numericP_sepNotFirst v) (f :: R) B y hy _ r h1 hr
  unfold joinNumeral
  rw [h2, htok]
  simp

/-- a numeral run that is the whole text -/
theorem numeral_run_joined_whole_text (v : Variant) (cfg : NCfg) (cat : List Nat) (f : Rewrite.Node)
    (R : List Rewrite.Node) (a : Numeral) (hrun : NumeralRun cfg cat f R a) :
    joinNumeral v .fix cfg cat (f :: R) = .ok [numeralTok cfg v f R a] := by
  obtain ⟨hok, htok⟩ := runOK_of_numeralRun v cfg cat f R a hrun
  unfold joinNumeral
  rw [joinNumeric_run_end cfg cat (numericP v) f R hok, htok]

/-- **clause 1 on the token, run between two non-numeral nodes**: `A ++ [x]` is what precedes, `x` and
`y` are nodes that are no numeral candidates under any flags (`Resets`: no numeric class, not `,`/`.`),
`f :: R` is a run that writes the well-formed numeral `a` (`NumeralRun`), `B` is what follows `y`.
Then the run becomes exactly ONE token `numeralTok` (range = union of the run, numeral part of speech,
normalised form `canon v a` = the decimal value by `normal_form_value`; a single node whose form
already is `canon` is kept as it is), and everything outside is what the joiner makes of `A ++ [x]`
and of `B` on their own — in particular `x` and `y` stay. -/
theorem numeral_run_joined (v : Variant) (cfg : NCfg) (cat : List Nat) (A B : List Rewrite.Node) (x y f : Rewrite.Node)
    (R : List Rewrite.Node) (a : Numeral) (hrun : NumeralRun cfg cat f R a) (hx : Resets cat x) (hy : Resets cat y)
    (l r : List Rewrite.Node) (hl : joinNumeral v .fix cfg cat (A ++ [x]) = .ok l)
    (hr : joinNumeral v .fix cfg cat B = .ok r) :
    joinNumeral v .fix cfg cat (A ++ x :: (f :: R ++ y :: B)) = .ok (l ++ numeralTok cfg v f R a :: y :: r) ∧
      ∃ l0, l = l0 ++ [x] := by
  have hP := numericP_sepNotFirst v
  obtain ⟨l0, hl0, _⟩ := joinNumeric_reset_last cfg cat (numericP v) hP A x hx l hl
  exact ⟨joinNumeric_split cfg cat (numericP v) hP A _ x hx l _ hl
    (numeral_run_joined_at_text_start v cfg cat B y f R a hrun hy r hr), l0, hl0⟩

/-- the same with the run at the END of the text (`numeral_run_joined_whole_text` behind a left context) -/
theorem numeral_run_joined_at_text_end (v : Variant) (cfg : NCfg) (cat : List Nat) (A : List Rewrite.Node) (x f : Rewrite.Node)
    (R : List Rewrite.Node) (a : Numeral) (hrun : NumeralRun cfg cat f R a) (hx : Resets cat x)
    (l : List Rewrite.Node) (hl : joinNumeral v .fix cfg cat (A ++ [x]) = .ok l) :
    joinNumeral v .fix cfg cat (A ++ x :: (f :: R)) = .ok (l ++ [numeralTok cfg v f R a]) := by
  exact joinNumeric_split cfg cat (numericP v) (numericP_sepNotFirst v) A (f :: R) x hx l _ hl
    (numeral_run_joined_whole_text v cfg cat f R a hrun)

/-- the fields of the joined token: range = union of the run, part of speech of the first node; with
`enableNormalize` the stored normalised form is `canon v a` (or the single node already has it) -/
theorem numeral_token_fields (cfg : NCfg) (v : Variant) (f : Rewrite.Node) (R : List Rewrite.Node) (a : Numeral) :
    (numeralTok cfg v f R a).b = f.b ∧ (numeralTok cfg v f R a).e = (lastOf f R).e ∧
    (numeralTok cfg v f R a).pos = f.pos ∧
    (cfg.enableNormalize = true →
      ((R ≠ [] ∨ canon v a ≠ normForm f) → (numeralTok cfg v f R a).norm = canon v a ∧
        (numeralTok cfg v f R a).surface = catSurface (f :: R)) ∧
      (¬ (R ≠ [] ∨ canon v a ≠ normForm f) → numeralTok cfg v f R a = f ∧ normForm f = canon v a)) := by
  -- the token is a rebuilt node, or `f` itself when the run is `f` alone
  have hcases : (∃ nf, numeralTok cfg v f R a = mergedNode f (lastOf f R) (f :: R) nf) ∨
      (numeralTok cfg v f R a = f ∧ R = []) := by
    unfold numeralTok
    by_cases hen : cfg.enableNormalize = true
    · rw [if_pos hen]
      by_cases h : R ≠ [] ∨ canon v a ≠ normForm f
      · rw [if_pos h]; exact .inl ⟨_, rfl⟩
      · rw [if_neg h]; exact .inr ⟨rfl, Classical.not_not.1 fun hR => h (.inl hR)⟩
    · rw [if_neg hen]
      by_cases h : R ≠ []
      · rw [if_pos h]; exact .inl ⟨_, rfl⟩
      · rw [if_neg h]; exact .inr ⟨rfl, Classical.not_not.1 h⟩
  refine ⟨?_, ?_, ?_, ?_⟩
  · rcases hcases with ⟨nf, h⟩ | ⟨h, _⟩ <;> rw [h] <;> rfl
  · rcases hcases with ⟨nf, h⟩ | ⟨h, hR⟩
    · rw [h]; rfl
    · rw [h, hR]; rfl
  · rcases hcases with ⟨nf, h⟩ | ⟨h, _⟩ <;> rw [h] <;> rfl
  · intro hen
    unfold numeralTok
    rw [if_pos hen]
    constructor
    · intro h
      rw [if_pos h]
      exact ⟨rfl, rfl⟩
    · intro h
      rw [if_neg h]
      refine ⟨rfl, ?_⟩
      have : ¬ canon v a ≠ normForm f := fun hh => h (.inr hh)
      exact (Classical.not_not.mp this).symm

/-- one join that carries a VALUE: the block `blk` of the path writes a well-formed numeral `a` whose
terms fit, and is replaced by ONE token whose stored normalised form is `canon v a` — the value of
exactly the joined span -/
def ValueJoin (v : Variant) (p p' : List Rewrite.Node) : Prop :=
  ∃ pre blk post f l a, p = pre ++ blk ++ post ∧ blk ≠ [] ∧ Numeral.WF a ∧ Numeral.Fits a ∧
    render a = accOf blk ∧ p' = pre ++ mergedNode f l blk (some (canon v a)) :: post

/-- **clause 2 on the token, FULL** (parser repairs F1–F4 and F6; every loop variant, EVERY path, every
class table, `enableNormalize`): whatever the joiner joins, it joins by `ValueJoin` steps — every token
it makes covers exactly the rendering of a well-formed numeral and carries ITS `canon` (never the
value of a different numeral, never a malformed grouping: by `accepted_iff_wellformed` a span with a
bad separator group, a dangling point or units out of order has no such AST).  This includes the
trailing-separator back-off (`done()` failed with the error of the LAST node of the run, which is
split off): the joined prefix is a well-formed numeral of its own and the rendering the parser holds
after the separator is the `canon` of that prefix (`Numeric.done_without_sep`, needs F6 — for the
pinned code it is false: `reject_malformed_counterexample_trailing_separator`).  Runs that are not
well-formed are therefore left as they are or joined over well-formed sub-spans only; which
sub-spans is decided by the loop and shown on the witnesses below. -/
theorem malformed_run_never_gets_a_value (v : Variant) (h1 : v.f1 = true) (h2 : v.f2 = true)
    (h3 : v.f3 = true) (h4 : v.f4 = true) (h6 : v.f6 = true) (nv : NVariant) (cfg : NCfg)
    (hen : cfg.enableNormalize = true) (cat : List Nat) (path q : List Rewrite.Node)
    (h : joinNumeral v nv cfg cat path = .ok q) :
    Steps (ValueJoin v) path q := by
  refine (joinNumeric_trace nv cfg cat (numericP v) path q h).mono ?_
  rintro p p' ⟨pre, blk, post, f, l, tail, hp, hne, hp', _, hacc, ht⟩
  rw [if_pos hen] at hp'
  have key : ∀ q', Parser.new.run v (accOf blk) = some q' → (q'.done v).1 = true →
      (numericP v (accOf blk)).norm = (numericP v (accOf blk ++ tail)).norm → ValueJoin v p p' := by
    intro q' hf hdq hnorm
    obtain ⟨a, hw, hfit, hr, hpa⟩ := canon_of_feed_done v h1 h2 h3 h4 _ q' hf hdq
    rw [← hnorm, (numericP_of_parse v _ _ hpa).2.2.2] at hp'
    exact ⟨pre, blk, post, f, l, a, hp, hne, hw, hfit, hr, hp'⟩
  rcases ht with ⟨rfl, hd⟩ | ⟨rfl, _, _, he⟩ | ⟨rfl, _, _, he⟩
  · obtain ⟨q', hf, hdq⟩ := numericP_done_inv v _ hd
    exact key q' hf hdq (by rw [List.append_nil])
  · obtain ⟨q', hf, hdq, hnorm⟩ := numericP_backoff v h6 (accOf blk) ',' E_COMMA (.inl ⟨rfl, rfl⟩) hacc he
    exact key q' hf hdq hnorm
  · obtain ⟨q', hf, hdq, hnorm⟩ := numericP_backoff v h6 (accOf blk) '.' E_POINT (.inr ⟨rfl, rfl⟩) hacc he
    exact key q' hf hdq hnorm

/-- one join without `enableNormalize`: at least two nodes, the stored forms are concatenated
(`mergedNode … none`: `norm := blk.flatMap (·.norm)`), no rendering of the parser is written -/
def PlainJoin (p p' : List Rewrite.Node) : Prop :=
  ∃ pre blk post f l, p = pre ++ blk ++ post ∧ 2 ≤ blk.length ∧ p' = pre ++ mergedNode f l blk none :: post ∧
    (mergedNode f l blk none).norm = blk.flatMap (·.norm)

/-- **`enableNormalize = false`** (every parser variant, loop variant, path): the joiner only ever
replaces a block of AT LEAST TWO nodes by a token whose stored normalised form is the concatenation
of the stored forms of the block; a single node is never touched and no value is ever written.
(The stored form of a dictionary word is EMPTY when it equals the headword, so the joined token of
`３万９` reads `39` — outside the property, which speaks about normalisation enabled.) -/
theorem normalize_disabled_keeps_forms (v : Variant) (nv : NVariant) (cfg : NCfg)
    (hen : cfg.enableNormalize = false) (cat : List Nat) (path q : List Rewrite.Node)
    (h : joinNumeral v nv cfg cat path = .ok q) : Steps PlainJoin path q := by
  refine (joinNumeric_trace nv cfg cat (numericP v) path q h).mono ?_
  rintro p p' ⟨pre, blk, post, f, l, tail, hp, _, hp', h2, _, _⟩
  rw [hen] at hp'
  exact ⟨pre, blk, post, f, l, hp, h2 hen, hp', rfl⟩

/-- a one-character node at character `b` (bytes = characters here), part of speech `pos` -/
def tk (b : Nat) (s : String) (pos : Nat) : Rewrite.Node :=
  { b := b, e := b + 1, bb := b, eb := b + 1, wid := b, tc := 0, left := 0, right := 0, cost := 0, pos := pos,
    hwl := 1, dfw := -1, aSplit := [], bSplit := [], wStruct := [], syn := [], surface := s.toList, norm := [],
    reading := [], dform := [] }

/-- numeral part of speech 1, `enableNormalize` -/
def wcfg : NCfg := { numPos := 1, enableNormalize := true }
/-- one node per string; `円` is a noun (0), everything else is tagged as a numeral (1) -/
def wpath (ss : List String) : List Rewrite.Node := (ss.zipIdx).map fun (s, i) => tk i s (if s = "円" then 0 else 1)

/-- **what the code does with the malformed groupings of the property text** (and contrasts), decided on
the model; class masks: 16 NUMERIC, 256 KANJINUMERIC, 0 for separators and `円` -/
theorem malformed_run_witnesses :
    -- `12,34円`: bad last group, detected by `done()` (COMMA), the node before `円` is no separator: untouched
    joinNumeral .repaired .fix wcfg [16, 16, 0, 16, 16, 0] (wpath ["1", "2", ",", "3", "4", "円"]) =
      .ok (wpath ["1", "2", ",", "3", "4", "円"]) ∧
    -- `12,345円` (contrast): one token 12345
    joinNumeral .repaired .fix wcfg [16, 16, 0, 16, 16, 16, 0] (wpath ["1", "2", ",", "3", "4", "5", "円"]) =
      .ok [mergedNode (tk 0 "1" 1) (tk 5 "5" 1) (wpath ["1", "2", ",", "3", "4", "5"]) (some "12345".toList), tk 6 "円" 0] ∧
    -- `1.` at the end of the text: dangling point (POINT), back-off to `1`, whose form already is `1`: untouched
    joinNumeral .repaired .fix wcfg [16, 0] (wpath ["1", "."]) = .ok (wpath ["1", "."]) ∧
    -- `12.円`: back-off joins the well-formed prefix `12` (form 12), the point stays a token
    joinNumeral .repaired .fix wcfg [16, 16, 0, 0] (wpath ["1", "2", ".", "円"]) =
      .ok [mergedNode (tk 0 "1" 1) (tk 1 "2" 1) (wpath ["1", "2"]) (some "12".toList), tk 2 "." 1, tk 3 "円" 0] ∧
    -- `1.2.3`: the second point is rejected by `append` (POINT): the run is restarted with the point no longer a
    -- digit; `1`, `2`, `3` are runs of their own: all five tokens stay
    joinNumeral .repaired .fix wcfg [16, 0, 16, 0, 16] (wpath ["1", ".", "2", ".", "3"]) =
      .ok (wpath ["1", ".", "2", ".", "3"]) ∧
    -- `百万十億`: `億` after `万` is rejected by `append` without an error state (repair F4): the run is dropped,
    -- nothing is joined — not even the well-formed prefix `百万十`
    joinNumeral .repaired .fix wcfg [256, 256, 256, 256] (wpath ["百", "万", "十", "億"]) =
      .ok (wpath ["百", "万", "十", "億"]) ∧
    -- (the pinned parser rejects `億` here as well: the terms overlap)
    joinNumeral .pinned .fix wcfg [256, 256, 256, 256] (wpath ["百", "万", "十", "億"]) =
      .ok (wpath ["百", "万", "十", "億"]) ∧
    -- `十万一万` (units out of order, no overlap): untouched with repair F4; the pinned parser (finding F4) makes ONE
    -- token with the value 110000
    joinNumeral .repaired .fix wcfg [256, 256, 256, 256] (wpath ["十", "万", "一", "万"]) =
      .ok (wpath ["十", "万", "一", "万"]) ∧
    joinNumeral .pinned .fix wcfg [256, 256, 256, 256] (wpath ["十", "万", "一", "万"]) =
      .ok [mergedNode (tk 0 "十" 1) (tk 3 "万" 1) (wpath ["十", "万", "一", "万"]) (some "110000".toList)] ∧
    -- `百万` alone: one token 1000000
    joinNumeral .repaired .fix wcfg [256, 256] (wpath ["百", "万"]) =
      .ok [mergedNode (tk 0 "百" 1) (tk 1 "万" 1) (wpath ["百", "万"]) (some "1000000".toList)] := by
  decide +kernel

/-! non-vacuity of the hypotheses of the token theorems -/

/-- a `NumeralRun`: the nodes `1` `2` (class NUMERIC, numeral part of speech) write the numeral `12` -/
example : ∃ a, NumeralRun wcfg [16, 16, 0] (tk 0 "1" 1) [tk 1 "2" 1] a := by
  obtain ⟨a, hw, hf, hr⟩ := accepted_wellformed .repaired rfl rfl rfl rfl ['1', '2'] ['1', '2'] (by decide +kernel)
  refine ⟨a, ⟨?_, by rw [hr]; decide +kernel, hw, hf, rfl, by decide +kernel, by decide +kernel⟩⟩
  intro n hn
  simp only [List.mem_cons, List.mem_nil_iff, or_false] at hn
  rcases hn with rfl | rfl <;> exact ⟨16, by decide +kernel, .inl (by decide +kernel)⟩

/-- a node that resets the loop (`円`: no numeric class, not a separator), a context the joiner leaves
alone, and the theorem applied: `12円` becomes `12` `円` -/
example : Resets [16, 16, 0] (tk 2 "円" 0) ∧
    joinNumeral .repaired .fix wcfg [16, 16, 0] [] = .ok [] ∧
    joinNumeral .repaired .fix wcfg [16, 16, 0] (wpath ["1", "2", "円"]) =
      .ok [mergedNode (tk 0 "1" 1) (tk 1 "2" 1) (wpath ["1", "2"]) (some "12".toList), tk 2 "円" 0] := by
  exact ⟨⟨0, by decide +kernel, by decide +kernel, by decide +kernel, by decide +kernel⟩, by decide +kernel,
    by decide +kernel⟩

/-- `enableNormalize` on and off: off, `12円` is joined with the concatenated stored forms (empty here:
the stored form of a word that equals its headword is empty, so the token reads its surface `12`),
and the single node `十` is not re-normalised to `10` as it is with the setting on -/
example : wcfg.enableNormalize = true ∧ ({ wcfg with enableNormalize := false } : NCfg).enableNormalize = false ∧
    joinNumeral .repaired .fix { wcfg with enableNormalize := false } [16, 16, 0] (wpath ["1", "2", "円"]) =
      .ok [mergedNode (tk 0 "1" 1) (tk 1 "2" 1) (wpath ["1", "2"]) none, tk 2 "円" 0] ∧
    joinNumeral .repaired .fix { wcfg with enableNormalize := false } [256] (wpath ["十"]) = .ok (wpath ["十"]) ∧
    joinNumeral .repaired .fix wcfg [256] (wpath ["十"]) =
      .ok [mergedNode (tk 0 "十" 1) (tk 0 "十" 1) (wpath ["十"]) (some "10".toList)] := by
  exact ⟨rfl, rfl, by decide +kernel⟩

/-! ## the joined numeral and the split stage (modes A and B, `split_into`)

`split_path` runs AFTER the path-rewrite plugins and `Morpheme::split_into` splits a morpheme of the
mode-C result on demand; both read the split lists the node carries (`Model/RewriteNumericSplit.lean`:
`toSplit`, then C09's `Split.splitPath` / `Split.splitInto`).  The node `concat_nodes` builds has none. -/

open RewriteNumericSplit in
/-- **C15 and the split modes.**  The token the joiner makes of a numeral run when it REBUILDS it
(`enableNormalize` and: more than one node, or a single node whose form is not yet `canon v a` — a
numeral that is ONE dictionary word such as `百万` included) carries no split units, for EVERY
dictionary (`cx.lex` arbitrary: numeral words may declare any units), every offset table, every mode:

* its stored normalised form is `canon v a`;
* `split_path` returns it unchanged inside any path (the sides are split on their own) — on C09's nodes
  and on the tokens C15 observes;
* `split_into` reports that nothing was split, the harness reads the token itself. -/
theorem joined_numeral_survives_split_modes (cfg : NCfg) (v : Variant) (f : Rewrite.Node) (R : List Rewrite.Node)
    (a : Numeral) (hen : cfg.enableNormalize = true) (hre : R ≠ [] ∨ canon v a ≠ normForm f)
    (cx : Split.Ctx) (norms : List (List Char)) (m : Split.Mode) :
    let t := numeralTok cfg v f R a
    t.aSplit = [] ∧ t.bSplit = [] ∧ t.norm = canon v a ∧
    Split.splitPath cx m [toSplit t] = .ok [toSplit t] ∧
    (∀ A A' B B', Split.splitPathGo cx m A = .ok A' → Split.splitPathGo cx m B = .ok B' →
      Split.splitPathGo cx m (A ++ toSplit t :: B) = .ok (A' ++ toSplit t :: B')) ∧
    (∀ P tp Q tq, splitToks cx norms m P = .ok tp → splitToks cx norms m Q = .ok tq →
      splitToks cx norms m (P ++ t :: Q) = .ok (tp ++ keepTok t :: tq)) ∧
    Split.splitInto cx m (toSplit t) = .ok (false, []) ∧
    splitIntoTok cx norms m t = .ok [keepTok t] := by
  intro t
  have ht : t = mergedNode f (lastOf f R) (f :: R) (some (canon v a)) := by
    show numeralTok cfg v f R a = _
    unfold numeralTok
    rw [if_pos hen, if_pos hre]
  have hA : t.aSplit = [] := by rw [ht]; rfl
  have hB : t.bSplit = [] := by rw [ht]; rfl
  have hns : Split.numSplits (toSplit t) m = 0 := by
    cases m <;> simp [Split.numSplits, Split.splitsOf, toSplit, hA, hB]
  have hle : Split.numSplits (toSplit t) m ≤ 1 := by rw [hns]; exact Nat.zero_le 1
  have hsi : Split.splitInto cx m (toSplit t) = .ok (false, []) := by simp [Split.splitInto, hns]
  refine ⟨hA, hB, by rw [ht]; rfl, ?_, ?_, ?_, hsi, ?_⟩
  · unfold Split.splitPath
    split
    · rfl
    · exact Split.splitPathGo_keeps cx m (toSplit t) hle [] [] rfl [] [] rfl
  · intro A A' B B' h1 h2
    exact Split.splitPathGo_keeps cx m (toSplit t) hle B B' h2 A A' h1
  · intro P tp Q tq h1 h2
    exact RewriteNumericSplit.splitToks_keeps cx norms m t hle Q tq h2 P tp h1
  · simp [splitIntoTok, hsi]

/-- the numeral word `百万` as ONE dictionary word (word 2, units 百 = word 0 and 万 = word 1 in modes A and B) -/
def wHyakuman : Rewrite.Node :=
  { b := 0, e := 2, bb := 0, eb := 6, wid := 2, tc := 0, left := 0, right := 0, cost := 0, pos := 1, hwl := 6, dfw := -1,
    aSplit := [0, 1], bSplit := [0, 1], wStruct := [0, 1], syn := [], surface := "百万".toList, norm := [],
    reading := [], dform := [] }
/-- the numeral word `10` as ONE dictionary word (word 2, units `1` = word 0 and `0` = word 1) -/
def wTen : Rewrite.Node :=
  { wHyakuman with eb := 2, hwl := 2, surface := "10".toList }
/-- the lexicons of the two witnesses and the offset tables of the two texts -/
def cxHyakuman : Split.Ctx := ⟨.cur, [[⟨3, [], []⟩, ⟨3, [], []⟩, ⟨6, [0, 1], [0, 1]⟩]], Split.Subset.all, [0, 0, 0, 1, 1, 1, 2], [0, 3, 6]⟩
def cxTen : Split.Ctx := ⟨.cur, [[⟨1, [], []⟩, ⟨1, [], []⟩, ⟨2, [0, 1], [0, 1]⟩]], Split.Subset.all, [0, 1, 2], [0, 1, 2]⟩

open RewriteNumericSplit in
/-- non-vacuity of `joined_numeral_survives_split_modes` on the single-node path of `concat`: the
single node `百万` (stored form `百万` ≠ `1000000`) is rebuilt, and the rebuilt token is one token with the
form `1000000` in modes C, A, B and under `split_into` — although the dictionary word declares 百/万 -/
example :
    joinNumeral .repaired .fix wcfg [256, 256] [wHyakuman] =
      .ok [mergedNode wHyakuman wHyakuman [wHyakuman] (some "1000000".toList)] ∧
    (∀ m, splitToks cxHyakuman ["百".toList, "万".toList, "百万".toList] m
        [mergedNode wHyakuman wHyakuman [wHyakuman] (some "1000000".toList)] = .ok [⟨0, 2, "1000000".toList⟩]) ∧
    (∀ m, splitIntoToks cxHyakuman ["百".toList, "万".toList, "百万".toList] m
        [mergedNode wHyakuman wHyakuman [wHyakuman] (some "1000000".toList)] = .ok [⟨0, 2, "1000000".toList⟩]) ∧
    -- what the split stage would do with the dictionary node itself (kept by the seeded fast path)
    splitToks cxHyakuman ["百".toList, "万".toList, "百万".toList] .A [wHyakuman] =
      .ok [⟨0, 1, "百".toList⟩, ⟨1, 2, "万".toList⟩] := by
  refine ⟨by decide +kernel, ?_, ?_, by decide +kernel⟩
  · intro m; cases m <;> decide +kernel
  · intro m; cases m <;> decide +kernel

open RewriteNumericSplit in
/-- **the hypothesis `R ≠ [] ∨ canon v a ≠ normForm f` cannot be dropped — the unchanged code violates the
property there.**  A numeral that is ONE dictionary word with split units whose stored form ALREADY is the
decimal rendering (`10`, units `1`/`0`): `concat` skips the rebuild (`end - begin > 1 || normalized_form !=
word_info.normalized_form()`), the dictionary node keeps its split lists, and modes A and B and
`split_into` take the numeral apart: two tokens `1`, `0` instead of one token `10` (mode C: one token). -/
theorem kept_numeral_word_is_split_counterexample :
    joinNumeral .repaired .fix wcfg [16, 16] [wTen] = .ok [wTen] ∧
    splitToks cxTen ["1".toList, "0".toList, "10".toList] .C [wTen] = .ok [⟨0, 2, "10".toList⟩] ∧
    splitToks cxTen ["1".toList, "0".toList, "10".toList] .A [wTen] = .ok [⟨0, 1, "1".toList⟩, ⟨1, 2, "0".toList⟩] ∧
    splitToks cxTen ["1".toList, "0".toList, "10".toList] .B [wTen] = .ok [⟨0, 1, "1".toList⟩, ⟨1, 2, "0".toList⟩] ∧
    splitIntoToks cxTen ["1".toList, "0".toList, "10".toList] .A [wTen] = .ok [⟨0, 1, "1".toList⟩, ⟨1, 2, "0".toList⟩] := by
  decide +kernel

end C15
