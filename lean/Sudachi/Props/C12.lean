import Sudachi.Proofs.Layers
import Sudachi.Proofs.LayersLoad
import Sudachi.Proofs.LayersRefs
import Sudachi.Proofs.LayersLimit
import Sudachi.Proofs.LayersReads
/-!
# C12 — Layered user dictionaries keep ids, parts of speech and references straight

Model: `Model/Layers.lean` (`WordId`, `Lexicon::lookup`, `LexiconSet::{new, append, lookup, get_word_info_subset,
update_dict_id}`, `Grammar::{register_pos, merge}`, `handle_user_pos`, `from_cfg_storage` / `merge_user_dictionary`,
the dictionary builder's POS numbering, `validate_entries`, inline resolution), `Model/LayersLoad.lean` (the order of
the load steps: connection-cost plugins, OOV POS, connection edits, per user dictionary `update_cost` → `append` →
`merge`; `MergeVariant`: `merge_user_dictionary` without / with the test that the merged POS list stays within what a
`u16` id addresses — `load`/`loadFull` are the pinned code, `loadV .limit`/`loadFullV .limit` the repaired one) and
`Model/LayersReads.lean` (a builder that goes on after a `read_lexicon` call failed); the driver of all three is
`Model/LayersIO.lean`.  `WordId` is modelled at the bit
level, the narrowing `as u16` of the rebased POS id is `asU16` in `rebasePos`.  Quantifiers: every system POS list, every
sequence of plugin POS registrations, every list of user dictionaries (own POS lists of any length, any stored words),
every word id.
-/
namespace C12
open Layers

/-! ## a 15th user dictionary is rejected -/

/-- Clause "a 15th user dictionary is rejected with an error": `append` on a set that already holds 15 lexicons
(system + 14 user dictionaries) is `Err(TooManyDictionaries)`; the model is functional, so the set itself is
untouched (the Rust returns before any mutation). -/
theorem fifteenth_rejected (s : LexSet) (lex : Lexicon) (off : Nat) (h : 15 ≤ s.lexicons.length) :
    s.append lex off = .err .tooManyDictionaries :=
  append_full lex off h

/-- ... and below the capacity `append` succeeds, the new lexicon gets its position as id, everything else is kept. -/
theorem append_below_capacity (s : LexSet) (lex : Lexicon) (off : Nat) (hs : IdsOk s) (h : s.lexicons.length < 15) :
    ∃ s', s.append lex off = .ok s' ∧ IdsOk s' ∧
      s'.lexicons = s.lexicons ++ [{ lex with lexId := s.lexicons.length }] ∧
      s'.posOffsets = s.posOffsets ++ [off] ∧ s'.numSystemPos = s.numSystemPos :=
  ⟨_, append_eq lex off h, hs.append lex off h, rfl, rfl, rfl⟩

/-- Whole-load form: whenever the plugins load, 15 or more user dictionaries make `from_cfg_storage` fail with
`TooManyDictionaries` ... -/
theorem load_rejects_fifteenth (sys : List Pos) (sysLex : Lexicon) (plugs : List (Bool × Pos))
    (us : List (List Pos × Lexicon)) (g : List Pos) (ids : List Nat)
    (hp : loadPlugins sys plugs = .ok (g, ids)) (h : 15 ≤ us.length) :
    load sys sysLex plugs us = .err .tooManyDictionaries := by
  rw [load_eq hp]
  exact mergeAll_err_full us _ (show 1 ≤ 15 by decide) (show 15 < 1 + us.length by omega)

/-- ... and 0 to 14 user dictionaries always load. -/
theorem load_accepts_fourteen (sys : List Pos) (sysLex : Lexicon) (plugs : List (Bool × Pos))
    (us : List (List Pos × Lexicon)) (g : List Pos) (ids : List Nat)
    (hp : loadPlugins sys plugs = .ok (g, ids)) (h : us.length ≤ 14) :
    ∃ D, load sys sysLex plugs us = .ok D := by
  rw [load_eq hp]
  exact mergeAll_ok_of_room us _ (show 1 + us.length ≤ 15 by omega)

/-! ## dictionary ids -/

/-- Clause "every morpheme reports the number of the dictionary that supplied it".  In every set reachable by
`new`/`append` (`IdsOk`: see `ids_are_positions`) the lookup yields exactly the hits of every lexicon, last-added
lexicon first, each stamped with the *position* of its lexicon: the id unpacks to that position (`dicOf`), to the
word's index (`wordOf`), and `Morpheme::dictionary_id` reports the position. -/
theorem dict_id_correct (s : LexSet) (hs : IdsOk s) (hw : ∀ l ∈ s.lexicons, ∀ h ∈ l.hits, h.1 < P28) :
    s.lookup = .ok (s.lexicons.reverse.flatMap stamped) ∧
    ∀ (i : Nat) (l : Lexicon), s.lexicons[i]? = some l → ∀ h ∈ l.hits,
      (mkRaw i h.1, h.2) ∈ s.lexicons.reverse.flatMap stamped ∧
      dicOf (mkRaw i h.1) = i ∧ wordOf (mkRaw i h.1) = h.1 ∧ dictionaryId (mkRaw i h.1) = Int.ofNat i := by
  refine ⟨lookup_spec s hs hw, ?_⟩
  intro i l hl h hh
  obtain ⟨hi, hid⟩ := hs.get hl
  have hmem : l ∈ s.lexicons := List.mem_of_getElem? hl
  refine ⟨?_, dicOf_mkRaw h.1 (Nat.lt_succ_of_lt hi), wordOf_mkRaw i (hw l hmem h hh), dictionaryId_mkRaw h.1 hi⟩
  exact List.mem_flatMap.2 ⟨l, List.mem_reverse.2 hmem, List.mem_map.2 ⟨h, hh, by rw [hid]⟩⟩

/-- every entry the set's lookup returns comes from the lexicon at the position its id names -/
theorem lookup_sound (s : LexSet) (hs : IdsOk s) (hw : ∀ l ∈ s.lexicons, ∀ h ∈ l.hits, h.1 < P28)
    (x : Nat × Nat) (hx : x ∈ s.lexicons.reverse.flatMap stamped) :
    ∃ l h, s.lexicons[dicOf x.1]? = some l ∧ h ∈ l.hits ∧ h.1 = wordOf x.1 ∧ h.2 = x.2 := by
  obtain ⟨l, hl, hx⟩ := List.mem_flatMap.1 hx
  have hl' : l ∈ s.lexicons := List.mem_reverse.1 hl
  obtain ⟨h, hh, rfl⟩ := List.mem_map.1 hx
  obtain ⟨i, hget⟩ := List.getElem?_of_mem hl'
  obtain ⟨hi, hid⟩ := hs.get hget
  refine ⟨l, h, ?_, hh, (wordOf_mkRaw _ (hw l hl' h hh)).symm, rfl⟩
  rw [hid, dicOf_mkRaw h.1 (Nat.lt_succ_of_lt hi)]
  exact hget

/-- the invariant holds for the initial set and is preserved by every successful `append` -/
theorem ids_are_positions (sys : Lexicon) (n : Nat) (s : LexSet) (h : LexSet.new sys n = .ok s) :
    IdsOk s ∧ ∀ (s1 s2 : LexSet) (lex : Lexicon) (off : Nat), IdsOk s1 → s1.append lex off = .ok s2 → IdsOk s2 :=
  ⟨by cases h; exact idsOk_new sys n, fun _ _ _ _ h1 h2 => append_idsOk h1 h2⟩

/-- Clause "-1 for out-of-vocabulary": the id made by `WordId::oov(pos)` reports dictionary −1 and carries the POS id. -/
theorem oov_reports_minus_one (p raw : Nat) (h : widOov p = .ok raw) (D : Dict) (hp : p < 65536) :
    dictionaryId raw = -1 ∧ isOov raw = true ∧ morphInfo D raw = .ok (-1, p) := by
  have hp28 : p < P28 := Nat.lt_trans hp (by decide)
  rw [widOov, widNew_ok (by decide) hp28] at h
  cases h
  obtain ⟨hoov, hdid⟩ := oov_mkRaw p
  refine ⟨hdid, hoov, ?_⟩
  unfold morphInfo
  rw [if_pos hoov, hdid, wordOf_mkRaw 15 hp28, asU16, Nat.mod_eq_of_lt hp]

/-! ## the id at the bit level (4 dictionary bits, 28 word bits) -/

/-- `WordId::new(dic, word)` for every `dic < 16`, `word < 2^28` is the 32-bit number with `dic` in the top four bits and
`word` in the low 28 (`(dic << 28) | word`, stated with `<<<`/`|||` — the model's `mkRaw` is the literal
`((dic & 0xf) << 28) | (word & 0x0fffffff)`), and `dic()` (`(raw >> 28) as u8`) / `word()` (`raw & 0x0fffffff`) read the two
parts back. -/
theorem wordid_bits (d w : Nat) (hd : d < 16) (hw : w < P28) :
    widNew d w = .ok ((d <<< 28) ||| w) ∧ (d <<< 28) ||| w < 4294967296 ∧
    dicOf ((d <<< 28) ||| w) = d ∧ wordOf ((d <<< 28) ||| w) = w := by
  obtain ⟨h1, h2⟩ := mkRaw_bits hd hw
  rw [← h1]
  exact ⟨widNew_ok hd hw, h2, dicOf_mkRaw w hd, wordOf_mkRaw d hw⟩

/-- `update_dict_id` at the bit level: for EVERY owner `d < 16` and every stored 32-bit reference `id` whose dictionary
bits are not 0, the re-stamped id is `(d << 28) | (id & 0x0fffffff)`: it has dictionary `d` — the compiled dictionary bits
(1 for `U<n>`/inline references) are masked out, not OR-ed into — and the same word number; system references
(dictionary bits 0) are left alone. -/
theorem restamp_bits (d id : Nat) (hd : d < 16) :
    (dicOf id > 0 →
      updateDictId [id] d = .ok [(d <<< 28) ||| (id &&& 0x0fffffff)] ∧
      dicOf ((d <<< 28) ||| (id &&& 0x0fffffff)) = d ∧
      wordOf ((d <<< 28) ||| (id &&& 0x0fffffff)) = wordOf id ∧ wordOf id < 268435456) ∧
    (dicOf id = 0 → updateDictId [id] d = .ok [id]) := by
  have hw : wordOf id < P28 := wordOf_lt id
  have hmask : id &&& 0x0fffffff = wordOf id := rfl
  obtain ⟨h1, _⟩ := mkRaw_bits hd hw
  rw [updateDictId_ok [id] hd, List.map_singleton]
  constructor
  · intro hu
    rw [hmask, ← h1, restamp, if_pos hu]
    exact ⟨rfl, dicOf_mkRaw _ hd, wordOf_mkRaw d hw, hw⟩
  · intro hs
    rw [restamp_sys d hs]

/-- What `seeded/C12b` gets wrong, as a theorem about the variant (NOT the code): OR-ing the owner's number into the stored id
without masking the compiled `1` gives dictionary `d ||| 1` — right for odd positions, the NEXT dictionary for even ones
(2 ↦ 3, …, 14 ↦ 15 = the OOV marker). -/
theorem restamp_or_without_mask_counterexample :
    (∀ d w, d < 16 → w < P28 → dicOf (restampOr d (mkRaw 1 w)) = d ||| 1) ∧
    dicOf (restampOr 2 (mkRaw 1 7)) = 3 ∧ isOov (restampOr 14 (mkRaw 1 7)) = true ∧
    dicOf (restamp 2 (mkRaw 1 7)) = 2 ∧ dicOf (restamp 14 (mkRaw 1 7)) = 14 :=
  ⟨fun _ _ hd hw => (restampOr_stored hd hw).1, by decide, by decide, by decide, by decide⟩

/-- Capacity and the OOV marker are the same boundary: in every reachable set no lexicon has the id 15, so a dictionary word
never reports −1 and never tests `is_oov`; position 15 — the one a 15th user dictionary would get — is exactly the id
`WordId::oov` uses. -/
theorem dictionary_word_never_oov (s : LexSet) (hs : IdsOk s) (i : Nat) (l : Lexicon) (hl : s.lexicons[i]? = some l)
    (w : Nat) :
    l.lexId = i ∧ i < 15 ∧ isOov (mkRaw i w) = false ∧ dictionaryId (mkRaw i w) = Int.ofNat i ∧
    isOov (mkRaw 15 w) = true ∧ dictionaryId (mkRaw 15 w) = -1 := by
  obtain ⟨hi, hid⟩ := hs.get hl
  refine ⟨hid, hi, ?_, dictionaryId_mkRaw w hi, oov_mkRaw w⟩
  rw [isOov_mkRaw w (Nat.lt_succ_of_lt hi)]; exact beq_false_of_ne (Nat.ne_of_lt hi)

/-! ## split references -/

/-- Clause "split references inside a user dictionary resolve to words of that same dictionary or of the system
dictionary".  The reported A/B split and word structure of word `id` are the stored lists with every non-system id
re-stamped with the owner's dictionary id (the word index is kept) and every system id untouched; hence every
reported target lies in dictionary 0 or in the owner's dictionary. -/
theorem split_restamp (s : LexSet) (id : Nat) (wi : Word) (hd : dicOf id < 16) (h : s.getWordInfo id = .ok wi) :
    ∃ lex stored, s.lexicons[dicOf id]? = some lex ∧ lex.words[wordOf id]? = some stored ∧
      wi.a = stored.a.map (restamp (dicOf id)) ∧ wi.b = stored.b.map (restamp (dicOf id)) ∧
      wi.w = stored.w.map (restamp (dicOf id)) ∧
      (∀ t, dicOf t = 0 → restamp (dicOf id) t = t) ∧
      (∀ t, dicOf t > 0 → dicOf (restamp (dicOf id) t) = dicOf id ∧ wordOf (restamp (dicOf id) t) = wordOf t) ∧
      (∀ t ∈ wi.a ++ wi.b ++ wi.w, dicOf t = 0 ∨ dicOf t = dicOf id) := by
  obtain ⟨lex, stored, hl, hw, _, ha, hb, hws⟩ := getWordInfo_inv hd h
  refine ⟨lex, stored, hl, hw, ha, hb, hws, fun _ ht => restamp_sys _ ht, fun _ ht => restamp_user hd ht, ?_⟩
  intro t ht
  rw [ha, hb, hws, ← List.map_append, ← List.map_append] at ht
  obtain ⟨u, _, rfl⟩ := List.mem_map.1 ht
  by_cases hu : dicOf u = 0
  · left; rw [restamp_sys _ hu]; exact hu
  · right; exact (restamp_user hd (Nat.pos_of_ne_zero hu)).1

/-- a `U<n>` reference compiled into user dictionary `d` (stored as dictionary 1, word n) is reported as word `n`
of dictionary `d`; a numeric reference `<n>` (dictionary 0) is reported unchanged -/
theorem u_reference_restamped (d n : Nat) (hn : n < P28) :
    restamp d (mkRaw 1 n) = mkRaw d n ∧ restamp d (mkRaw 0 n) = mkRaw 0 n := by
  constructor
  · rw [restamp, dicOf_mkRaw n (by decide), wordOf_mkRaw 1 hn, if_pos Nat.one_pos]
  · exact restamp_sys d (dicOf_mkRaw n (by decide))

/-- `validate_entries`: every reference a successfully compiled user dictionary
STORES — A split, B split, word structure, whether written `U<n>`, `<n>` or inline — is `(0, n)` with `n` below the word
count of the dictionary it was compiled against, or `(1, n)` with `n` below its own row count; one word per row.  Both
versions of `new_user`. -/
theorem stored_references_in_range (v : PreVariant) (base : Base) (rows : List Row) (b : Built)
    (h : buildUser v base rows = .ok b) :
    b.words.length = rows.length ∧
    ∀ wd ∈ b.words, ∀ t ∈ wd.a ++ wd.b ++ wd.w,
      (dicOf t = 0 ∧ wordOf t < base.words.length) ∨ (dicOf t = 1 ∧ wordOf t < rows.length) := by
  unfold buildUser at h
  cases v <;> exact build_refs_in_range h

/-- Clause "split references inside a user dictionary resolve to words of that same dictionary or of the system
dictionary", END TO END and with EXISTENCE of the target: a user dictionary compiled (either builder version) against a
base whose word list has the length of the system lexicon, loaded as dictionary `j+1` of any stack: every target the set
reports for its word `i` (A split, B split, word structure) is `(0, n)` naming an existing word of the system lexicon or
`(j+1, n)` naming an existing word of the same user dictionary — never another user dictionary, never a word that is not
there (`lexicons[dic]` / the word-info table are indexed without a check in `get_word_info_subset`). -/
theorem split_targets_exist (sys : List Pos) (sysLex : Lexicon) (plugs : List (Bool × Pos))
    (us : List (List Pos × Lexicon)) (D : Dict) (hload : load sys sysLex plugs us = .ok D)
    (v : PreVariant) (base : Base) (hbase : base.words.length = sysLex.words.length)
    (j : Nat) (rows : List Row) (b : Built) (own : List Pos) (lex : Lexicon)
    (hb : buildUser v base rows = .ok b) (hlex : lex.words = b.words) (hj : us[j]? = some (own, lex))
    (i : Nat) (wi : Word) (hi28 : i < P28) (hwi : D.set.getWordInfo (mkRaw (1 + j) i) = .ok wi) :
    ∀ t ∈ wi.a ++ wi.b ++ wi.w,
      (dicOf t = 0 ∨ dicOf t = 1 + j) ∧
      ∃ l x, D.set.lexicons[dicOf t]? = some l ∧ l.words[wordOf t]? = some x := by
  obtain ⟨_, _, L⟩ := load_spec hload
  obtain ⟨hlexj, _⟩ := L.user hj
  have h15 : 1 + j < 16 := Nat.lt_succ_of_lt (L.idsOk.get hlexj).1
  have hdic : dicOf (mkRaw (1 + j) i) = 1 + j := dicOf_mkRaw i h15
  obtain ⟨lx, stored, hl, hw, _, ha, hb', hws⟩ := getWordInfo_inv (by rw [hdic]; exact h15) hwi
  rw [hdic] at hl ha hb' hws
  rw [wordOf_mkRaw _ hi28] at hw
  rw [hlexj] at hl
  cases hl
  obtain ⟨hlen, hrange⟩ := stored_references_in_range (h := hb)
  have hmem : stored ∈ b.words := by rw [← hlex]; exact List.mem_of_getElem? hw
  intro t ht
  rw [ha, hb', hws, ← List.map_append, ← List.map_append] at ht
  obtain ⟨u, hu, rfl⟩ := List.mem_map.1 ht
  -- a stored reference is `(0, n)` with `n` a system word, or `(1, n)` with `n` a row of the same dictionary
  rcases hrange stored hmem u hu with ⟨h0, hlt⟩ | ⟨h1, hlt⟩
  · rw [restamp_sys _ h0, h0]
    rw [hbase] at hlt
    exact ⟨Or.inl rfl, _, _, L.system, List.getElem?_eq_getElem hlt⟩
  · obtain ⟨q1, q2⟩ := restamp_user (t := u) h15 (by rw [h1]; exact Nat.one_pos)
    rw [q1, q2]
    rw [← hlen, ← hlex] at hlt
    exact ⟨Or.inr rfl, _, _, hlexj, List.getElem?_eq_getElem hlt⟩

/-- Inline references: the word an inline unit `surface,POS,reading` of a user
dictionary resolves to (`ChainedResolver`: own entries, then the prebuilt dictionary) is an OWN entry with exactly that
surface, POS id and reading — the first one, stored as `(1, i)` — whenever any own entry matches; otherwise the first
word of the prebuilt dictionary whose headword, POS id and reading match, stored as `(0, i)`; a reading equal to the
surface/headword compares as absent on both sides. -/
theorem inline_reference_resolves_to_matching_entry (es : List Entry) (ws : List SysWord) (s p : Nat)
    (r : Option Nat) (w : Nat) (h : resolveChained (rawIndex es true) (binIndex ws) s p r = some w) :
    (∃ i e, es[i]? = some e ∧ e.surface = s ∧ e.pos = p ∧ noneIfEqual e.surface e.reading = r ∧ w = mkRaw 1 i) ∨
    ((∀ e ∈ es, ¬ (e.surface = s ∧ e.pos = p ∧ noneIfEqual e.surface e.reading = r)) ∧
      ∃ i x, ws[i]? = some x ∧ x.headword = s ∧ x.pos = p ∧ noneIfEqual x.headword x.reading = r ∧ w = mkRaw 0 i) :=
  resolveChained_sound 1 h

/-! ## parts of speech -/

/-- Clause "its part of speech is exactly the part-of-speech strings declared for it ... including parts of speech that
exist only in a user dictionary, also when OOV plugins register further ones".

For any system POS list `sys` (S entries), any plugin registrations (they append some `plug`, Q entries), and user
dictionaries with own POS lists `own_1 … own_k` of any lengths: the loaded POS list is
`sys ++ plug ++ own_1 ++ … ++ own_k`, and a word of the (j+1)-th dictionary stored with build-time POS id `p`
is reported with id `p` when `p < S`, else `S + Q + Σ_{i<j+1} |own_i| + (p − S)`; that entry of the loaded list is
`sys[p]`, respectively `own_{j+1}[p − S]`. -/
theorem pos_rebase_correct (sys : List Pos) (sysLex : Lexicon) (plugs : List (Bool × Pos))
    (us : List (List Pos × Lexicon)) (D : Dict) (hload : load sys sysLex plugs us = .ok D) :
    ∃ plug ids, loadPlugins sys plugs = .ok (sys ++ plug, ids) ∧
      D.posList = sys ++ plug ++ (us.map (·.1)).flatten ∧
      ∀ (j : Nat) (own : List Pos) (lex : Lexicon), us[j]? = some (own, lex) →
      ∀ (w : Nat) (stored : Word), lex.words[w]? = some stored → w < P28 →
        ∃ wi, D.set.getWordInfo (mkRaw (1 + j) w) = .ok wi ∧
          (stored.posId < sys.length → wi.posId = stored.posId ∧ D.posList[wi.posId]? = sys[stored.posId]?) ∧
          (sys.length ≤ stored.posId →
            wi.posId = asU16 (sys.length + plug.length + (ownBefore us j).length + (stored.posId - sys.length)) ∧
            (stored.posId - sys.length < own.length → D.posList.length ≤ 65536 →
              wi.posId = sys.length + plug.length + (ownBefore us j).length + (stored.posId - sys.length) ∧
              D.posList[wi.posId]? = own[stored.posId - sys.length]?)) := by
  obtain ⟨plug, ids, hpl, hpos, hwi⟩ := load_getWordInfo hload
  refine ⟨plug, ids, hpl, hpos, fun j own lex hj w stored hw hw28 => ⟨_, hwi hj hw hw28, ?_, ?_⟩⟩
  · intro hsys
    rw [if_pos hsys, hpos, List.append_assoc, List.getElem?_append_left hsys]
    exact ⟨rfl, rfl⟩
  · intro hge
    rw [if_neg (Nat.not_lt.2 hge)]
    refine ⟨rfl, fun hown hsmall => ?_⟩
    -- the position is inside the loaded list, which fits `u16`: the narrowing is the identity
    rw [asU16, Nat.mod_eq_of_lt (Nat.lt_of_lt_of_le (hpos ▸ posList_own_lt sys plug hj hown) hsmall)]
    exact ⟨rfl, hpos ▸ posList_own_getElem? sys plug hj hown⟩

/-- The user builder numbers POS the way the loader expects: compiled with `DictBuilder::new_user` over a dictionary
whose POS list is `g` (duplicate free, as a system dictionary's list is), the written own-POS table `own` reads back,
there is one word per row, and the POS id stored for row `i` names the row's declared POS in `g ++ own` — POS of
the system dictionary keep their ids, new POS follow in the order of the written table (`preload_pos`, `pos_of`,
the order of registrations inside `parse_record`, `write_pos_table`). -/
theorem builder_pos_numbering (g : List Pos) (sw : List SysWord) (rows : List Row) (b : Built)
    (hnd : g.Nodup) (hle : g.length ≤ 32768) (h : build (some (g, sw)) rows = .ok b) :
    ∃ own, readPosTable b = .ok own ∧ b.words.length = rows.length ∧
      ∀ (i : Nat) (row : Row), rows[i]? = some row →
        ∃ wd, b.words[i]? = some wd ∧ (g ++ own)[wd.posId]? = some row.pos := by
  obtain ⟨r, hr, h⟩ := build_inv h
  exact finishBuild_pos_numbering g sw r rows b hnd hle (readRows_extends (preloadPos_spec hnd hle).2.1 hr) h

/-- The REPAIRED user builder (`PreVariant.sysOnly`) numbers POS the way the loader expects whatever was registered in
the build base after the system dictionary was read: over a base with POS list `sys ++ extra` (any `extra`) and
`num_system_pos = |sys|`, the written own-POS table `own` reads back, there is one word per row, and the POS id stored
for row `i` names the row's declared POS in `sys ++ own` — exactly the list `LexiconSet` rebases against
(`pos_rebase_correct`); `extra` does not enter.  (The pinned builder numbers against `sys ++ extra ++ own`:
`builder_pos_numbering` with `g = sys ++ extra`.) -/
theorem builder_pos_numbering_repaired (sys extra : List Pos) (sw : List SysWord) (rows : List Row) (b : Built)
    (hnd : sys.Nodup) (hle : sys.length ≤ 32768)
    (h : buildUser .sysOnly ⟨sys ++ extra, sys.length, sw⟩ rows = .ok b) :
    ∃ own, readPosTable b = .ok own ∧ b.words.length = rows.length ∧
      ∀ (i : Nat) (row : Row), rows[i]? = some row →
        ∃ wd, b.words[i]? = some wd ∧ (sys ++ own)[wd.posId]? = some row.pos :=
  builder_pos_numbering sys sw rows b hnd hle (buildUser_sysOnly sys extra sw rows ▸ h)

/-- The repair of finding P1 changes nothing for a dictionary compiled against the plainly loaded system dictionary
(no plugin-registered POS in the base: `pos_list.len() = num_system_pos`): both versions of `new_user` hand the same
POS list to the reader, so they compile every lexicon to the same result. -/
theorem repair_same_on_plain_base (sys : List Pos) (sw : List SysWord) (rows : List Row) :
    buildUser .sysOnly ⟨sys, sys.length, sw⟩ rows = buildUser .all ⟨sys, sys.length, sw⟩ rows := by
  unfold buildUser preOf; rw [List.take_length]

/-- End to end (builder + loader), the POS clause for a build base that is a PREFIX extension of the system list:
the user dictionary is compiled by the REPAIRED `new_user` (`PreVariant.sysOnly`) against any dictionary whose POS list
is `sys ++ extra` — `extra` = whatever was registered after the system dictionary was read, any number of entries — and
whose `num_system_pos` is `|sys|`; it is loaded as the (j+1)-th dictionary of any stack over the same system
dictionary, under any plugin registrations (not necessarily those of the build base).  Then the word of row `i` is
word `i` of dictionary `j+1` and its reported POS id names exactly the POS declared in row `i`. -/
theorem declared_pos_reported_prefix_base (sys extra : List Pos) (sw : List SysWord) (sysLex : Lexicon)
    (plugs : List (Bool × Pos)) (us : List (List Pos × Lexicon)) (D : Dict)
    (hload : load sys sysLex plugs us = .ok D)
    (hnd : sys.Nodup) (hle : sys.length ≤ 32768) (hsmall : D.posList.length ≤ 65536)
    (j : Nat) (rows : List Row) (b : Built) (own : List Pos) (lex : Lexicon)
    (hb : buildUser .sysOnly ⟨sys ++ extra, sys.length, sw⟩ rows = .ok b)
    (hown : readPosTable b = .ok own) (hlex : lex.words = b.words)
    (hj : us[j]? = some (own, lex)) (i : Nat) (row : Row) (hi : rows[i]? = some row) (hi28 : i < P28) :
    ∃ wi, D.set.getWordInfo (mkRaw (1 + j) i) = .ok wi ∧ D.posList[wi.posId]? = some row.pos := by
  obtain ⟨own', hown', _, hall⟩ := builder_pos_numbering_repaired sys extra sw rows b hnd hle hb
  obtain rfl : own = own' := Outcome.ok.inj (hown.symm.trans hown')
  obtain ⟨wd, hwd, hpos⟩ := hall i row hi
  exact load_reports_pos hload hsmall hj (hlex ▸ hwd) hi28 hpos

/-- The POS clause for the REPAIRED builder and ANY loader (`load` = the pinned `merge_user_dictionary`), under the side
condition that the merged POS list fits `u16` ids (`hsmall`; the pinned loader does not enforce it — finding P2,
`pos_id_wraps_beyond_u16_counterexample` — the repaired loader does: `declared_pos_reported` below has no such hypothesis):
"its part of speech is exactly the part-of-speech
strings declared for it ... also when OOV plugins register further ones" — with NO restriction on the dictionary the
user dictionary was compiled against.  The build base `B` is the system dictionary loaded by `from_cfg_storage` with ANY
plugin configuration `basePlugs` (registering any number Q ≥ 0 of POS) and even any user dictionaries `baseUsers`;
`new_user(B)` reads `B.grammar().pos_list` and `B.lexicon().num_system_pos()`.  The compiled dictionary is then loaded
as the (j+1)-th dictionary of any stack over the same system dictionary under any plugin configuration `plugs`:
the word of row `i` is word `i` of dictionary `j+1` and its reported POS id names exactly the POS declared in row `i`.
(False for the pinned builder as soon as Q ≥ 1: `plugin_base_counterexample`.) -/
theorem declared_pos_reported_within_u16 (sys : List Pos) (sw : List SysWord) (sysLex : Lexicon) (plugs : List (Bool × Pos))
    (us : List (List Pos × Lexicon)) (D : Dict) (hload : load sys sysLex plugs us = .ok D)
    (hnd : sys.Nodup) (hle : sys.length ≤ 32768) (hsmall : D.posList.length ≤ 65536)
    (baseLex : Lexicon) (basePlugs : List (Bool × Pos)) (baseUsers : List (List Pos × Lexicon)) (B : Dict)
    (hbase : load sys baseLex basePlugs baseUsers = .ok B)
    (j : Nat) (rows : List Row) (b : Built) (own : List Pos) (lex : Lexicon)
    (hb : buildUser .sysOnly ⟨B.posList, B.set.numSystemPos, sw⟩ rows = .ok b)
    (hown : readPosTable b = .ok own) (hlex : lex.words = b.words)
    (hj : us[j]? = some (own, lex)) (i : Nat) (row : Row) (hi : rows[i]? = some row) (hi28 : i < P28) :
    ∃ wi, D.set.getWordInfo (mkRaw (1 + j) i) = .ok wi ∧ D.posList[wi.posId]? = some row.pos := by
  obtain ⟨bplug, _, LB⟩ := load_spec hbase
  rw [LB.posList, LB.numSystemPos, List.append_assoc] at hb
  exact declared_pos_reported_prefix_base sys (bplug ++ (baseUsers.map (·.1)).flatten) sw sysLex plugs us D hload
    hnd hle hsmall j rows b own lex hb hown hlex hj i row hi hi28

/-- The POS clause itself, FULL STRENGTH, for the repaired builder (`PreVariant.sysOnly`, P1) and the repaired loader
(`MergeVariant.limit`, P2): "its part of speech is exactly the part-of-speech strings declared for it ... including parts of
speech that exist only in a user dictionary, also when OOV plugins register further ones" — with NO restriction on the
dictionary the user dictionary was compiled against and NO side condition on the size of the merged POS list: whenever
`from_cfg_storage` succeeds, the word of row `i` of the (j+1)-th user dictionary is word `i` of dictionary `j+1` and the POS id
`get_word_info` reports for it — computed as `(pos_id − num_system_pos + pos_offsets[j+1]) as u16` — names exactly the POS
declared in row `i`.  (The hypothesis `hsmall : D.posList.length ≤ 65536` of `declared_pos_reported_within_u16` is discharged
by the load itself: `repaired_load_fits_u16`.  False for the pinned loader: `pos_id_wraps_beyond_u16_counterexample`.) -/
theorem declared_pos_reported (sys : List Pos) (sw : List SysWord) (sysLex : Lexicon) (plugs : List (Bool × Pos))
    (us : List (List Pos × Lexicon)) (D : Dict) (hload : loadV .limit sys sysLex plugs us = .ok D)
    (hnd : sys.Nodup) (hle : sys.length ≤ 32768)
    (baseLex : Lexicon) (basePlugs : List (Bool × Pos)) (baseUsers : List (List Pos × Lexicon)) (B : Dict)
    (hbase : loadV .limit sys baseLex basePlugs baseUsers = .ok B)
    (j : Nat) (rows : List Row) (b : Built) (own : List Pos) (lex : Lexicon)
    (hb : buildUser .sysOnly ⟨B.posList, B.set.numSystemPos, sw⟩ rows = .ok b)
    (hown : readPosTable b = .ok own) (hlex : lex.words = b.words)
    (hj : us[j]? = some (own, lex)) (i : Nat) (row : Row) (hi : rows[i]? = some row) (hi28 : i < P28) :
    ∃ wi, D.set.getWordInfo (mkRaw (1 + j) i) = .ok wi ∧ D.posList[wi.posId]? = some row.pos := by
  obtain ⟨hl, hfit⟩ := loadV_limit_ok hload
  obtain ⟨hlB, _⟩ := loadV_limit_ok hbase
  exact declared_pos_reported_within_u16 sys sw sysLex plugs us D hl hnd hle (hfit (by unfold U16_IDS; omega))
    baseLex basePlugs baseUsers B hlB j rows b own lex hb hown hlex hj i row hi hi28

/-- The same clause for the PINNED builder (`PreVariant.all`, the code as it stands) holds only under the restriction
"compiled against the plainly loaded system dictionary" (`pos_list.len() = num_system_pos`, no plugin-registered POS
in the build base); stated for both versions of the builder, which coincide there. -/
theorem declared_pos_reported_plain_base (v : PreVariant) (sys : List Pos) (sw : List SysWord) (sysLex : Lexicon)
    (plugs : List (Bool × Pos))
    (us : List (List Pos × Lexicon)) (D : Dict) (hload : load sys sysLex plugs us = .ok D)
    (hnd : sys.Nodup) (hle : sys.length ≤ 32768) (hsmall : D.posList.length ≤ 65536)
    (j : Nat) (rows : List Row) (b : Built) (own : List Pos) (lex : Lexicon)
    (hb : buildUser v ⟨sys, sys.length, sw⟩ rows = .ok b) (hown : readPosTable b = .ok own) (hlex : lex.words = b.words)
    (hj : us[j]? = some (own, lex)) (i : Nat) (row : Row) (hi : rows[i]? = some row) (hi28 : i < P28) :
    ∃ wi, D.set.getWordInfo (mkRaw (1 + j) i) = .ok wi ∧ D.posList[wi.posId]? = some row.pos := by
  have hb' : buildUser .sysOnly ⟨sys ++ [], sys.length, sw⟩ rows = .ok b := by
    rw [List.append_nil]
    cases v with
    | all => rw [repair_same_on_plain_base]; exact hb
    | sysOnly => exact hb
  exact declared_pos_reported_prefix_base sys [] sw sysLex plugs us D hload hnd hle hsmall j rows b own lex hb' hown hlex
    hj i row hi hi28

/-! ## `Grammar::merge` and the positional rebasing -/

/-- `Grammar::merge` appends the whole own-POS table of the user dictionary, entry for entry, ALSO when an entry repeats a
POS the grammar already holds (a plugin-registered POS, a POS of an earlier user dictionary): entry `i` of the table lands
at position `|grammar| + i`, which is what `pos_id − num_system_pos + pos_offsets[d]` computes.  (`pos_rebase_correct`
and `declared_pos_reported` are stated for arbitrary lists — no "no duplicates between the layers" hypothesis.) -/
theorem merge_keeps_repeated_pos (g other : List Pos) :
    (grammarMerge g other).length = g.length + other.length ∧
    (∀ i, i < g.length → (grammarMerge g other)[i]? = g[i]?) ∧
    (∀ i, (grammarMerge g other)[g.length + i]? = other[i]?) := by
  unfold grammarMerge
  refine ⟨List.length_append, fun i hi => List.getElem?_append_left hi, fun i => ?_⟩
  rw [List.getElem?_append_right (Nat.le_add_right _ _), Nat.add_sub_cancel_left]

/-- What `seeded/C12a` gets wrong, as a theorem about the variant (NOT the code): a merge that skips the POS the grammar
already holds breaks the rebasing as soon as a user dictionary repeats a plugin-registered POS.  System POS `[P0]`, plugin
POS `X`, own table `[X, Y]` (stored ids 1 and 2, offset 2): the real merge gives `[P0, X, X, Y]` and the rebased ids 2, 3
name `X`, `Y`; the skipping merge gives `[P0, X, Y]`, where id 2 names `Y` and id 3 is outside the list. -/
theorem merge_skipping_known_counterexample :
    let P0 : Pos := [0, 0, 0, 0, 0, 0]
    let X : Pos := [1, 0, 0, 0, 0, 0]
    let Y : Pos := [2, 0, 0, 0, 0, 0]
    (∃ D, load [P0] ⟨[], 255, []⟩ [(true, X)] [([X, Y], ⟨[⟨1, [], [], []⟩, ⟨2, [], [], []⟩], 255, []⟩)] = .ok D ∧
      D.posList = [P0, X, X, Y] ∧ D.set.posOffsets = [0, 2] ∧
      D.set.getWordInfo (mkRaw 1 0) = .ok ⟨2, [], [], []⟩ ∧ D.posList[2]? = some X ∧
      D.set.getWordInfo (mkRaw 1 1) = .ok ⟨3, [], [], []⟩ ∧ D.posList[3]? = some Y) ∧
    grammarMergeSkip [P0, X] [X, Y] = [P0, X, Y] ∧
    (grammarMergeSkip [P0, X] [X, Y])[2]? = some Y ∧ (grammarMergeSkip [P0, X] [X, Y])[3]? = none := by
  refine ⟨⟨_, rfl, ?_⟩, by decide, by decide, by decide⟩
  decide

/-! ## system words -/

/-- Clause "data reported for system words is unaffected by the presence of user dictionaries": with the same system
dictionary and plugins, every system word id yields the same word info with and without the user dictionaries, and
the POS list without them is a prefix of the list with them (so the same POS id names the same strings). -/
theorem system_unaffected (sys : List Pos) (sysLex : Lexicon) (plugs : List (Bool × Pos))
    (us : List (List Pos × Lexicon)) (D0 D : Dict)
    (h0 : load sys sysLex plugs [] = .ok D0) (h : load sys sysLex plugs us = .ok D) :
    (∀ id, dicOf id = 0 → D.set.getWordInfo id = D0.set.getWordInfo id) ∧
    (∃ ext, D.posList = D0.posList ++ ext) ∧
    (∀ i, i < D0.posList.length → D.posList[i]? = D0.posList[i]?) := by
  obtain ⟨plug0, ids0, L0⟩ := load_spec h0
  obtain ⟨plug, ids, L⟩ := load_spec h
  obtain rfl : plug0 = plug :=
    List.append_cancel_left (Prod.mk.inj (Outcome.ok.inj (L0.plugins.symm.trans L.plugins))).1
  have hext : D.posList = D0.posList ++ (us.map (·.1)).flatten := by
    rw [L.posList, L0.posList, List.map_nil, List.flatten_nil, List.append_nil]
  refine ⟨?_, ⟨_, hext⟩, ?_⟩
  · intro id hid
    exact getWordInfo_sys_only hid (L.system.trans L0.system.symm)
  · intro i hi
    rw [hext, List.getElem?_append_left hi]

/-! ## the order of the load steps: connection edits, cost estimates, merges -/

/-- The full `from_cfg_storage` (`Model/LayersLoad.lean`: connection-cost plugins validated, OOV plugins registering POS,
"no OOV plugin" test, connection edits, then per user dictionary `update_cost` → `append` → `merge`) computes the same
dictionary — POS list, lexicon set — as `Layers.load`, so every theorem above is about the full load too; all connection
edits are in force at the end. -/
theorem load_full_refines_load (est : LoadState → Nat → Outcome (Int × Nat)) (sys : List Pos) (sysLex : Lexicon)
    (sysCosts : List Int) (nl nr : Nat) (conn : List (List (Nat × Nat))) (plugs : List (Bool × Pos)) (nOov : Nat)
    (users : List UserDic) (F : LoadState)
    (h : loadFull est sys sysLex sysCosts nl nr conn plugs nOov users = .ok F) :
    load sys sysLex plugs (users.map UserDic.proj) = .ok F.dict ∧ F.inhibited = conn.flatten ∧
    conn.all (pairsValid nl nr) = true ∧ nOov ≠ 0 := by
  obtain ⟨g, ids, h2, h3, h4, h5⟩ := loadFull_inv h
  obtain ⟨r1, r2, _⟩ := mergeAllFull_proj h5
  exact ⟨(load_eq h3).trans r1, r2, h2, h4⟩

/-- ORDER of the load steps.  The cost column of the (j+1)-th user dictionary is what `update_cost` computes with the
tokenizer running over the state `S_j` that the SAME load reaches with only the first `j` user dictionaries: system
dictionary, plugin POS, ALL connection edits (`InhibitConnection` runs before any user dictionary is looked at), `1 + j`
lexicons — not the dictionary being merged, not the later ones. -/
theorem cost_estimated_on_prefix (est : LoadState → Nat → Outcome (Int × Nat)) (sys : List Pos) (sysLex : Lexicon)
    (sysCosts : List Int) (nl nr : Nat) (conn : List (List (Nat × Nat))) (plugs : List (Bool × Pos)) (nOov : Nat)
    (users : List UserDic) (F : LoadState)
    (h : loadFull est sys sysLex sysCosts nl nr conn plugs nOov users = .ok F)
    (j : Nat) (u : UserDic) (hj : users[j]? = some u) :
    ∃ Sj cs, loadFull est sys sysLex sysCosts nl nr conn plugs nOov (users.take j) = .ok Sj ∧
      Sj.inhibited = conn.flatten ∧ Sj.dict.set.lexicons.length = 1 + j ∧
      updateCost (est Sj) u.params = .ok cs ∧ F.costs[1 + j]? = some cs := by
  obtain ⟨g, ids, h2, h3, h4, h5⟩ := loadFull_inv h
  obtain ⟨Sj, cs, a, b, c⟩ := mergeAllFull_prefix h5 hj
  have hl : loadFull est sys sysLex sysCosts nl nr conn plugs nOov (users.take j) = .ok Sj :=
    (loadFull_of h2 h3 h4).trans a
  obtain ⟨q1, q2, _, _⟩ := load_full_refines_load (h := hl)
  obtain ⟨_, _, L⟩ := load_spec q1
  refine ⟨Sj, cs, hl, q2, ?_, b, (Nat.add_comm 1 j) ▸ c⟩
  rw [L.length, List.length_map, List.length_take, Nat.min_eq_left (Nat.le_of_lt (List.getElem?_eq_some_iff.1 hj).1)]

/-- What `update_cost` writes: a stored cost other than `i16::MIN` is kept; `i16::MIN` is replaced by
`clamp_i16(internal cost + (−20) · morphemes)` of the headword's analysis, a value inside the `i16` range. -/
theorem declared_cost_kept (est : Nat → Outcome (Int × Nat)) (ps : List Param) (cs : List Int)
    (h : updateCost est ps = .ok cs) :
    cs.length = ps.length ∧ ∀ (w : Nat) (p : Param), ps[w]? = some p →
      (p.cost ≠ -32768 → cs[w]? = some p.cost) ∧
      (p.cost = -32768 → ∃ ic n c, est p.surface = .ok (ic, n) ∧ cs[w]? = some c ∧
        c = max (min (ic + -20 * (n : Int)) 32767) (-32768) ∧ -32768 ≤ c ∧ c ≤ 32767) := by
  obtain ⟨hl, hall⟩ := updateCost_spec h
  refine ⟨hl, fun w p hp => ⟨(hall w p hp).1, ?_⟩⟩
  intro hm
  obtain ⟨ic, n, he, hc⟩ := (hall w p hp).2 hm
  exact ⟨ic, n, _, he, hc, rfl, clampI16_range _⟩

/-- Clause "data reported for system words is unaffected by the presence of user dictionaries", for the word parameters:
the cost column of the system lexicon after the load is the stored one whatever user dictionaries follow (`update_cost`
is applied to user lexicons only — a system row stored with `i16::MIN` keeps it), and the costs of the first `j+1` user
dictionaries do not depend on the dictionaries loaded after them. -/
theorem costs_unaffected_by_later_dictionaries (est : LoadState → Nat → Outcome (Int × Nat)) (sys : List Pos)
    (sysLex : Lexicon) (sysCosts : List Int) (nl nr : Nat) (conn : List (List (Nat × Nat))) (plugs : List (Bool × Pos))
    (nOov : Nat) (users users' : List UserDic) (F F' : LoadState)
    (h : loadFull est sys sysLex sysCosts nl nr conn plugs nOov users = .ok F)
    (h' : loadFull est sys sysLex sysCosts nl nr conn plugs nOov users' = .ok F') :
    F.costs[0]? = some sysCosts ∧ F'.costs[0]? = some sysCosts ∧
    ∀ j u, users[j]? = some u → users'[j]? = some u → users.take j = users'.take j → F.costs[1 + j]? = F'.costs[1 + j]? := by
  obtain ⟨g, ids, _, _, _, h5⟩ := loadFull_inv h
  obtain ⟨g', ids', _, _, _, h5'⟩ := loadFull_inv h'
  obtain ⟨_, _, css, _, r4⟩ := mergeAllFull_proj h5
  obtain ⟨_, _, css', _, r4'⟩ := mergeAllFull_proj h5'
  refine ⟨by rw [r4]; rfl, by rw [r4']; rfl, ?_⟩
  intro j u hj hj' htake
  obtain ⟨Sj, cs, a, _, _, b, c⟩ := cost_estimated_on_prefix (h := h) (hj := hj)
  obtain ⟨Sj', cs', a', _, _, b', c'⟩ := cost_estimated_on_prefix (h := h') (hj := hj')
  rw [htake, a'] at a
  cases a
  rw [b'] at b
  cases b
  rw [c, c']

/-! ## the merged POS list and `u16` ids: the repaired `merge_user_dictionary` (finding P2) -/

/-- `MergeVariant.unbounded` is the pinned code: the variant-carrying loads the driver executes are `load` / `loadFull`
verbatim when the harness names the pinned tree (`mv=any`). -/
theorem unbounded_variant_is_pinned_load (est : LoadState → Nat → Outcome (Int × Nat)) (sys : List Pos) (sysLex : Lexicon)
    (sysCosts : List Int) (nl nr : Nat) (conn : List (List (Nat × Nat))) (plugs : List (Bool × Pos)) (nOov : Nat)
    (users : List UserDic) (us : List (List Pos × Lexicon)) :
    loadFullV .unbounded est sys sysLex sysCosts nl nr conn plugs nOov users =
      loadFull est sys sysLex sysCosts nl nr conn plugs nOov users ∧
    loadV .unbounded sys sysLex plugs us = load sys sysLex plugs us :=
  ⟨loadFullV_unbounded, loadV_unbounded⟩

/-- EVERY successful load of the repaired tree has at most 65 536 parts of speech — ids `0 ..= 65535`, all a `u16` can
name.  `sys.length ≤ 65536` is no restriction on real inputs: a POS table read from a dictionary file has a `u16` row count
(`system_pos_table_fits_u16`); `register_pos` refuses the 65 537th entry; the repaired `merge_user_dictionary` refuses a
table that would push the list beyond 65 536.  The repaired load is also a successful PINNED load with the same result (so
`load_full_refines_load`, `cost_estimated_on_prefix`, `costs_unaffected_by_later_dictionaries`, `dict_id_correct`,
`split_targets_exist`, `system_unaffected` … all apply to it), and its POS / lexicon part is `loadV .limit`. -/
theorem repaired_load_fits_u16 (est : LoadState → Nat → Outcome (Int × Nat)) (sys : List Pos) (sysLex : Lexicon)
    (sysCosts : List Int) (nl nr : Nat) (conn : List (List (Nat × Nat))) (plugs : List (Bool × Pos)) (nOov : Nat)
    (users : List UserDic) (F : LoadState) (hs : sys.length ≤ 65536)
    (h : loadFullV .limit est sys sysLex sysCosts nl nr conn plugs nOov users = .ok F) :
    F.dict.posList.length ≤ 65536 ∧
    loadFull est sys sysLex sysCosts nl nr conn plugs nOov users = .ok F ∧
    loadV .limit sys sysLex plugs (users.map UserDic.proj) = .ok F.dict := by
  obtain ⟨h1, h2⟩ := loadFullV_limit_ok h
  exact ⟨h2 hs, h1,
    loadV_limit_of_fits (load_full_refines_load (h := h1)).1 (h2 hs)⟩

/-- the hypothesis `sys.length ≤ 65536` of the theorems of this section holds for every system POS list that was read from a
dictionary the builder wrote (and likewise every own table of a user dictionary has fewer than 65 536 rows): the row
count is written and read as a `u16`. -/
theorem system_pos_table_fits_u16 (pre : Option (List Pos × List SysWord)) (rows : List Row) (b : Built) (tbl : List Pos)
    (hb : build pre rows = .ok b) (h : readPosTable b = .ok tbl) : tbl.length < 65536 := by
  obtain ⟨r, _, hb⟩ := build_inv hb
  obtain ⟨es, _, _, rfl⟩ := finishBuild_inv hb
  unfold readPosTable at h
  by_cases hlen : (writePosTable { r with entries := es }).2.length = (writePosTable { r with entries := es }).1
  · rw [if_pos hlen] at h
    cases h
    rw [hlen]
    exact Nat.mod_lt _ (by decide)
  · rw [if_neg hlen] at h; cases h

/-- The repair removes nothing and refuses exactly the lists no `u16` id can address: on every input the pinned load
accepts (result `F`), the repaired load gives the SAME result when the merged list has at most 65 536 entries and
`Err(InvalidPartOfSpeech)` otherwise — the test sits before `update_cost`, so nothing is analysed for a refused dictionary. -/
theorem repair_refuses_exactly_beyond_u16 (est : LoadState → Nat → Outcome (Int × Nat)) (sys : List Pos) (sysLex : Lexicon)
    (sysCosts : List Int) (nl nr : Nat) (conn : List (List (Nat × Nat))) (plugs : List (Bool × Pos)) (nOov : Nat)
    (users : List UserDic) (F : LoadState) (hs : sys.length ≤ 65536)
    (h : loadFull est sys sysLex sysCosts nl nr conn plugs nOov users = .ok F) :
    (F.dict.posList.length ≤ 65536 → loadFullV .limit est sys sysLex sysCosts nl nr conn plugs nOov users = .ok F) ∧
    (65536 < F.dict.posList.length →
      loadFullV .limit est sys sysLex sysCosts nl nr conn plugs nOov users = .err .invalidPos) := by
  rw [loadFullV_limit_eq h hs]
  exact ⟨fun hfit => if_pos hfit, fun hbig => if_neg (Nat.not_le_of_lt hbig)⟩

/-- `pos_rebase_correct` for the repaired loader, about the code's arithmetic and WITHOUT the side condition "the list fits
`u16`": after any successful load, a word of the (j+1)-th dictionary stored with the build-time id `p ≥ S` of one of its own
POS (`p − S < U_{j+1}`) is reported with the id `(p − S + pos_offsets[j+1]) as u16`, and that number IS
`S + Q + Σ_{i<j+1} U_i + (p − S)` — the narrowing loses nothing, the id is below 65 536 — and that entry of the loaded list is
`own_{j+1}[p − S]`; a system id `p < S` is reported unchanged and names `sys[p]`.  (In `pos_rebase_correct` the last step
needs `D.posList.length ≤ 65536` as a hypothesis: `rebasePos` narrows with `asU16`, and nothing in the pinned load enforces
the bound.) -/
theorem pos_rebase_exact (sys : List Pos) (sysLex : Lexicon) (plugs : List (Bool × Pos))
    (us : List (List Pos × Lexicon)) (D : Dict) (hs : sys.length ≤ 65536)
    (hload : loadV .limit sys sysLex plugs us = .ok D) :
    ∃ plug ids, loadPlugins sys plugs = .ok (sys ++ plug, ids) ∧
      D.posList = sys ++ plug ++ (us.map (·.1)).flatten ∧ D.posList.length ≤ 65536 ∧
      ∀ (j : Nat) (own : List Pos) (lex : Lexicon), us[j]? = some (own, lex) →
      ∀ (w : Nat) (stored : Word), lex.words[w]? = some stored → w < P28 →
        ∃ wi, D.set.getWordInfo (mkRaw (1 + j) w) = .ok wi ∧
          (stored.posId < sys.length → wi.posId = stored.posId ∧ D.posList[wi.posId]? = sys[stored.posId]?) ∧
          (sys.length ≤ stored.posId → stored.posId - sys.length < own.length →
            wi.posId = (stored.posId - sys.length + (sys.length + plug.length + (ownBefore us j).length)) % 65536 ∧
            wi.posId = sys.length + plug.length + (ownBefore us j).length + (stored.posId - sys.length) ∧
            wi.posId < 65536 ∧
            D.posList[wi.posId]? = own[stored.posId - sys.length]?) := by
  obtain ⟨hl, hfit⟩ := loadV_limit_ok hload
  have hsmall : D.posList.length ≤ 65536 := hfit hs
  obtain ⟨plug, ids, hpl, hpos, hrb⟩ := pos_rebase_correct sys sysLex plugs us D hl
  refine ⟨plug, ids, hpl, hpos, hsmall, fun j own lex hj w stored hw hw28 => ?_⟩
  obtain ⟨wi, hwi, hsys, husr⟩ := hrb j own lex hj w stored hw hw28
  refine ⟨wi, hwi, hsys, fun hge hown => ?_⟩
  obtain ⟨h1, h2⟩ := husr hge
  obtain ⟨h3, h4⟩ := h2 hown hsmall
  exact ⟨by rw [h1, asU16, Nat.add_comm], h3,
    h3 ▸ Nat.lt_of_lt_of_le (hpos ▸ posList_own_lt sys plug hj hown) hsmall, h4⟩

/-! ## finding: a user dictionary compiled against a dictionary whose plugins registered POS -/

/-- The POS clause is FALSE for the pinned builder (`PreVariant.all`, the unchanged code) when the user dictionary was
compiled with `DictBuilder::new_user(dic)` over a dictionary loaded with a `userPOS: allow` plugin that registered a POS:
`preload_pos` takes the whole POS list of that dictionary (system + plugin POS, here 2 entries) as "system POS", so
the user's own POS gets build-time id 2, while the loader rebases with the system count taken *before* the plugins
(1).  Witness: system POS `[P0]`, plugin POS `X`, one user row with the new POS `Y`: the word is reported with POS id 3
in a list of 3 entries (`Morpheme::part_of_speech` panics), and a row declared with the plugin's POS `X` is reported
as `Y`. -/
theorem plugin_base_counterexample :
    let P0 : Pos := [0, 0, 0, 0, 0, 0]
    let X : Pos := [1, 0, 0, 0, 0, 0]
    let Y : Pos := [2, 0, 0, 0, 0, 0]
    -- the dictionary the builder is given: system POS + the plugin's POS, `num_system_pos` = 1
    (∃ B, load [P0] ⟨[], 255, []⟩ [(true, X)] [] = .ok B ∧ B.posList = [P0, X] ∧ B.set.numSystemPos = 1) ∧
    -- the compiled user dictionary: own POS table `[Y]`, the rows carry the build-time ids 2 and 1
    buildUser .all ⟨[P0, X], 1, []⟩ [⟨10, 10, 10, 0, Y, [], [], []⟩, ⟨11, 11, 11, 0, X, [], [], []⟩] =
      .ok ⟨1, [Y], [⟨2, [], [], []⟩, ⟨1, [], [], []⟩]⟩ ∧
    ∃ D, load [P0] ⟨[], 255, []⟩ [(true, X)] [([Y], ⟨[⟨2, [], [], []⟩, ⟨1, [], [], []⟩], 255, []⟩)] = .ok D ∧
      D.posList = [P0, X, Y] ∧
      D.set.getWordInfo (mkRaw 1 0) = .ok ⟨3, [], [], []⟩ ∧ D.posList[3]? = none ∧
      D.set.getWordInfo (mkRaw 1 1) = .ok ⟨2, [], [], []⟩ ∧ D.posList[2]? = some Y := by
  refine ⟨⟨_, rfl, by decide, by decide⟩, by decide, _, rfl, ?_⟩
  decide

/-! ## finding P2: more than 65 536 parts of speech after the merges -/

/-- The POS clause is FALSE once the merged POS list outgrows `u16` (finding P2).  `register_pos` refuses the 65 537th entry,
but `Grammar::merge` appends a user dictionary's table without any limit, and `get_word_info_subset` narrows the rebased id
with `as u16`: for EVERY load, a word of dictionary `j+1` whose own POS sits at position
`S + Q + Σ U_{<j+1} + (p − S) ≥ 65 536` of the loaded list is reported with that number modulo 65 536 — an id below 65 536
that names an entry of the system dictionary / an earlier layer.  Second part: such loads exist and succeed (one user
dictionary with 65 537 own POS over an empty system list; on the real code: three user dictionaries with 30 000 own POS
each, or two with 32 767 each over one system POS and two plugin POS, see reports/C12.md).  Third part: the repaired loader
(`MergeVariant.limit`) refuses that very input with `InvalidPartOfSpeech`.  The statement is about the PINNED
`merge_user_dictionary` (`load` = `loadV .unbounded`, `unbounded_variant_is_pinned_load`). -/
theorem pos_id_wraps_beyond_u16_counterexample :
    (∀ (sys : List Pos) (sysLex : Lexicon) (plugs : List (Bool × Pos)) (us : List (List Pos × Lexicon)) (D : Dict),
      load sys sysLex plugs us = .ok D →
      ∃ plug ids, loadPlugins sys plugs = .ok (sys ++ plug, ids) ∧
      ∀ (j : Nat) (own : List Pos) (lex : Lexicon), us[j]? = some (own, lex) →
      ∀ (w : Nat) (stored : Word), lex.words[w]? = some stored → w < P28 → sys.length ≤ stored.posId →
        65536 ≤ sys.length + plug.length + (ownBefore us j).length + (stored.posId - sys.length) →
        ∃ wi, D.set.getWordInfo (mkRaw (1 + j) w) = .ok wi ∧
          wi.posId = (sys.length + plug.length + (ownBefore us j).length + (stored.posId - sys.length)) % 65536 ∧
          wi.posId ≠ sys.length + plug.length + (ownBefore us j).length + (stored.posId - sys.length)) ∧
    (∃ D, load [] ⟨[], 255, []⟩ [] [(List.replicate 65537 [0, 0, 0, 0, 0, 0], ⟨[⟨65536, [], [], []⟩], 255, []⟩)] = .ok D ∧
      D.posList.length = 65537 ∧
      ∃ wi, D.set.getWordInfo (mkRaw 1 0) = .ok wi ∧ wi.posId = 0) ∧
    loadV .limit [] ⟨[], 255, []⟩ [] [(List.replicate 65537 [0, 0, 0, 0, 0, 0], ⟨[⟨65536, [], [], []⟩], 255, []⟩)] =
      .err .invalidPos := by
  constructor
  · intro sys sysLex plugs us D hload
    obtain ⟨plug, ids, hpl, _, hwi⟩ := load_getWordInfo hload
    refine ⟨plug, ids, hpl, fun j own lex hj w stored hw hw28 hge hbig => ⟨_, hwi hj hw hw28, ?_⟩⟩
    rw [if_neg (Nat.not_lt.2 hge), asU16]
    exact ⟨rfl, Nat.ne_of_lt (Nat.lt_of_lt_of_le (Nat.mod_lt _ (by decide)) hbig)⟩
  · obtain ⟨D, hD, hpos, hw⟩ := load_one_word [] (List.replicate 65537 [0, 0, 0, 0, 0, 0]) 65536
    have hlen : D.posList.length = 65537 := by rw [hpos, List.nil_append, List.length_replicate]
    exact ⟨⟨D, hD, hlen, _, hw, rfl⟩, (loadV_limit_eq hD (by decide)).trans (if_neg (by rw [hlen]; decide))⟩

/-! ## the POS intern table across several `read_lexicon` calls, failing ones included -/

/-- "its part of speech is exactly the part-of-speech strings declared for it in its source - including parts of speech that
exist only in a user dictionary", build side, for a builder that is USED FURTHER after `read_lexicon` failed: whatever sequence
of succeeding and failing `read_lexicon` calls `srcs` the builder `new_user` (over a dictionary with the duplicate-free POS
list `g`) went through - every line may be well-formed, malformed in a column before the splits, an A-mode row with splits, a
row with an empty surface, ... - if `resolve` + `compile` succeed then the written own-POS table `own` reads back, the compiled
dictionary has exactly one word per KEPT row (`keptSources`: for every call the rows in front of its first rejected line, all
rows of a call that succeeded - `kept_rows_of_a_source`), in that order, and the POS id stored for the i-th kept row names that
row's declared POS in `g ++ own`: ids handed out during a call that was rejected later stay valid, because `pos_of` only
appends to the table and nothing ever removes a row (`Extends.trans`). -/
theorem pos_ids_stable_across_failed_reads (g : List Pos) (sw : List SysWord) (srcs : List (List Line)) (b : Built)
    (hnd : g.Nodup) (hle : g.length ≤ 32768) (h : (buildReads (some (g, sw)) srcs).2 = .ok b) :
    ∃ own, readPosTable b = .ok own ∧ b.words.length = (keptSources (preloadPos g) srcs).length ∧
      ∀ (i : Nat) (row : Row), (keptSources (preloadPos g) srcs)[i]? = some row →
        ∃ wd, b.words[i]? = some wd ∧ (g ++ own)[wd.posId]? = some row.pos := by
  have hext := readSources_extends srcs (preloadPos g) (preloadPos_spec hnd hle).2.1
  unfold buildReads startReader at h
  cases hrs : readSources (preloadPos g) srcs with
  | mk r fs =>
    rw [hrs] at h hext
    exact finishBuild_pos_numbering g sw r _ b hnd hle hext h

/-- what "kept" means for one `read_lexicon` call in any builder state `r`: a prefix of the lines of the source - all of them
when the call returns `Ok`, the lines in front of the rejected one when it returns `Err` -/
theorem kept_rows_of_a_source (r : Reader) (ls : List Line) :
    ∃ k, keptSource r ls = (ls.take k).map (·.row) ∧
      ((readSourceK r ls).2 = none → k = ls.length) ∧ ((readSourceK r ls).2 ≠ none → k < ls.length) :=
  keptSource_prefix ls r

/-- `pos_ids_stable_across_failed_reads` composed with `pos_rebase_correct` (builder + loader): a user dictionary compiled by
the REPAIRED `new_user` against any dictionary whose POS list is `sys ++ extra` (`num_system_pos = |sys|`) by a builder that
went through ANY sequence of succeeding and failing `read_lexicon` calls, loaded as the (j+1)-th dictionary of any stack over
the same system dictionary under any plugin registrations: the i-th kept row is word `i` of dictionary `j+1` and its reported
POS id names exactly the POS strings of that row's own CSV line. -/
theorem declared_pos_reported_after_failed_reads (sys extra : List Pos) (sw : List SysWord) (sysLex : Lexicon)
    (plugs : List (Bool × Pos)) (us : List (List Pos × Lexicon)) (D : Dict)
    (hload : load sys sysLex plugs us = .ok D)
    (hnd : sys.Nodup) (hle : sys.length ≤ 32768) (hsmall : D.posList.length ≤ 65536)
    (j : Nat) (srcs : List (List Line)) (b : Built) (own : List Pos) (lex : Lexicon)
    (hb : (buildReads (some (preOf .sysOnly ⟨sys ++ extra, sys.length, sw⟩)) srcs).2 = .ok b)
    (hown : readPosTable b = .ok own) (hlex : lex.words = b.words)
    (hj : us[j]? = some (own, lex)) (i : Nat) (row : Row)
    (hi : (keptSources (preloadPos sys) srcs)[i]? = some row) (hi28 : i < P28) :
    ∃ wi, D.set.getWordInfo (mkRaw (1 + j) i) = .ok wi ∧ D.posList[wi.posId]? = some row.pos := by
  obtain ⟨own', hown', _, hall⟩ :=
    pos_ids_stable_across_failed_reads sys sw srcs b hnd hle (preOf_sysOnly sys extra sw ▸ hb)
  obtain rfl : own = own' := Outcome.ok.inj (hown.symm.trans hown')
  obtain ⟨wd, hwd, hpos⟩ := hall i row hi
  exact load_reports_pos hload hsmall hj (hlex ▸ hwd) hi28 hpos

/-- The "clean-up" of `seeded/C12e` (a failing `read_bytes` truncates the POS table back to its length before the call while
the rows in front of the rejected line stay) is NOT the code and the theorem tells the two apart: system POS `[[1]]`; first
source = a row with the new POS `[2]` and a line with a malformed column, second source = a row with the new POS `[3]`.
The code keeps both rows with ids 1 and 2 over the table `[[2], [3]]`; the truncating reader hands id 1 out twice, writes the
table `[[3]]`, and the first kept row reports `[3]` instead of its declared `[2]`. -/
theorem truncating_reader_counterexample :
    let g : List Pos := [[1]]
    let srcs : List (List Line) := [[⟨⟨10, 10, 10, 0, [2], [], [], []⟩, 0⟩, ⟨⟨11, 11, 11, 0, [4], [], [], []⟩, 1⟩],
                                    [⟨⟨12, 12, 12, 0, [3], [], [], []⟩, 0⟩]]
    (keptSources (preloadPos g) srcs).map (fun r => (r.surface, r.pos)) = [(10, [2]), (12, [3])] ∧
    (buildReads (some (g, [])) srcs).2 = .ok ⟨2, [[2], [3]], [⟨1, [], [], []⟩, ⟨2, [], [], []⟩]⟩ ∧
    finishBuild (some (g, [])) (readSourcesTrunc (preloadPos g) srcs).1 = .ok ⟨1, [[3]], [⟨1, [], [], []⟩, ⟨1, [], [], []⟩]⟩ ∧
    (g ++ [[3]])[1]? ≠ some [2] := by
  decide

/-! ## non-vacuity -/

/-- a two-dictionary stack with one plugin POS: hypotheses of `pos_rebase_correct` / `system_unaffected` are
satisfiable, and the concrete numbers are the expected ones (S = 2, Q = 1, U₁ = 1, U₂ = 2). -/
example :
    ∃ D, load [[1], [2]] ⟨[⟨0, [], [], []⟩], 255, []⟩ [(true, [7, 7, 7, 7, 7, 7])]
        [([[3]], ⟨[⟨2, [mkRaw 1 0, mkRaw 0 0], [], []⟩], 255, []⟩), ([[4], [5]], ⟨[⟨3, [], [], []⟩, ⟨1, [], [], []⟩], 255, []⟩)] = .ok D ∧
      D.posList = [[1], [2], [7, 7, 7, 7, 7, 7], [3], [4], [5]] ∧
      D.set.posOffsets = [0, 3, 4] ∧
      D.set.getWordInfo (mkRaw 1 0) = .ok ⟨3, [mkRaw 1 0, mkRaw 0 0], [], []⟩ ∧
      D.set.getWordInfo (mkRaw 2 0) = .ok ⟨5, [], [], []⟩ ∧
      D.set.getWordInfo (mkRaw 2 1) = .ok ⟨1, [], [], []⟩ := by
  refine ⟨_, rfl, ?_⟩
  decide

/-- the repaired load at the limit: one system POS and a user dictionary with 65 535 own POS make exactly 65 536 entries; the
load succeeds (hypotheses of `repaired_load_fits_u16` / `pos_rebase_exact` / `declared_pos_reported` are satisfiable with the
bound attained) and the word stored with the last own id is reported with id 65 535 — the largest `u16`, not a sentinel. -/
example :
    ∃ D, loadV .limit [[9, 9, 9, 9, 9, 9]] ⟨[], 255, []⟩ []
        [(List.replicate 65535 [0, 0, 0, 0, 0, 0], ⟨[⟨65535, [], [], []⟩], 255, []⟩)] = .ok D ∧
      D.posList.length = 65536 ∧ ∃ wi, D.set.getWordInfo (mkRaw 1 0) = .ok wi ∧ wi.posId = 65535 := by
  obtain ⟨D, hD, hpos, hw⟩ := load_one_word [[9, 9, 9, 9, 9, 9]] (List.replicate 65535 [0, 0, 0, 0, 0, 0]) 65535
  have hlen : D.posList.length = 65536 := by rw [hpos, List.length_append, List.length_replicate]; rfl
  exact ⟨D, loadV_limit_of_fits hD (Nat.le_of_eq hlen), hlen, _, hw, rfl⟩

/-- the hypotheses of `declared_pos_reported` are satisfiable with Q = 1 and the repaired builder gets the witness of
`plugin_base_counterexample` right: same base (system POS `[P0]`, plugin POS `X`, `num_system_pos` = 1), same rows; the
reader is preloaded with `[P0]` only, the own table is `[Y, X]`, the stored ids are 1 and 2, and after loading under
the same plugin the two words report ids 2 and 3 of the list `[P0, X, Y, X]`: `Y` and `X`, as declared. -/
example :
    let P0 : Pos := [0, 0, 0, 0, 0, 0]
    let X : Pos := [1, 0, 0, 0, 0, 0]
    let Y : Pos := [2, 0, 0, 0, 0, 0]
    ([P0] : List Pos).Nodup ∧
    (∃ B, load [P0] ⟨[], 255, []⟩ [(true, X)] [] = .ok B ∧
      buildUser .sysOnly ⟨B.posList, B.set.numSystemPos, []⟩ [⟨10, 10, 10, 0, Y, [], [], []⟩, ⟨11, 11, 11, 0, X, [], [], []⟩] =
        .ok ⟨2, [Y, X], [⟨1, [], [], []⟩, ⟨2, [], [], []⟩]⟩) ∧
    ∃ D, load [P0] ⟨[], 255, []⟩ [(true, X)] [([Y, X], ⟨[⟨1, [], [], []⟩, ⟨2, [], [], []⟩], 255, []⟩)] = .ok D ∧
      D.posList = [P0, X, Y, X] ∧
      D.set.getWordInfo (mkRaw 1 0) = .ok ⟨2, [], [], []⟩ ∧ D.posList[2]? = some Y ∧
      D.set.getWordInfo (mkRaw 1 1) = .ok ⟨3, [], [], []⟩ ∧ D.posList[3]? = some X := by
  refine ⟨by decide, ⟨_, rfl, by decide⟩, _, rfl, ?_⟩
  decide

/-- the builder hypotheses are satisfiable and the numbering is the expected one: base POS `[[1],[2]]`; the first row
has an inline unit whose new POS `[4]` is registered *before* the row's own new POS `[3]` (ids 2 and 3, table
`[[4],[3]]`); the inline unit resolves to the dictionary's own second row (`U1`), the numeric unit stays system word 0. -/
example :
    ([[1], [2]] : List Pos).Nodup ∧
    build (some ([[1], [2]], [⟨10, 0, 10⟩]))
      [⟨20, 20, 20, 2, [3], [.inline 21 [4] 21, .ref false 0], [], []⟩, ⟨21, 21, 21, 0, [4], [], [], []⟩] =
      .ok ⟨2, [[4], [3]], [⟨3, [mkRaw 1 1, mkRaw 0 0], [], []⟩, ⟨2, [], [], []⟩]⟩ := by
  refine ⟨by decide, by decide⟩

/-- the hypotheses of the load-order theorems are satisfiable, and the order is visible in the numbers: one
`InhibitConnection` plugin with two pairs, two user dictionaries each with one `i16::MIN` row and one declared cost; the
"tokenizer" answers (100·lexicons + inhibited cells, 2 morphemes), so the estimates show the state they were taken on:
dictionary 1 over 1 lexicon and 2 edits (102 − 40), dictionary 2 over 2 lexicons and 2 edits (202 − 40). -/
example :
    ∃ F, loadFull (fun st _ => .ok (100 * (st.dict.set.lexicons.length : Int) + (st.inhibited.length : Int), 2))
        [[1]] ⟨[⟨0, [], [], []⟩], 255, []⟩ [7] 3 3 [[(0, 1), (2, 2)]] [(true, [7, 7, 7, 7, 7, 7])] 1
        [⟨[], ⟨[⟨0, [], [], []⟩, ⟨0, [], [], []⟩], 255, []⟩, [⟨5, -32768⟩, ⟨6, 11⟩]⟩,
         ⟨[], ⟨[⟨0, [], [], []⟩, ⟨0, [], [], []⟩], 255, []⟩, [⟨5, 12⟩, ⟨6, -32768⟩]⟩] = .ok F ∧
      F.costs = [[7], [62, 11], [12, 162]] ∧ F.inhibited = [(0, 1), (2, 2)] := by
  refine ⟨_, rfl, ?_⟩
  decide

/-- an `inhibitPair` outside the matrix fails the load before any POS is registered; no OOV plugin fails it after -/
example :
    loadFull (fun _ _ => .ok (0, 0)) [[1]] ⟨[], 255, []⟩ [] 3 3 [[(3, 0)]] [(false, [9])] 1 [] = .err .invalidData ∧
    loadFull (fun _ _ => .ok (0, 0)) [[1]] ⟨[], 255, []⟩ [] 3 3 [[(2, 0)]] [] 0 [] = .err .noOovPlugin :=
  ⟨rfl, rfl⟩

/-- the hypotheses of `stored_references_in_range` / `split_targets_exist` / `inline_reference_resolves_to_matching_entry`
are satisfiable together: base with system POS `[[1],[2]]` and one word; a user dictionary whose first row has an inline
unit (resolving to its own second row, stored `(1, 1)`) and a numeric unit (system word 0); loaded as dictionary 2 of a
stack of two, the set reports the targets `(2, 1)` and `(0, 0)`, both existing words. -/
example :
    let rows : List Row := [⟨20, 20, 20, 2, [3], [.inline 21 [4] 21, .ref false 0], [], []⟩, ⟨21, 21, 21, 0, [4], [], [], []⟩]
    let ws : List Word := [⟨3, [mkRaw 1 1, mkRaw 0 0], [], []⟩, ⟨2, [], [], []⟩]
    buildUser .sysOnly ⟨[[1], [2]], 2, [⟨10, 0, 10⟩]⟩ rows = .ok ⟨2, [[4], [3]], ws⟩ ∧
    resolveChained (rawIndex [⟨20, 20, 20, 3, [], [], []⟩, ⟨21, 21, 21, 2, [], [], []⟩] true) (binIndex [⟨10, 0, 10⟩]) 21 2 none
      = some (mkRaw 1 1) ∧
    ∃ D, load [[1], [2]] ⟨[⟨0, [], [], []⟩], 255, []⟩ [] [([], ⟨[], 255, []⟩), ([[4], [3]], ⟨ws, 255, []⟩)] = .ok D ∧
      D.set.getWordInfo (mkRaw 2 0) = .ok ⟨3, [mkRaw 2 1, mkRaw 0 0], [], []⟩ := by
  refine ⟨by decide, by decide, _, rfl, ?_⟩
  decide

/-- `IdsOk` is inhabited by a set with 15 lexicons, so `fifteenth_rejected` is about a reachable state -/
example : ∃ s : LexSet, IdsOk s ∧ s.lexicons.length = 15 :=
  ⟨⟨(List.range 15).map (fun i => ⟨[], i, []⟩), List.replicate 15 0, 0⟩, by
    refine ⟨by decide, by decide, by decide, fun i l hl => ?_⟩
    rw [List.getElem?_map] at hl
    obtain ⟨k, hk, rfl⟩ := Option.map_eq_some_iff.1 hl
    obtain ⟨_, rfl⟩ := List.getElem?_eq_some_iff.1 hk
    exact List.getElem_range _, by decide⟩

/-- the hypotheses of `pos_ids_stable_across_failed_reads` / `declared_pos_reported_after_failed_reads` are satisfiable together
with rejected calls of every modelled kind in between: system POS `[[1]]`; source 1 = a row with the new POS `[2]`, then an
A-mode row with an inline unit of the new POS `[5]` and the own new POS `[6]` (rejected: `InvalidSplit`, both POS stay in the
table); source 2 = a line with an empty surface and the new POS `[7]` (rejected after interning); source 3 = a line with a
malformed column (nothing interned), source 4 = a row with the new POS `[3]`.  Two rows are kept, with ids 1 and 5 over the
written table `[[2], [5], [6], [7], [3]]`; loaded as dictionary 1 under a plugin registering a further POS the second word reports
id 6 = `[3]`. -/
example :
    let srcs : List (List Line) :=
      [[⟨⟨10, 10, 10, 0, [2], [], [], []⟩, 0⟩, ⟨⟨11, 11, 11, 0, [6], [.inline 10 [5] 10], [], []⟩, 0⟩, ⟨⟨13, 13, 13, 0, [2], [], [], []⟩, 0⟩],
       [⟨⟨11, 11, 11, 2, [7], [], [], []⟩, 2⟩], [⟨⟨11, 11, 11, 0, [8], [], [], []⟩, 1⟩], [⟨⟨12, 12, 12, 0, [3], [], [], []⟩, 0⟩]]
    let ws : List Word := [⟨1, [], [], []⟩, ⟨5, [], [], []⟩]
    (readSources (preloadPos [[1]]) srcs).2 = [(1, some (.err .invalidSplit)), (0, some .emptySurface), (0, some .malformed), (1, none)] ∧
    (keptSources (preloadPos [[1]]) srcs).map (fun r => (r.surface, r.pos)) = [(10, [2]), (12, [3])] ∧
    (buildReads (some (preOf .sysOnly ⟨[[1]] ++ [[9]], 1, []⟩)) srcs).2 = .ok ⟨5, [[2], [5], [6], [7], [3]], ws⟩ ∧
    (match load [[1]] ⟨[⟨0, [], [], []⟩], 255, []⟩ [(true, [9, 9, 9, 9, 9, 9])] [([[2], [5], [6], [7], [3]], ⟨ws, 255, []⟩)] with
     | .ok D => decide (D.set.getWordInfo (mkRaw 1 1) = .ok ⟨6, [], [], []⟩) && decide (D.posList[6]? = some [3])
     | _ => false) = true := by
  refine ⟨by decide, by decide, by decide, ?_⟩
  decide

/-- `kept_rows_of_a_source` is about both outcomes of a call: a source that is read to its end and one that is cut -/
example :
    (readSourceK (preloadPos [[1]]) [⟨⟨10, 10, 10, 0, [2], [], [], []⟩, 0⟩]).2 = none ∧
    (readSourceK (preloadPos [[1]]) [⟨⟨10, 10, 10, 0, [2], [], [], []⟩, 0⟩, ⟨⟨11, 11, 11, 0, [2], [], [], []⟩, 1⟩]).2 ≠ none := by
  decide

end C12
