import Sudachi.Proofs.SentenceBytes
import Sudachi.Proofs.SentenceRegex
/-!
# C16 — Sentence splitting partitions the text and breaks only after terminators

Model: `Sentence.split` (`SentenceIter::next` iterated), `Sentence.getEos` (`SentenceDetector::get_eos`),
`Sentence.hasNonBreakWord` (`NonBreakChecker::has_non_break_word`), the seven regular expressions as
direct matchers.  Quantifiers: every text (list of scalar values), every window limit `≥ 1`, with or
without a dictionary checker (any list of lexicons, each any list of byte-string keys).

`split … = .ok l` is the list of `(range.start, range.end, slice)` the iterator yields;
`.panic` = the Rust code panics (only possible in `has_non_break_word` when a key matches from inside
a character, which valid UTF-8 keys cannot: `checker_never_panics`); `.fuelOut` = the iterator did not stop after
`text.length` calls of `next`.

The sections follow the clauses of the property.
*Partition and termination*: `split_partition`, `sentences_are_slices`.
*Totality*: `split_total_partition` (termination + panic-freedom + partition in one statement, no fuel, for every checker
whose keys are valid UTF-8), `checker_never_panics` (UTF-8 self-synchronisation), `no_slice_off_boundary` (the byte-offset
transcription `getEosB`/`splitB`, in which every `&s[a..b]` of the Rust code can panic, equals the character-index model —
no slice is ever off a boundary or out of range).  The driver answers with the byte-offset functions.
*Terminators and brackets*: `nonlast_ends_with_terminator`, `no_break_in_open_bracket`.
*The checker*: what it has let pass (`no_break_in_multichar_word[_split][_fix]`, `checker_passes_iff_fix`); the veto direction
of the byte look-back, for every text, i.e. every mix of 1-, 2-, 3- and 4-byte characters
(`checker_vetoes_word_within_lookback`, `no_break_inside_word_within_lookback[_split]`, `checker_veto_iff_fix`); the window-edge
clause (`no_break_at_window_edge_inside_word`, `window_vs_whole_witness`).
*The converse*: `Exempt` is the exact exemption set of the loop body (`loop_body_veto_iff`), `terminator_breaks_iff` says that
`get_eos` answers the extended end of the FIRST match in the window that is not exempt, `no_boundary_iff` that it is negative
exactly when every match in the window is exempt, `terminator_breaks_split` lifts this to the iterator; the window is a
visible hypothesis (`e0 ∈ matchEnds … (input.take limit)`), D13 stays a counterexample of the window-free clause.
*The regular expressions*: five of the patterns against the language of the pattern (`itemize_header_regex_spec`,
`eos_itemize_header_regex_spec`, `prohibited_bos_regex_spec`, `quote_marker_regex_spec`, `parenthesis_regex_spec`);
SENTENCE_BREAKER with `find_iter` and SPACES with `find` equal to the leftmost-first (backtracking) semantics of their
patterns, which here coincides with leftmost-longest (`sentence_breaker_regex_spec`, `sentence_breaker_find_iter_spec`,
`spaces_regex_spec`).

Every function takes the variant `v : CkVariant` of the `Ordering::Equal` arm of `has_non_break_word`:
`.cur` = the code as it was (`input[i..].chars().take(2).count() > 1`, returned at once — defect D12),
`.fix` = the repaired arm (`if input[i..end_byte].chars().take(2).count() > 1 { return true; }`).
The harness selects the variant by probing `sentence_detector.rs`.  Theorems that do not depend on the
checker's answer are stated for every `v`; the clauses about the checker are stated once per variant
(`…` for `.cur`, `…_fix` for `.fix`, the latter without the D12 exclusion).
-/
namespace C16
open Sentence

/-! ## partition and termination -/

/-- **Partition and termination.**  For every text, every limit `≥ 1` and every checker: iteration
stops within `text.length` steps, and the produced ranges are non-empty, contiguous from byte 0 to
the byte length of the text, each range is exactly as long as its slice, and the slices concatenate
to the text. -/
theorem split_partition (v : CkVariant) (limit : Nat) (hl : 1 ≤ limit) (ck : Option (List (List (List Nat))))
    (text : Text) :
    split v limit ck text ≠ .fuelOut ∧
    ∀ l, split v limit ck text = .ok l →
      Contig 0 l (blen text) ∧ (l.map (·.chunk)).flatten = text := by
  refine ⟨splitFuel_terminates hl _ _ _ (Nat.le_refl _), ?_⟩
  intro l h
  have := splitFuel_ok hl _ _ _ _ h
  simpa using this

/-- **Ranges are on character boundaries and each sentence equals the text in its range**: every
produced sentence `x` splits the text as `pre ++ x.chunk ++ post` with `x.b` = byte length of `pre`
and `x.e` = byte length of `pre ++ x.chunk`; ranges are non-empty. -/
theorem sentences_are_slices (v : CkVariant) (limit : Nat) (hl : 1 ≤ limit) (ck : Option (List (List (List Nat))))
    (text : Text) (l : List Sent) (h : split v limit ck text = .ok l) :
    ∀ x ∈ l, ∃ pre post, text = pre ++ x.chunk ++ post ∧ x.b = blen pre ∧
      x.e = blen (pre ++ x.chunk) ∧ x.b < x.e := by
  intro x hx
  obtain ⟨l₁, l₂, rfl⟩ := List.mem_iff_append.mp hx
  obtain ⟨hsplit, hne, hb, he, _⟩ := splitFuel_steps hl _ _ _ _ h _ _ _ rfl
  have := blen_pos_of_ne_nil hne
  exact ⟨_, _, hsplit, by omega, by rw [blen_append]; omega, by omega⟩

/-- the hypothesis `1 ≤ limit` of `split_partition` is needed: with limit 0 `get_eos` returns
`-0 = 0`, which `next` does not see as negative, and the iterator yields empty sentences forever -/
theorem limit_zero_counterexample (v : CkVariant) : split v 0 none [0x3042] = .fuelOut := by
  cases v <;> decide

/-- **The fuel of the model is irrelevant**: `split` runs `splitFuel` with `text.length` calls of `next`;
any larger number of calls gives the same answer (with `split_partition`: never `.fuelOut`). -/
theorem split_fuel_irrelevant (v : CkVariant) (limit : Nat) (hl : 1 ≤ limit)
    (ck : Option (List (List (List Nat)))) (text : Text) (fuel : Nat) (hf : text.length ≤ fuel) :
    splitFuel v limit ck fuel 0 text = split v limit ck text :=
  splitFuel_fuel_irrelevant hl fuel text.length 0 text hf (Nat.le_refl _)

/-- **Why the iterator terminates (the measure)**: on a non-empty rest, a non-negative answer of
`get_eos` consumes at least one and at most all remaining characters, and a negative (provisional)
answer `-e` has `e ≥ 1` and makes `next` take the whole rest, after which the iterator is exhausted. -/
theorem next_consumes (v : CkVariant) (limit : Nat) (hl : 1 ≤ limit) (ck : Option (List (List (List Nat))))
    (c : Nat) (cs : Text) (position fuel : Nat) :
    (∀ e, getEos v limit ck (c :: cs) = .ok (.pos e) → 1 ≤ e ∧ e ≤ (c :: cs).length) ∧
    (∀ e, getEos v limit ck (c :: cs) = .ok (.neg e) → 1 ≤ e ∧
      splitFuel v limit ck (fuel + 1) position (c :: cs) =
        .ok [⟨position, position + blen (c :: cs), c :: cs⟩]) := by
  refine ⟨fun e h => getEos_pos_bounds hl (by simp) h, fun e h => ⟨getEos_neg_ge_one (List.cons_ne_nil c cs) h, ?_⟩⟩
  simp [splitFuel, h]

/-! ## totality: no panic, no slice off a character boundary -/

/-- **A dictionary match is a slice of whole characters** (UTF-8 self-synchronisation): when the keys
are valid UTF-8, every length the lookup reports at byte offset `i` of the text's bytes — `i` inside a
character included, the look-back may start there — belongs to a key that starts at a character
boundary and ends at one: `input[i..i+len]` never panics. -/
theorem dictionary_match_is_on_boundaries (lexs : List (List (List Nat))) (hv : ValidKeys lexs)
    (input : Text) (i len : Nat) (h : len ∈ lookupLens lexs ((utf8 input).drop i)) :
    ∃ pre w post, input = pre ++ w ++ post ∧ blen pre = i ∧ blen w = len :=
  lookup_sliceOk hv h

/-- **`has_non_break_word` never panics** for valid UTF-8 keys, both variants of the `Equal` arm, every
text and every candidate byte offset. -/
theorem checker_never_panics (v : CkVariant) (lexs : List (List (List Nat))) (hv : ValidKeys lexs)
    (input : Text) (eosB : Nat) : hasNonBreakWord v lexs input eosB ≠ .panic :=
  hasNonBreakWord_no_panic v hv input eosB

/-- `get_eos` never panics (valid UTF-8 keys), any limit -/
theorem get_eos_never_panics (v : CkVariant) (limit : Nat) (ck : Option (List (List (List Nat))))
    (hv : ValidChecker ck) (input : Text) :
    getEos v limit ck input ≠ .panic ∧ getEosB v limit ck input ≠ .panic := by
  have h := getEos_no_panic (v := v) hv limit input
  refine ⟨h, ?_⟩
  rw [getEosB_eq]
  cases hg : getEos v limit ck input with
  | ok r => simp [Res.mapR]
  | panic => exact absurd hg h

/-- a key that is not valid UTF-8 (a lone continuation byte `0x82`) does make the model's checker
panic: the hypothesis `ValidKeys` of `checker_never_panics` is needed -/
example : hasNonBreakWord .fix [[[0x82]]] [0x3042, 0x3002] 6 = .panic := by decide +kernel

/-- **Termination, panic-freedom and partition, full strength, no fuel.**  For every text (with or
without terminators, shorter or longer than the window), every window limit `≥ 1`, both variants of
the checker arm and every checker whose dictionary keys are valid UTF-8 (`ValidChecker`: no checker, or
every key is `utf8` of some text — the lexicon's keys are Rust `String`s): the iteration **produces** a
list of sentences (it neither panics nor runs on), the ranges are non-empty, contiguous from byte 0 to
the byte length of the text, each as long as its slice, and the slices concatenate to the text. -/
theorem split_total_partition (v : CkVariant) (limit : Nat) (hl : 1 ≤ limit)
    (ck : Option (List (List (List Nat)))) (hv : ValidChecker ck) (text : Text) :
    ∃ l, split v limit ck text = .ok l ∧ Contig 0 l (blen text) ∧ (l.map (·.chunk)).flatten = text := by
  obtain ⟨l, h⟩ := split_total (v := v) hl hv text
  exact ⟨l, h, (split_partition v limit hl ck text).2 l h⟩

/-- **What `strSlice` means**: the model's `&s[a..b]` answers a string exactly when `a ≤ b` are two
character boundaries inside `s` (`s = pre ++ t ++ post`, `a` = bytes of `pre`, `b` = bytes of
`pre ++ t`); in every other case it is `none`, which the byte-offset functions turn into `panic`. -/
theorem str_slice_iff (s t : Text) (a b : Nat) :
    strSlice s a b = some t ↔ ∃ pre post, s = pre ++ t ++ post ∧ blen pre = a ∧ blen pre + blen t = b :=
  strSlice_iff

/-- **No slice is ever off a character boundary or out of range** (stated over byte offsets).
`getEosB` / `splitB` transcribe `get_eos` / `SentenceIter::next` with the byte arithmetic of the Rust
code (`mat.end()`, `eos += prohibited_bos(..)`, `eos - last_char_len`, `position + rv as usize`,
`-(mat.end() as isize)`, `data.len()`), and every `&s[..eos]`, `&s[eos..]`, `&s[(eos - last_char_len)..]`,
`&data[position..]`, `&data[position..end]` is taken with `strSlice`, a `none` becoming `panic`.  For
**every** input, limit (0 included), variant and checker they equal the character-index functions
(offsets read through `blen (·.take ·)`): the additional panic outcomes do not exist. -/
theorem no_slice_off_boundary (v : CkVariant) (limit : Nat) (ck : Option (List (List (List Nat))))
    (text : Text) :
    getEosB v limit ck text = (getEos v limit ck text).mapR (eosValue text) ∧
    splitB v limit ck text = split v limit ck text :=
  ⟨getEosB_eq v limit ck text, splitB_eq v limit ck text⟩

/-- the full clause on the byte-offset functions (what the driver runs and the harness compares) -/
theorem split_bytes_total_partition (v : CkVariant) (limit : Nat) (hl : 1 ≤ limit)
    (ck : Option (List (List (List Nat)))) (hv : ValidChecker ck) (text : Text) :
    ∃ l, splitB v limit ck text = .ok l ∧ Contig 0 l (blen text) ∧ (l.map (·.chunk)).flatten = text ∧
      ∀ x ∈ l, strSlice text x.b x.e = some x.chunk := by
  obtain ⟨l, h, hc, hf⟩ := split_total_partition v limit hl ck hv text
  refine ⟨l, by rw [splitB_eq]; exact h, hc, hf, ?_⟩
  intro x hx
  obtain ⟨pre, post, hs, hb, he, _⟩ := sentences_are_slices v limit hl ck text l h x hx
  rw [str_slice_iff]
  exact ⟨pre, post, hs, hb.symm, by rw [he, blen_append]⟩

/-- `ValidKeys` / `ValidChecker` are satisfiable by a real dictionary (`{な。な, 。}`), and `strSlice`
does answer `none` off a boundary (so `panic` in the byte-offset functions is not vacuous) -/
example : ValidKeys [[utf8 [0x306A, 0x3002, 0x306A], utf8 [0x3002]]] ∧
    ValidChecker (some [[utf8 [0x306A, 0x3002, 0x306A]]]) ∧ ValidChecker none ∧
    strSlice [0x3042, 0x3002] 0 1 = none ∧ strSlice [0x3042, 0x3002] 3 7 = none ∧
    strSlice [0x3042, 0x3002] 4 3 = none ∧ strSlice [0x3042, 0x3002] 3 6 = some [0x3002] ∧
    isContinuousPhraseB [0x3042, 0x3002] 4 = none := by
  refine ⟨?_, ?_, trivial, by decide, by decide, by decide, by decide, by decide⟩
  · intro lex hlex key hkey
    simp only [List.mem_singleton] at hlex
    subst hlex
    simp only [List.mem_cons, List.not_mem_nil, or_false] at hkey
    rcases hkey with rfl | rfl
    · exact ⟨_, rfl⟩
    · exact ⟨_, rfl⟩
  · intro lex hlex key hkey
    simp only [List.mem_singleton] at hlex
    subst hlex
    simp only [List.mem_singleton] at hkey
    subst hkey
    exact ⟨_, rfl⟩

/-- texts without any terminator, shorter and longer than the window, and the provisional boundary at
the last white space: `あいうえ` (limit 2 → `-6`, one sentence), `あい うえお` (limit 5 → `-7`) -/
example (v : CkVariant) :
    getEosB v 2 none [0x3042, 0x3044, 0x3046, 0x3048] = .ok (-6) ∧
    splitB v 2 none [0x3042, 0x3044, 0x3046, 0x3048] = .ok [⟨0, 12, [0x3042, 0x3044, 0x3046, 0x3048]⟩] ∧
    getEosB v 5 none [0x3042, 0x3044, 0x20, 0x3046, 0x3048, 0x304A] = .ok (-7) ∧
    splitB v 5 none [0x3042, 0x3044, 0x20, 0x3046, 0x3048, 0x304A] =
      .ok [⟨0, 16, [0x3042, 0x3044, 0x20, 0x3046, 0x3048, 0x304A]⟩] := by
  cases v <;> decide

/-- **What `suf=` of the answer line is**: the value of `get_eos` on the suffix of the text at each of its
first `sufCount` character positions (the slice `&text[b..]` never panics) — the harness computes the same
list with the real `SentenceDetector`, so every alignment of the 30-byte look-back and of the window
against the characters of a generated text is compared, not only the ones the iterator visits -/
theorem suffix_values_spec (v : CkVariant) (limit : Nat) (ck : Option (List (List (List Nat)))) (text : Text) :
    suffixValues v limit ck text =
      (List.range (min (text.length + 1) (sufCount text))).map (fun k =>
        match getEosB v limit ck (text.drop k) with
        | .panic => "PANIC"
        | .ok rv => toString rv) := by
  unfold suffixValues
  apply List.map_congr_left
  intro k _
  simp only [strSlice_tail]
  cases getEosB v limit ck (List.drop k text) <;> rfl

/-! ## every sentence but the last ends with a terminator, outside brackets -/

/-- **Link between the iterator and `get_eos`**: every sentence except the last is a non-negative
answer of `get_eos` on the text from the start of that sentence. -/
theorem nonlast_is_get_eos (v : CkVariant) (limit : Nat) (hl : 1 ≤ limit) (ck : Option (List (List (List Nat))))
    (text : Text) (l : List Sent) (h : split v limit ck text = .ok l) :
    ∀ x ∈ l.dropLast, ∃ pre post, text = pre ++ x.chunk ++ post ∧ x.chunk ≠ [] ∧
      getEos v limit ck (x.chunk ++ post) = .ok (.pos x.chunk.length) :=
  splitFuel_link hl _ _ _ _ h

/-- a sentence ends with a terminator, optionally followed by closing brackets, commas or further
terminators -/
def EndsWithTerminator (u : Text) : Prop :=
  ∃ pre t tail, u = pre ++ t ++ tail ∧ IsTerminator t ∧ ∀ c ∈ tail, isTailChar c = true

/-- **Every sentence except the last ends with a sentence terminator** (`。？！♪…?!`, a period,
three or more `・`, two or more `<br>`/`<BR>`), optionally followed by closing brackets, commas or
further terminators. -/
theorem nonlast_ends_with_terminator (v : CkVariant) (limit : Nat) (hl : 1 ≤ limit)
    (ck : Option (List (List (List Nat)))) (text : Text) (l : List Sent)
    (h : split v limit ck text = .ok l) :
    ∀ x ∈ l.dropLast, EndsWithTerminator x.chunk := by
  intro x hx
  obtain ⟨pre, post, _, hne, hg⟩ := nonlast_is_get_eos v limit hl ck text l h x hx
  have hne' : x.chunk ++ post ≠ [] := by simp [hne]
  obtain ⟨p, t, tt, ext, hshape, hterm, htt, _, hext⟩ := getEos_pos_chunk hl hne' hg
  simp only [List.take_left'] at hshape
  refine ⟨p, t, tt ++ ext, by rw [hshape]; simp, hterm, ?_⟩
  intro c hc
  simp only [List.mem_append] at hc
  rcases hc with hc | hc
  · simp [isTailChar, htt c hc]
  · simp [isTailChar, hext c hc]

example (v : CkVariant) : (1 : Nat) ≤ 8 ∧ ([0x3042] : Text) ≠ [] ∧ IsTerminator [0x3002] ∧
    IsTerminator [0x30FB, 0x30FB, 0x30FB] ∧
    IsTerminator [0x3C, 0x62, 0x72, 0x3E, 0x3C, 0x42, 0x52, 0x3E] ∧
    getEos v 4096 (some [[[0x3042, 0xE3, 0x80, 0x82]]]) [0x3042, 0x3002, 0x3042] = .ok (.pos 2) := by
  refine ⟨by decide, by decide, Or.inl ⟨_, rfl, Or.inl (by decide)⟩,
    Or.inr (Or.inl ⟨3, by decide, by decide⟩), Or.inr (Or.inr ⟨2, by decide, by decide, by decide⟩),
    by cases v <;> decide⟩

/-- **No break inside an unclosed bracket pair**: in every sentence except the last, the bracket
level (opening brackets minus closing ones, never below 0, counted from the start of the sentence)
is 0 at the end of the terminator, only non-opening characters follow, and the level at the break
is 0. -/
theorem no_break_in_open_bracket (v : CkVariant) (limit : Nat) (hl : 1 ≤ limit)
    (ck : Option (List (List (List Nat)))) (text : Text) (l : List Sent)
    (h : split v limit ck text = .ok l) :
    ∀ x ∈ l.dropLast, ∃ body ext, x.chunk = body ++ ext ∧ parenLevel body = 0 ∧
      (∀ c ∈ ext, isProhibitedBos c = true) ∧ parenLevel x.chunk = 0 := by
  intro x hx
  obtain ⟨pre, post, _, hne, hg⟩ := nonlast_is_get_eos v limit hl ck text l h x hx
  have hne' : x.chunk ++ post ≠ [] := by simp [hne]
  obtain ⟨p, t, tt, ext, hshape, _, _, hlev, hext⟩ := getEos_pos_chunk hl hne' hg
  simp only [List.take_left'] at hshape
  exact ⟨p ++ (t ++ tt), ext, hshape, hlev, hext, by rw [hshape]; exact parenLevel_append_tail _ _ hlev hext⟩

/-- the hypotheses of the theorems above are satisfiable and the conclusions are not trivially true:
a text with three sentences, brackets, a quote particle and a checker -/
example (v : CkVariant) :
    split v 8 (some [[[0x61, 0x2E, 0x62]]])
        [0xFF08, 0x3042, 0x3002, 0xFF09, 0x3002, 0x61, 0x2E, 0x62, 0x21, 0x3068, 0x3044, 0xFF01, 0x3046]
      = .ok [⟨0, 15, [0xFF08, 0x3042, 0x3002, 0xFF09, 0x3002]⟩,
             ⟨15, 28, [0x61, 0x2E, 0x62, 0x21, 0x3068, 0x3044, 0xFF01]⟩,
             ⟨28, 31, [0x3046]⟩] := by
  cases v <;> decide

/-! ## the checker: no break inside a multi-character dictionary word -/

/-! ### what the checker has let pass (`.cur`, then `.fix`) -/

/-- **No break inside a multi-character dictionary word that contains or ends with the terminator**
(within the 30-byte look-back of the checker), **code as it was (`.cur`)**.  If `get_eos` with a checker answers a break after `e`
characters, then for every byte offset `i` in the look-back window and every non-empty key of any
lexicon that matches the input at `i`: the key ends before the break, or it ends exactly at the
break and starts inside the last character of the input (a one-character word at the end of the
text).  In particular no key crosses the break and no key of two or more characters ends at it. -/
theorem no_break_in_multichar_word (limit : Nat) (hl : 1 ≤ limit) (lexs : List (List (List Nat)))
    (input : Text) (hne : input ≠ []) (e : Nat)
    (h : getEos .cur limit (some lexs) input = .ok (.pos e)) :
    ∀ i, blen (input.take e) - 30 ≤ i → i < blen (input.take e) →
      ∀ lex ∈ lexs, ∀ key ∈ lex, key ≠ [] → key <+: (utf8 input).drop i →
        i + key.length < blen (input.take e) ∨
        (i + key.length = blen (input.take e) ∧ LastCharFrom input i) := by
  have hw := getEos_pos_noWord hl hne h
  intro i h1 h2 lex hlex key hkey hkne hpre
  exact hasNonBreakWord_cur_false rfl hw i h1 h2 _ (key_in_lookup hlex hkey hkne hpre)

/-- the same for the sentences of the iterator: every sentence except the last was accepted by the
checker on the text from its start (`x.chunk ++ post`) -/
theorem no_break_in_multichar_word_split (limit : Nat) (hl : 1 ≤ limit)
    (lexs : List (List (List Nat))) (text : Text) (l : List Sent)
    (h : split .cur limit (some lexs) text = .ok l) :
    ∀ x ∈ l.dropLast, ∃ pre post, text = pre ++ x.chunk ++ post ∧
      ∀ i, blen x.chunk - 30 ≤ i → i < blen x.chunk →
        ∀ lex ∈ lexs, ∀ key ∈ lex, key ≠ [] → key <+: (utf8 (x.chunk ++ post)).drop i →
          i + key.length < blen x.chunk ∨
          (i + key.length = blen x.chunk ∧ LastCharFrom (x.chunk ++ post) i) := by
  intro x hx
  obtain ⟨pre, post, hsplit, hne, hg⟩ := nonlast_is_get_eos .cur limit hl _ text l h x hx
  refine ⟨pre, post, hsplit, ?_⟩
  have := no_break_in_multichar_word limit hl lexs (x.chunk ++ post) (by simp [hne]) _ hg
  simpa only [List.take_left'] using this

/-- D12 at its source (`.cur`): the checker vetoes the break after `あ。` (byte 6) although the only key that
matches there is the one-character word `。`; at the end of the text (`あ。`) it does not. -/
theorem d12_checker_counterexample :
    hasNonBreakWord .cur [[[0xE3, 0x80, 0x82]]] [0x3042, 0x3002, 0x3042] 6 = .ok true ∧
    hasNonBreakWord .cur [[[0xE3, 0x80, 0x82]]] [0x3042, 0x3002] 6 = .ok false := by
  decide +kernel

/-- **No break inside a multi-character dictionary word, repaired checker (`.fix`).**  If `get_eos`
with the repaired checker answers a break after `e` characters, then every non-empty key of any lexicon
that matches the input at a byte offset `i` of the 30-byte look-back ends before the break, or ends
exactly at the break and is exactly one character of the input (`OneCharWordAt`: the input is
`pre ++ c :: post`, `i` is the byte length of `pre`, the key is the UTF-8 form of `c`).  The D12
exclusion "…and starts inside the last character of the input" of the `.cur` theorem is absent: a
one-character word may end at a break anywhere in the text. -/
theorem no_break_in_multichar_word_fix (limit : Nat) (hl : 1 ≤ limit) (lexs : List (List (List Nat)))
    (input : Text) (hne : input ≠ []) (e : Nat)
    (h : getEos .fix limit (some lexs) input = .ok (.pos e)) :
    ∀ i, blen (input.take e) - 30 ≤ i → i < blen (input.take e) →
      ∀ lex ∈ lexs, ∀ key ∈ lex, key ≠ [] → key <+: (utf8 input).drop i →
        i + key.length < blen (input.take e) ∨
        (i + key.length = blen (input.take e) ∧ OneCharWordAt input i key) := by
  have hw := getEos_pos_noWord hl hne h
  exact (hasNonBreakWord_fix_false_iff lexs input _).mp hw

/-- the same for the sentences of the iterator with the repaired checker -/
theorem no_break_in_multichar_word_split_fix (limit : Nat) (hl : 1 ≤ limit)
    (lexs : List (List (List Nat))) (text : Text) (l : List Sent)
    (h : split .fix limit (some lexs) text = .ok l) :
    ∀ x ∈ l.dropLast, ∃ pre post, text = pre ++ x.chunk ++ post ∧
      ∀ i, blen x.chunk - 30 ≤ i → i < blen x.chunk →
        ∀ lex ∈ lexs, ∀ key ∈ lex, key ≠ [] → key <+: (utf8 (x.chunk ++ post)).drop i →
          i + key.length < blen x.chunk ∨
          (i + key.length = blen x.chunk ∧ OneCharWordAt (x.chunk ++ post) i key) := by
  intro x hx
  obtain ⟨pre, post, hsplit, hne, hg⟩ := nonlast_is_get_eos .fix limit hl _ text l h x hx
  refine ⟨pre, post, hsplit, ?_⟩
  have := no_break_in_multichar_word_fix limit hl lexs (x.chunk ++ post) (by simp [hne]) _ hg
  simpa only [List.take_left'] using this

/-- **The repaired checker, characterised (`.fix`).**  `has_non_break_word` lets the candidate break at
byte `eosB` pass (`.ok false`) **iff** every non-empty key that matches at a byte offset of the 30-byte
look-back ends before the break, or ends at it and is exactly one character of the input.  (For `.cur`
only the forward direction holds, and only with "at the very end of the text" added —
`d12_checker_counterexample`.) -/
theorem checker_passes_iff_fix (lexs : List (List (List Nat))) (input : Text) (eosB : Nat) :
    hasNonBreakWord .fix lexs input eosB = .ok false ↔
      ∀ i, eosB - 30 ≤ i → i < eosB →
        ∀ lex ∈ lexs, ∀ key ∈ lex, key ≠ [] → key <+: (utf8 input).drop i →
          i + key.length < eosB ∨ (i + key.length = eosB ∧ OneCharWordAt input i key) :=
  hasNonBreakWord_fix_false_iff lexs input eosB

/-- **A one-character dictionary entry never suppresses the break (`.fix`).**  When the repaired
checker vetoes the candidate break at byte `eosB`, there is a key in the look-back that crosses the
break, or a key that ends at it and is the UTF-8 form of two or more whole characters of the input
(`MultiCharWordAt`) — the veto is always "inside a multi-character dictionary word". -/
theorem checker_veto_is_multichar_word_fix (lexs : List (List (List Nat))) (input : Text) (eosB : Nat)
    (h : hasNonBreakWord .fix lexs input eosB = .ok true) :
    ∃ i, eosB - 30 ≤ i ∧ i < eosB ∧
      ∃ lex ∈ lexs, ∃ key ∈ lex, key ≠ [] ∧ key <+: (utf8 input).drop i ∧
        (eosB < i + key.length ∨ (i + key.length = eosB ∧ MultiCharWordAt input i key)) :=
  hasNonBreakWord_fix_true h

/-- **D12 repaired** (`.fix`): the call of `d12_checker_counterexample` lets the break after `あ。` pass — the one-character
entry `。` does not suppress it — while a two-character entry `あ。` ending there still vetoes. -/
theorem d12_fixed_example :
    hasNonBreakWord .fix [[[0xE3, 0x80, 0x82]]] [0x3042, 0x3002, 0x3042] 6 = .ok false ∧
    hasNonBreakWord .fix [[[0xE3, 0x80, 0x82]]] [0x3042, 0x3002] 6 = .ok false ∧
    hasNonBreakWord .fix [[[0xE3, 0x81, 0x82, 0xE3, 0x80, 0x82]]] [0x3042, 0x3002, 0x3042] 6 = .ok true := by
  decide +kernel

/-! ### what the checker vetoes: a word that starts within the 30-byte look-back -/

/-- **The checker vetoes every candidate inside a word that starts in the look-back** (byte level, both
variants).  `has_non_break_word` probes EVERY byte offset `i` with `eosB - 30 ≤ i < eosB` of the UTF-8
bytes of the whole remaining text — offsets inside a multi-byte character included, `eosB - 30` itself may
be one.  If a non-empty key of any lexicon is a prefix of the bytes at such an `i` and crosses the
candidate, or ends at it and consists of two or more whole characters, the answer is `true`.  The text is
arbitrary, so this holds for 1-, 2-, 3- and 4-byte characters and any mix (`width`), which is where the
30 BYTES differ from "10 characters" (seeded change C16c).  `eosB` is a character boundary, as every
candidate of `get_eos` is.  Beyond 30 bytes the statement is false: `lookback_counterexample` (D12b). -/
theorem checker_vetoes_word_within_lookback (v : CkVariant) (lexs : List (List (List Nat)))
    (hv : ValidKeys lexs) (input : Text) (eosB i : Nat) (lex : List (List Nat)) (hlex : lex ∈ lexs)
    (key : List Nat) (hkey : key ∈ lex) (hne : key ≠ []) (hpre : key <+: (utf8 input).drop i)
    (hE : ∃ e, eosB = blen (input.take e)) (h1 : eosB - 30 ≤ i) (h2 : i < eosB)
    (h3 : eosB < i + key.length ∨ (i + key.length = eosB ∧ MultiCharWordAt input i key)) :
    hasNonBreakWord v lexs input eosB = .ok true :=
  hasNonBreakWord_true_of_word v hv (fun _ => hE) ⟨i, h1, h2, lex, hlex, key, hkey, hne, hpre, h3⟩

/-- **every encoding width, look-back start inside a character**: a dictionary word that starts within
30 bytes before the candidate is seen by the checker (`true`) — `w×29 !` (1-byte characters, the word
starts exactly 30 bytes before the candidate), `é` + `é×14 !` (2-byte, the look-back starts at byte 1 of
`é`), `あ` + `あ×8 abc!` (3-byte, byte 1 of `あ`), `𠮷` + `𠮷×7 !` (4-byte, byte 3 of `𠮷`) -/
example (v : CkVariant) :
    hasNonBreakWord v [[utf8 (List.replicate 29 0x77 ++ [0x21])]]
      (List.replicate 29 0x77 ++ [0x21] ++ [0x78]) 30 = .ok true ∧
    hasNonBreakWord v [[utf8 (List.replicate 14 0xE9 ++ [0x21])]]
      ([0xE9] ++ (List.replicate 14 0xE9 ++ [0x21]) ++ [0x78]) 31 = .ok true ∧
    hasNonBreakWord v [[utf8 (List.replicate 8 0x3042 ++ [0x61, 0x62, 0x63, 0x21])]]
      ([0x3042] ++ (List.replicate 8 0x3042 ++ [0x61, 0x62, 0x63, 0x21]) ++ [0x78]) 31 = .ok true ∧
    hasNonBreakWord v [[utf8 (List.replicate 7 0x20BB7 ++ [0x21])]]
      ([0x20BB7] ++ (List.replicate 7 0x20BB7 ++ [0x21]) ++ [0x78]) 33 = .ok true := by
  -- the model's lookup tries every length at every offset of the look-back; these vectors (and the next ones) are
  -- evaluated on its by-key form, which a lexicon of one key has: one prefix test per offset
  simp only [hasNonBreakWord_eq_byKey v fun lex h => List.mem_singleton.mp h ▸ List.pairwise_singleton _ _]
  cases v <;> decide

/-- … and one byte further the word is no longer seen (`false`: the look-back limit D12b), for every width:
`w×30 !`, `é×15 !`, `あ×9 abc!`, `𠮷×7 。` are 31 bytes each, the candidate is at byte 31, the look-back
starts at byte 1 (inside the first character for the last three) and the word at byte 0 -/
example (v : CkVariant) :
    hasNonBreakWord v [[utf8 (List.replicate 30 0x77 ++ [0x21])]]
      (List.replicate 30 0x77 ++ [0x21] ++ [0x78]) 31 = .ok false ∧
    hasNonBreakWord v [[utf8 (List.replicate 15 0xE9 ++ [0x21])]]
      (List.replicate 15 0xE9 ++ [0x21] ++ [0x78]) 31 = .ok false ∧
    hasNonBreakWord v [[utf8 (List.replicate 9 0x3042 ++ [0x61, 0x62, 0x63, 0x21])]]
      (List.replicate 9 0x3042 ++ [0x61, 0x62, 0x63, 0x21] ++ [0x78]) 31 = .ok false ∧
    hasNonBreakWord v [[utf8 (List.replicate 7 0x20BB7 ++ [0x3002])]]
      (List.replicate 7 0x20BB7 ++ [0x3002] ++ [0x78]) 31 = .ok false := by
  simp only [hasNonBreakWord_eq_byKey v fun lex h => List.mem_singleton.mp h ▸ List.pairwise_singleton _ _]
  cases v <;> decide

/-- **The repaired checker, both directions** (`.fix`, valid UTF-8 keys): it answers `true` **iff** the
candidate is inside a multi-character dictionary word it can see (`InsideWord`: a key found at a byte
offset of the 30-byte look-back crosses the candidate, or a key of two or more whole characters ends at
it). -/
theorem checker_veto_iff_fix (lexs : List (List (List Nat))) (hv : ValidKeys lexs) (input : Text) (eosB : Nat)
    (hE : ∃ e, eosB = blen (input.take e)) :
    hasNonBreakWord .fix lexs input eosB = .ok true ↔ InsideWord lexs input eosB :=
  ⟨checker_veto_is_multichar_word_fix lexs input eosB, fun ⟨i, h1, h2, lex, hlex, key, hkey, hne, hpre, h3⟩ =>
    checker_vetoes_word_within_lookback .fix lexs hv input eosB i lex hlex key hkey hne hpre hE h1 h2 h3⟩

/-- a dictionary word `w` (its UTF-8 form is a key) occurs in `pre ++ w ++ post` right after `pre`; the
candidate after `e` characters lies inside it or at its end, `w` has two or more characters when it ends
there, and the word starts at most 30 BYTES before the candidate -/
def WordWithinLookback (lexs : List (List (List Nat))) (pre w post : Text) (e : Nat) : Prop :=
  (∃ lex ∈ lexs, utf8 w ∈ lex) ∧ pre.length < e ∧ e ≤ pre.length + w.length ∧
  (e = pre.length + w.length → 2 ≤ w.length) ∧
  blen ((pre ++ w ++ post).take e) ≤ blen pre + 30

/-- **No break inside a multi-character dictionary word that starts within the look-back**
(`get_eos` level, both variants, every encoding width): if the dictionary word `w` occurs in the remaining
text, contains or ends with the candidate position `e` (with two or more characters when it ends there)
and starts at most 30 bytes before it, `get_eos` does not answer `e`. -/
theorem no_break_inside_word_within_lookback (v : CkVariant) (limit : Nat) (hl : 1 ≤ limit)
    (lexs : List (List (List Nat))) (hv : ValidKeys lexs) (pre w post : Text) (e : Nat)
    (hw : WordWithinLookback lexs pre w post e) :
    getEos v limit (some lexs) (pre ++ w ++ post) ≠ .ok (.pos e) := by
  obtain ⟨⟨lex, hlex, hkey⟩, he1, he2, he3, he4⟩ := hw
  intro h
  have hwne : w ≠ [] := by
    rintro rfl; rw [List.length_nil] at he2; omega
  have hfalse := getEos_pos_noWord hl (by simp [hwne]) h
  -- the candidate in bytes: the bytes of `pre` and of the first `e - pre.length` characters of `w`
  have hsplit : (pre ++ w ++ post).take e = pre ++ w.take (e - pre.length) := by
    rw [List.append_assoc, List.take_append, List.take_of_length_le (by omega),
      List.take_append_of_le_length (by omega)]
  have hpre : utf8 w <+: (utf8 (pre ++ w ++ post)).drop (blen pre) := by
    rw [utf8_drop_split]; exact List.prefix_append _ _
  have hpos := blen_pos_of_ne_nil (take_ne_nil (e := e - pre.length) (by omega) hwne)
  have htrue := checker_vetoes_word_within_lookback v lexs hv (pre ++ w ++ post)
    (blen ((pre ++ w ++ post).take e)) (blen pre) lex hlex (utf8 w) hkey (utf8_ne_nil hwne) hpre ⟨e, rfl⟩
    (by omega) (by rw [hsplit, blen_append]; omega) (by
      rw [hsplit, blen_append, utf8_length]
      by_cases hlt : e - pre.length < w.length
      · exact Or.inl (by have := blen_take_lt hlt; omega)
      · -- the candidate is at the end of `w`
        rw [List.take_of_length_le (by omega)]
        exact Or.inr ⟨rfl, pre, w, post, rfl, rfl, rfl, he3 (by omega)⟩)
  rw [htrue] at hfalse
  cases hfalse

/-- the hypothesis `WordWithinLookback` is satisfiable for each width (the four words above, the candidate
at the end of the word) and `hE` (`eosB` is a character boundary) is what `get_eos` provides -/
example :
    WordWithinLookback [[utf8 (List.replicate 29 0x77 ++ [0x21])]] [] (List.replicate 29 0x77 ++ [0x21]) [0x78] 30 ∧
    WordWithinLookback [[utf8 (List.replicate 14 0xE9 ++ [0x21])]] [0xE9] (List.replicate 14 0xE9 ++ [0x21]) [0x78] 16 ∧
    WordWithinLookback [[utf8 (List.replicate 8 0x3042 ++ [0x61, 0x62, 0x63, 0x21])]] [0x3042]
      (List.replicate 8 0x3042 ++ [0x61, 0x62, 0x63, 0x21]) [0x78] 13 ∧
    WordWithinLookback [[utf8 (List.replicate 7 0x20BB7 ++ [0x21])]] [0x20BB7] (List.replicate 7 0x20BB7 ++ [0x21]) [0x78] 9 ∧
    -- a word that CONTAINS the terminator: `な。な` in `ばな。なです。`, candidate after 3 characters
    WordWithinLookback [[utf8 [0x306A, 0x3002, 0x306A]]] [0x3070] [0x306A, 0x3002, 0x306A] [0x3067, 0x3059, 0x3002] 3 ∧
    (∃ e, (31 : Nat) = blen (([0xE9] ++ (List.replicate 14 0xE9 ++ [0x21]) ++ [0x78]).take e)) := by
  refine ⟨⟨⟨_, List.Mem.head _, List.Mem.head _⟩, by decide, by decide, by decide, by decide⟩,
          ⟨⟨_, List.Mem.head _, List.Mem.head _⟩, by decide, by decide, by decide, by decide⟩,
          ⟨⟨_, List.Mem.head _, List.Mem.head _⟩, by decide, by decide, by decide, by decide⟩,
          ⟨⟨_, List.Mem.head _, List.Mem.head _⟩, by decide, by decide, by decide, by decide⟩,
          ⟨⟨_, List.Mem.head _, List.Mem.head _⟩, by decide, by decide, by decide, by decide⟩,
          ⟨16, by decide⟩⟩

/-- the same for the sentences of the iterator: no sentence except possibly the last ends inside / at the
end of a multi-character dictionary word that starts within 30 bytes before the break (the text from the
start of the sentence is `pre ++ w ++ post'`, the sentence has `e` characters) -/
theorem no_break_inside_word_within_lookback_split (v : CkVariant) (limit : Nat) (hl : 1 ≤ limit)
    (lexs : List (List (List Nat))) (hv : ValidKeys lexs) (text : Text) (l : List Sent)
    (h : split v limit (some lexs) text = .ok l) :
    ∀ x ∈ l.dropLast, ∃ before post, text = before ++ x.chunk ++ post ∧
      ∀ pre w post', x.chunk ++ post = pre ++ w ++ post' →
        ¬ WordWithinLookback lexs pre w post' x.chunk.length := by
  intro x hx
  obtain ⟨before, post, hsplit, _, hg⟩ := nonlast_is_get_eos v limit hl _ text l h x hx
  refine ⟨before, post, hsplit, ?_⟩
  intro pre w post' heq hw
  rw [heq] at hg
  exact no_break_inside_word_within_lookback v limit hl lexs hv pre w post' _ hw hg

/-- **Look-back limit** (clause "no break inside a multi-character dictionary word that ends with
the terminator" — false for words longer than 30 bytes, with either variant of the checker): with the 11-character
(33-byte) word `ああああああああああ。` in the dictionary, `ああああああああああ。い。` is split
right after that word; `no_break_in_multichar_word` therefore carries the 30-byte window. -/
theorem lookback_counterexample (v : CkVariant) :
    split v 4096 (some [[[0xE3, 0x81, 0x82, 0xE3, 0x81, 0x82, 0xE3, 0x81, 0x82, 0xE3, 0x81, 0x82,
        0xE3, 0x81, 0x82, 0xE3, 0x81, 0x82, 0xE3, 0x81, 0x82, 0xE3, 0x81, 0x82, 0xE3, 0x81, 0x82,
        0xE3, 0x81, 0x82, 0xE3, 0x80, 0x82]]])
      [0x3042, 0x3042, 0x3042, 0x3042, 0x3042, 0x3042, 0x3042, 0x3042, 0x3042, 0x3042, 0x3002, 0x3044, 0x3002]
      = .ok [⟨0, 33, [0x3042, 0x3042, 0x3042, 0x3042, 0x3042, 0x3042, 0x3042, 0x3042, 0x3042, 0x3042, 0x3002]⟩,
             ⟨33, 39, [0x3044, 0x3002]⟩] := by
  cases v <;> decide

/-! ### the window edge: the checker sees the whole text -/

/-- **The window edge** (clause "no break inside a multi-character dictionary word that contains the
terminator", for texts longer than the window).  `get_eos` looks for terminators in the first `limit`
characters only, but the checker is given the **whole** remaining text: if a dictionary key that
starts within the 30-byte look-back before the end of the window continues **beyond** the window
(`key <+: (utf8 input).drop i` is about all bytes of `input`, not of `input.take limit`), then
`get_eos` does not answer the window end as a sentence end — for both variants of the checker arm. -/
theorem no_break_at_window_edge_inside_word (v : CkVariant) (limit : Nat) (hl : 1 ≤ limit)
    (lexs : List (List (List Nat))) (input : Text) (hne : input ≠ [])
    (i : Nat) (lex : List (List Nat)) (hlex : lex ∈ lexs) (key : List Nat) (hkey : key ∈ lex)
    (hpre : key <+: (utf8 input).drop i)
    (h1 : blen (input.take limit) - 30 ≤ i) (h2 : i < blen (input.take limit))
    (h3 : blen (input.take limit) < i + key.length) :
    getEos v limit (some lexs) input ≠ .ok (.pos limit) := by
  intro h
  have hkne : key ≠ [] := by
    intro hn; subst hn; simp at h3; omega
  cases v with
  | cur =>
    have := no_break_in_multichar_word limit hl lexs input hne limit h i h1 h2 lex hlex key hkey hkne hpre
    omega
  | fix =>
    have := no_break_in_multichar_word_fix limit hl lexs input hne limit h i h1 h2 lex hlex key hkey hkne hpre
    omega

/-- the hypotheses of `no_break_at_window_edge_inside_word` are satisfiable on a text longer than the
window: `ばな。なです。`, window 3 (9 bytes), the key `な。な` matches at byte 3 and ends at byte 12 -/
example :
    let input : Text := [0x3070, 0x306A, 0x3002, 0x306A, 0x3067, 0x3059, 0x3002]
    let key : List Nat := [0xE3, 0x81, 0xAA, 0xE3, 0x80, 0x82, 0xE3, 0x81, 0xAA]
    3 < input.length ∧ key <+: (utf8 input).drop 3 ∧ blen (input.take 3) - 30 ≤ 3 ∧
      3 < blen (input.take 3) ∧ blen (input.take 3) < 3 + key.length := by
  decide +kernel

/-- **The checker must see the whole text, not the window** (the change `has_non_break_word(s, eos)`
instead of `(input, eos)` is a different function).  `ばな。なです。`, window 3, dictionary `{な。な}`:
the terminator is the last character of the window and lies inside the dictionary word; with the whole
text the loop body vetoes the candidate, with the window it would accept it; `get_eos` answers the
provisional `-9` and the text stays one sentence. -/
theorem window_vs_whole_witness (v : CkVariant) :
    let input : Text := [0x3070, 0x306A, 0x3002, 0x306A, 0x3067, 0x3059, 0x3002]
    let lexs : List (List (List Nat)) := [[[0xE3, 0x81, 0xAA, 0xE3, 0x80, 0x82, 0xE3, 0x81, 0xAA]]]
    examine v (some lexs) input (input.take 3) 3 = .veto ∧
    examine v (some lexs) (input.take 3) (input.take 3) 3 = .accept 3 ∧
    getEos v 3 (some lexs) input = .ok (.neg 3) ∧
    getEosB v 3 (some lexs) input = .ok (-9) ∧
    split v 3 (some lexs) input = .ok [⟨0, 21, input⟩] := by
  cases v <;> decide

/-! ## the converse: which terminators end a sentence

The clause of the property *a terminator that is not bracketed, not followed by a quoting particle, not an
itemisation header and not inside a multi-character dictionary word ends a sentence, for every window
limit* is **false** without a window condition (`d13_counterexample`; for the arm as it was also
`d12_counterexample`).  The exact form that holds is `terminator_breaks_iff` (exemption set `Exempt`,
window condition as a hypothesis); `first_unvetoed_match_decides`, `terminator_breaks_no_checker`, `terminator_breaks_fix` and
`unvetoed_terminator_decides` are its one-directional corollaries stated on the loop body, which need no `ValidChecker`
hypothesis.

Proved: `matchEnds 0 none 0 s` are the ends of the successive non-overlapping matches of
SENTENCE_BREAKER inside the window `s = input.take limit` (`match_ends_are_matches`).  If the loop
body does not veto one of them (`examine … ≠ .veto`; the vetoes are exactly bracket level, itemise
header, continued phrase and the checker's answer), then `get_eos` is not negative: it answers the
extended end of the first non-vetoed match, which is at or before that one — so a sentence ends at
that terminator or earlier (or the checker panics).  `find_iter_misses_no_terminator` shows that
`matchEnds` contains the end of *every* anchored match of SENTENCE_BREAKER in the window (a match that
starts inside an earlier, vetoed match ends where that match ends), and
`unvetoed_terminator_decides` combines the two.  Outside these statements by hypothesis: terminators
beyond the window (D13, `hm`); for `.cur` the checker's veto is not "inside a multi-character word" (D12),
for `.fix` it is (`terminator_breaks_fix`, `checker_veto_iff_fix`). -/

/-! ### the match ends `find_iter` reports -/

/-- `matchEnds` reports only ends of matches of SENTENCE_BREAKER (`breakerAt`) inside the window -/
theorem match_ends_are_matches (s : Text) (e0 : Nat) (hm : e0 ∈ matchEnds 0 none 0 s) :
    ∃ j n pv, breakerAt pv (s.drop j) = some n ∧ e0 = j + n := by
  obtain ⟨j, n, _, hb, hx⟩ := (mem_matchEnds s 0 none 0 e0).mp hm
  exact ⟨j, n, _, hb, by omega⟩

/-- **`find_iter` misses no terminator**: for every position `j` of the window at which
SENTENCE_BREAKER matches (with the true look-behind character `prevChar s j`), the end of that match is
one of the ends the loop examines — also when `j` lies inside an earlier match. -/
theorem find_iter_misses_no_terminator (s : Text) (j n : Nat)
    (hb : breakerAt (prevChar s j) (s.drop j) = some n) : j + n ∈ matchEnds 0 none 0 s :=
  -- `prevChar s j` unfolds to `advPrev none s j`
  (mem_matchEnds s 0 none 0 _).mpr ⟨j, n, Nat.zero_le _, hb, by rw [Nat.zero_add]⟩

/-- `。` inside the match `！。` (position 2 of `あ！。い`) is such an inner terminator occurrence -/
example : breakerAt (prevChar [0x3042, 0xFF01, 0x3002, 0x3044] 2) ([0x3042, 0xFF01, 0x3002, 0x3044].drop 2) = some 1 ∧
    matchEnds 0 none 0 [0x3042, 0xFF01, 0x3002, 0x3044] = [3] := by
  decide +kernel

/-! ### exactly, for valid UTF-8 keys -/

/-- **The loop body of `get_eos`, exactly** (both variants, valid UTF-8 keys): a match of SENTENCE_BREAKER
ending at character `e0 ≥ 1` of the window `s` is skipped (`continue`) **iff** it is in the exemption set
`Exempt`: (1) bracket level above 0 at its end, (2) the window is an itemisation header, (3) the extended
end is followed by a quoting particle / is an itemisation header followed by と, や, の, (4) the checker
answers `true` for the extended end — for `.fix` that is `InsideWord` (`checker_veto_iff_fix`).
Otherwise the loop returns the extended end `extEnd s e0`; it never panics. -/
theorem loop_body_veto_iff (v : CkVariant) (ck : Option (List (List (List Nat)))) (hv : ValidChecker ck)
    (input s : Text) (e0 : Nat) (h0 : 1 ≤ e0) :
    (examine v ck input s e0 = .veto ↔ Exempt v ck input s e0) ∧
    (¬ Exempt v ck input s e0 → examine v ck input s e0 = .accept (extEnd s e0)) := by
  refine ⟨examine_veto_iff h0, fun hn => ?_⟩
  rcases examine_cases v ck input s h0 with ⟨h1, _⟩ | ⟨_, h2, _⟩ | ⟨_, hp, _⟩
  · exact absurd h1 hn
  · exact h2
  · exact absurd hp (examine_no_panic hv h0)

/-- each of the four exemptions is inhabited and so is its complement: `（あ。` (bracket), the window `1.`
(itemisation header; never reached by the loop — the period after an alphanumeric is no match), `あ！と`
(quoting particle), `ばな。な` with `{な。な}` (inside a dictionary word); `あ。い` is not exempt and
`get_eos` answers its extended end -/
example (v : CkVariant) :
    Exempt v none [0xFF08, 0x3042, 0x3002] [0xFF08, 0x3042, 0x3002] 3 ∧
    Exempt v none [0x31, 0x2E] [0x31, 0x2E] 2 ∧
    Exempt v none [0x3042, 0xFF01, 0x3068] [0x3042, 0xFF01, 0x3068] 2 ∧
    Exempt v (some [[utf8 [0x306A, 0x3002, 0x306A]]]) [0x3070, 0x306A, 0x3002, 0x306A] [0x3070, 0x306A, 0x3002, 0x306A] 3 ∧
    InsideWord [[utf8 [0x306A, 0x3002, 0x306A]]] [0x3070, 0x306A, 0x3002, 0x306A] 9 ∧
    ¬ Exempt v none [0x3042, 0x3002, 0x3044] [0x3042, 0x3002, 0x3044] 2 ∧
    (2 : Nat) ∈ matchEnds 0 none 0 ([0x3042, 0x3002, 0x3044].take 4096) ∧
    getEos v 4096 none [0x3042, 0x3002, 0x3044] = .ok (.pos (extEnd [0x3042, 0x3002, 0x3044] 2)) := by
  refine ⟨Or.inl (by decide), Or.inr (Or.inl (by decide)), Or.inr (Or.inr (Or.inl ⟨by decide, by decide⟩)),
    Or.inr (Or.inr (Or.inr ⟨_, rfl, by cases v <;> decide⟩)), ?_, ?_, by decide, by cases v <;> decide⟩
  · exact ⟨3, by decide, by decide, _, List.Mem.head _, _, List.Mem.head _, by decide, by decide, Or.inl (by decide)⟩
  · rintro (h | h | ⟨_, h⟩ | ⟨_, h, _⟩)
    · revert h; decide
    · revert h; decide
    · revert h; decide
    · cases h

/-- **Converse clause, exact, window condition as a hypothesis** (both variants,
every limit `≥ 1`, valid UTF-8 keys).  `get_eos` answers the sentence end `e` **iff** `e` is the extended
end of a match `e0` of SENTENCE_BREAKER **in the window** `input.take limit` (`e0 ∈ matchEnds …`: what
`find_iter` yields, `sentence_breaker_find_iter_spec`; every anchored match end is among them,
`find_iter_misses_no_terminator`) that is **not exempt**, all earlier matches in the window being exempt.
So inside the window a terminator that is not bracketed, not an itemisation header, not continued by a
quoting particle and (for `.fix`) not inside a multi-character dictionary word DOES end a sentence — at
its own extended end or at that of an earlier such terminator; a one-character dictionary entry is not in
the exemption set.  A terminator beyond the window is not in `matchEnds (input.take limit)`: D13 is excluded
by this hypothesis and stays `d13_counterexample`. -/
theorem terminator_breaks_iff (v : CkVariant) (limit : Nat) (hl : 1 ≤ limit)
    (ck : Option (List (List (List Nat)))) (hv : ValidChecker ck) (input : Text) (hne : input ≠ []) (e : Nat) :
    getEos v limit ck input = .ok (.pos e) ↔
      ∃ e0 ∈ matchEnds 0 none 0 (input.take limit),
        ¬ Exempt v ck input (input.take limit) e0 ∧
        (∀ e0' ∈ matchEnds 0 none 0 (input.take limit), e0' < e0 → Exempt v ck input (input.take limit) e0') ∧
        e = extEnd (input.take limit) e0 :=
  getEos_pos_iff hv limit hl hne e

/-- the same when the whole remaining text fits the window (`input.length ≤ limit`): no window in the
statement -/
theorem terminator_breaks_iff_fits (v : CkVariant) (limit : Nat) (hl : 1 ≤ limit)
    (ck : Option (List (List (List Nat)))) (hv : ValidChecker ck) (input : Text) (hne : input ≠ [])
    (hfit : input.length ≤ limit) (e : Nat) :
    getEos v limit ck input = .ok (.pos e) ↔
      ∃ e0 ∈ matchEnds 0 none 0 input, ¬ Exempt v ck input input e0 ∧
        (∀ e0' ∈ matchEnds 0 none 0 input, e0' < e0 → Exempt v ck input input e0') ∧ e = extEnd input e0 := by
  have := terminator_breaks_iff v limit hl ck hv input hne e
  rwa [List.take_of_length_le hfit] at this

/-- **No boundary iff everything in the window is exempt**: `get_eos` returns a negative (provisional)
value exactly when every match of SENTENCE_BREAKER in the window is exempt — in particular when the window
holds no terminator, whatever follows it (this is the D13 situation, stated as what the code does). -/
theorem no_boundary_iff (v : CkVariant) (limit : Nat) (hl : 1 ≤ limit)
    (ck : Option (List (List (List Nat)))) (hv : ValidChecker ck) (input : Text) (hne : input ≠ []) :
    (∃ e, getEos v limit ck input = .ok (.neg e)) ↔
      ∀ e0 ∈ matchEnds 0 none 0 (input.take limit), Exempt v ck input (input.take limit) e0 := by
  rcases getEos_spec v limit ck hne with ⟨a, ha, hnE, _, ⟨_, hg, _⟩ | ⟨_, _, lexs, rfl, hp⟩⟩ | ⟨hall, n, hg, hn⟩
  · rw [hg]
    exact ⟨fun ⟨_, h⟩ => (by cases h), fun hall => absurd (hall a ha) hnE⟩
  · exact absurd hp (hasNonBreakWord_no_panic v hv input _)
  · have h1 := hn hl
    exact ⟨fun _ => hall, fun _ => ⟨n, by rw [hg, negOf, if_neg (by omega)]⟩⟩

/-- **Converse clause at the iterator**: for EVERY sentence `x` the iterator yields (the last one
included), with `rest = x.chunk ++ post` the text from its start: every match of SENTENCE_BREAKER in the
window of `rest` that is not exempt has its extended end at or behind the end of `x` — a non-exempt
terminator within the window of its sentence start is followed by a break no later than its extended
end. -/
theorem terminator_breaks_split (v : CkVariant) (limit : Nat) (hl : 1 ≤ limit)
    (ck : Option (List (List (List Nat)))) (hv : ValidChecker ck) (text : Text) (l : List Sent)
    (h : split v limit ck text = .ok l) :
    ∀ x ∈ l, ∃ pre post, text = pre ++ x.chunk ++ post ∧
      ∀ e0 ∈ matchEnds 0 none 0 ((x.chunk ++ post).take limit),
        ¬ Exempt v ck (x.chunk ++ post) ((x.chunk ++ post).take limit) e0 →
        x.chunk.length ≤ extEnd ((x.chunk ++ post).take limit) e0 := by
  intro x hx
  obtain ⟨l₁, l₂, rfl⟩ := List.mem_iff_append.mp hx
  obtain ⟨hsplit, hne, _, _, hg⟩ := splitFuel_steps hl _ _ _ _ h _ _ _ rfl
  refine ⟨_, _, hsplit, ?_⟩
  intro e0 hm hnE
  have hne' := List.append_ne_nil_of_left_ne_nil hne (l₂.map (·.chunk)).flatten
  rcases hg with hg | ⟨rfl, e, hg⟩
  · obtain ⟨a, _, hna, hfirst, hea⟩ := (terminator_breaks_iff v limit hl ck hv _ hne' _).mp hg
    have hle : a ≤ e0 := by
      apply Classical.byContradiction
      intro hlt
      exact hnE (hfirst e0 hm (by omega))
    rw [hea]
    exact extEnd_mono _ hle
  · rw [List.map_nil, List.flatten_nil, List.append_nil] at hm hnE ⊢
    have := (no_boundary_iff v limit hl ck hv _ hne).mp ⟨e, hg⟩ e0 hm
    exact absurd this hnE

/-! ### one direction, on the loop body -/

/-- **Converse inside the window: the first match that is not vetoed decides.**  If the loop body does not veto one of
the match ends in the window, `get_eos` is not negative: it answers the accept of the first non-vetoed match, which is at
or before that one (or the checker panics there). -/
theorem first_unvetoed_match_decides (v : CkVariant) (limit : Nat) (ck : Option (List (List (List Nat))))
    (input : Text) (hne : input ≠ []) (e0 : Nat)
    (hm : e0 ∈ matchEnds 0 none 0 (input.take limit))
    (hv : examine v ck input (input.take limit) e0 ≠ .veto) :
    ∃ e0', e0' ∈ matchEnds 0 none 0 (input.take limit) ∧ e0' ≤ e0 ∧
      ((∃ e, examine v ck input (input.take limit) e0' = .accept e ∧ getEos v limit ck input = .ok (.pos e)) ∨
       (examine v ck input (input.take limit) e0' = .panic ∧ getEos v limit ck input = .panic)) :=
  first_unvetoed_decides hne hm hv

/-- the hypotheses of the converse theorems are satisfiable: `あ。い` has one match, ending at 2,
which is not vetoed -/
example (v : CkVariant) : (2 : Nat) ∈ matchEnds 0 none 0 ([0x3042, 0x3002, 0x3044].take 4096) ∧
    examine v none [0x3042, 0x3002, 0x3044] ([0x3042, 0x3002, 0x3044].take 4096) 2 ≠ .veto ∧
    parenLevel (([0x3042, 0x3002, 0x3044].take 4096).take 2) = 0 ∧
    isItemizeHeader ([0x3042, 0x3002, 0x3044].take 4096) = false := by
  cases v <;> decide

/-- Without a checker: a match of SENTENCE_BREAKER in the window whose end is at bracket level 0, whose
window is not an itemise header and which is not followed by a continued phrase (quote particle /
`1.と`) makes `get_eos` non-negative — the sentence ends at that terminator or earlier. -/
theorem terminator_breaks_no_checker (v : CkVariant) (limit : Nat) (input : Text) (hne : input ≠ []) (e0 : Nat)
    (hm : e0 ∈ matchEnds 0 none 0 (input.take limit))
    (h1 : parenLevel ((input.take limit).take e0) = 0)
    (h2 : isItemizeHeader (input.take limit) = false)
    (h3 : ∀ eos, eos = (if e0 < (input.take limit).length
              then e0 + prohibitedBos ((input.take limit).drop e0) else e0) →
            eos < (input.take limit).length → isContinuousPhrase (input.take limit) eos ≠ some true) :
    ∃ e, getEos v limit none input = .ok (.pos e) ∧ 1 ≤ e := by
  have hnv : examine v none input (input.take limit) e0 ≠ .veto := fun hveto => by
    rcases (examine_veto_iff (matchEnds_bounds hm).1).mp hveto with h | h | ⟨hlt, hc⟩ | ⟨_, hk, _⟩
    · omega
    · rw [h2] at h; cases h
    · exact h3 _ rfl hlt hc
    · cases hk
  obtain ⟨e0', hm', _, h⟩ := first_unvetoed_decides hne hm hnv
  have hpos := (matchEnds_bounds hm').1
  rcases h with ⟨e, hacc, hg⟩ | ⟨hp, _⟩
  · have := examine_accept_eq hpos hacc
    have := extEnd_ge (input.take limit) e0'
    exact ⟨e, hg, by omega⟩
  · exact absurd hp (examine_no_panic (ck := none) trivial hpos)

/-- **Converse with the repaired checker (`.fix`), without the D12 exclusion.**  A match of
SENTENCE_BREAKER in the window whose end is at bracket level 0, whose window is not an itemise header,
which is not followed by a continued phrase, and whose (extended) end is *not inside a multi-character
dictionary word* — no key found in the 30-byte look-back crosses it, and no key of two or more
characters ends at it — is not vetoed: `get_eos` answers the accept of the first non-vetoed match, at
or before it (or the checker panics on an earlier match).  One-character dictionary entries, the
terminator itself included, do not appear in the hypotheses: they never suppress the break.
The window is the hypothesis `hm` (the match lies inside `input.take limit`); without it the statement is
false (D13).  For `.cur` this statement is false (`d12_counterexample`). -/
theorem terminator_breaks_fix (limit : Nat) (lexs : List (List (List Nat)))
    (input : Text) (hne : input ≠ []) (e0 : Nat)
    (hm : e0 ∈ matchEnds 0 none 0 (input.take limit))
    (h1 : parenLevel ((input.take limit).take e0) = 0)
    (h2 : isItemizeHeader (input.take limit) = false)
    (h3 : ∀ eos, eos = (if e0 < (input.take limit).length
              then e0 + prohibitedBos ((input.take limit).drop e0) else e0) →
            eos < (input.take limit).length → isContinuousPhrase (input.take limit) eos ≠ some true)
    (h4 : ∀ eos, eos = (if e0 < (input.take limit).length
              then e0 + prohibitedBos ((input.take limit).drop e0) else e0) →
            ∀ i, blen ((input.take limit).take eos) - 30 ≤ i → i < blen ((input.take limit).take eos) →
              ∀ lex ∈ lexs, ∀ key ∈ lex, key ≠ [] → key <+: (utf8 input).drop i →
                ¬ (blen ((input.take limit).take eos) < i + key.length) ∧
                ¬ (i + key.length = blen ((input.take limit).take eos) ∧ MultiCharWordAt input i key)) :
    ∃ e0', e0' ∈ matchEnds 0 none 0 (input.take limit) ∧ e0' ≤ e0 ∧
      ((∃ e, examine .fix (some lexs) input (input.take limit) e0' = .accept e ∧
            getEos .fix limit (some lexs) input = .ok (.pos e)) ∨
       (examine .fix (some lexs) input (input.take limit) e0' = .panic ∧
            getEos .fix limit (some lexs) input = .panic)) := by
  refine first_unvetoed_decides hne hm fun hveto => ?_
  rcases (examine_veto_iff (matchEnds_bounds hm).1).mp hveto with h | h | ⟨hlt, hc⟩ | ⟨_, hl, htrue⟩
  · omega
  · rw [h2] at h; cases h
  · exact h3 _ rfl hlt hc
  · cases hl
    obtain ⟨i, hi1, hi2, lex, hlex, key, hkey, hkne, hpre, hh⟩ := hasNonBreakWord_fix_true htrue
    obtain ⟨hn1, hn2⟩ := h4 _ rfl i hi1 hi2 lex hlex key hkey hkne hpre
    exact hh.elim hn1 hn2

/-- the hypotheses of `terminator_breaks_fix` are satisfiable with a dictionary that lists the
terminator itself: `あ。あ` with `{。, あ}` — the match ending at 2 is at level 0, not continued, and the
only keys in the look-back are the one-character words `あ` (ends before the break) and `。` -/
example : (2 : Nat) ∈ matchEnds 0 none 0 ([0x3042, 0x3002, 0x3042].take 4096) ∧
    examine .fix (some [[[0xE3, 0x80, 0x82], [0xE3, 0x81, 0x82]]]) [0x3042, 0x3002, 0x3042]
      ([0x3042, 0x3002, 0x3042].take 4096) 2 = .accept 2 ∧
    examine .cur (some [[[0xE3, 0x80, 0x82], [0xE3, 0x81, 0x82]]]) [0x3042, 0x3002, 0x3042]
      ([0x3042, 0x3002, 0x3042].take 4096) 2 = .veto ∧
    OneCharWordAt [0x3042, 0x3002, 0x3042] 3 [0xE3, 0x80, 0x82] ∧
    MultiCharWordAt [0x3042, 0x3002, 0x3042] 0 [0xE3, 0x81, 0x82, 0xE3, 0x80, 0x82] := by
  refine ⟨by decide, by decide, by decide, ⟨[0x3042], 0x3002, [0x3042], rfl, by decide, by decide⟩,
    ⟨[], [0x3042, 0x3002], [0x3042], rfl, by decide, by decide, by decide⟩⟩

/-- Converse for an arbitrary terminator occurrence inside the window: if SENTENCE_BREAKER matches at
position `j` of the window and the loop body does not veto the end of that match, `get_eos` answers a
break that comes from a match ending at or before it (or the checker panics). -/
theorem unvetoed_terminator_decides (v : CkVariant) (limit : Nat) (ck : Option (List (List (List Nat))))
    (input : Text) (hne : input ≠ []) (j n : Nat)
    (hb : breakerAt (prevChar (input.take limit) j) ((input.take limit).drop j) = some n)
    (hv : examine v ck input (input.take limit) (j + n) ≠ .veto) :
    ∃ e0', e0' ∈ matchEnds 0 none 0 (input.take limit) ∧ e0' ≤ j + n ∧
      ((∃ e, examine v ck input (input.take limit) e0' = .accept e ∧ getEos v limit ck input = .ok (.pos e)) ∨
       (examine v ck input (input.take limit) e0' = .panic ∧ getEos v limit ck input = .panic)) :=
  first_unvetoed_decides hne (find_iter_misses_no_terminator _ j n hb) hv

/-! ### where the code violates the window-free clause (D12: `.cur` only; D13: both) -/

/-- **D12** (converse clause, "the terminator being itself a one-character dictionary entry never
suppresses the break" — false on the code as it was, `.cur`): with a dictionary whose only key is `。`,
`あ。あ。あ` is one sentence. -/
theorem d12_counterexample :
    split .cur 4096 (some [[[0xE3, 0x80, 0x82]]]) [0x3042, 0x3002, 0x3042, 0x3002, 0x3042]
      = .ok [⟨0, 15, [0x3042, 0x3002, 0x3042, 0x3002, 0x3042]⟩] ∧
    split .cur 4096 none [0x3042, 0x3002, 0x3042, 0x3002, 0x3042]
      = .ok [⟨0, 6, [0x3042, 0x3002]⟩, ⟨6, 12, [0x3042, 0x3002]⟩, ⟨12, 15, [0x3042]⟩] := by
  decide +kernel

/-- **D12 repaired, iterator level** (`.fix`): with a dictionary listing `。` (alone, or with `あ`),
`あ。あ。あ` is split after each `。`, exactly as without a checker. -/
theorem d12_fixed_split_example :
    split .fix 4096 (some [[[0xE3, 0x80, 0x82]]]) [0x3042, 0x3002, 0x3042, 0x3002, 0x3042]
      = .ok [⟨0, 6, [0x3042, 0x3002]⟩, ⟨6, 12, [0x3042, 0x3002]⟩, ⟨12, 15, [0x3042]⟩] ∧
    split .fix 4096 (some [[[0xE3, 0x80, 0x82], [0xE3, 0x81, 0x82]]]) [0x3042, 0x3002, 0x3042, 0x3002, 0x3042]
      = .ok [⟨0, 6, [0x3042, 0x3002]⟩, ⟨6, 12, [0x3042, 0x3002]⟩, ⟨12, 15, [0x3042]⟩] := by
  decide +kernel

/-- **D13** (converse clause with a small window — false for both variants of the checker arm): limit 2,
`あああ。あ。あ` is one sentence although both `。` are unbracketed terminators; with limit 4 it is
split after each. -/
theorem d13_counterexample (v : CkVariant) :
    split v 2 none [0x3042, 0x3042, 0x3042, 0x3002, 0x3042, 0x3002, 0x3042]
      = .ok [⟨0, 21, [0x3042, 0x3042, 0x3042, 0x3002, 0x3042, 0x3002, 0x3042]⟩] ∧
    split v 4 none [0x3042, 0x3042, 0x3042, 0x3002, 0x3042, 0x3002, 0x3042]
      = .ok [⟨0, 12, [0x3042, 0x3042, 0x3042, 0x3002]⟩, ⟨12, 18, [0x3042, 0x3002]⟩, ⟨18, 21, [0x3042]⟩] := by
  cases v <;> decide

/-! ## the seven regular expressions against their specifications -/

/-! ### five against the language of the pattern -/

/-- ITEMIZE_HEADER `^([AN])([DOT])$`: `isItemizeHeader` = "the whole window is in the language of
`([AN])([DOT])`" -/
theorem itemize_header_regex_spec (s : Text) : isItemizeHeader s = true ↔ reItemize.Matches s :=
  isItemizeHeader_spec s

/-- EOS_ITEMIZE_HEADER `([AN])([DOT])\z`: `endsWithItemize` (on the reversed text) = "some suffix of the
text is in the language of `([AN])([DOT])`" -/
theorem eos_itemize_header_regex_spec (s : Text) :
    endsWithItemize s.reverse = true ↔ ∃ pre m, s = pre ++ m ∧ reItemize.Matches m :=
  endsWithItemize_spec s

/-- PROHIBITED_BOS `\A([CLOSE COMMA PERIODS])+`: `prohibitedBos s` is the length of the longest prefix
of `s` in the language of `([…])+`, and 0 exactly when no prefix is in it -/
theorem prohibited_bos_regex_spec (s : Text) :
    prohibitedBos s ≤ s.length ∧
    (∀ m, m ≤ s.length → reProhibitedBos.Matches (s.take m) → m ≤ prohibitedBos s) ∧
    (prohibitedBos s = 0 → ∀ m, m ≤ s.length → ¬ reProhibitedBos.Matches (s.take m)) ∧
    (prohibitedBos s ≠ 0 → reProhibitedBos.Matches (s.take (prohibitedBos s))) :=
  prohibitedBos_spec s

/-- QUOTE_MARKER `(！|？|\!|\?|[CLOSE])(と|っ|です)` with `mat.start() == 0`: `quoteMarkerAt0` = "some
prefix of the haystack is in the language" -/
theorem quote_marker_regex_spec (s : Text) :
    quoteMarkerAt0 s = true ↔ ∃ m post, s = m ++ post ∧ reQuoteMarker.Matches m :=
  quoteMarkerAt0_spec s

/-- PARENTHESIS `([OPEN])|([CLOSE])` with `captures_iter`: the language consists of the one-character
strings over the two classes, and `parenLevel` is the loop body of `parenthesis_level` (`+1` when group
1 matched, else `-1` saturating at 0) folded over the matches in text order -/
theorem parenthesis_regex_spec (s : Text) :
    (∀ u, reParenthesis.Matches u ↔ ∃ c, u = [c] ∧ (isOpen c = true ∨ isClose c = true)) ∧
    parenLevel s = (s.filter (fun c => isOpen c || isClose c)).foldl parenBody 0 :=
  ⟨fun _ => reParenthesis_matches, parenLevel_spec s⟩

/-- the regular-expression languages are inhabited: `1.` ∈ `([AN])([DOT])`, `）、。` ∈ `([CLOSE COMMA PERIODS])+`,
`！です` ∈ QUOTE_MARKER -/
example : reItemize.Matches [0x31, 0x2E] ∧ reProhibitedBos.Matches [0xFF09, 0x3001, 0x3002] ∧
    reQuoteMarker.Matches [0xFF01, 0x3067, 0x3059] ∧ prohibitedBos [0xFF09, 0x3001, 0x3002, 0x3042] = 3 := by
  refine ⟨reItemize_matches.mpr ⟨_, _, rfl, by decide, by decide⟩,
    matches_plus_cls.mpr ⟨by simp, by decide⟩,
    reQuoteMarker_matches.mpr ⟨_, _, rfl, by decide, Or.inr (Or.inr rfl)⟩, by decide⟩

/-! ### SENTENCE_BREAKER with `find_iter` and SPACES with `find` against the backtracking semantics -/

/-- **SENTENCE_BREAKER, anchored** — `([PERIODS]|・{3,}+|(?<![AN])[DOT](?![AN COMMA]))[DOT PERIODS]*|(<br>|<BR>){2,}`
written as the `RX` value `reBreaker` (alternation in the order written, possessive `{3,}+`, greedy `*` and
`{2,}`, negative look-behind and look-ahead).  The hand-written `breakerAt` answers the FIRST length in
backtracking order (leftmost-first: what `fancy_regex` reports for a match starting here), and that length
is the LARGEST the pattern can take here, so leftmost-longest semantics would agree. -/
theorem sentence_breaker_regex_spec (prev : Option Nat) (l : Text) :
    (RX.run reBreaker prev l).head? = breakerAt prev l ∧
    ∀ m ∈ RX.run reBreaker prev l, ∃ n, breakerAt prev l = some n ∧ m ≤ n :=
  breakerAt_spec prev l

/-- **`SENTENCE_BREAKER.find_iter(&s)`**: the ends of the successive non-overlapping leftmost-first matches
of `reBreaker` in the window (`RX.findIter`: each search starts where the previous match ended, the
look-behind sees the whole haystack) are exactly the ends `matchEnds` that the loop of `get_eos` examines. -/
theorem sentence_breaker_find_iter_spec (s : Text) :
    (RX.findIter reBreaker (s.length + 1) 0 none s).map (·.2) = matchEnds 0 none 0 s :=
  matchEnds_findIter (s.length + 1) s 0 none (Nat.lt_succ_self _)

/-- **SPACES `.+\s+` with `find`**: `spacesEnd s` is the end of the leftmost-first match of `reSpaces` in the
window (`.` = any character but `\n`, both `+` greedy), `none` iff there is no match; and at every position
the first length in backtracking order is the largest, so leftmost-longest would agree. -/
theorem spaces_regex_spec (s : Text) :
    (RX.findFrom reSpaces 0 none s).map (·.2) = spacesEnd s ∧
    ∀ (l : Text) (prev : Option Nat), ∀ m ∈ RX.run reSpaces prev l,
      ∃ n, (RX.run reSpaces prev l).head? = some n ∧ m ≤ n := by
  refine ⟨?_, fun l prev => reSpaces_longest l prev⟩
  rw [spacesEnd_spec s 0 none]
  cases spacesEnd s with
  | none => rfl
  | some e => simp

/-- the two patterns as data, run by the backtracking semantics: `。。a` (lengths 2 then 1), `・・・・。`
(possessive: the run of `・` is not given back, so 5 then 4, never fewer than all four `・`), a period after an alphanumeric (no match), `<br><BR><br>x` (12 then 8), the matches
`find_iter` yields in `あ。い！？う`, and SPACES on `あ い う` (backtracks to the last blank) and on
`あ\n\n い` (the line break and all white space behind it) -/
example :
    RX.run reBreaker (some 0x3042) [0x3002, 0x3002, 0x61] = [2, 1] ∧
    RX.run reBreaker none [0x30FB, 0x30FB, 0x30FB, 0x30FB, 0x3002] = [5, 4] ∧
    RX.run reBreaker (some 0x61) [0x2E, 0x3042] = [] ∧
    RX.run reBreaker (some 0x3042) [0x2E, 0x3042] = [1] ∧
    RX.run reBreaker none [0x3C, 0x62, 0x72, 0x3E, 0x3C, 0x42, 0x52, 0x3E, 0x3C, 0x62, 0x72, 0x3E, 0x78] = [12, 8] ∧
    RX.findIter reBreaker 7 0 none [0x3042, 0x3002, 0x3044, 0xFF01, 0xFF1F, 0x3046] = [(1, 2), (3, 5)] ∧
    RX.findFrom reSpaces 0 none [0x3042, 0x20, 0x3044, 0x20, 0x3046] = some (0, 4) ∧
    RX.findFrom reSpaces 0 none [0x3042, 0x0A, 0x0A, 0x20, 0x3044] = some (0, 4) ∧
    RX.findFrom reSpaces 0 none [0x0A, 0x3042, 0x3044] = none := by
  decide +kernel

end C16
