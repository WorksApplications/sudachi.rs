import Sudachi.Proofs.Subset
import Sudachi.Proofs.SubsetTok
import Sudachi.Proofs.SubsetRw
/-!
# C11 — Loading a subset of word fields never changes the fields that were requested

Model: `Subset.parse` (`WordInfoParser::parse`, the `parse_field!` macro unfolded over the ten
fields with their byte-level readers and skip functions), `Subset.normalize`
(`InfoSubset::normalize`, variant `cur` = the tree, `fix` = with the repair of D10),
`Subset.getWordInfo` (`WordInfos::get_word_info`), the accessors, `setMode`/`setSubset`,
`Subset.getWordInfoSubset` (`LexiconSet::get_word_info_subset` with the per-field POS / dictionary-id
fix-ups of user dictionaries), `Subset.tokenize` (`resolve_best_path` + `split_path` +
`NodeSplitIterator::next` on the best path the lattice search hands over), `Subset.tokenizeRw`
(the same with the path-rewrite plugins between `resolve_best_path` and `split_path`: the plugin model
of C14, `Sudachi.Model.Rewrite`, run on the word infos loaded with the tokenizer's subset; `set_subset`
variant `pw = cur` = the tree, `fix` = the request widened by the fields the configured plugins declare).
Quantifiers: every word the binary format can represent (`WF`: scalar values, at most 32 767
UTF-16 units per string, at most 255 array elements, 16/32-bit numbers), every request mask
(all 1 024 subsets, junk bits included), arbitrary bytes after the record.
-/
namespace C11
open Subset

/-- **Clause 1, stored fields (full).**  For every representable word, every request `S` and any
bytes after the record: the subset parse and the full parse both succeed (so every skip advanced
exactly as the corresponding parse, and the early return never cut a requested field), and every
field requested in `S` has the same stored value in both. -/
theorem subset_fields_eq (w : WordInfoData) (hw : WF w) (S : Nat) (rest : Bytes) :
    ∃ i1 i2, parse S (encodeBytes w ++ rest) = .ok i1 ∧ parse ALL (encodeBytes w ++ rest) = .ok i2 ∧
      FieldsEq S i1 i2 ∧ FieldsEq S i1 w := by
  obtain ⟨i1, e1, l1, _⟩ := parse_spec w hw S rest
  obtain ⟨i2, e2, l2, _⟩ := parse_spec w hw ALL rest
  exact ⟨i1, i2, e1, e2,
    (FieldsEq.of_loaded l1).of_common (.of_loaded l2) (fun _ _ h => h) (fun _ hj _ => all_testBit hj),
    .of_loaded l1⟩

/-- The parser is total on well-formed records for *every* request: no request makes a skip run
off the record (`skip_wid_array` would panic) or a reader fail. -/
theorem parse_total (w : WordInfoData) (hw : WF w) (S : Nat) (rest : Bytes) :
    ∃ i, parse S (encodeBytes w ++ rest) = .ok i := by
  obtain ⟨i, e, _⟩ := parse_spec w hw S rest
  exact ⟨i, e⟩

/-- Light fields are read whenever a later field is requested.  `set_mode` ORs SPLIT_A/SPLIT_B
into the subset *without* normalising (stateful_tokenizer.rs:81), so the head-word length that
`NodeSplitIterator` needs is not in the mask; it is loaded all the same. -/
theorem head_word_length_loaded_with_splits (w : WordInfoData) (hw : WF w) (S : Nat) (rest : Bytes)
    (h : S.testBit SPLIT_A = true ∨ S.testBit SPLIT_B = true) :
    ∃ i, parse S (encodeBytes w ++ rest) = .ok i ∧ i.headWordLength = w.headWordLength := by
  obtain ⟨i, e, l, _⟩ := parse_spec w hw S rest
  refine ⟨i, e, ?_⟩
  have : Loaded S 1 := h.elim (.headWordLength (c := 6) (by decide)) (.headWordLength (c := 7) (by decide))
  simpa [proj] using l 1 this

/-- requested accessors agree (everything except the dictionary-form string, which needs the
lexicon: see `dictionary_form_eq_fix`) -/
structure AccEq (S : Nat) (a b : WordInfoData) : Prop where
  fields : FieldsEq S a b
  normalizedForm : S.testBit NORMALIZED_FORM = true → accNormalizedForm a = accNormalizedForm b
  readingForm : S.testBit READING_FORM = true → accReadingForm a = accReadingForm b

/-- **Clause 1, accessors of one record (full, both variants of `normalize`).**  What the analyser
loads for a request `S` is `normalize S`; every accessor of a field in `S` — including the
fall-back to the surface of `normalized_form()` / `reading_form()` — equals the full load. -/
theorem accessor_eq (v : NzVariant) (w : WordInfoData) (hw : WF w) (S : Nat) (rest : Bytes) :
    ∃ i1 i2, parse (normalize v S) (encodeBytes w ++ rest) = .ok i1 ∧
      parse ALL (encodeBytes w ++ rest) = .ok i2 ∧ AccEq S i1 i2 := by
  obtain ⟨i1, e1, l1, _⟩ := parse_spec w hw (normalize v S) rest
  obtain ⟨i2, e2, l2, _⟩ := parse_spec w hw ALL rest
  have hf : FieldsEq S i1 i2 :=
    (FieldsEq.of_loaded l1).of_common (.of_loaded l2) (fun j _ h => testBit_normalize_of v S j h)
      (fun _ hj _ => all_testBit hj)
  have hsurf : (normalize v S).testBit SURFACE = true → i1.surface = i2.surface := by
    intro h
    exact (Val.str.inj (l1 0 (.of_requested (by decide) h))).trans (Val.str.inj (l2 0 (.of_requested (by decide) (by decide)))).symm
  refine ⟨i1, i2, e1, e2, hf, ?_, ?_⟩
  · intro h
    have hs := hsurf (normalize_surface_of_forms v S (Or.inr h))
    simp only [accNormalizedForm, hf.normalizedForm h, hs]
  · intro h
    have hs := hsurf (normalize_surface_of_forms v S (Or.inl h))
    simp only [accReadingForm, hf.readingForm h, hs]

/-- **Clause 1, dictionary form (full for the repaired `normalize`).**  In a lexicon of
representable words whose dictionary-form references stay inside the lexicon, for every request
containing DIC_FORM_WORD_ID: `get_word_info` with `normalize S` and with all fields both succeed
and `dictionary_form()` agrees — also for words that are their own dictionary form (id -1 or own
id), where the accessor falls back to the surface. -/
theorem dictionary_form_eq_fix (ws : List WordInfoData) (hwf : ∀ w ∈ ws, WF w) (hdf : DfOk ws) (hasSyn : Bool)
    (k : Nat) (hk : k < ws.length) (S : Nat) (hS : S.testBit DIC_FORM_WORD_ID = true) :
    ∃ i1 i2, getWordInfo (lexOf ws hasSyn) k (normalize .fix S) = .ok i1 ∧
      getWordInfo (lexOf ws hasSyn) k ALL = .ok i2 ∧
      accDictionaryForm i1 = accDictionaryForm i2 ∧ i1.dictionaryFormWordId = i2.dictionaryFormWordId := by
  have L : ∀ T : Nat, T.testBit 0 = true → T.testBit 4 = true →
      Loaded (effSubset hasSyn T) 0 ∧ Loaded (effSubset hasSyn T) 4 := fun T h0 h4 =>
    ⟨.of_requested (by decide) (effSubset_of_testBit (by decide) h0), .of_requested (by decide) (effSubset_of_testBit (by decide) h4)⟩
  obtain ⟨a0, a4⟩ := L _ (normalize_fix_surface_of_dicform S hS) (testBit_normalize_of _ S 4 hS)
  obtain ⟨b0, b4⟩ := L ALL (by decide) (by decide)
  obtain ⟨i1, e1, l1, _, d1, _⟩ := getWordInfo_spec ws hwf hdf hasSyn k hk (normalize .fix S)
  obtain ⟨i2, e2, l2, _, d2, _⟩ := getWordInfo_spec ws hwf hdf hasSyn k hk ALL
  have s1 : i1.surface = ws[k].surface := Val.str.inj (l1 0 a0)
  have s2 : i2.surface = ws[k].surface := Val.str.inj (l2 0 b0)
  have f1 : i1.dictionaryFormWordId = ws[k].dictionaryFormWordId := Val.int.inj (l1 4 a4)
  have f2 : i2.dictionaryFormWordId = ws[k].dictionaryFormWordId := Val.int.inj (l2 4 b4)
  refine ⟨i1, i2, e1, e2, ?_, f1.trans f2.symm⟩
  simp only [accDictionaryForm, d1 a4, d2 b4, s1, s2]

/-- **Clause 1 at `WordInfos::get_word_info` (full).**  In a lexicon of representable words whose
dictionary-form references stay inside the lexicon, for EVERY request `S` (junk bits included), with or
without synonym ids in the header: `get_word_info S` and `get_word_info ALL` both succeed and agree on
every stored field of `S` (synonym ids only when the header announces them: the reader drops that flag
otherwise).  For requests that do not reach the dictionary-form id the id keeps its default 0 and the
code consults word 0 for a dictionary form; that consult cannot fail
(`get_word_info_unloaded_defaults`). -/
theorem get_word_info_fields_eq (ws : List WordInfoData) (hwf : ∀ w ∈ ws, WF w) (hdf : DfOk ws)
    (hasSyn : Bool) (k : Nat) (hk : k < ws.length) (S : Nat) :
    ∃ i1 i2, getWordInfo (lexOf ws hasSyn) k S = .ok i1 ∧ getWordInfo (lexOf ws hasSyn) k ALL = .ok i2 ∧
      FieldsEq (effSubset hasSyn S) i1 i2 := by
  obtain ⟨i1, e1, l1, _⟩ := getWordInfo_spec ws hwf hdf hasSyn k hk S
  obtain ⟨i2, e2, l2, _⟩ := getWordInfo_spec ws hwf hdf hasSyn k hk ALL
  exact ⟨i1, i2, e1, e2,
    (FieldsEq.of_loaded l1).of_common (.of_loaded l2) (fun _ _ h => h) (effSubset_all_of hasSyn S)⟩

/-- **Fields that are not loaded keep their defaults** (`WordInfoData::default()`), for every request,
at `get_word_info` level: a heavy field that is not requested, and a light field with no request bit
at or above it, read 0 / empty.  Consequence spelled out for the dictionary form: when the id is not
loaded the code still runs its consult with the default id 0 — the stored `dictionary_form` is then the
surface of word 0 (empty for word 0 itself), and the call succeeds. -/
theorem get_word_info_unloaded_defaults (ws : List WordInfoData) (hwf : ∀ w ∈ ws, WF w) (hdf : DfOk ws)
    (hasSyn : Bool) (k : Nat) (hk : k < ws.length) (S : Nat) :
    ∃ i, getWordInfo (lexOf ws hasSyn) k S = .ok i ∧
      (∀ b, Unloaded (effSubset hasSyn S) b → proj b i = proj b {}) ∧
      (Unloaded (effSubset hasSyn S) 4 →
        i.dictionaryFormWordId = 0 ∧
        i.dictionaryForm = if k = 0 then [] else (ws[0]'(by omega)).surface) := by
  obtain ⟨i, e, _, u, _, du⟩ := getWordInfo_spec ws hwf hdf hasSyn k hk S
  refine ⟨i, e, u, fun h => ⟨by simpa [proj] using u 4 h, ?_⟩⟩
  rw [du h]
  have h0 : 0 < ws.length := by omega
  by_cases hk0 : k = 0
  · simp [dicFormOf, hk0]
  · have : ¬ ((0 : Int) = (k : Int)) := by omega
    simp [dicFormOf, hk0, this, List.getElem?_eq_getElem h0]

/-- a one-word lexicon: `あ`, its own dictionary form (`*` in the CSV, id -1), nothing else -/
def d10Word : WordInfoData := { surface := [12354], headWordLength := 3, dictionaryFormWordId := -1 }

/-- **D10 (the tree's `normalize` violates clause 1).**  Request = {DIC_FORM_WORD_ID}: the tree's
`normalize` leaves it alone, `get_word_info` loads no surface and `dictionary_form()` is empty,
while the full load answers `あ`.  With the repaired `normalize` the same request answers `あ`.
(What fails for the variant `cur` is the analogue of `dictionary_form_eq_fix`; `accessor_eq`, which leaves the
dictionary form out, holds for both variants.) -/
theorem accessor_eq_counterexample :
    WF d10Word ∧ DfOk [d10Word] ∧
    normalize .cur (2 ^ DIC_FORM_WORD_ID) = 2 ^ DIC_FORM_WORD_ID ∧
    (getWordInfo (lexOf [d10Word] true) 0 (normalize .cur (2 ^ DIC_FORM_WORD_ID))).bind (fun i => .ok (accDictionaryForm i)) = .ok [] ∧
    (getWordInfo (lexOf [d10Word] true) 0 ALL).bind (fun i => .ok (accDictionaryForm i)) = .ok [12354] ∧
    (getWordInfo (lexOf [d10Word] true) 0 (normalize .fix (2 ^ DIC_FORM_WORD_ID))).bind (fun i => .ok (accDictionaryForm i)) = .ok [12354] := by
  refine ⟨?_, ?_, by decide, by decide, by decide, by decide⟩
  · exact ⟨strOk_one 12354 (by omega), by decide, by decide, strOk_nil, by decide, by decide, strOk_nil,
      arrOk_nil, arrOk_nil, arrOk_nil, arrOk_nil⟩
  · unfold DfOk; decide

/-! ### tokenizer: every order of `set_mode` / `set_subset` -/

/-- `s ⊇ t` on masks -/
def Contains (s t : Nat) : Prop := ∀ j, t.testBit j = true → s.testBit j = true

/-- `set_subset` loads at least what was asked for, whatever the mode and the previous subset -/
theorem set_subset_contains_request (v : NzVariant) (st : TokState) (S : Nat) :
    Contains (setSubset v st S).subset S := by
  intro j h
  simp only [setSubset, Nat.testBit_or]
  have : (normalize v (S ||| modeSubset st.mode)).testBit j = true :=
    testBit_normalize_of v _ j (by simp [Nat.testBit_or, h])
  simp [this]

/-- `set_mode` never drops a loaded field -/
theorem set_mode_keeps_subset (st : TokState) (m : Mode) : Contains (setMode st m).subset st.subset := by
  intro j h
  simp [setMode, Nat.testBit_or, h]

/-- **Every order.**  After any sequence of `set_mode` / `set_subset` calls on a fresh tokenizer
the split list of the *current* mode is in the loaded subset (so `split_path` sees the same split
lists as the full-field analysis; the head-word lengths follow by
`head_word_length_loaded_with_splits`). -/
theorem mode_flag_loaded_any_order (v : NzVariant) (m0 : Mode) (ops : List Op) :
    Contains (applyOps v (newTok m0) ops).subset (modeSubset (applyOps v (newTok m0) ops).mode) := by
  refine applyOps_induction (P := fun st => Contains st.subset (modeSubset st.mode)) (fun st op _ _ => ?_) ?_
  · cases op with
    | mode m => intro j h; simp only [applyOp, setMode] at h ⊢; rw [Nat.testBit_or, h]; simp
    | subset s => intro j h; simp only [applyOp, setSubset] at h ⊢; rw [Nat.testBit_or, h]; simp
  · intro j h
    cases m0 <;> simp [newTok, modeSubset, Nat.testBit_two_pow] at h ⊢ <;> (subst h; decide)

/-- and a request survives every later `set_mode` -/
theorem request_survives_set_mode (v : NzVariant) (st : TokState) (S : Nat) (ms : List Mode) :
    Contains (applyOps v (setSubset v st S) (ms.map Op.mode)).subset S := by
  refine applyOps_induction (P := fun st' => Contains st'.subset S) (fun st' op hop h => ?_)
    (set_subset_contains_request v st S)
  obtain ⟨m, _, rfl⟩ := List.mem_map.mp hop
  exact fun j hj => set_mode_keeps_subset st' m j (h j hj)

/-! ### `LexiconSet::get_word_info_subset` and the analysis after the lattice search -/

/-- **Clause 1 at `LexiconSet::get_word_info_subset` (full), any number of user dictionaries.**  In a
lexicon set of representable words (dictionary forms inside their own lexicon, one POS offset per
lexicon), for every word id of the set and EVERY request `S`: the subset load and the full load both
succeed and agree on every stored field of `S` *after* the fix-ups of user dictionaries — the POS id
re-based by the dictionary's offset, the `U`-references of SPLIT_A / SPLIT_B / WORD_STRUCTURE
re-stamped with the dictionary's own number (synonym ids only when the header announces them). -/
theorem get_word_info_subset_fields_eq (src : Src) (po : List Nat) (nsys : Nat) (hok : LexSetOk src po)
    (id : Nat) (hd : widDic id < src.length) (hk : widWord id < (src[widDic id]).1.length) (S : Nat) :
    ∃ i1 i2, getWordInfoSubset (lexSetOf src po nsys) id S = .ok i1 ∧
      getWordInfoSubset (lexSetOf src po nsys) id ALL = .ok i2 ∧
      FieldsEq (effSubset (src[widDic id]).2 S) i1 i2 := by
  obtain ⟨i1, e1, f1, _⟩ := getWordInfoSubset_spec src po nsys hok id hd hk S
  obtain ⟨i2, e2, f2, _⟩ := getWordInfoSubset_spec src po nsys hok id hd hk ALL
  exact ⟨i1, i2, e1, e2, f1.of_common f2 (fun _ _ h => h) (effSubset_all_of _ S)⟩

/-- **The dictionary-id fix-up is per field.**  Each of the three id lists is re-stamped as soon as
ITS OWN flag is in the request — whatever the other two flags are (a request with exactly one of
SPLIT_A / SPLIT_B / WORD_STRUCTURE included): the loaded list is `update_dict_id` of the stored one. -/
theorem rebase_needs_only_own_flag (src : Src) (po : List Nat) (nsys : Nat) (hok : LexSetOk src po)
    (id : Nat) (hd : widDic id < src.length) (hk : widWord id < (src[widDic id]).1.length) (S : Nat) :
    ∃ i, getWordInfoSubset (lexSetOf src po nsys) id S = .ok i ∧
      (S.testBit SPLIT_A = true →
        i.aUnitSplit = updateDictId ((src[widDic id]).1[widWord id]).aUnitSplit (widDic id)) ∧
      (S.testBit SPLIT_B = true →
        i.bUnitSplit = updateDictId ((src[widDic id]).1[widWord id]).bUnitSplit (widDic id)) ∧
      (S.testBit WORD_STRUCTURE = true →
        i.wordStructure = updateDictId ((src[widDic id]).1[widWord id]).wordStructure (widDic id)) := by
  obtain ⟨i, e, f, _⟩ := getWordInfoSubset_spec src po nsys hok id hd hk S
  exact ⟨i, e, fun h => f.aUnitSplit (effSubset_of_testBit (by decide) h),
    fun h => f.bUnitSplit (effSubset_of_testBit (by decide) h),
    fun h => f.wordStructure (effSubset_of_testBit (by decide) h)⟩

/-- **What the fix-up does to one reference** (`update_dict_id`, dictionary number `d < 16`): the list
keeps its length; a reference into the system dictionary is unchanged; every other reference (the
builder writes `U`-references with number 1, also inside the second, third, … user dictionary) gets
number `d` — the dictionary the word was read from — and keeps its word number. -/
theorem rebase_user_references (split : List Nat) (d : Nat) (hd : d < 16) :
    (updateDictId split d).length = split.length ∧
    ∀ i (hi : i < split.length) (hi' : i < (updateDictId split d).length),
      (widDic split[i] = 0 → (updateDictId split d)[i] = split[i]) ∧
      (widDic split[i] > 0 → widDic (updateDictId split d)[i] = d ∧
        widWord (updateDictId split d)[i] = widWord split[i]) :=
  updateDictId_spec split d hd

/-- **Clause 2 (full for configurations without path-rewrite plugins): boundaries and word identities
do not depend on the subset.**  For every well-formed lexicon set (any number of user dictionaries),
every initial mode and EVERY sequence of `set_mode` / `set_subset` calls, every rewritten text and every
best path handed over by the lattice search (which reads word parameters only — the subset is not an
input of it): the word ids and byte boundaries produced by `resolve_best_path` + `split_path` under the
subset the tokenizer ends up with equal those of a full-field analysis in the same final mode; a
failure (an ill-formed split reference) is the same failure in both.  The only word-info fields read
on the way are the split list of the mode — loaded and re-stamped because its flag is in the subset
after any order of calls (`mode_flag_loaded_any_order`, `rebase_needs_only_own_flag`) — and the
head-word length — loaded because a later flag is requested although `set_mode` does not normalise. -/
theorem boundaries_subset_free (v : NzVariant) (src : Src) (po : List Nat) (nsys : Nat) (hok : LexSetOk src po)
    (m0 : Mode) (ops : List Op) (text : Bytes) (path : List PNode) :
    shapeRes (tokenize (lexSetOf src po nsys) (applyOps v (newTok m0) ops) text path) =
    shapeRes (tokenize (lexSetOf src po nsys) (newTok (applyOps v (newTok m0) ops).mode) text path) := by
  exact tokenize_agree _ _ _ ALL (gwisAgree_all src po nsys hok _ _ (mode_flag_loaded_any_order v m0 ops)) text path

/-! ### the skip functions -/

/-- **Skipping a field consumes exactly the bytes parsing it consumes (full): every one of the ten field
codecs, EVERY input.**  Whenever the "true" function of a `parse_field!` invocation (`utf16_string_parser`,
`u32_array_parser` / `u32_wid_array_parser`, `string_length_parser`, `le_u16`, `le_i32`) succeeds on ANY
byte string — a well-formed record or not, any length prefix incl. the two-byte form, any count byte —
its "false" function (`skip_u16_string`, `skip_wid_array`, `skip_u32_array`, the light fields' own reader)
succeeds as well and leaves the SAME remaining input.  (`skip_u16_string` must therefore honour the
two-byte length prefix, `skip_*_array` the one-byte count.) -/
theorem skip_eq_parse_then_drop (f : Field) (hf : f ∈ fields) (bs : Bytes)
    (upd : WordInfoData → WordInfoData) (next : Bytes) (h : f.tfn bs = .ok (upd, next)) : f.ffn bs = .ok next := by
  simp only [fields, List.mem_cons, List.not_mem_nil, or_false] at hf
  rcases hf with rfl | rfl | rfl | rfl | rfl | rfl | rfl | rfl | rfl | rfl
  · obtain ⟨v, hv⟩ := assign_ok h; exact utf16String_ok_skip hv
  · obtain ⟨v, hv⟩ := assign_ok h; exact forget_of_ok hv
  · obtain ⟨v, hv⟩ := assign_ok h; exact forget_of_ok hv
  · obtain ⟨v, hv⟩ := assign_ok h; exact utf16String_ok_skip hv
  · obtain ⟨v, hv⟩ := assign_ok h; exact forget_of_ok hv
  · obtain ⟨v, hv⟩ := assign_ok h; exact utf16String_ok_skip hv
  · obtain ⟨v, hv⟩ := assign_ok h; exact u32Array_ok_skip hv
  · obtain ⟨v, hv⟩ := assign_ok h; exact u32Array_ok_skip hv
  · obtain ⟨v, hv⟩ := assign_ok h; exact u32Array_ok_skip hv
  · obtain ⟨v, hv⟩ := assign_ok h; exact u32Array_ok_skip hv

/-- **…and on what the writer emits both succeed and consume exactly the encoding (full), all lengths.**
For every representable string (0 … 32 767 UTF-16 units; the writer `write_len` uses ONE length byte below
127 units and TWO from 127 on, the reader switches at 128 — both read 127 back) the parser returns the
string, the skip function returns the same rest, and the number of bytes stepped over is
`(1 or 2) + 2·units`. -/
theorem skip_string_consumes_encoding (s : List Nat) (hs : StrOk s) (rest : Bytes) :
    utf16String (encStr s ++ rest) = .ok (s, rest) ∧ skipU16String (encStr s ++ rest) = .ok rest ∧
    (encStr s).length = (if (toUtf16 s).length < 127 then 1 else 2) + 2 * (toUtf16 s).length :=
  ⟨utf16String_encStr hs rest, utf16String_ok_skip (utf16String_encStr hs rest), length_encStr s⟩

/-- the same for the id arrays (one count byte, 0 … 255 elements of four bytes): `skip_wid_array` /
`skip_u32_array` step over `1 + 4·count` bytes, exactly what `u32_wid_array_parser` / `u32_array_parser`
consume -/
theorem skip_array_consumes_encoding (a : List Nat) (ha : ArrOk a) (rest : Bytes) :
    u32Array (encArr a ++ rest) = .ok (a, rest) ∧ skipArray (encArr a ++ rest) = .ok rest ∧
    (encArr a).length = 1 + 4 * a.length :=
  ⟨u32Array_encArr a rest, u32Array_ok_skip (u32Array_encArr a rest), length_encArr a⟩

/-- the boundary values of the length prefix, as the writer emits them and as the reader takes them -/
example : encLen 0 = [0] ∧ encLen 126 = [126] ∧ encLen 127 = [128, 127] ∧ encLen 128 = [128, 128] ∧
    encLen 255 = [128, 255] ∧ encLen 256 = [129, 0] ∧ encLen 32767 = [255, 255] := by decide
example (rest : Bytes) : stringLength ([127] ++ rest) = .ok (127, rest) := stringLength_short (by omega) rest
example (rest : Bytes) : stringLength ([128, 127] ++ rest) = .ok (127, rest) := stringLength_encLen (n := 127) (by omega) rest
/-- strings of exactly 126 / 127 / 128 / 32 767 units and arrays of 0 / 1 / 127 / 255 elements are
inside the quantifier of the two theorems above -/
example (rest : Bytes) : skipU16String (encStr (List.replicate 127 97) ++ rest) = .ok rest :=
  (skip_string_consumes_encoding _ (strOk_replicate 127 (by omega)) rest).2.1
example (rest : Bytes) : skipU16String (encStr (List.replicate 128 97) ++ rest) = .ok rest :=
  (skip_string_consumes_encoding _ (strOk_replicate 128 (by omega)) rest).2.1
example (rest : Bytes) : skipU16String (encStr (List.replicate 32767 97) ++ rest) = .ok rest ∧
    (encStr (List.replicate 32767 97)).length = 2 + 2 * 32767 := by
  obtain ⟨_, h2, h3⟩ := skip_string_consumes_encoding _ (strOk_replicate 32767 (by omega)) rest
  refine ⟨h2, ?_⟩
  rw [h3, toUtf16_replicate, List.length_replicate]
  rfl
example (rest : Bytes) : skipArray (encArr (List.replicate 127 7) ++ rest) = .ok rest :=
  (skip_array_consumes_encoding _ (arrOk_replicate 127 (by omega)) rest).2.1
example (rest : Bytes) : skipArray (encArr (List.replicate 255 7) ++ rest) = .ok rest :=
  (skip_array_consumes_encoding _ (arrOk_replicate 255 (by omega)) rest).2.1
example (rest : Bytes) : skipArray (encArr [] ++ rest) = .ok rest ∧ skipArray (encArr [7] ++ rest) = .ok rest :=
  ⟨(skip_array_consumes_encoding _ arrOk_nil rest).2.1, (skip_array_consumes_encoding _ (arrOk_replicate 1 (by omega)) rest).2.1⟩
/-- the hypothesis of `skip_eq_parse_then_drop` is inhabited by inputs that are NOT encodings of a word:
a two-byte length prefix for a one-unit string -/
example : skipU16String [128, 1, 97, 0, 5] = .ok [5] ∧ (utf16String [128, 1, 97, 0, 5]) = .ok ([97], [5]) := by decide

/-! ### second clause WITH path-rewrite plugins

The driver runs `applyOpsP v pw pls`, i.e. `applyOps` on the calls with every request widened by `pluginSubset pw pls`.  For
`pw = cur` that is `s ||| 0`, the request itself, so the theorems about `applyOps` below are about the run of the unchanged
tree; for `pw = fix` see `boundaries_subset_free_plugins_fix`. -/

/-- **`set_subset` closes the request, `set_mode` never opens it again.**  After any sequence of
`set_mode` / `set_subset` on a fresh tokenizer: if NORMALIZED_FORM is loaded so is SURFACE — i.e. the
accessor `normalized_form()` (stored form, or the surface when that is empty), which is what
`JoinNumericPlugin` reads, is the full-load one as soon as the flag NORMALIZED_FORM is in the subset. -/
theorem surface_loaded_with_normalized_form (v : NzVariant) (m0 : Mode) (ops : List Op) :
    (applyOps v (newTok m0) ops).subset.testBit NORMALIZED_FORM = true →
    (applyOps v (newTok m0) ops).subset.testBit SURFACE = true := by
  have hms : ∀ m : Mode, (modeSubset m).testBit NORMALIZED_FORM = false := by intro m; cases m <;> decide
  refine applyOps_induction
    (P := fun st => st.subset.testBit NORMALIZED_FORM = true → st.subset.testBit SURFACE = true)
    (fun st op _ ih h => ?_) fun _ => all_testBit (by decide)
  cases op with
  | mode m =>
    simp only [applyOp, setMode, Nat.testBit_or, hms, Bool.or_false] at h ⊢
    simp [ih h]
  | subset s =>
    simp only [applyOp, setSubset, Nat.testBit_or, hms, Bool.or_false] at h ⊢
    rw [normalize_testBit_ge2 v _ NORMALIZED_FORM (by decide)] at h
    simp [normalize_surface_of_forms v _ (Or.inr h)]

/-- **Clause 2 with path-rewrite plugins, under the exact condition (full).**  For every well-formed
lexicon set, every initial mode and sequence of `set_mode` / `set_subset`, every rewritten text with its
character classes, every behaviour `P` of the numeric parser, EVERY stack of `JoinNumericPlugin` /
`JoinKatakanaOovPlugin` instances (any order, any settings, both variants of the numeric loop) and every
best path: if the subset the tokenizer ended up with holds POS_ID and NORMALIZED_FORM — the two fields
`JoinNumericPlugin` reads through `pos_id()` / `normalized_form()`; SURFACE then follows
(`surface_loaded_with_normalized_form`) — the word ids and byte boundaries of `resolve_best_path` + the
plugin stack + `split_path` (and the failure, if any) equal those of a full-field analysis in the same
final mode.  Everything else the plugins touch (`reading_form`, `dictionary_form`, its id, synonym ids,
word structure, the split list of the other modes) is only copied into merged nodes and never decides. -/
theorem boundaries_subset_free_plugins (v : NzVariant) (nv : Rewrite.NVariant) (src : Src) (po : List Nat) (nsys : Nat)
    (hok : LexSetOk src po) (m0 : Mode) (ops : List Op) (text : Bytes) (cat : List Nat) (P : List Char → Rewrite.POut)
    (pls : List Rewrite.Plugin) (path : List XNode)
    (hp : (applyOps v (newTok m0) ops).subset.testBit POS_ID = true)
    (hn : (applyOps v (newTok m0) ops).subset.testBit NORMALIZED_FORM = true) :
    shapeOut (tokenizeRw nv (lexSetOf src po nsys) (applyOps v (newTok m0) ops) text cat P pls path) =
    shapeOut (tokenizeRw nv (lexSetOf src po nsys) (newTok (applyOps v (newTok m0) ops).mode) text cat P pls path) := by
  have hflag := mode_flag_loaded_any_order v m0 ops
  have hs := surface_loaded_with_normalized_form v m0 ops hn
  exact tokenizeRw_agree nv _ true _ _ ALL
    (gwisAgreeRW_all src po nsys hok true _ _ (fun _ => ⟨hs, hp, hn⟩) ⟨3, by omega, by omega, hn⟩ hflag)
    text cat P pls (fun _ => rfl) path

/-- **Stacks without `JoinNumericPlugin` need no word-info string at all.**  `JoinKatakanaOovPlugin`
decides from word ids, character ranges and character classes only; the merged node adds the head-word
lengths in a `u16`, so the only thing the request must not change is whether the reader reaches the
head-word length: true in modes A and B (the split flag is behind it), in mode C as soon as any flag
other than SURFACE / SYNONYM_GROUP_ID is requested.  (For the remaining requests — {} and {SURFACE} in
mode C — see `boundaries_subset_free_katakana_any_request`: equality under the hypothesis that the `u16`
sum cannot overflow, which holds on the real code because head-word lengths are key lengths.) -/
theorem boundaries_subset_free_katakana (v : NzVariant) (nv : Rewrite.NVariant) (src : Src) (po : List Nat) (nsys : Nat)
    (hok : LexSetOk src po) (m0 : Mode) (ops : List Op) (text : Bytes) (cat : List Nat) (P : List Char → Rewrite.POut)
    (pls : List Rewrite.Plugin) (path : List XNode) (hk : ¬ HasNumeric pls)
    (hh : (applyOps v (newTok m0) ops).mode ≠ .C ∨ HwlLoaded (applyOps v (newTok m0) ops).subset) :
    shapeOut (tokenizeRw nv (lexSetOf src po nsys) (applyOps v (newTok m0) ops) text cat P pls path) =
    shapeOut (tokenizeRw nv (lexSetOf src po nsys) (newTok (applyOps v (newTok m0) ops).mode) text cat P pls path) := by
  have hflag := mode_flag_loaded_any_order v m0 ops
  have hl : HwlLoaded (applyOps v (newTok m0) ops).subset := hh.elim (fun hm => .of_mode hm hflag) id
  exact tokenizeRw_agree nv _ false _ _ ALL (gwisAgreeRW_all src po nsys hok false _ _ (fun h => by cases h) hl hflag)
    text cat P pls (fun h => absurd h hk) path

/-- **Stacks without `JoinNumericPlugin`, EVERY request (full under the no-overflow hypothesis).**  The
residual of `boundaries_subset_free_katakana` — requests under which the reader does not even reach the
head-word length ({} and {SURFACE} in mode C) — closed under the only thing that can tell the two analyses
apart: the `u16` addition of head-word lengths in `concat_oov_nodes`.  If that sum over the best path
overflows neither under the request nor under the full load (head-word lengths are byte lengths of keys
of a text of at most 65 535 bytes: true of every dictionary the builder produces, but not a consequence of
the record format, hence a hypothesis), word ids and byte boundaries are those of the full-field analysis
for EVERY sequence of `set_mode` / `set_subset` — the plugin's decisions read word ids, character ranges
and character classes only. -/
theorem boundaries_subset_free_katakana_any_request (v : NzVariant) (nv : Rewrite.NVariant) (src : Src) (po : List Nat)
    (nsys : Nat) (hok : LexSetOk src po) (m0 : Mode) (ops : List Op) (text : Bytes) (cat : List Nat)
    (P : List Char → Rewrite.POut) (pls : List Rewrite.Plugin) (path : List XNode) (hk : ¬ HasNumeric pls)
    (hfit : ∀ ns, resolvePathX (lexSetOf src po nsys) (applyOps v (newTok m0) ops).subset path = .ok ns →
      Rewrite.sumHwl ns < 65536)
    (hfitAll : ∀ ns, resolvePathX (lexSetOf src po nsys) ALL path = .ok ns → Rewrite.sumHwl ns < 65536) :
    shapeOut (tokenizeRw nv (lexSetOf src po nsys) (applyOps v (newTok m0) ops) text cat P pls path) =
    shapeOut (tokenizeRw nv (lexSetOf src po nsys) (newTok (applyOps v (newTok m0) ops).mode) text cat P pls path) := by
  exact tokenizeRw_agree0 nv _ _ _ ALL (gwisAgree_all src po nsys hok _ _ (mode_flag_loaded_any_order v m0 ops))
    text cat P pls hk path hfit hfitAll

/-- **Repaired `set_subset` (variant `fix`): the fields the configured plugins declare are always
loaded.**  After any sequence of `set_mode` / `set_subset` on a fresh tokenizer of a dictionary whose
plugin stack is `pls`, the subset contains `required_fields()` of every plugin. -/
theorem set_subset_fix_loads_plugin_fields (v : NzVariant) (pls : List Rewrite.Plugin) (m0 : Mode) (ops : List Op)
    (j : Nat) (hj : j < 10) (h : (reqOfStack pls).testBit j = true) :
    (applyOpsP v .fix pls (newTok m0) ops).subset.testBit j = true := by
  refine applyOps_induction (P := fun st => st.subset.testBit j = true) (ops := ops.map (widenOp (reqOfStack pls)))
    (fun st op' hop ih => ?_) (all_testBit hj)
  obtain ⟨op, _, rfl⟩ := List.mem_map.mp hop
  cases op with
  | mode m => exact set_mode_keeps_subset st m j ih
  | subset s => exact set_subset_contains_request v st _ j (by simp [Nat.testBit_or, h])

/-- **Clause 2 with a `JoinNumericPlugin`, repaired `set_subset` (full, no condition on the request).**
With the variant `fix` every request — the empty one included — yields the word ids and byte boundaries
of the full-field analysis, for every stack that contains a `JoinNumericPlugin`. -/
theorem boundaries_subset_free_plugins_fix (v : NzVariant) (nv : Rewrite.NVariant) (src : Src) (po : List Nat) (nsys : Nat)
    (hok : LexSetOk src po) (m0 : Mode) (ops : List Op) (text : Bytes) (cat : List Nat) (P : List Char → Rewrite.POut)
    (pls : List Rewrite.Plugin) (hnum : HasNumeric pls) (path : List XNode) :
    shapeOut (tokenizeRw nv (lexSetOf src po nsys) (applyOpsP v .fix pls (newTok m0) ops) text cat P pls path) =
    shapeOut (tokenizeRw nv (lexSetOf src po nsys) (newTok (applyOpsP v .fix pls (newTok m0) ops).mode) text cat P pls path) := by
  obtain ⟨r2, r3⟩ := reqOfStack_numeric pls hnum
  have hp := set_subset_fix_loads_plugin_fields v pls m0 ops POS_ID (by decide) r2
  have hn := set_subset_fix_loads_plugin_fields v pls m0 ops NORMALIZED_FORM (by decide) r3
  unfold applyOpsP at hp hn ⊢
  exact boundaries_subset_free_plugins v nv src po nsys hok m0 _ text cat P pls path hp hn

/-- system dictionary of the witness: the numerals `1` and `2` (POS id 1 = the numeral POS) -/
def numSrc : Src :=
  [([{ surface := [49], headWordLength := 1, posId := 1, dictionaryFormWordId := -1 },
     { surface := [50], headWordLength := 1, posId := 1, dictionaryFormWordId := -1 }], true)]

/-- a numeric parser that accepts every string and renders it unchanged (the theorems hold for every `P`) -/
def idParser (acc : List Char) : Rewrite.POut := { n := acc.length, err := 0, done := true, norm := acc }

/-- **The condition is needed on the unchanged tree (`set_subset` does not widen the request for the
plugins).**  Dictionary `1`, `2` (numerals), `JoinNumericPlugin` configured, text `12`, best path `1 | 2`:
`StatefulTokenizer::new(dic, Mode::C); set_subset(SURFACE)` loads the subset {SURFACE} — no POS id — and the
analysis answers `1 | 2`; the full-field analysis answers the joined `12`.  With the repaired `set_subset`
the same call sequence loads {SURFACE, POS_ID, NORMALIZED_FORM} and answers `12`. -/
theorem plugin_fields_needed_counterexample :
    LexSetOk numSrc [0] ∧
    (applyOpsP .fix .cur [.numeric ⟨1, true⟩] (newTok .C) [.subset (2 ^ SURFACE)]).subset = 2 ^ SURFACE ∧
    shapeOut (tokenizeRw .fix (lexSetOf numSrc [0] 2) (applyOpsP .fix .cur [.numeric ⟨1, true⟩] (newTok .C) [.subset (2 ^ SURFACE)])
      [49, 50] [16, 16] idParser [.numeric ⟨1, true⟩] [⟨0, 0, 1, 0, 1, [49]⟩, ⟨1, 1, 2, 1, 2, [50]⟩]) = .ok [(0, 0, 1), (1, 1, 2)] ∧
    shapeOut (tokenizeRw .fix (lexSetOf numSrc [0] 2) (newTok .C)
      [49, 50] [16, 16] idParser [.numeric ⟨1, true⟩] [⟨0, 0, 1, 0, 1, [49]⟩, ⟨1, 1, 2, 1, 2, [50]⟩]) = .ok [(4294967295, 0, 2)] ∧
    (applyOpsP .fix .fix [.numeric ⟨1, true⟩] (newTok .C) [.subset (2 ^ SURFACE)]).subset = 2 ^ SURFACE ||| 2 ^ POS_ID ||| 2 ^ NORMALIZED_FORM ∧
    shapeOut (tokenizeRw .fix (lexSetOf numSrc [0] 2) (applyOpsP .fix .fix [.numeric ⟨1, true⟩] (newTok .C) [.subset (2 ^ SURFACE)])
      [49, 50] [16, 16] idParser [.numeric ⟨1, true⟩] [⟨0, 0, 1, 0, 1, [49]⟩, ⟨1, 1, 2, 1, 2, [50]⟩]) = .ok [(4294967295, 0, 2)] := by
  refine ⟨⟨?_, ?_, rfl⟩, by decide, by decide, by decide, by decide, by decide⟩
  · intro p hp w hw
    simp [numSrc] at hp
    subst hp
    simp at hw
    rcases hw with rfl | rfl
    · exact ⟨strOk_one 49 (by omega), by decide, by decide, strOk_nil, by decide, by decide, strOk_nil,
        arrOk_nil, arrOk_nil, arrOk_nil, arrOk_nil⟩
    · exact ⟨strOk_one 50 (by omega), by decide, by decide, strOk_nil, by decide, by decide, strOk_nil,
        arrOk_nil, arrOk_nil, arrOk_nil, arrOk_nil⟩
  · unfold DfOk; decide

/-! ### non-vacuity of the hypotheses of the plugin theorems -/

/-- `hp`, `hn` of `boundaries_subset_free_plugins`: a request for POS id and normalised form in mode C
(SURFACE comes with it), and — junk excluded — a request that `set_mode` extends afterwards -/
example : (applyOps .fix (newTok .C) [.subset (2 ^ POS_ID ||| 2 ^ NORMALIZED_FORM)]).subset = 13 := by decide
example : (applyOps .fix (newTok .C) [.subset (2 ^ POS_ID ||| 2 ^ NORMALIZED_FORM), .mode .A]).subset.testBit POS_ID = true ∧
    (applyOps .fix (newTok .C) [.subset (2 ^ POS_ID ||| 2 ^ NORMALIZED_FORM), .mode .A]).subset.testBit NORMALIZED_FORM = true := by
  decide
/-- … and they FAIL for the request {SURFACE} on the unchanged `set_subset`: that is the witness above -/
example : (applyOps .fix (newTok .C) [.subset (2 ^ SURFACE)]).subset.testBit POS_ID = false := by decide
example : HasNumeric [.katakana ⟨0, 2⟩, .numeric ⟨1, false⟩] := ⟨⟨1, false⟩, by simp⟩
example : ¬ HasNumeric [.katakana ⟨0, 2⟩] := by
  rintro ⟨cfg, h⟩
  simp at h
example : HwlLoaded (2 ^ POS_ID) := ⟨2, by omega, by omega, by decide⟩
example : ¬ HwlLoaded (2 ^ SURFACE) := by
  rintro ⟨c, h1, _, h⟩
  rw [Nat.testBit_two_pow] at h
  have : SURFACE = c := of_decide_eq_true h
  unfold SURFACE at this
  omega
/-- `hfit` / `hfitAll` of `boundaries_subset_free_katakana_any_request` hold on the witness path (sums 0 and 2),
for the empty request in mode C — the case the theorem adds -/
example : (resolvePathX (lexSetOf numSrc [0] 2) (applyOps .fix (newTok .C) [.subset 0]).subset
      [⟨0, 0, 1, 0, 1, [49]⟩, ⟨1, 1, 2, 1, 2, [50]⟩]).bind (fun ns => .ok (Rewrite.sumHwl ns)) = .ok 0 := by decide
example : (resolvePathX (lexSetOf numSrc [0] 2) ALL [⟨0, 0, 1, 0, 1, [49]⟩, ⟨1, 1, 2, 1, 2, [50]⟩]).bind
    (fun ns => .ok (Rewrite.sumHwl ns)) = .ok 2 := by decide
/-- the theorem applies to the witness configuration with a request that feeds the plugin: joined `12` -/
example : shapeOut (tokenizeRw .fix (lexSetOf numSrc [0] 2)
      (applyOps .fix (newTok .C) [.subset (2 ^ POS_ID ||| 2 ^ NORMALIZED_FORM)])
      [49, 50] [16, 16] idParser [.numeric ⟨1, true⟩] [⟨0, 0, 1, 0, 1, [49]⟩, ⟨1, 1, 2, 1, 2, [50]⟩]) = .ok [(4294967295, 0, 2)] := by
  decide

/-! ### non-vacuity -/

/-- `WF` is inhabited by a word with every kind of field, an astral character in the surface included (strings at the
boundary of the two-byte length prefix are among the `example`s of the skip section), and the theorems apply to the
concrete bytes the writer emits. -/
example : WF { surface := [26481, 20140, 134071], headWordLength := 9, posId := 5, normalizedForm := [97],
               dictionaryFormWordId := 0, readingForm := [12488], aUnitSplit := [1, 2], synonymGroupIds := [4294967295] } := by
  refine ⟨⟨?_, by decide⟩, by decide, by decide, strOk_one 97 (by omega), by decide, by decide, strOk_one 12488 (by omega),
    ⟨by decide, ?_⟩, ⟨by decide, by simp⟩, ⟨by decide, by simp⟩, ⟨by decide, ?_⟩⟩
  · intro c hc; simp at hc; rcases hc with rfl | rfl | rfl <;> (unfold Scalar; omega)
  · intro c hc; simp at hc; rcases hc with rfl | rfl <;> omega
  · intro c hc; simp at hc; subst hc; omega

example : encodeBytes d10Word = [1, 66, 48, 3, 0, 0, 0, 255, 255, 255, 255, 0, 0, 0, 0, 0] := by decide

example : parse (2 ^ READING_FORM) (encodeBytes d10Word ++ [7, 7]) =
    .ok { headWordLength := 3, dictionaryFormWordId := -1 } := by decide

/-! ### non-vacuity of `LexSetOk`: three dictionaries, `U`-references inside the SECOND user dictionary -/

/-- system dictionary `a`; first user dictionary `b`; second user dictionary `c` and `cca` whose A split,
B split and word structure are all `U0 / 0` — stored as (dictionary 1, word 0), (dictionary 0, word 0) -/
def exSrc : Src :=
  [([{ surface := [97], headWordLength := 1 }], true),
   ([{ surface := [98], headWordLength := 1 }], true),
   ([{ surface := [99], headWordLength := 1 },
     { surface := [99, 99, 97], headWordLength := 3, aUnitSplit := [268435456, 0], bUnitSplit := [268435456, 0],
       wordStructure := [268435456, 0] }], false)]

example : LexSetOk exSrc [0, 3, 4] := by
  refine ⟨?_, ?_, rfl⟩
  · intro p hp w hw
    simp [exSrc] at hp
    rcases hp with rfl | rfl | rfl
    · simp at hw; subst hw
      exact wf_basic [97] 1 [] [] [] (strOk_one 97 (by omega)) (by omega) arrOk_nil arrOk_nil arrOk_nil
    · simp at hw; subst hw
      exact wf_basic [98] 1 [] [] [] (strOk_one 98 (by omega)) (by omega) arrOk_nil arrOk_nil arrOk_nil
    · simp at hw
      rcases hw with rfl | rfl
      · exact wf_basic [99] 1 [] [] [] (strOk_one 99 (by omega)) (by omega) arrOk_nil arrOk_nil arrOk_nil
      · refine wf_basic [99, 99, 97] 3 _ _ _ ⟨?_, by decide⟩ (by omega) arrOk_u0_s0 arrOk_u0_s0 arrOk_u0_s0
        intro x hx; simp at hx; rcases hx with rfl | rfl <;> (left; omega)
  · unfold DfOk; decide

example : (getWordInfoSubset (lexSetOf exSrc [0, 3, 4] 3) (widNew 2 1) (2 ^ SPLIT_A)).bind
    (fun i => .ok (i.aUnitSplit, i.bUnitSplit, i.wordStructure)) = .ok ([536870912, 0], [], []) := by decide
example : (getWordInfoSubset (lexSetOf exSrc [0, 3, 4] 3) (widNew 2 1) (2 ^ WORD_STRUCTURE)).bind
    (fun i => .ok (i.aUnitSplit, i.bUnitSplit, i.wordStructure)) = .ok ([], [], [536870912, 0]) := by decide

example : shapeRes (tokenize (lexSetOf exSrc [0, 3, 4] 3) (applyOps .fix (newTok .C) [.subset 0, .mode .A])
      [99, 99, 97] [⟨widNew 2 1, 0, 3, []⟩]) = .ok [(536870912, 0, 1), (0, 1, 3)] := by decide

/-- hypotheses `Unloaded`, `widDic id < …`, `widWord id < …` are inhabited: request {SURFACE} does not
reach the dictionary-form id; the consult of word 0 then shows through (`c` is word 0 of `exSrc[2]`) -/
example : Unloaded (effSubset false (2 ^ SURFACE)) 4 := by
  refine ⟨by omega, ?_⟩
  rw [if_pos (by omega)]
  intro c hc
  have : (2 ^ SURFACE).testBit c = true := testBit_of_effSubset hc
  rw [Nat.testBit_two_pow] at this
  have h0 : SURFACE = c := of_decide_eq_true this
  unfold SURFACE at h0
  omega

example : (getWordInfo (lexOf (exSrc[2]).1 false) 1 (2 ^ SURFACE)).bind
    (fun i => .ok (i.dictionaryFormWordId, i.dictionaryForm)) = .ok (0, [99]) := by decide

example : ∃ hd : widDic (widNew 2 1) < exSrc.length, widWord (widNew 2 1) < (exSrc[widDic (widNew 2 1)]).1.length := by
  decide
end C11
