import Sudachi.Proofs.Edit
import Sudachi.Proofs.Partition
import Sudachi.Proofs.PartitionUtf8
import Sudachi.Proofs.TotalRows
import Sudachi.Props.C02
import Sudachi.Model.TotalIO
/-!
# C01 — Morphemes partition the original text byte-for-byte (lossless surfaces)

Model: `EditM` (offset map through any number of edit batches, `Model/Edit.lean`).  A morpheme's
byte range in the original text is `m2o[b] .. m2o[e]` for its range `b..e` in the rewritten text
(`morpheme.rs: begin/end/surface`, `buffer/mod.rs: to_orig_byte_idx, orig_slice`), i.e.
`valAt l b .. valAt l e`, and its surface is that slice of the original bytes (`EditM.slice`).

What is proved in the first part: for **every** original text, **every** admissible sequence of edit batches
(whatever plugin produced them) and **every** chain of token boundaries of the rewritten text that
starts at 0, ends at its length and is non-decreasing, the surfaces partition the original text.
That the token boundaries produced by the lattice search do form such a chain is proved in the
lattice model (`C02.path_contiguous`) and composed with the partition theorem here
(`lattice_tokens_partition`); for A/B splitting and the path-rewrite plugins it is the subject of the
split model (C09) and the rewrite model (C14); that the bundled input plugins emit admissible batches
is C07 (`…_edits_ok`).

The second part (from `tokens_partition_original` on) is the property for the whole analysis `Total.tokenize`: the stages of
`Proofs/Partition.lean` composed (`Utf8Inv.tokens_partition_core`), with the plugin stage met either by a hypothesis on the
plugins (`tokens_partition_original`, `pipe_tokens_partition`) or, for the bundled plugins, by the UTF-8 invariant of
`Proofs/PartitionUtf8.lean` (`bundled_plugin_ok`, `bundled_stack_utf8`, `tokens_partition_original_bundled`); the C14 stacks meet
`hrew` (`rewrite_stack_tiles`).  Every hypothesis has a non-vacuity example at the end.
-/
namespace C01
open EditM

/-- **Partition.**  With `cuts` the token end offsets (in the rewritten text) in text order:
the images of the cuts are non-decreasing (tokens are in text order and abut; empty ranges are
permitted), the first token begins at 0, the last ends at the original length, every boundary is
a character boundary of the original text, and the surfaces concatenate to the original text. -/
theorem surfaces_partition (o : List Nat) (hne : o ≠ []) (h0 : BoOf o 0)
    (bs : List (List (Edit Nat))) (l : List (P Nat))
    (hok : BatchesOk isStart (identFrom 0 o) bs) (lv : LenV) (h : commitAllV lv (identFrom 0 o) bs = some l)
    (cuts : List Nat) (hm : Mono (0 :: cuts))
    (hlast : (0 :: cuts).getLast (by simp) = (textOf l).length)
    (hb : ∀ c ∈ cuts, ∀ hc : c < l.length, isB isStart l[c]) :
    (pieces o 0 (cuts.map (valAt l))).flatten = o ∧
    valAt l 0 = 0 ∧
    valAt l ((0 :: cuts).getLast (by simp)) = o.length ∧
    (∀ c ∈ cuts, c < l.length → BoOf o (valAt l c)) ∧
    (∀ c ∈ cuts, c ≤ (textOf l).length → valAt l c ≤ o.length) := by
  have hi := Reached.inv (And.intro hne ⟨h0, hok, h⟩)
  refine ⟨surfaces_concat isStart o l hi cuts hm hlast, hi.first, ?_, ?_, ?_⟩
  · rw [hlast]; exact inv_last hi
  · intro c hc hlt; exact inv_boundary hi c hlt (hb c hc hlt)
  · intro c _ hle; exact inv_le_last hi c hle

/-- order of the images: a later cut never maps before an earlier one (tokens never overlap or
go backwards in the original text) -/
theorem images_monotone (o : List Nat) (hne : o ≠ []) (h0 : BoOf o 0)
    (bs : List (List (Edit Nat))) (l : List (P Nat))
    (hok : BatchesOk isStart (identFrom 0 o) bs) (lv : LenV) (h : commitAllV lv (identFrom 0 o) bs = some l)
    (i j : Nat) (hij : i ≤ j) (hj : j < l.length) : valAt l i ≤ valAt l j := by
  have hi := Reached.inv (And.intro hne ⟨h0, hok, h⟩)
  exact mono_valAt hi.mono hij hj

/-- the pieces are exactly the per-token surfaces: piece `k` is the slice between the images of
cut `k-1` and cut `k` -/
theorem pieces_are_slices (o : List Nat) (a b : Nat) (rest : List Nat) :
    pieces o a (b :: rest) = slice o a b :: pieces o b rest := rfl

/-- **Tokens straight from the lattice partition the original text** (`C02.path_contiguous` composed
with `Partition.c2b_cuts_partition`, the form of `surfaces_partition` for cuts read from `mod_c2b`).  `l` is the offset map after any admissible edit batches,
`t = textOf l` the rewritten text, whose first byte starts a character (`hstart`: it is UTF-8); the
lattice is built over the `nchars t` characters of `t` from any candidates `F` (non-empty, inserted by
begin position) with any connection costs, and EOS is connected.  The tokens are the nodes of the
back-pointer path (`fill_top_path`), their byte ends `cuts` are read from the character→byte table
(`resolve_best_path`: `to_curr_byte_idx(node.end())`, model `c2b t`), every table access in range.
Then the surfaces — slices of the original text between the images of consecutive cuts —
concatenate to the original text, the first token begins at 0, the last ends at the original length,
every token boundary is a character boundary of the original text and lies inside it. -/
theorem lattice_tokens_partition (o : List Nat) (hne : o ≠ []) (h0 : BoOf o 0)
    (bs : List (List (Edit Nat))) (l : List (P Nat))
    (hok : BatchesOk isStart (identFrom 0 o) bs) (lv : LenV) (h : commitAllV lv (identFrom 0 o) bs = some l)
    (hstart : BoOf (textOf l) 0)
    (conn : Nat → Nat → Int) (F : List Vit.Node) (hwf : Vit.WF F)
    (hs : F.Pairwise (fun a b => a.b ≤ b.b)) (v : Int)
    (heos : Vit.eosCost conn (Vit.build conn F Vit.init) (nchars (textOf l)) = some v) :
    let p := Vit.bestPath conn (Vit.build conn F Vit.init) (nchars (textOf l))
    let cuts := p.map (fun n => ((c2b (textOf l))[n.e]?).getD 0)
    (pieces o 0 (cuts.map (valAt l))).flatten = o ∧
    valAt l 0 = 0 ∧
    valAt l ((0 :: cuts).getLast (by simp)) = o.length ∧
    (∀ c ∈ cuts, BoOf o (valAt l c)) ∧
    (∀ c ∈ cuts, valAt l c ≤ o.length) ∧
    (∀ n ∈ p, n.e < (c2b (textOf l)).length) := by
  intro p cuts
  have hi := Reached.inv (And.intro hne ⟨h0, hok, h⟩)
  obtain ⟨_, _, _, hmono, hlast, hin⟩ := C02.path_contiguous conn F hwf hs (nchars (textOf l)) v heos
    (c2b (textOf l)) (c2b_spec (textOf l)).1 (c2b_length _ ▸ Nat.lt_succ_self _)
  obtain ⟨r1, r2, r3, r4, r5⟩ := Partition.c2b_cuts_partition o l hi hstart _ rfl p hin hmono hlast
  exact ⟨r1, r2, r3, r4, r5, hin⟩

/-- non-vacuity: `宇宙人`, first character replaced by two characters (six bytes), tokens cut
after 3, 6 and 12 bytes of the rewritten text ↦ original ranges 0..3, 3..3 (empty), 3..9. -/
example :
    let o := [0xE5, 0xAE, 0x87, 0xE5, 0xAE, 0x99, 0xE4, 0xBA, 0xBA]
    let b1 : List (Edit Nat) := [⟨0, 3, [0xE3, 0x81, 0x82, 0xE3, 0x81, 0x84]⟩]
    (commitAll (identFrom 0 o) [b1]).map (fun l => [3, 6, 12].map (valAt l)) = some [3, 3, 9] := by
  decide

/-- non-vacuity of `lattice_tokens_partition`: `宇宙人` with the first two characters replaced by `あい`
(rewritten text `あい人`: 9 bytes, 3 characters, table `[0, 3, 6, 9]`), candidates `あ`, `あい`, `い`, `人`;
EOS is connected (cost 5), the lattice path is `あい|人`, its byte ends are 6 and 9 and their images in
the original text are 6 and 9. -/
example :
    let o := [0xE5, 0xAE, 0x87, 0xE5, 0xAE, 0x99, 0xE4, 0xBA, 0xBA]
    let b1 : List (Edit Nat) := [⟨0, 6, [0xE3, 0x81, 0x82, 0xE3, 0x81, 0x84]⟩]
    let F : List Vit.Node := [⟨0, 1, 1, 1, 5⟩, ⟨0, 2, 2, 2, 3⟩, ⟨1, 2, 1, 1, 5⟩, ⟨2, 3, 1, 1, 2⟩]
    let conn : Nat → Nat → Int := fun _ _ => 0
    (commitAll (identFrom 0 o) [b1]).map (fun l =>
      (textOf l, nchars (textOf l), c2b (textOf l),
       Vit.eosCost conn (Vit.build conn F Vit.init) (nchars (textOf l)),
       (Vit.bestPath conn (Vit.build conn F Vit.init) (nchars (textOf l))).map
          (fun n => valAt l (((c2b (textOf l))[n.e]?).getD 0))))
      = some ([0xE3, 0x81, 0x82, 0xE3, 0x81, 0x84, 0xE4, 0xBA, 0xBA], 3, [0, 3, 6, 9], some 5, [6, 9]) ∧
    BoOf [0xE3, 0x81, 0x82, 0xE3, 0x81, 0x84, 0xE4, 0xBA, 0xBA] 0 ∧
    Vit.WF F ∧ F.Pairwise (fun a b => a.b ≤ b.b) := by
  refine ⟨by decide, Or.inr ⟨by decide, by decide⟩,
    by intro n hn; simp at hn; rcases hn with rfl | rfl | rfl | rfl <;> decide, by decide⟩

/-! ## the whole analysis: every mode, every plugin stack, every dictionary -/

open Total Partition Oov in
/-- **`tokens_partition_original` — the property for the whole of `do_tokenize`.**  `Total.tokenize .d6fix lv cfg orig` is
the analysis as the driver executes it for C03's `pipe` lines (`start_build`, every input-text plugin followed by `commit`
with either length guard `lv`, `build`, `build_lattice` over the configured providers and lexicon `cfg`, the `i32` lattice,
`connect_eos`, `fill_top_path`, `resolve_best_path`, the word-info + path-rewrite stage `cfg.rewrite`, `split_path` with the
repaired `NodeSplitIterator::next`).  The split MODE and the DICTIONARY enter through `cfg.lex` and through the unit
lengths `cfg.rewrite` attaches to every token (none in mode C; ANY list of lengths in modes A/B — well-formedness of the
split declarations is NOT assumed), the PLUGIN STACKS through `cfg.inputPlugins`, `cfg.providers`, `cfg.rewrite`.

For every result `r` the analysis returns: either the normalised text is empty and there is no morpheme, or it is not
empty, there is at least one morpheme, EVERY accessor of EVERY morpheme is defined (`Total.access`: `begin`, `end`,
`begin_c`, `end_c`, `surface` — no index out of range, no `debug_assert`, no slice off a boundary: this is also the full
statement `morpheme_access_total` that `C03.morpheme_offsets_defined_partial` leaves open), and the ranges
`[begin, end)` are a partition of the ORIGINAL text (`IsPartition`: first begins at 0, each begins where the previous ended,
last ends at the length, none backwards, all on character boundaries, slices concatenate to the text), `surface()` is the
original text in `[begin, end)` and `begin_c`/`end_c` count the code points before `begin`/`end`.

The hypotheses:
* `horig`  the input begins with the first byte of a character (it is a `&str`);
* `hplug`  `Partition.PluginOk`: every input-text plugin emits sorted, non-overlapping, in-range edits on character starts
           and none on an empty text — `resolve_edits` checks none of it (C07 `*_edits_ok` for the bundled ones; third-party
           plugins are outside);
* `hutf`   the rewritten text has as many character starts as it decodes to characters (`modified` is a `String`; the
           model's decoder does not look at continuation bytes);
* `hmk`    the buffer is the modelled `InputBuffer::build` (gives candidates inside the text; C13 `built_buffer_well_formed`);
* `hrowsz` at most 2^32 − 1 candidates end at one boundary (the row index of the back-pointer is cast with `as u32`,
           `Total.asU32`; nothing in the code enforces the bound);
* `hrew`   the word-info / path-rewrite stage maps a tiling by forward tokens on character starts to such a tiling —
           discharged for every configured stack of `JoinNumericPlugin`/`JoinKatakanaOovPlugin` by C14
           (`rewrite_stack_tiles` below) and for the stage without plugin (`pipe_tokens_partition`).
No hypothesis on costs, on the connection matrix, on the length of the text or on the shape of the dictionary. -/
theorem tokens_partition_original (lv : LenV) (cfg : Cfg) (orig : List Nat) (horig : BoOf orig 0)
    (hplug : ∀ p ∈ cfg.inputPlugins, PluginOk orig p)
    (hutf : ∀ l0 l chars, startBuild orig = some l0 → rewriteInput lv cfg.inputPlugins l0 = .ok l →
      Wire.utf8Decode (textOf l) = some chars → chars.length = nchars (textOf l))
    (rv : Oov.Variant) (bowFix : Bool) (tab : List (Nat × Nat))
    (hmk : ∀ chars, Oov.mkBufV rv bowFix tab chars = some (cfg.mkBuf chars))
    (hrowsz : ∀ chars nodes, Reaches lv cfg orig chars → Oov.buildLattice cfg.providers cfg.lex (cfg.mkBuf chars) = .ok nodes →
      ∀ e, (nodes.map toVit).countP (fun n => n.e == e) ≤ 4294967295)
    (hrew : ∀ (tb2c tc2b : List Nat) (nc nb : Nat) path path', PathOk tb2c tc2b nc nb path → cfg.rewrite path = .ok path' →
      PathOk tb2c tc2b nc nb (path'.map (·.1)))
    (r : Result) (h : tokenize .d6fix lv cfg orig = .ok r) :
    (textOf r.tables = [] ∧ r.morphs = []) ∨
    (textOf r.tables ≠ [] ∧ r.morphs ≠ [] ∧ ∃ acs, accessAll orig r = .ok acs ∧
      IsPartition orig (acs.map (fun a => (a.b, a.e))) ∧
      ∀ a ∈ acs, a.sb = a.b ∧ a.se = a.e ∧ a.bc = nchars (orig.take a.b) ∧ a.ec = nchars (orig.take a.e)) := by
  exact Utf8Inv.tokens_partition_core lv cfg orig horig (reach_of_pluginOk lv orig horig _ hplug) hutf rv bowFix tab hmk
    hrowsz hrew r h

open Total Partition Oov in
/-- **`hrew` is a theorem for every configured stack of path-rewrite plugins** (C14 composed): with the word-info /
path-rewrite stage built from the C14 model (`Total.rewriteOfStack`: `JoinNumericPlugin` in either variant of its loop,
`JoinKatakanaOovPlugin`, any settings, any class table, any numeric parser, any order) a tiling by forward tokens on
character starts stays one — merged tokens begin where their block begins and end where it ends
(`Rewrite.rewriteAll_coarsens`, C14 `rewrite_stack_coarsens`/`text_preserved`).  `hinfo`: the word-info look-up leaves the
four offsets of a node alone. -/
theorem rewrite_stack_tiles (nv : Rewrite.NVariant) (cat : List Nat) (P : List Char → Rewrite.POut)
    (pls : List Rewrite.Plugin) (info : EditM.NodeRange → Rewrite.Node) (units : Rewrite.Node → List Nat)
    (hinfo : ∀ n, rng (info n) = n) (tb2c tc2b : List Nat) (nc nb : Nat)
    (path : List EditM.NodeRange) (path' : List (EditM.NodeRange × List Nat))
    (hp : PathOk tb2c tc2b nc nb path) (h : rewriteOfStack nv cat P pls info units path = .ok path') :
    PathOk tb2c tc2b nc nb (path'.map (·.1)) :=
  rewriteOfStack_pathOk nv cat P pls info units hinfo tb2c tc2b nc nb path path' hp h

open Total Partition Oov in
/-- **`tokens_partition_original` for the configuration a `pipe` case line is executed with** (`TotalIO.mkCfg`: the SAME
instance of the SAME function the driver runs against the real tokenizer in the C03 correspondence stream): `hmk` (buffer
over the compiled `char.def`) and `hrew` (word-info stage without path-rewrite plugin, ANY unit table = any split mode and
any — also ill-formed — split declarations) are discharged; `hutf` is stated in its honest form: the rewritten text IS the
UTF-8 encoding of the characters it decodes to (`Partition.nchars_encode`). -/
theorem pipe_tokens_partition (lv : LenV) (orig : List Nat) (horig : BoOf orig 0)
    (plugins : List (List Nat → Outcome (List (Edit Nat)))) (rv : Oov.Variant) (bowFix : Bool)
    (rs : List CharCat.CatRange) (ps : List Oov.Provider) (lex : List Oov.Word) (conn : Nat → Nat → Int)
    (units : EditM.NodeRange → List Nat)
    (hplug : ∀ p ∈ plugins, PluginOk orig p)
    (hutf : ∀ l0 l chars, startBuild orig = some l0 → rewriteInput lv plugins l0 = .ok l →
      Wire.utf8Decode (textOf l) = some chars → textOf l = TotalIO.encode chars)
    (hrowsz : ∀ chars nodes, Reaches lv (TotalIO.mkCfg plugins rv bowFix rs ps lex conn units) orig chars →
      Oov.buildLattice ps lex (TotalIO.mkBufOf rv bowFix (CharCat.compile rs) chars) = .ok nodes →
      ∀ e, (nodes.map toVit).countP (fun n => n.e == e) ≤ 4294967295)
    (r : Result) (h : tokenize .d6fix lv (TotalIO.mkCfg plugins rv bowFix rs ps lex conn units) orig = .ok r) :
    (textOf r.tables = [] ∧ r.morphs = []) ∨
    (textOf r.tables ≠ [] ∧ r.morphs ≠ [] ∧ ∃ acs, accessAll orig r = .ok acs ∧
      IsPartition orig (acs.map (fun a => (a.b, a.e))) ∧
      ∀ a ∈ acs, a.sb = a.b ∧ a.se = a.e ∧ a.bc = nchars (orig.take a.b) ∧ a.ec = nchars (orig.take a.e)) := by
  refine tokens_partition_original lv _ orig horig hplug ?_ rv bowFix (CharCat.compile rs) ?_ hrowsz ?_ r h
  · intro l0 l chars a1 a2 a3
    rw [hutf l0 l chars a1 a2 a3, nchars_encode]
  · exact mkBufV_mkBufOf rv bowFix rs
  · intro tb2c tc2b nc nb path path' hp hh
    cases hh
    exact (map_fst_map_units units path).symm ▸ hp

/-- **Tokens straight from a RECYCLED lattice partition the original text** (C02 `recycled_path_contiguous` composed with
`Partition.c2b_cuts_partition`): `s` is ANY previous state of `struct Lattice` (rows of an earlier, longer or shorter text, a stale
`eos`); after `reset`, the inserts of the candidates `F` of the rewritten text and a successful `connect_eos`
(`Vit.analyse … = some (s3, true)`) the nodes `resolve_best_path` reads through the STORED back-pointers, with their byte
ends read from `mod_c2b`, cut the original text into surfaces that concatenate to it, start at 0, end at its length and
lie on character boundaries — `lattice_tokens_partition` for a long-lived tokenizer, whose `Lattice` is reused from one
text to the next. -/
theorem recycled_lattice_tokens_partition (o : List Nat) (hne : o ≠ []) (h0 : BoOf o 0)
    (bs : List (List (Edit Nat))) (l : List (P Nat))
    (hok : BatchesOk isStart (identFrom 0 o) bs) (lv : LenV) (h : commitAllV lv (identFrom 0 o) bs = some l)
    (hstart : BoOf (textOf l) 0) (hpos : 0 < nchars (textOf l))
    (conn : Nat → Nat → Int) (s : Vit.Lat) (F : List Vit.Node) (hwf : Vit.WF F)
    (hs : F.Pairwise (fun a b => a.b ≤ b.b)) (hF : ∀ n ∈ F, n.e ≤ nchars (textOf l))
    (s3 : Vit.Lat) (ha : Vit.analyse conn s (nchars (textOf l)) F = some (s3, true)) :
    ∃ p, Vit.resolvePath s3 = some p ∧
      let cuts := (p.map (·.1)).map (fun n => ((c2b (textOf l))[n.e]?).getD 0)
      (pieces o 0 (cuts.map (valAt l))).flatten = o ∧
      valAt l 0 = 0 ∧
      valAt l ((0 :: cuts).getLast (by simp)) = o.length ∧
      (∀ c ∈ cuts, BoOf o (valAt l c)) ∧
      (∀ c ∈ cuts, valAt l c ≤ o.length) := by
  have hi := Reached.inv (And.intro hne ⟨h0, hok, h⟩)
  obtain ⟨p, hp, _, _, hmono, hlast, hin⟩ := C02.recycled_path_contiguous conn s (nchars (textOf l)) hpos F hwf hs hF s3 ha
    (c2b (textOf l)) (c2b_spec (textOf l)).1 (c2b_length _ ▸ Nat.lt_succ_self _)
  refine ⟨p, hp, Partition.c2b_cuts_partition o l hi hstart _ rfl _ (fun n hn => ?_) hmono hlast⟩
  obtain ⟨x, hx, rfl⟩ := List.mem_map.mp hn
  exact hin x hx

/-! ## the bundled input-text plugins: `hplug` and `hutf` are theorems -/

open Total Partition Oov Utf8Inv in
/-- **`PluginOk` for every bundled input-text plugin, at BYTE level, relative to the UTF-8 invariant** (the clause of the
property "under every plugin configuration", for the plugins the repository ships).  `TotalIO.plugin a S c` is the function
of the current text (bytes) the driver runs for `DefaultInputTextPlugin` (`c = 'D'`), `ProlongedSoundMarkPlugin` (`'P'`) and
`IgnoreYomiganaPlugin` (any other tag) with ANY settings `S` and ANY Unicode facts `a`.  On every buffer whose offset map
satisfies the C08 invariant and whose text IS an encoding (`Utf8Inv.Enc`: `textOf l = TotalIO.encode cs`, the model's own
encoder) the plugin's edits are sorted, non-overlapping, in range and on character starts of the byte text, the text
`resolve_edits` writes is again an encoding, and nothing is replaced in an empty text.  (Without the invariant the statement
is false: on a byte text that is not an encoding a prefix sum of widths need not be a character start — which is why
`Partition.PluginOk`, quantified over every buffer, cannot be proved for these plugins.) -/
theorem bundled_plugin_ok (orig : List Nat) (a : Array Normalize.Fact) (S : Normalize.Setup) (c : Char) :
    PluginOkJ Enc orig (TotalIO.plugin a S c) :=
  bundled_pluginOkJ orig a S c

open Total Partition Oov Utf8Inv in
/-- **the unrestricted `Partition.PluginOk` is FALSE for a bundled plugin** (why `hplug` cannot be discharged as it is
stated, and why `bundled_plugin_ok` is relative to the UTF-8 invariant).  The buffer `start_build` makes of the six bytes
`C1 81 C1 81 C1 81` (overlong forms of `A`; not an encoding, never a Rust `&str`) satisfies the C08 invariant; the model's
decoder, which does not inspect continuation bytes, reads `AAA`; `ProlongedSoundMarkPlugin` with the mark `A` replaces code
points 0..3 = bytes 0..3 — and byte 3 is a continuation byte: `EditsB` fails. -/
theorem bundled_plugin_ok_needs_utf8_counterexample : ¬ PluginOk overlong (TotalIO.plugin exFacts markA 'P') := by
  intro h
  have hi := ident_inv overlong (by decide)
  obtain ⟨_, hb⟩ := h.adm (identFrom 0 overlong) _ hi (by rw [textOf_identFrom]; exact plugin_overlong)
  have := (hb ⟨0, 3, [0x41]⟩ (by simp)).2 (by decide)
  simp [overlong, identFrom, isB, isStart] at this

open Total Partition Oov Utf8Inv in
/-- **the UTF-8 invariant through every stack of bundled plugins** (induction over the stack; a rejected commit ends the
analysis, a text that was deleted completely is handed on unchanged): for an input that is an encoding (a `&str`), after
`start_build` and ANY list of bundled plugins with their commits (either length guard) the offset map satisfies the C08
invariant or the text is empty, the text has at most 65535 bytes and IS the encoding of a code-point list — in particular
it decodes (`hutf` of `C03.tokenize_total`) to as many characters as it has character starts (`hutf` of
`tokens_partition_original`). -/
theorem bundled_stack_utf8 (lv : LenV) (orig : List Nat) (horig : ∃ cs, orig = TotalIO.encode cs)
    (ps : List (List Nat → Outcome (List (Edit Nat)))) (hbundled : ∀ p ∈ ps, Bundled p)
    (l0 l : List (P Nat)) (hs : startBuild orig = some l0) (hr : rewriteInput lv ps l0 = .ok l) :
    BufInv orig l ∧ (∃ cs, textOf l = TotalIO.encode cs ∧ Wire.utf8Decode (textOf l) = some cs ∧ cs.length = nchars (textOf l)) := by
  obtain ⟨r1, ⟨cs, ht⟩, _⟩ := bundled_reach lv orig horig ps hbundled l0 l hs hr
  have hd : Wire.utf8Decode (textOf l) = some cs := by rw [ht]; exact decode_encode cs
  exact ⟨r1, cs, ht, hd, enc_hutf l ⟨cs, ht⟩ cs hd⟩

open Total Partition Oov Utf8Inv in
/-- **one batch of a bundled plugin: the byte text stays in step with C07's code-point text.**  If the text of the buffer is
the encoding of `cs`, the text after the plugin's batch is the encoding of `Normalize.applyEdits` of the plugin's C07 edit
list on `cs` — the function whose result C07 specifies (`rewrite_eq_spec`, `psm_spec`, `yomigana_spec`). -/
theorem bundled_batch_text (orig : List Nat) (a : Array Normalize.Fact) (S : Normalize.Setup) (c : Char)
    (l : List (P Nat)) (cs : List Nat) (es : List (Edit Nat)) (hinv : Inv isStart (BoOf orig) orig.length l)
    (ht : textOf l = TotalIO.encode cs) (h : TotalIO.plugin a S c (textOf l) = .ok es) :
    ∃ t, Normalize.applyEdits (cpEdits a S c cs) cs = some t ∧ textOf (resolve l es) = TotalIO.encode t :=
  bundled_text_eq_applyEdits orig a S c l cs es hinv ht h

open Total Partition Oov Utf8Inv in
/-- **`tokens_partition_original_bundled` — the property for the whole of `do_tokenize` with NEITHER `hplug` NOR `hutf`**, for
every configuration whose input-text plugins are bundled ones (`hbundled`: every element of `cfg.inputPlugins` is
`TotalIO.plugin a S c` for some facts, settings and tag — any number of them in any order, the same plugin twice
included).  `horig` is the `&str` guarantee in full: the input IS an encoding.  The other hypotheses are those of
`tokens_partition_original` (`hmk`, `hrowsz`, `hrew`: see there; `hrew` is `rewrite_stack_tiles` for the C14 stacks). -/
theorem tokens_partition_original_bundled (lv : LenV) (cfg : Cfg) (orig : List Nat)
    (horig : ∃ cs, orig = TotalIO.encode cs)
    (hbundled : ∀ p ∈ cfg.inputPlugins, Bundled p)
    (rv : Oov.Variant) (bowFix : Bool) (tab : List (Nat × Nat))
    (hmk : ∀ chars, Oov.mkBufV rv bowFix tab chars = some (cfg.mkBuf chars))
    (hrowsz : ∀ chars nodes, Reaches lv cfg orig chars → Oov.buildLattice cfg.providers cfg.lex (cfg.mkBuf chars) = .ok nodes →
      ∀ e, (nodes.map toVit).countP (fun n => n.e == e) ≤ 4294967295)
    (hrew : ∀ (tb2c tc2b : List Nat) (nc nb : Nat) path path', PathOk tb2c tc2b nc nb path → cfg.rewrite path = .ok path' →
      PathOk tb2c tc2b nc nb (path'.map (·.1)))
    (r : Result) (h : tokenize .d6fix lv cfg orig = .ok r) :
    (textOf r.tables = [] ∧ r.morphs = []) ∨
    (textOf r.tables ≠ [] ∧ r.morphs ≠ [] ∧ ∃ acs, accessAll orig r = .ok acs ∧
      IsPartition orig (acs.map (fun a => (a.b, a.e))) ∧
      ∀ a ∈ acs, a.sb = a.b ∧ a.se = a.e ∧ a.bc = nchars (orig.take a.b) ∧ a.ec = nchars (orig.take a.e)) := by
  have h0 : BoOf orig 0 := by
    obtain ⟨cs, rfl⟩ := horig
    exact boOf_encode_zero cs
  refine tokens_partition_core lv cfg orig h0 ?_ ?_ rv bowFix tab hmk hrowsz hrew r h
  · intro l0 l a1 a2
    obtain ⟨r1, _, r3⟩ := bundled_reach lv orig horig cfg.inputPlugins hbundled l0 l a1 a2
    exact ⟨r1, r3⟩
  · intro l0 l chars a1 a2 a3
    obtain ⟨_, r2, _⟩ := bundled_reach lv orig horig cfg.inputPlugins hbundled l0 l a1 a2
    exact enc_hutf l r2 chars a3

/-! `C03.tokenize_total` with `hplug`/`hutf` discharged for bundled input-text plugins is stated next to the theorem it
specialises: **`C03.tokenize_total_bundled_plugins`** in `Props/C03.lean`; its proof uses `bundled_reach` and
`enc_decodes` of `Proofs/PartitionUtf8.lean` exactly as `tokens_partition_original_bundled` above does. -/

/-! ### non-vacuity of `horig` (encoded input) and `hbundled` -/

open Total Partition Oov Utf8Inv in
/-- `horig`: `あA` (4 bytes) is the encoding of its two code points; `hbundled`: the stack Default, ProlongedSoundMark,
IgnoreYomigana, Default again, over any facts and settings, consists of bundled plugins; and a bundled plugin DOES edit:
`ProlongedSoundMarkPlugin` (`exSetup`) replaces bytes 0..6 of `ーーA` by the three bytes of `ー` (`exPlugin_psm`) — an edit
whose end, 6, is a character start only because the text is an encoding -/
example (a : Array Normalize.Fact) (S : Normalize.Setup) :
    (∃ cs, [0xE3, 0x81, 0x82, 0x41] = TotalIO.encode cs) ∧
    (∀ p ∈ [TotalIO.plugin a S 'D', TotalIO.plugin a S 'P', TotalIO.plugin a S 'Y', TotalIO.plugin a S 'D'], Bundled p) ∧
    TotalIO.plugin exFacts exSetup 'P' (TotalIO.encode [0x30FC, 0x30FC, 0x41]) = .ok [⟨0, 6, [0xE3, 0x83, 0xBC]⟩] ∧
    TotalIO.encode [0x30FC, 0x30FC, 0x41] = [0xE3, 0x83, 0xBC, 0xE3, 0x83, 0xBC, 0x41] := by
  refine ⟨⟨[0x3042, 0x41], by decide⟩, ?_, exPlugin_psm, by decide⟩
  intro p hp
  simp only [List.mem_cons, List.not_mem_nil, or_false] at hp
  rcases hp with rfl | rfl | rfl | rfl <;> exact ⟨_, _, _, rfl⟩

/-! ### non-vacuity of the hypotheses of `tokens_partition_original` -/

open Total Partition Oov in
/-- `hplug`: `PluginOk` is satisfied by a plugin that changes the text (`bang` appends `!` to a non-empty text: an insertion
at the end, the byte length changes) and by one that returns no edit -/
example (orig : List Nat) : PluginOk orig bang ∧ PluginOk orig (fun _ => .ok []) :=
  ⟨bang_ok orig, ⟨fun l es _ h => by cases h; exact ⟨Nat.zero_le _, fun ed hed => by cases hed⟩, fun es h => by cases h; rfl⟩⟩

open Total Partition Oov in
/-- `hutf`, `hmk`, `hrowsz` (with the bound 65535, which is below the one the hypothesis asks for), `hrew` hold together with
`horig`, `hplug` for `Partition.partCfg` (plugin `bang`; words `a`,
`ab`; Simple provider; a word-info stage that declares the ILL-FORMED units `[1, 9]` for every two-character token) on the
text `ab`, either length guard -/
example (lv : LenV) :
    BoOf [97, 98] 0 ∧ (∀ p ∈ partCfg.inputPlugins, PluginOk [97, 98] p) ∧
    (∀ l0 l chars, startBuild [97, 98] = some l0 → rewriteInput lv partCfg.inputPlugins l0 = .ok l →
      Wire.utf8Decode (textOf l) = some chars → chars.length = nchars (textOf l)) ∧
    (∀ chars, Oov.mkBufV .forward true [] chars = some (partCfg.mkBuf chars)) ∧
    (∀ chars nodes, Reaches lv partCfg [97, 98] chars → Oov.buildLattice partCfg.providers partCfg.lex (partCfg.mkBuf chars) = .ok nodes →
      ∀ e, (nodes.map toVit).countP (fun n => n.e == e) ≤ 65535) ∧
    (∀ (tb2c tc2b : List Nat) (nc nb : Nat) path path', PathOk tb2c tc2b nc nb path → partCfg.rewrite path = .ok path' →
      PathOk tb2c tc2b nc nb (path'.map (·.1))) := by
  have hmk : ∀ chars, Oov.mkBufV .forward true [] chars = some (partCfg.mkBuf chars) :=
    fun chars => mkBufV_total .forward true [] (by simp [CharCat.fsts, CharCat.SInc]) chars
  have hl : ∀ l0 l chars, startBuild [97, 98] = some l0 → rewriteInput lv partCfg.inputPlugins l0 = .ok l →
      Wire.utf8Decode (textOf l) = some chars → textOf l = [97, 98, 33] ∧ chars = [97, 98, 33] := by
    intro l0 l chars a1 a2 a3
    cases a1
    have : rewriteInput lv [bang] (identFrom 0 [97, 98]) = .ok [(some 97, 0), (some 98, 1), (some 33, 2), (none, 2)] := by
      cases lv <;> decide +kernel
    rw [show partCfg.inputPlugins = [bang] from rfl, this] at a2
    cases a2
    rw [show Wire.utf8Decode (textOf [(some 97, 0), (some 98, 1), (some 33, 2), ((none : Option Nat), 2)]) = some [97, 98, 33]
      by decide +kernel] at a3
    cases a3
    exact ⟨rfl, rfl⟩
  refine ⟨Or.inr ⟨by decide, by decide⟩, ?_, ?_, hmk, ?_, ?_⟩
  · intro p hp
    simp only [partCfg, List.mem_singleton] at hp
    subst hp; exact bang_ok _
  · intro l0 l chars a1 a2 a3
    obtain ⟨e1, e2⟩ := hl l0 l chars a1 a2 a3
    rw [e1, e2]; decide
  · intro chars nodes hr hn e
    obtain ⟨l0, l, a1, a2, a3⟩ := hr
    cases (hl l0 l chars a1 a2 a3).2
    have hb := mkBufV_ok .forward true [] [97, 98, 33] _ (hmk [97, 98, 33])
    refine rows_small 8 _ _ _ hb.1 (by rw [hb.2.2]; decide) ?_ ?_ (by decide) nodes hn e
    · intro p hp
      simp only [partCfg, List.mem_singleton] at hp
      subst hp
      exact ⟨builtBuf_nil_bow .forward true _, by omega⟩
    · intro w hw
      simp only [partCfg, List.mem_cons, List.not_mem_nil, or_false] at hw
      rcases hw with rfl | rfl <;> simp
  · intro tb2c tc2b nc nb path path' hp hh
    cases hh
    exact (map_fst_map_units _ path).symm ▸ hp

open Total Partition Oov in
/-- … and the analysis of `ab` with that configuration: the text becomes `ab!`, the lattice path is `ab | !`, the
ill-formed units `[1, 9]` of `ab` are clamped (`a | b`), and the accessors give the partition `[0,1) [1,2) [2,2)` of the
ORIGINAL text — the inserted `!` is a morpheme with an empty range, which the property permits -/
example : (match tokenize .d6fix .final partCfg [97, 98] with
    | .ok r => (match accessAll [97, 98] r with | .ok acs => acs.map (fun a => (a.b, a.e, a.bc, a.ec, a.sb, a.se)) | _ => [])
    | _ => []) = [(0, 1, 0, 1, 0, 1), (1, 2, 1, 2, 1, 2), (2, 2, 2, 2, 2, 2)] := by
  decide +kernel

open Total Partition in
/-- non-vacuity of `rewrite_stack_tiles`/`hinfo` and of `recycled_lattice_tokens_partition`'s extra hypothesis: a word-info
look-up that keeps the four offsets; `nchars` of `あい人` is positive -/
example : (∀ n : EditM.NodeRange, rng (⟨n.bc, n.ec, n.bb, n.eb, 0, 0, 0, 0, 0, 0, 0, 0, [], [], [], [], [], [], [], []⟩ : Rewrite.Node) = n) ∧
    0 < nchars [0xE3, 0x81, 0x82, 0xE3, 0x81, 0x84, 0xE4, 0xBA, 0xBA] :=
  ⟨fun _ => rfl, by decide⟩

end C01
