import Sudachi.Proofs.Recycle
import Sudachi.Proofs.RecycleObs
import Sudachi.Proofs.RecycleFast
import Sudachi.Proofs.RecycleTotal
import Sudachi.Proofs.RecycleBridge
import Sudachi.Props.C01
/-!
# C10 — Results do not depend on what a tokenizer or result list processed before

Model: `Recycle` (`Model/Recycle.lean`): `StatefulTokenizer` + `InputBuffer` + `Lattice` + `MorphemeList`s as
one state with every recycled buffer explicit; operations are the literal buffer events of the Rust; what
is pushed is an abstract `Payload` (so the theorems hold for every dictionary, plugin stack and text).
`ObsEq` = what a caller can observe of a finished analysis (result path, every buffer field except the
private scratch string, subset, mode).  The theorems quantify over ARBITRARY prior working states, which
covers every history; the two buffers `reset` does not clear (`top_path_ids`, `replaces`) are empty
between calls by `analyse_keeps_invariant` / `fresh_invariant` / `run_keeps_invariant`.

`StatefulTokenizer::reset` exists in two variants (`Recycle.ResetVariant`): `cur` = the tree as it was (only an
existing result path is cleared), `fix` = the repair (`get_or_insert_with(Vec::new).clear()`).  Theorems with a
parameter `v` hold for both.  For `fix` the property holds in full (`history_independent`, `failure_recoverable`,
`ok_analysis_collectable`, `run_history_independent`); for `cur` it is false (`top_path_none_counterexample`) and
only the `…_partial` statements ("result path present") hold.
-/
namespace C10
open Recycle

variable {E F : Type}

/-- **reset_establishes / history independence, core statement.**  Take ANY two tokenizer working states
(any lattice rows, any stale input tables, any scratch contents, any OOV scratch - e.g. the state after an
arbitrary history and a freshly created tokenizer) that have the same mode and effective field subset, whose
result path is present in both or absent in both, and that agree on the two drain-maintained buffers.  Then
analysing the same text gives the same outcome (Ok / which error / panic) and, when Ok, the same observable
result.  Hypothesis `OffsetsInRange`: the position loop stays below the lattice size (`mod_c2b` has one entry
per character + sentinel; a payload fact established by `InputBuffer::build`, C08). -/
theorem reset_establishes (v : ResetVariant) (P : Payload E) (t t' : Tok E) (text : List E)
    (hrep : t.input.replaces = t'.input.replaces) (hids : t.topPathIds = t'.topPathIds)
    (hpath : t.topPath.isSome = t'.topPath.isSome) (hs : t.subset = t'.subset) (hm : t.mode = t'.mode)
    (hlen : OffsetsInRange v P t text) :
    (t.analyse v P text).2 = (t'.analyse v P text).2 ∧
    ((t.analyse v P text).2 = .ok → ObsEq (t.analyse v P text).1 (t'.analyse v P text).1) :=
  analyse_congr v P t t' text hrep hids (fun _ => hpath) hs hm hlen

/-- **reset_establishes for the repaired `reset`**: the hypothesis on the result path is gone - `reset` itself
establishes it.  Any two working states with the same mode, effective subset and drain-maintained buffers. -/
theorem reset_establishes_fix (P : Payload E) (t t' : Tok E) (text : List E)
    (hrep : t.input.replaces = t'.input.replaces) (hids : t.topPathIds = t'.topPathIds)
    (hs : t.subset = t'.subset) (hm : t.mode = t'.mode) (hlen : OffsetsInRange .fix P t text) :
    (t.analyse .fix P text).2 = (t'.analyse .fix P text).2 ∧
    ((t.analyse .fix P text).2 = .ok → ObsEq (t.analyse .fix P text).1 (t'.analyse .fix P text).1) :=
  analyse_congr .fix P t t' text hrep hids (fun h => by cases h) hs hm hlen

/-- the invariant on the two buffers that `reset` leaves alone holds for a new tokenizer … -/
theorem fresh_invariant (m : Mode) (s : Option Subset) : Inv (Tok.freshFor (E := E) m s) := by
  cases s <;> exact ⟨rfl, rfl⟩

/-- … and is re-established by every analysis at every exit (Ok, `TooLong` at `start_build` or `commit`,
`Disconnect` in the loop or at EOS, error or panic after the path was taken), for both variants of `reset`. -/
theorem analyse_keeps_invariant (v : ResetVariant) (P : Payload E) (t : Tok E) (text : List E) (h : Inv t) :
    Inv (t.analyse v P text).1 :=
  analyse_inv v P t text h

/-- **the invariant over whole operation histories** (`World.run`): starting from a new tokenizer, after ANY
sequence of `set_mode`, `set_subset`, analyses (whatever their outcome), `collect_results` into any list
(also the panicking half-swap), new lists, `empty_clone`, `clear`, `split_into`, `lookup` (also failing) - each
with its own payload - the tokenizer satisfies `Inv` and so does every `InputPart` that a later
`collect_results` can swap into it.  Both variants of `reset`. -/
theorem run_keeps_invariant (v : ResetVariant) (m : Mode) (ops : List (Payload E × Op E)) :
    Inv ((World.init m).run v ops).tok ∧ ∀ p ∈ ((World.init m).run v ops).parts, p.input.replaces = [] :=
  run_inv v ops _ (WInv.init m)

/-- **history_independent** (for a tokenizer whose result path is present - see
`top_path_none_counterexample` for why this cannot be dropped).  A tokenizer in ANY working state `t` that
satisfies the invariant (every state reached by analyses does) reports for a text exactly what a tokenizer
created now with the same mode and the same effective subset reports.

Full statement of the property also covers `t.topPath = none` (after a failure behind `resolve_best_path`);
that part is `top_path_none_recovers` (non-empty normalised text) and is FALSE for an empty text. -/
theorem history_independent_partial (v : ResetVariant) (P : Payload E) (t : Tok E) (text : List E) (hinv : Inv t)
    (hpath : t.topPath.isSome = true) (hlen : OffsetsInRange v P t text) :
    let fresh : Tok E := { Tok.create t.mode with subset := t.subset }
    (t.analyse v P text).2 = (fresh.analyse v P text).2 ∧
    ((t.analyse v P text).2 = .ok → ObsEq (t.analyse v P text).1 (fresh.analyse v P text).1) :=
  analyse_vs_create v P t text hinv (fun _ => hpath) hlen

/-- **history_independent, FULL statement, for the repaired `reset`.**  A tokenizer in ANY working state `t` that
satisfies the drain invariant `Inv` (every state reached by any history does: `run_keeps_invariant`) - whatever
its lattice rows, tables, scratch buffers, and whether its result path is present or was taken by an analysis that
failed afterwards - reports for every text exactly what a tokenizer created now with the same mode and the same
effective subset reports: same outcome and, when Ok, the same observable result (path, buffers, subset, mode).
No hypothesis on `t.topPath`. -/
theorem history_independent (P : Payload E) (t : Tok E) (text : List E) (hinv : Inv t)
    (hlen : OffsetsInRange .fix P t text) :
    let fresh : Tok E := { Tok.create t.mode with subset := t.subset }
    (t.analyse .fix P text).2 = (fresh.analyse .fix P text).2 ∧
    ((t.analyse .fix P text).2 = .ok → ObsEq (t.analyse .fix P text).1 (fresh.analyse .fix P text).1) :=
  analyse_vs_create .fix P t text hinv nofun hlen

/-- **history independence over whole histories, repaired `reset`** (`World.run` induction assembled with
`history_independent`).  Start from a new tokenizer, run ANY history of API calls (each with its own payload, any
outcomes); the tokenizer then analyses any text exactly as a tokenizer created now with the mode and effective
subset the history left. -/
theorem run_history_independent (m : Mode) (ops : List (Payload E × Op E)) (P : Payload E) (text : List E)
    (hlen : OffsetsInRange .fix P ((World.init m).run .fix ops).tok text) :
    let t := ((World.init m).run .fix ops).tok
    let fresh : Tok E := { Tok.create t.mode with subset := t.subset }
    (t.analyse .fix P text).2 = (fresh.analyse .fix P text).2 ∧
    ((t.analyse .fix P text).2 = .ok → ObsEq (t.analyse .fix P text).1 (fresh.analyse .fix P text).1) :=
  history_independent P _ text (run_inv .fix ops _ (WInv.init m)).1 hlen

/-- the same for the `reset` as it was: needs the result path to be present after the history -/
theorem run_history_independent_partial (v : ResetVariant) (m : Mode) (ops : List (Payload E × Op E)) (P : Payload E)
    (text : List E) (hpath : ((World.init m).run v ops).tok.topPath.isSome = true)
    (hlen : OffsetsInRange v P ((World.init m).run v ops).tok text) :
    let t := ((World.init m).run v ops).tok
    let fresh : Tok E := { Tok.create t.mode with subset := t.subset }
    (t.analyse v P text).2 = (fresh.analyse v P text).2 ∧
    ((t.analyse v P text).2 = .ok → ObsEq (t.analyse v P text).1 (fresh.analyse v P text).1) :=
  history_independent_partial v P _ text (run_inv v ops _ (WInv.init m)).1 hpath hlen

/-- **failure_recoverable, partial (both variants).**  After an analysis that failed with `TooLong` or `Disconnect`
(both are raised before the result path is taken) the tokenizer analyses the next text exactly as a new one. -/
theorem failure_recoverable_partial (v : ResetVariant) (P P' : Payload E) (t : Tok E) (bad text : List E) (e : Err)
    (he : e ≠ .other) (hinv : Inv t) (hpath : t.topPath.isSome = true) (hfail : (t.analyse v P bad).2 = .err e)
    (hlen : OffsetsInRange v P' (t.analyse v P bad).1 text) :
    let t1 := (t.analyse v P bad).1
    let fresh : Tok E := { Tok.create t1.mode with subset := t1.subset }
    (t1.analyse v P' text).2 = (fresh.analyse v P' text).2 ∧
    ((t1.analyse v P' text).2 = .ok → ObsEq (t1.analyse v P' text).1 (fresh.analyse v P' text).1) := by
  intro t1 fresh
  have hp : t1.topPath.isSome = true := by
    show (t.analyse v P bad).1.topPath.isSome = true
    rw [analyse_err_keeps_path v P t bad e he hfail]; exact resetPath_isSome v _ hpath
  exact history_independent_partial v P' t1 text (analyse_inv v P t bad hinv) hp hlen

/-- **failure_recoverable, FULL statement, for the repaired `reset`.**  After an analysis that failed in ANY way -
`TooLong` at `start_build` or inside `commit`, an input-plugin error, `Disconnect` in the loop or at EOS, and also
an `Err` or a panic AFTER `resolve_best_path` took the result path (word-info error, path-rewrite plugin error,
panic in `split_path`) - the tokenizer, whatever state it was in before, analyses the next text exactly as a new
one with the same mode and effective subset.  No hypothesis on the path, before or after the failure.  (`_hfail` is not used:
the same holds after an analysis that succeeded.) -/
theorem failure_recoverable (P P' : Payload E) (t : Tok E) (bad text : List E) (hinv : Inv t)
    (_hfail : (t.analyse .fix P bad).2 ≠ .ok) (hlen : OffsetsInRange .fix P' (t.analyse .fix P bad).1 text) :
    let t1 := (t.analyse .fix P bad).1
    let fresh : Tok E := { Tok.create t1.mode with subset := t1.subset }
    (t1.analyse .fix P' text).2 = (fresh.analyse .fix P' text).2 ∧
    ((t1.analyse .fix P' text).2 = .ok → ObsEq (t1.analyse .fix P' text).1 (fresh.analyse .fix P' text).1) :=
  history_independent P' _ text (analyse_inv .fix P t bad hinv) hlen

/-- **an Ok analysis can always be collected (repaired `reset`).**  Whatever state the tokenizer is in (result
path taken or not), an analysis that returns Ok leaves a result path, so `collect_results` into any list does not
panic (`self.top_path.as_mut().unwrap()` in `swap_result`).  This is the clause the `reset` as it was violates
(`top_path_none_counterexample`). -/
theorem ok_analysis_collectable (P : Payload E) (w : World E) (text : List E) (j : Nat)
    (hok : (w.step .fix P (.analyse text)).2 = .ok) :
    (w.step .fix P (.analyse text)).1.tok.topPath.isSome = true ∧
    ((w.step .fix P (.analyse text)).1.collect j).2 = .ok := by
  have hp : (w.tok.analyse .fix P text).1.topPath.isSome = true := analyse_ok_path .fix P w.tok text rfl hok
  exact ⟨hp, collect_ok _ j hp⟩

/-- mode and effective subset are changed by `set_mode` / `set_subset` only: an analysis, whatever its outcome
and for both variants of `reset`, keeps them (so "the same mode and effective subset" in the statements above is
what the last `set_mode` / `set_subset` left) -/
theorem analyse_keeps_mode_subset (v : ResetVariant) (P : Payload E) (t : Tok E) (text : List E) :
    (t.analyse v P text).1.mode = t.mode ∧ (t.analyse v P text).1.subset = t.subset :=
  analyse_mode_subset v P t text

/-- **lattice_reset_clears_all_rows.**  `Lattice::reset` empties EVERY allocated row of the three parallel
vectors - also those at or above the new `size` - except for the BOS entry of `ends[0]`; no row is dropped. -/
theorem lattice_reset_clears_all_rows (P : Payload E) (l : Lattice E) (n k : Nat) :
    rowAt (Lattice.reset P l n).ends k = (if k = 0 then [P.bos] else []) ∧
    rowAt (Lattice.reset P l n).endsFull k = [] ∧
    rowAt (Lattice.reset P l n).indices k = [] ∧
    (Lattice.reset P l n).ends.length = max l.ends.length (n + 1) ∧
    (Lattice.reset P l n).size = n + 1 ∧ (Lattice.reset P l n).eos = none := by
  refine ⟨?_, rowAt_of_all_nil _ (resetVec_all_nil _ _) k, rowAt_of_all_nil _ (resetVec_all_nil _ _) k, ?_, rfl, rfl⟩
  · show rowAt (pushRow (resetVec l.ends (n + 1)) 0 P.bos) k = _
    by_cases hk : k = 0
    · have h0 : (resetVec l.ends (n + 1))[0]? = some [] := by
        rw [resetVec_eq, List.getElem?_replicate, if_pos (by omega)]
      rw [hk, rowAt_pushRow_self _ _ _ _ h0, if_pos rfl]
      rfl
    · rw [rowAt_pushRow_ne _ _ _ _ hk, rowAt_of_all_nil _ (resetVec_all_nil _ _), if_neg hk]
  · show (pushRow (resetVec l.ends (n + 1)) 0 P.bos).length = _
    rw [pushRow_length, resetVec_length]

/-- the visible part of the lattice after `reset` is the same whatever the lattice held before -/
theorem lattice_reset_history_free (P : Payload E) (l l' : Lattice E) (n : Nat) :
    (Lattice.reset P l n).vis = (Lattice.reset P l' n).vis := by
  rw [Lattice.reset_vis, Lattice.reset_vis]

/-- **m2o_2 / modified_2 self-cleaning.**  The two buffers `InputBuffer::reset` deliberately skips never
influence an analysis: two buffers that differ only there have the same outcome of
`start_build; rewrite_input; build` and afterwards agree on every field but the private scratch string. -/
theorem scratch_buffers_self_cleaning (P : Payload E) (i : Input E) (junk2 junkMap : List E) :
    (Input.prepare P { i with modified2 := junk2, m2o2 := junkMap }).2 = (Input.prepare P i).2 ∧
    ((Input.prepare P i).2 = .ok →
      (Input.prepare P { i with modified2 := junk2, m2o2 := junkMap }).1.view = (Input.prepare P i).1.view) := by
  have h := Input.editView_prepare P { i with modified2 := junk2, m2o2 := junkMap } i rfl
  exact ⟨h.1, fun hok => h.2.2 (by rw [h.1]; exact hok)⟩

/-- **top_path_none_recovers.**  When the previous analysis failed after the path was taken (`top_path` is
`None`), an analysis that reaches `resolve_best_path` (non-empty normalised text) behaves exactly as with a
present, cleared path: `unwrap_or_else(Vec::new)` re-creates it. -/
theorem top_path_none_recovers (P : Payload E) (t : Tok E) :
    Tok.resolveAndRewrite P { t with topPath := none } = Tok.resolveAndRewrite P { t with topPath := some [] } := rfl

/-- `collect_results` moves exactly the tokenizer's path, input buffer and subset into the list, whatever
the list held (reused or cross-used list): nothing of the list's previous content survives in it. -/
theorem collect_transfers (w : World E) (j : Nat) (L : MList E) (p : Part E) (path : List E)
    (hL : w.lists[j]? = some L) (hp : w.parts[L.part]? = some p) (ht : w.tok.topPath = some path) :
    (w.collect j).2 = .ok ∧
    (w.collect j).1.lists = w.lists.set j { L with nodes := path } ∧
    (w.collect j).1.parts = w.parts.set L.part ⟨w.tok.input, w.tok.subset⟩ ∧
    (w.collect j).1.tok.input = p.input ∧ (w.collect j).1.tok.topPath = some L.nodes := by
  rw [collect_eq w j L p path hL hp ht]
  exact ⟨rfl, rfl, rfl, rfl, rfl⟩

/-! ### the OBSERVABLE result (morpheme list) is a function of (text, mode, field request) -/

/-- **effective_subset_covers_request** (the design's `subset_monotone`, corrected).  After ANY history (both
variants of `reset`) the tokenizer's effective field subset, closed under `InfoSubset::normalize`, contains the subset
of a tokenizer created now with the current mode and the last field request.  Without the closure this is false
(`subset_monotone_counterexample`: `HEAD_WORD_LENGTH`). -/
theorem effective_subset_covers_request (v : ResetVariant) (m : Mode) (ops : List (Payload E × Op E)) :
    let w := (World.init m).run v ops
    Subset.le (freshSubset w.tok.mode w.request) w.tok.subset.normalize = true :=
  run_covers v ops _ (Covers.init m)

/-- **history_independent_requested_fields** (repaired `reset`, tokenizer level).  A tokenizer in ANY working
state with the drain invariant versus a tokenizer created NOW for the same mode and the field request `req` - the
two may run with DIFFERENT effective subsets (earlier `set_mode` calls leave extra fields loaded).  If the payload
cannot tell the two subsets apart through the projection `proj` onto the requested fields (`FieldsFree` = C11's
`subset_fields_eq` as a hypothesis on the path phase), every text gives the same outcome and, when Ok, the same
result path seen through `proj`, the same input buffer and mode. -/
theorem history_independent_requested_fields (P : Payload E) (proj : E → F) (t : Tok E) (req : Option Subset)
    (text : List E) (hinv : Inv t) (hlen : OffsetsInRange .fix P t text)
    (hfree : FieldsFree P proj t.subset (freshSubset t.mode req)) :
    (t.analyse .fix P text).2 = ((Tok.freshFor t.mode req).analyse .fix P text).2 ∧
    ((t.analyse .fix P text).2 = .ok →
      ObsP proj (t.analyse .fix P text).1 ((Tok.freshFor t.mode req).analyse .fix P text).1) :=
  analyse_vs_freshFor P proj t req text hinv hlen (by rw [freshSubset_eq]; exact hfree)

/-- **observable_result_history_free** - FULL statement of the property for the repaired `reset`.  Start from a new
tokenizer, run ANY history (set_mode / set_subset sequences, analyses that are Ok, empty, rejected as too long,
disconnected, failing or panicking after the path was taken, `collect_results` with its buffer swaps into reused and
cross-used lists, new lists, clones, clear, `split_into` and `lookup` on result lists - each with its own payload).
Then analyse `text` and collect into ANY existing list `j`.  Compare with: a tokenizer created now for the mode and
the LAST FIELD REQUEST the history left (`World.fresh`), one new list, the same analysis, collect.  The outcomes are
equal and, when Ok, both collects succeed and what the caller reads - the morphemes of the list seen through
`proj` (ranges, word ids, requested fields) and the input buffer they refer to (surface, offsets) - is THE SAME:
a function of (payload = dictionary + text, mode, request) alone.

Hypotheses: `hj` the list exists; `OffsetsInRange` (as before); `hfree` = C11 for this payload: any subset that
covers the fresh tokenizer's subset is indistinguishable from it through `proj`.  That the history's effective
subset does cover it is PROVED (`effective_subset_covers_request`), not assumed. -/
theorem observable_result_history_free (proj : E → F) (m0 : Mode) (ops : List (Payload E × Op E)) (P : Payload E)
    (text : List E) (j : Nat)
    (hj : j < ((World.init m0).run .fix ops).lists.length)
    (hlen : OffsetsInRange .fix P ((World.init m0).run .fix ops).tok text)
    (hfree : ∀ s, Subset.le (freshSubset ((World.init m0).run .fix ops).tok.mode ((World.init m0).run .fix ops).request)
        s.normalize = true →
      FieldsFree P proj s (freshSubset ((World.init m0).run .fix ops).tok.mode ((World.init m0).run .fix ops).request)) :
    let w := (World.init m0).run .fix ops
    let a := w.step .fix P (.analyse text)
    let f : World E := ((World.fresh w.tok.mode w.request).step .fix P .newList).1
    let b := f.step .fix P (.analyse text)
    a.2 = b.2 ∧
    (a.2 = .ok → (a.1.collect j).2 = .ok ∧ (b.1.collect 0).2 = .ok ∧
      World.result proj (a.1.collect j).1 j = World.result proj (b.1.collect 0).1 0) := by
  intro w
  have hinv := (run_inv .fix ops _ (WInv.init m0)).1
  have hcov := run_covers .fix ops _ (Covers.init (E := E) m0)
  have hok := run_listsOk .fix ops _ (ListsOk.init (E := E) m0)
  have h := history_independent_requested_fields P proj w.tok w.request text hinv hlen (hfree w.tok.subset hcov)
  exact result_eq_of_obs proj P w (Tok.freshFor w.tok.mode w.request) w.request text j hj hok h.1 h.2

/-- **observable_result_same_subset** - the same WITHOUT any payload hypothesis, when the comparison tokenizer is
given the history's effective subset: for every projection (in particular the identity: the nodes themselves). -/
theorem observable_result_same_subset (proj : E → F) (m0 : Mode) (ops : List (Payload E × Op E)) (P : Payload E)
    (text : List E) (j : Nat)
    (hj : j < ((World.init m0).run .fix ops).lists.length)
    (hlen : OffsetsInRange .fix P ((World.init m0).run .fix ops).tok text) :
    let w := (World.init m0).run .fix ops
    let a := w.step .fix P (.analyse text)
    let f : World E := ((⟨{ Tok.create w.tok.mode with subset := w.tok.subset }, [], [], w.request⟩ : World E).step
      .fix P .newList).1
    let b := f.step .fix P (.analyse text)
    a.2 = b.2 ∧
    (a.2 = .ok → (a.1.collect j).2 = .ok ∧ (b.1.collect 0).2 = .ok ∧
      World.result proj (a.1.collect j).1 j = World.result proj (b.1.collect 0).1 0) := by
  intro w
  have hinv := (run_inv .fix ops _ (WInv.init m0)).1
  have hok := run_listsOk .fix ops _ (ListsOk.init (E := E) m0)
  have h := history_independent P w.tok text hinv hlen
  refine result_eq_of_obs proj P w _ w.request text j hj hok h.1 (fun hk => ?_)
  obtain ⟨a1, a2, -, a4⟩ := h.2 hk
  exact ⟨by rw [a1], a2, a4⟩

/-! ### the lift to the CONCRETE pipeline: `Recycle` instantiated with the phases of `Total.tokenize`

`RecycleTotal.payload v lv D` (`Model/RecycleTotal.lean`) fills the recycled buffers with what the phases of
`Total.tokenize v lv (D.cfg mode subset)` compute (start_build, plugin stack + commit, build, one position of build_lattice,
connect_node, connect_eos, fill_top_path, resolve_best_path, word info + rewrite stage, split_path).  The payload hypotheses
of the generic theorems are DISCHARGED for it (`RecycleTotal.payload_offsetsInRange`) or reduced to the one place where the
field subset reaches the pipeline (`RecycleTotal.payload_fieldsFree` from `RewriteFree`, C11's statement for the split
fields).  `RecycleTotal.report w j` = what a caller reads from list `j` as `Total`-level data (node ranges, offset tables). -/

open RecycleTotal in
/-- **concrete_tokenizer_history_free** - the property for the concrete pipeline.  `D` any configuration (input-text plugin
stack, buffer builder, OOV provider stack, lexicon, connection matrix, word-info/rewrite stage), `v`/`lv` the probed code
variants.  Start from a new tokenizer, run ANY history (`World.run`: set_mode / set_subset, analyses with any outcome,
collects into reused and cross-used lists, new lists, clones, clear, split_into, lookup - each call with ANY payload, in
particular the concrete payload of any other configuration), leaving the tokenizer in some mode with some last field request
(the probe's mode and subset are the last `set_mode` / `set_subset` of the history).  Then analyse `text` with the concrete
pipeline and collect into ANY existing list `j`; compare with a tokenizer created NOW for that mode and request and one new
list.  Same outcome and, when Ok, both collects succeed and the morphemes and offset tables the two lists report are EQUAL.
The only hypothesis left on the configuration is `hfree` (C11): the word-info/rewrite stage gives the same ranges and unit
lengths for every subset covering the requested one.  `OffsetsInRange` is proved for the instance. -/
theorem concrete_tokenizer_history_free (v : Total.SplitV) (lv : EditM.LenV) (D : Dict) (m0 : Mode)
    (ops : List (Payload Elem × Op Elem)) (text : List Nat) (j : Nat)
    (hj : j < ((World.init m0).run .fix ops).lists.length)
    (hfree : ∀ s, Subset.le (freshSubset ((World.init m0).run .fix ops).tok.mode ((World.init m0).run .fix ops).request)
        s.normalize = true →
      RewriteFree D s (freshSubset ((World.init m0).run .fix ops).tok.mode ((World.init m0).run .fix ops).request)) :
    let w := (World.init m0).run .fix ops
    let P := payload v lv D
    let a := w.step .fix P (.analyse (text.map .nat))
    let f : World Elem := ((World.fresh w.tok.mode w.request).step .fix P .newList).1
    let b := f.step .fix P (.analyse (text.map .nat))
    a.2 = b.2 ∧
    (a.2 = .ok → (a.1.collect j).2 = .ok ∧ (b.1.collect 0).2 = .ok ∧
      report (a.1.collect j).1 j = report (b.1.collect 0).1 0) := by
  intro w P a f b
  have h := observable_result_history_free (id : Elem → Elem) m0 ops P (text.map .nat) j hj
    (payload_offsetsInRange .fix v lv D _ _) (fun s hs => payload_fieldsFree v lv D id s _ (hfree s hs))
  refine ⟨h.1, fun hok => ?_⟩
  obtain ⟨h1, h2, h3⟩ := h.2 hok
  refine ⟨h1, h2, ?_⟩
  unfold report
  rw [h3]

open RecycleTotal in
/-- **history_reports_new** - core of the lift: if the analysis of `text` on a NEW tokenizer (mode the history left, subset of
a tokenizer created now for the last request; `RecycleTotal.analyseNew`) is Ok and decodes to morphemes `ms` and tables `tb`,
then after ANY history the analysis on the recycled tokenizer is Ok, collecting into ANY existing list succeeds, and that list
reports exactly `ms` and `tb`. -/
theorem history_reports_new (v : Total.SplitV) (lv : EditM.LenV) (D : Dict) (m0 : Mode)
    (ops : List (Payload Elem × Op Elem)) (text : List Nat) (j : Nat)
    (hj : j < ((World.init m0).run .fix ops).lists.length)
    (hfree : ∀ s, Subset.le (freshSubset ((World.init m0).run .fix ops).tok.mode ((World.init m0).run .fix ops).request)
        s.normalize = true →
      RewriteFree D s (freshSubset ((World.init m0).run .fix ops).tok.mode ((World.init m0).run .fix ops).request))
    (r : Total.Result)
    (hnew : (analyseNew v lv D ((World.init m0).run .fix ops).tok.mode
        (freshSubset ((World.init m0).run .fix ops).tok.mode ((World.init m0).run .fix ops).request) text).2 = .ok ∧
      morphsOf (analyseNew v lv D ((World.init m0).run .fix ops).tok.mode
        (freshSubset ((World.init m0).run .fix ops).tok.mode ((World.init m0).run .fix ops).request) text).1 = some r.morphs ∧
      tablesOf (analyseNew v lv D ((World.init m0).run .fix ops).tok.mode
        (freshSubset ((World.init m0).run .fix ops).tok.mode ((World.init m0).run .fix ops).request) text).1.input = r.tables) :
    let w := (World.init m0).run .fix ops
    let a := w.step .fix (payload v lv D) (.analyse (text.map .nat))
    a.2 = .ok ∧ (a.1.collect j).2 = .ok ∧ report (a.1.collect j).1 j = some (r.morphs, r.tables) := by
  intro w a
  obtain ⟨b1, b2, b3⟩ := hnew
  have h := run_vs_new v lv D m0 ops text hfree
  have haok : (w.tok.analyse .fix (payload v lv D) (text.map .nat)).2 = .ok := h.1.trans b1
  obtain ⟨o1, o2, -⟩ := h.2 haok
  -- the new tokenizer's path `p` is also the recycled one's
  obtain ⟨p, hp, hpm⟩ := Option.map_eq_some_iff.mp b2
  have hpath : (w.tok.analyse .fix (payload v lv D) (text.map .nat)).1.topPath = some p := by
    rw [hp] at o1
    obtain ⟨q, hq, hqp⟩ := Option.map_eq_some_iff.mp o1
    rw [List.map_id, List.map_id] at hqp
    exact hq.trans (congrArg some hqp)
  obtain ⟨c1, c2⟩ := report_analyse_collect .fix (payload v lv D) w (text.map .nat) j p hj
    (run_listsOk .fix ops _ (ListsOk.init (E := Elem) m0)) hpath
  have hview : ∀ i : Input Elem, tablesOf i.view = tablesOf i := fun _ => rfl
  refine ⟨haok, c1, c2.trans ?_⟩
  rw [hpm, ← hview, o2, hview, b3]

open RecycleTotal in
/-- **history_reports_tokenize** - FULL: the recycled objects report what `Total.tokenize` computes.  After ANY history,
whenever `Total.tokenize` - for the mode the history left and the subset of a tokenizer created now for the last field request -
returns a result `r` for `text`, the analysis on the recycled tokenizer is Ok, collecting into ANY existing list succeeds, and
that list reports exactly `r.morphs` and `r.tables`.  No bridge hypothesis: `RecycleTotal.bridge_ok_of_config`
(`bridge_ok_general` with its hypotheses as `ConfigOk`) PROVES that the
discipline model with the concrete payload on a new tokenizer computes `Total.tokenize`'s result, for every configuration
satisfying `ConfigOk` (committed batches ≤ 65 535 bytes; well-formed buffer over the given characters). -/
theorem history_reports_tokenize (v : Total.SplitV) (lv : EditM.LenV) (D : Dict) (m0 : Mode)
    (ops : List (Payload Elem × Op Elem)) (text : List Nat) (j : Nat)
    (hj : j < ((World.init m0).run .fix ops).lists.length)
    (hfree : ∀ s, Subset.le (freshSubset ((World.init m0).run .fix ops).tok.mode ((World.init m0).run .fix ops).request)
        s.normalize = true →
      RewriteFree D s (freshSubset ((World.init m0).run .fix ops).tok.mode ((World.init m0).run .fix ops).request))
    (hcfg : ConfigOk lv D text)
    (r : Total.Result)
    (htok : Total.tokenize v lv (D.cfg ((World.init m0).run .fix ops).tok.mode
      (freshSubset ((World.init m0).run .fix ops).tok.mode ((World.init m0).run .fix ops).request)) text = .ok r) :
    let w := (World.init m0).run .fix ops
    let a := w.step .fix (payload v lv D) (.analyse (text.map .nat))
    a.2 = .ok ∧ (a.1.collect j).2 = .ok ∧ report (a.1.collect j).1 j = some (r.morphs, r.tables) :=
  history_reports_new v lv D m0 ops text j hj hfree r (bridge_ok_of_config v lv D _ _ text hcfg r htok)

open RecycleTotal in
/-- the same from the Boolean `Bridge` (what the driver evaluates on every analysis of every `hpipe` line) instead of
`ConfigOk` -/
theorem history_reports_tokenize_of_bridge (v : Total.SplitV) (lv : EditM.LenV) (D : Dict) (m0 : Mode)
    (ops : List (Payload Elem × Op Elem)) (text : List Nat) (j : Nat)
    (hj : j < ((World.init m0).run .fix ops).lists.length)
    (hfree : ∀ s, Subset.le (freshSubset ((World.init m0).run .fix ops).tok.mode ((World.init m0).run .fix ops).request)
        s.normalize = true →
      RewriteFree D s (freshSubset ((World.init m0).run .fix ops).tok.mode ((World.init m0).run .fix ops).request))
    (hbridge : Bridge v lv D ((World.init m0).run .fix ops).tok.mode
      (freshSubset ((World.init m0).run .fix ops).tok.mode ((World.init m0).run .fix ops).request) text)
    (r : Total.Result)
    (htok : Total.tokenize v lv (D.cfg ((World.init m0).run .fix ops).tok.mode
      (freshSubset ((World.init m0).run .fix ops).tok.mode ((World.init m0).run .fix ops).request)) text = .ok r) :
    let w := (World.init m0).run .fix ops
    let a := w.step .fix (payload v lv D) (.analyse (text.map .nat))
    a.2 = .ok ∧ (a.1.collect j).2 = .ok ∧ report (a.1.collect j).1 j = some (r.morphs, r.tables) :=
  history_reports_new v lv D m0 ops text j hj hfree r (bridge_ok v lv D _ _ text hbridge r htok)

open RecycleTotal in
/-- **history_outcome_is_tokenize** - the OUTCOME side of the lift (C03's subject): after ANY history the analysis of `text`
on the recycled tokenizer ends in the outcome class of `Total.tokenize` for the mode the history left and the subset of a
tokenizer created now - Ok, `InputTooLong`, `EosBosDisconnect`, another `Err`, or a panic - so "`Total.tokenize` does not
panic / succeeds within the limits" (C03 `tokenize_total`) transfers to every analysis of every history.  Same hypotheses
as `history_reports_tokenize_of_bridge` (the Boolean `Bridge`, not `ConfigOk`). -/
theorem history_outcome_is_tokenize (v : Total.SplitV) (lv : EditM.LenV) (D : Dict) (m0 : Mode)
    (ops : List (Payload Elem × Op Elem)) (text : List Nat)
    (hfree : ∀ s, Subset.le (freshSubset ((World.init m0).run .fix ops).tok.mode ((World.init m0).run .fix ops).request)
        s.normalize = true →
      RewriteFree D s (freshSubset ((World.init m0).run .fix ops).tok.mode ((World.init m0).run .fix ops).request))
    (hbridge : Bridge v lv D ((World.init m0).run .fix ops).tok.mode
      (freshSubset ((World.init m0).run .fix ops).tok.mode ((World.init m0).run .fix ops).request) text) :
    let w := (World.init m0).run .fix ops
    (w.step .fix (payload v lv D) (.analyse (text.map .nat))).2 =
      classOf (Total.tokenize v lv (D.cfg w.tok.mode (freshSubset w.tok.mode w.request)) text) := by
  intro w
  show (w.tok.analyse .fix (payload v lv D) (text.map .nat)).2 = _
  exact (run_vs_new v lv D m0 ops text hfree).1.trans (bridge_class v lv D _ _ text hbridge)

open RecycleTotal in
/-- **recycled_too_long_rejected** - an instance of the lift WITHOUT the bridge hypothesis (`RecycleTotal.bridge_tooLong` proves
it for every configuration): after ANY history, whatever the recycled buffers hold, a text above 49 149 bytes is rejected with
`InputTooLong` by the concrete pipeline - as `Total.tokenize` and a new tokenizer do. -/
theorem recycled_too_long_rejected (v : Total.SplitV) (lv : EditM.LenV) (D : Dict) (m0 : Mode)
    (ops : List (Payload Elem × Op Elem)) (text : List Nat) (hlong : text.length > EditM.MAX_LENGTH)
    (hfree : ∀ s, Subset.le (freshSubset ((World.init m0).run .fix ops).tok.mode ((World.init m0).run .fix ops).request)
        s.normalize = true →
      RewriteFree D s (freshSubset ((World.init m0).run .fix ops).tok.mode ((World.init m0).run .fix ops).request)) :
    (((World.init m0).run .fix ops).step .fix (payload v lv D) (.analyse (text.map .nat))).2 = .err .tooLong := by
  have h := history_outcome_is_tokenize v lv D m0 ops text hfree (bridge_tooLong v lv D _ _ text hlong)
  simp only at h
  rw [h, Total.tokenize_tooLong v lv _ text hlong]
  decide

open RecycleTotal in
/-- **lifted** - the corollary schema.  ANY predicate `Φ` of (configuration, mode, text, result) that holds of
`Total.tokenize` - i.e. of one analysis on a new tokenizer - holds of what EVERY analysis in EVERY history reports: the
theorems stated for one analysis (C01 `tokens_partition_original`, C02 optimality, C03 totality of the accessors, C07, C09,
C13, C14 as far as they speak about `Total.tokenize`'s result) transfer verbatim to long-lived tokenizers and reused lists. -/
theorem lifted (Φ : Total.Cfg → Mode → List Nat → Total.Result → Prop)
    (v : Total.SplitV) (lv : EditM.LenV) (D : Dict) (m0 : Mode)
    (ops : List (Payload Elem × Op Elem)) (text : List Nat) (j : Nat)
    (hj : j < ((World.init m0).run .fix ops).lists.length)
    (hfree : ∀ s, Subset.le (freshSubset ((World.init m0).run .fix ops).tok.mode ((World.init m0).run .fix ops).request)
        s.normalize = true →
      RewriteFree D s (freshSubset ((World.init m0).run .fix ops).tok.mode ((World.init m0).run .fix ops).request))
    (hcfg : ConfigOk lv D text)
    (hΦ : ∀ r, Total.tokenize v lv (D.cfg ((World.init m0).run .fix ops).tok.mode
        (freshSubset ((World.init m0).run .fix ops).tok.mode ((World.init m0).run .fix ops).request)) text = .ok r →
      Φ (D.cfg ((World.init m0).run .fix ops).tok.mode
        (freshSubset ((World.init m0).run .fix ops).tok.mode ((World.init m0).run .fix ops).request))
        ((World.init m0).run .fix ops).tok.mode text r)
    (r : Total.Result)
    (htok : Total.tokenize v lv (D.cfg ((World.init m0).run .fix ops).tok.mode
      (freshSubset ((World.init m0).run .fix ops).tok.mode ((World.init m0).run .fix ops).request)) text = .ok r) :
    let w := (World.init m0).run .fix ops
    let a := w.step .fix (payload v lv D) (.analyse (text.map .nat))
    a.2 = .ok ∧ (a.1.collect j).2 = .ok ∧
    ∃ ms tb, report (a.1.collect j).1 j = some (ms, tb) ∧
      Φ (D.cfg w.tok.mode (freshSubset w.tok.mode w.request)) w.tok.mode text ⟨tb, ms⟩ := by
  intro w a
  obtain ⟨h1, h2, h3⟩ := history_reports_tokenize v lv D m0 ops text j hj hfree hcfg r htok
  exact ⟨h1, h2, r.morphs, r.tables, h3, hΦ r htok⟩

open RecycleTotal Total Partition Oov EditM in
/-- **recycled_tokens_partition_original** - `lifted` at C01: after ANY history, the morphemes a reused list reports for a
text are a partition of the ORIGINAL text with every accessor defined (the conclusion of `C01.tokens_partition_original`,
under its hypotheses on the configuration `D.cfg mode subset`), whenever the pipeline returns a result for the text. -/
theorem recycled_tokens_partition_original (lv : LenV) (D : Dict) (m0 : Recycle.Mode)
    (ops : List (Payload Elem × Op Elem)) (orig : List Nat) (j : Nat)
    (hj : j < ((World.init m0).run .fix ops).lists.length)
    (hfree : ∀ s, Subset.le (freshSubset ((World.init m0).run .fix ops).tok.mode ((World.init m0).run .fix ops).request)
        s.normalize = true →
      RewriteFree D s (freshSubset ((World.init m0).run .fix ops).tok.mode ((World.init m0).run .fix ops).request))
    (hshort : ∀ l0, startBuild orig = some l0 → ShortRun lv D.inputPlugins l0)
    (cfg : Cfg)
    (hcfg : cfg = D.cfg ((World.init m0).run .fix ops).tok.mode
      (freshSubset ((World.init m0).run .fix ops).tok.mode ((World.init m0).run .fix ops).request))
    (horig : BoOf orig 0)
    (hplug : ∀ p ∈ cfg.inputPlugins, PluginOk orig p)
    (hutf : ∀ l0 l chars, startBuild orig = some l0 → rewriteInput lv cfg.inputPlugins l0 = .ok l →
      Wire.utf8Decode (textOf l) = some chars → chars.length = nchars (textOf l))
    (rvar : Oov.Variant) (bowFix : Bool) (tab : List (Nat × Nat))
    (hmk : ∀ chars, Oov.mkBufV rvar bowFix tab chars = some (cfg.mkBuf chars))
    (hrowsz : ∀ chars nodes, Reaches lv cfg orig chars → Oov.buildLattice cfg.providers cfg.lex (cfg.mkBuf chars) = .ok nodes →
      ∀ e, (nodes.map toVit).countP (fun n => n.e == e) ≤ 4294967295)
    (hrew : ∀ (tb2c tc2b : List Nat) (nc nb : Nat) path path', PathOk tb2c tc2b nc nb path → cfg.rewrite path = .ok path' →
      PathOk tb2c tc2b nc nb (path'.map (·.1)))
    (r : Result) (h : tokenize .d6fix lv cfg orig = .ok r) :
    let w := (World.init m0).run .fix ops
    let a := w.step .fix (payload .d6fix lv D) (.analyse (orig.map .nat))
    a.2 = .ok ∧ (a.1.collect j).2 = .ok ∧
    ∃ ms tb, report (a.1.collect j).1 j = some (ms, tb) ∧
      ((textOf tb = [] ∧ ms = []) ∨
       (textOf tb ≠ [] ∧ ms ≠ [] ∧ ∃ acs, accessAll orig ⟨tb, ms⟩ = .ok acs ∧
         IsPartition orig (acs.map (fun a => (a.b, a.e))) ∧
         ∀ a ∈ acs, a.sb = a.b ∧ a.se = a.e ∧ a.bc = nchars (orig.take a.b) ∧ a.ec = nchars (orig.take a.e))) := by
  intro w a
  subst hcfg
  have hc : ConfigOk lv D orig :=
    ⟨hshort, fun chars => (mkBufV_ok rvar bowFix tab chars _ (hmk chars)).1,
     fun chars => (mkBufV_ok rvar bowFix tab chars _ (hmk chars)).2.2⟩
  obtain ⟨h1, h2, h3⟩ := history_reports_tokenize .d6fix lv D m0 ops orig j hj hfree hc r h
  refine ⟨h1, h2, r.morphs, r.tables, h3, ?_⟩
  exact C01.tokens_partition_original lv _ orig horig hplug hutf rvar bowFix tab hmk hrowsz hrew r h

/-! #### non-vacuity of the hypotheses of the concrete theorems -/

/-- a configuration whose word-info stage is NOT independent of the field subset: a two-character token gets its A units
only when the split field is loaded -/
def tinyDict : RecycleTotal.Dict :=
  { inputPlugins := [], mkBuf := fun cs => ⟨cs, cs.map (fun _ => 1), cs.map (fun _ => 1), cs.map (fun _ => true)⟩,
    providers := [.simple ⟨0, 0, 100, 0⟩],
    lex := [⟨[97], 0, 0, 5⟩, ⟨[97, 98], 0, 0, 5⟩], conn := fun _ _ => 10,
    rewrite := fun m s p => .ok (p.map (fun n => (n, if m = .A ∧ s.splitA = true ∧ n.ec = n.bc + 2 then [1, 1] else []))) }

open RecycleTotal in
/-- `hj`, `hfree`, `hbridge`, `htok` of `concrete_tokenizer_history_free` / `history_reports_tokenize(_of_bridge)` /
`history_outcome_is_tokenize` / `lifted` hold
together on the history of `subset_monotone_counterexample` (`new list; set_subset(POS); set_mode(A)`): the list exists;
EVERY subset covering the fresh tokenizer's has the split field, so the stage cannot tell it from the fresh one (`hfree`) -
although the stage does distinguish subsets in general; the bridge holds for the probe (here the empty text; a text with a lattice is the next example, and the
driver evaluates `bridgeHolds` on every analysis of every `hpipe` line); `Total.tokenize` returns a result. -/
example :
    let P := payload .d6fix .final tinyDict
    let ops : List (Payload Elem × Op Elem) :=
      [(P, .newList), (P, .setSubset { Subset.empty with pos := true }), (P, .setMode .A)]
    let w := (World.init .C).run .fix ops
    0 < w.lists.length ∧ w.tok.subset ≠ freshSubset w.tok.mode w.request ∧
    (∀ s, Subset.le (freshSubset w.tok.mode w.request) s.normalize = true →
      RewriteFree tinyDict s (freshSubset w.tok.mode w.request)) ∧
    ¬ RewriteFree tinyDict Subset.empty Subset.all ∧
    Bridge .d6fix .final tinyDict w.tok.mode (freshSubset w.tok.mode w.request) [] ∧
    ∃ r, Total.tokenize .d6fix .final (tinyDict.cfg w.tok.mode (freshSubset w.tok.mode w.request)) [] = .ok r := by
  intro P ops w
  have hf : freshSubset w.tok.mode w.request = ⟨false, true, true, false, false, false, true, false, false, false⟩ := by
    decide +kernel
  refine ⟨by decide +kernel, by decide +kernel, ?_, ?_, by decide +kernel, ok_of_morphCount (n := 0) (by decide +kernel)⟩
  · intro s hs m p
    rw [hf] at hs ⊢
    rw [Subset.le_iff, Subset.normalize_fields] at hs
    have ha : s.splitA = true := hs.2.2.2.2.2.2.1 rfl
    simp [tinyDict, ha]
  · intro h
    have := h .A [⟨0, 2, 0, 2⟩]
    simp [tinyDict, Subset.empty, Subset.all] at this

open RecycleTotal in
/-- `hbridge` on a text the lattice IS built for, kernel-checked: `ab` in mode A with all fields - the lattice path is `ab`,
the A split gives `a | b`; the instance on a new tokenizer and `Total.tokenize` agree (outcome, morphemes, tables), and the
result has two morphemes.  (Larger instances are evaluated by the driver: `sim=1` on every `hpipe` line.) -/
example :
    Bridge .d6fix .final tinyDict .A Subset.all [97, 98] ∧
    (Total.morphCount (Total.tokenize .d6fix .final (tinyDict.cfg .A Subset.all) [97, 98]) = some 2) := by
  exact ⟨by decide +kernel, by decide +kernel⟩

open RecycleTotal in
/-- `hcfg` (`ConfigOk`) of `history_reports_tokenize` / `lifted` holds for `tinyDict` on every text of at most 65 535 bytes that
decodes (here `ab`), and `Total.tokenize` returns a result there (previous example: two morphemes); `ShortRun` is also met by a
plugin that DOES edit (inserts `!` in front of `a`). -/
example :
    ConfigOk .final tinyDict [97, 98] ∧
    ShortRun .final [fun _ => .ok [⟨0, 0, [33]⟩]] (EditM.identFrom 0 [97]) := by
  refine ⟨⟨fun _ _ => trivial, ?_, fun _ => rfl⟩, ?_⟩
  · intro chars
    refine ⟨by simp [tinyDict], by simp [tinyDict], by simp [tinyDict], ?_⟩
    intro i c h
    simp only [tinyDict, List.getElem?_map, Option.map_eq_some_iff] at h
    obtain ⟨a, ha, rfl⟩ := h
    have hi : i < chars.length := by
      rcases Nat.lt_or_ge i chars.length with hlt | hge
      · exact hlt
      · rw [List.getElem?_eq_none_iff.mpr hge] at ha; cases ha
    exact ⟨Nat.le_refl 1, hi⟩
  · intro es l1 hp hc
    cases hp
    have e : EditM.commitV .final (EditM.identFrom 0 [97]) [⟨0, 0, [33]⟩] =
        some (EditM.resolve (EditM.identFrom 0 [97]) [⟨0, 0, [33]⟩]) := by rfl
    rw [e] at hc
    cases hc
    exact ⟨by decide, trivial⟩

open RecycleTotal in
/-- **bridge_not_unconditional** - `Bridge` is a genuine hypothesis on the configuration, not a tautology: for a configuration
with an EMPTY OOV provider stack (rejected when a dictionary is loaded, so no tokenizer exists for it) the two models differ on
the text `b`, which no lexicon word covers: `Total.tokenize` panics (`oov_providers.last().unwrap()` in `build_lattice`), the
discipline model - whose candidate payload has no panic outcome - reports `EosBosDisconnect`.  With at least one provider, a
well-formed buffer and the repaired regex provider `Oov.stepAt` never panics (`stepAt_noPanic`). -/
theorem bridge_not_unconditional : ¬ Bridge .d6fix .final { tinyDict with providers := [] } .C Subset.all [98] := by
  decide +kernel

/-! ### the Python binding -/

/-- **py_tokenize_is_a_history.**  One `Tokenizer.tokenize(text, mode=, out=)` of the Python binding
(`World.pyTokenize`: per-call mode override restored by the scope guard on every exit, `do_tokenize`, the result
collected into `out` or into a new list) leaves exactly the state of a plain history of API calls
(`pyOps`: `[set_mode m]; analyse; [new list]; collect; [set_mode default]`, without the collect when the analysis
failed) - so every theorem above about histories covers Python sessions on one long-lived `Tokenizer` with reused
`out` lists.  Both variants of `reset`. -/
theorem py_tokenize_is_a_history (v : ResetVariant) (P : Payload E) (w : World E) (mode : Option Mode)
    (out : Option Nat) (text : List E) :
    let w1 := match mode with
      | some m => (w.step v P (.setMode m)).1
      | none => w
    (w.pyTokenize v P mode out text).1 =
      w.run v (pyOps P w.tok.mode w.lists.length mode out text (decide ((w1.step v P (.analyse text)).2 = .ok))) :=
  pyTokenize_eq_run v P w mode out text

/-- **py_tokenize_restores_mode.**  Whatever happens inside the call (Ok, the text rejected as too long, Disconnect, an
error or a panic after the path was taken, `collect_results` failing), the tokenizer is left in the mode it had. -/
theorem py_tokenize_restores_mode (v : ResetVariant) (P : Payload E) (w : World E) (mode : Option Mode)
    (out : Option Nat) (text : List E) : (w.pyTokenize v P mode out text).1.tok.mode = w.tok.mode := by
  -- without override the analysis and `collect_results` keep the mode; with one the guard's `set_mode(default)` is last
  have ha : mode = none → ((ovr v P mode w).tok.analyse v P text).1.mode = w.tok.mode := fun h => by
    subst h; exact (analyse_mode_subset v P w.tok text).1
  rw [pyTokenize_def]
  split
  · exact rstTok_mode _ _ _ fun h => (collect_tok_fields _ _).1.trans (ha h)
  · exact rstTok_mode _ _ _ ha

/-! ### the executed representation (array rows) is the list model -/

/-- **executed_step_eq_model.**  The driver keeps the three row vectors of the lattice as `Array (Array E)`
(`Model/RecycleFast.lean`; the list model is quadratic in the text length).  One API call on the executed state,
seen through the abstraction `XWorld.abs`, IS the call of the list model the theorems above speak about: same
state, same outcome - for every payload, operation and variant of `reset`. -/
theorem executed_step_eq_model (v : ResetVariant) (P : Payload E) (x : XWorld E) (op : Op E) :
    ((x.step v P op).1.abs, (x.step v P op).2) = x.abs.step v P op :=
  XWorld.step_abs v P x op

/-- whole histories from a new tokenizer -/
theorem executed_history_eq_model (v : ResetVariant) (m : Mode) (ops : List (Payload E × Op E)) :
    ((XWorld.init m).run v ops).abs = (World.init m).run v ops := by
  rw [XWorld.run_abs, XWorld.init_abs]

/-- **driver_answer_eq_model.**  The answer line the driver prints for a C10 case (array rows, array look-up of the
candidates) is the answer line of the list model (`handleL`: `World.step` on `List (List Nat)` rows, `payloadOf`). -/
theorem driver_answer_eq_model (toks : List (List Char)) : Recycle.IO.handle toks = Recycle.IO.handleL toks :=
  Recycle.IO.handle_eq toks

/-! ### concrete histories: the late failure under both variants of `reset`; two facts about the flag sets of `set_mode` / `set_subset` -/

/-- payload of an analysis of a one-character text that fails after `resolve_best_path` took the path
(e.g. `get_word_info_subset` → `Err`, or a panic in `split_path`) -/
def failingAfterTake : Payload Nat := Recycle.IO.payloadOf [] [[1]] true .fail 0 0 true
def plain : Payload Nat := Recycle.IO.plainPayload

/-- **top_path_none_counterexample** (negation of `history_independent` / "a failed analysis leaves the
tokenizer usable" on a concrete history).  History: `new list; analyse "a"` (fails after the path was taken);
`analyse ""`.  The second analysis returns Ok - as on a new tokenizer - but `top_path` is still `None`, so
`collect_results` panics (`self.top_path.as_mut().unwrap()`), whereas a new tokenizer collects an empty
result.  The model mirrors stateful_tokenizer.rs:107-110 (`reset` only clears an existing path), :124-126
(early `return Ok(())` for an empty text), :176 (`mem::replace(&mut self.top_path, None)`), :214 (`unwrap`). -/
theorem top_path_none_counterexample :
    let w0 : World Nat := (World.init .C).run .cur [(plain, .newList)]
    let w1 := w0.run .cur [(failingAfterTake, .analyse [1])]
    -- the failing analysis
    (w0.step .cur failingAfterTake (.analyse [1])).2 = .err .other ∧
    -- then an empty text: Ok on both, …
    (w1.step .cur plain (.analyse [])).2 = .ok ∧ (w0.step .cur plain (.analyse [])).2 = .ok ∧
    -- … but only the fresh tokenizer's result can be collected
    ((w1.step .cur plain (.analyse [])).1.collect 0).2 = .panic ∧
    ((w0.step .cur plain (.analyse [])).1.collect 0).2 = .ok ∧
    (w1.step .cur plain (.analyse [])).1.tok.topPath = none ∧
    (w0.step .cur plain (.analyse [])).1.tok.topPath = some [] := by
  decide +kernel

/-- the same failure by a panic after the path was taken (`split_path`, caught by the caller) -/
def panickingAfterTake : Payload Nat := Recycle.IO.payloadOf [] [[1]] true .unwind 0 0 true

/-- **top_path_none_fixed_example** (the mirror of `top_path_none_counterexample` for the repaired `reset`).
The same history - `new list; analyse "a"` failing after the path was taken (once with `Err`, once with a panic),
the path is `None` afterwards; `analyse ""` - now returns Ok WITH a path, `collect_results` succeeds, and
tokenizer and list are exactly what a new tokenizer gives. -/
theorem top_path_none_fixed_example :
    let w0 : World Nat := (World.init .C).run .fix [(plain, .newList)]
    let w1 := w0.run .fix [(failingAfterTake, .analyse [1])]
    let w2 := w0.run .fix [(panickingAfterTake, .analyse [1])]
    -- the failing analyses: the path is taken and not given back
    (w0.step .fix failingAfterTake (.analyse [1])).2 = .err .other ∧ w1.tok.topPath = none ∧
    (w0.step .fix panickingAfterTake (.analyse [1])).2 = .panic ∧ w2.tok.topPath = none ∧
    -- then an empty text: Ok on all three, with an empty result path
    (w1.step .fix plain (.analyse [])).2 = .ok ∧ (w2.step .fix plain (.analyse [])).2 = .ok ∧
    (w0.step .fix plain (.analyse [])).2 = .ok ∧
    (w1.step .fix plain (.analyse [])).1.tok.topPath = some [] ∧
    (w2.step .fix plain (.analyse [])).1.tok.topPath = some [] ∧
    (w0.step .fix plain (.analyse [])).1.tok.topPath = some [] ∧
    -- and every result can be collected, giving the same (empty) list as the new tokenizer
    ((w1.step .fix plain (.analyse [])).1.collect 0).2 = .ok ∧
    ((w2.step .fix plain (.analyse [])).1.collect 0).2 = .ok ∧
    ((w0.step .fix plain (.analyse [])).1.collect 0).2 = .ok ∧
    (((w1.step .fix plain (.analyse [])).1.collect 0).1.lists.map (fun L => (L.part, L.nodes)) = [(0, [])]) ∧
    (((w2.step .fix plain (.analyse [])).1.collect 0).1.lists.map (fun L => (L.part, L.nodes)) = [(0, [])]) ∧
    (((w0.step .fix plain (.analyse [])).1.collect 0).1.lists.map (fun L => (L.part, L.nodes)) = [(0, [])]) := by
  decide +kernel

/-- set_subset then set_mode: the reused tokenizer's flag set is NOT a superset of the flag set of a new
tokenizer with the same mode and request (`HEAD_WORD_LENGTH` is missing).  Harmless in the code because the
word-info parser reads that light field whenever a split field is requested (C11); recorded because the
design's `subset_monotone` cannot be stated for flags. -/
theorem subset_monotone_counterexample :
    let req : Subset := { Subset.empty with pos := true }
    let reused : Tok Nat := ((Tok.create .C).setSubset req).setMode .A
    let fresh : Tok Nat := Tok.freshFor .A (some req)
    Subset.le fresh.subset reused.subset = false ∧
    Subset.le fresh.subset (reused.subset.union { Subset.empty with headLen := true }) = true := by
  decide +kernel

/-- mode changes only ever add flags -/
theorem set_mode_only_adds (t : Tok E) (m : Mode) : Subset.le t.subset (t.setMode m).subset = true := by
  cases m <;> simp [Tok.setMode, Subset.le, Subset.union, Subset.ofMode, Subset.empty]

/-- `set_subset` forgets every earlier request and mode-induced flag: the new subset is a function of the
current mode and the request only -/
theorem set_subset_history_free (t t' : Tok E) (s : Subset) (h : t.mode = t'.mode) :
    (t.setSubset s).subset = (t'.setSubset s).subset := by
  simp [Tok.setSubset, h]

/-! ### non-vacuity -/

/-- the hypotheses of `reset_establishes` / `history_independent_partial` / `failure_recoverable_partial` are
met by a concrete history, for both variants of `reset`: a tokenizer that analysed a longer text (Ok), then a
failing one (`Disconnect`), is in a state with stale lattice rows and tables, satisfies `Inv`, keeps its path, and
`OffsetsInRange` holds. -/
example : ∀ v : ResetVariant,
    let P1 : Payload Nat := Recycle.IO.payloadOf [] [[1], [2], [3]] true (.path 3) 0 0 true
    let P2 : Payload Nat := Recycle.IO.payloadOf [] [[1], []] false .none 0 0 true
    let t0 : Tok Nat := Tok.create .C
    let t1 := (t0.analyse v P1 [1, 1, 1]).1
    let t2 := (t1.analyse v P2 [1, 1]).1
    (t0.analyse v P1 [1, 1, 1]).2 = .ok ∧ (t1.analyse v P2 [1, 1]).2 = .err .disconnect ∧
    (t2.topPathIds = [] ∧ t2.input.replaces = []) ∧ t2.topPath.isSome = true ∧ t2.lattice.ends.length = 4 ∧
    (Input.prepare P1 (t2.resetWith v [1, 1, 1]).input).2 = .ok ∧
    (Input.prepare P1 (t2.resetWith v [1, 1, 1]).input).1.modC2b.length - 1 ≤
      (Input.prepare P1 (t2.resetWith v [1, 1, 1]).input).1.modChars.length := by
  intro v; cases v <;> decide +kernel

/-- the hypotheses of `history_independent` / `failure_recoverable` / `ok_analysis_collectable` (repaired `reset`)
are met by the histories the `cur` variant fails on: a tokenizer that analysed a longer text (Ok) and then failed
AFTER the path was taken - with an `Err` (`t2`) or with a panic (`t2'`) - has stale rows, NO result path, satisfies
`Inv`; the failure hypothesis holds, `OffsetsInRange` holds for the next text (here a longer one and the empty
one), and the next analysis is Ok. -/
example :
    let P1 : Payload Nat := Recycle.IO.payloadOf [] [[1], [2], [3]] true (.path 3) 0 0 true
    let t0 : Tok Nat := Tok.create .C
    let t1 := (t0.analyse .fix P1 [1, 1, 1]).1
    let t2 := (t1.analyse .fix failingAfterTake [1]).1
    let t2' := (t1.analyse .fix panickingAfterTake [1]).1
    (t1.analyse .fix failingAfterTake [1]).2 = .err .other ∧ (t1.analyse .fix failingAfterTake [1]).2 ≠ .ok ∧
    (t1.analyse .fix panickingAfterTake [1]).2 = .panic ∧ (t1.analyse .fix panickingAfterTake [1]).2 ≠ .ok ∧
    t2.topPath = none ∧ t2'.topPath = none ∧
    (t2.topPathIds = [] ∧ t2.input.replaces = []) ∧ (t2'.topPathIds = [] ∧ t2'.input.replaces = []) ∧
    t2.lattice.ends.length = 4 ∧
    (Input.prepare P1 (t2.resetWith .fix [1, 1, 1]).input).2 = .ok ∧
    (Input.prepare P1 (t2.resetWith .fix [1, 1, 1]).input).1.modC2b.length - 1 ≤
      (Input.prepare P1 (t2.resetWith .fix [1, 1, 1]).input).1.modChars.length ∧
    (Input.prepare plain (t2.resetWith .fix []).input).2 = .ok ∧
    (Input.prepare plain (t2.resetWith .fix []).input).1.modC2b.length - 1 ≤
      (Input.prepare plain (t2.resetWith .fix []).input).1.modChars.length ∧
    (t2.analyse .fix P1 [1, 1, 1]).2 = .ok ∧ (t2.analyse .fix plain []).2 = .ok ∧
    (t2'.analyse .fix plain []).2 = .ok := by
  decide +kernel

/-- `run_history_independent` on a concrete history with a failure after the path was taken and a collect in
between: the hypothesis `OffsetsInRange` holds, and the conclusion is not vacuous (the probe is Ok). -/
example :
    let P1 : Payload Nat := Recycle.IO.payloadOf [] [[1], [2], [3]] true (.path 3) 0 0 true
    let ops : List (Payload Nat × Op Nat) :=
      [(plain, .newList), (P1, .analyse [1, 1, 1]), (plain, .collect 0), (failingAfterTake, .analyse [1]),
       (plain, .collect 0), (plain, .setMode .A)]
    let t := ((World.init .C).run .fix ops).tok
    t.topPath = none ∧
    (Input.prepare plain (t.resetWith .fix []).input).1.modC2b.length - 1 ≤
      (Input.prepare plain (t.resetWith .fix []).input).1.modChars.length ∧
    (t.analyse .fix plain []).2 = .ok := by
  decide +kernel

/-- the hypotheses of `run_history_independent_partial` (both variants of `reset`) are met by a history without a
failure behind `resolve_best_path` (Ok, collect, `TooLong`-free `Disconnect`, mode change): the path is present. -/
example : ∀ v : ResetVariant,
    let P1 : Payload Nat := Recycle.IO.payloadOf [] [[1], [2], [3]] true (.path 3) 0 0 true
    let P2 : Payload Nat := Recycle.IO.payloadOf [] [[1], []] false .none 0 0 true
    let ops : List (Payload Nat × Op Nat) :=
      [(plain, .newList), (P1, .analyse [1, 1, 1]), (plain, .collect 0), (P2, .analyse [1, 1]), (plain, .setMode .A)]
    let t := ((World.init .C).run v ops).tok
    t.topPath.isSome = true ∧
    (Input.prepare P1 (t.resetWith v [1, 1, 1]).input).1.modC2b.length - 1 ≤
      (Input.prepare P1 (t.resetWith v [1, 1, 1]).input).1.modChars.length ∧
    (t.analyse v P1 [1, 1, 1]).2 = .ok := by
  intro v; cases v <;> decide +kernel

/-- a payload whose nodes DEPEND on the effective subset (a node carries +100 when the head-word length is loaded),
read through the projection that forgets that (`% 100`) -/
def subsetSensitive : Payload Nat :=
  { Recycle.IO.payloadOf [] [[1], [2], [3]] true .none 0 0 true with
    pathNodes := fun s _ _ _ ids => .nodes (ids.map (fun x => x % 100 + 7 + if s.headLen then 100 else 0)),
    rewritePath := fun _ _ _ p => .nodes p }

/-- `FieldsFree` (hypothesis `hfree` of `observable_result_history_free` / `history_independent_requested_fields`) is
met by a payload that is NOT subset independent: all subsets are indistinguishable through `% 100` … -/
example : ∀ s s' : Subset, FieldsFree subsetSensitive (· % 100) s s' := by
  intro s s' m inp full ends ids path0
  -- the +100 of a loaded head-word length vanishes under `% 100`
  have key : ∀ (b : Bool) (x : Nat), (x % 100 + 7 + if b then 100 else 0) % 100 = (x % 100 + 7) % 100 := by
    intro b x; cases b
    · rfl
    · exact Nat.add_mod_right _ _
  show PathRes.nodes ((path0 ++ ids.map _).map _) = PathRes.nodes ((path0 ++ ids.map _).map _)
  rw [List.map_append, List.map_append, List.map_map, List.map_map]
  congr 2
  apply List.map_congr_left
  intro x _
  exact (key s.headLen x).trans (key s'.headLen x).symm

/-- … although the raw nodes differ, and the other hypotheses hold on the history of
`subset_monotone_counterexample` (`set_subset(POS); set_mode(A)`: effective subset ≠ the fresh tokenizer's), with a
list that was used before, a rejected and an empty text in between: the list exists, `OffsetsInRange` holds, the
analysis is Ok, the effective subset differs from the fresh one, and the conclusion's two results are equal and
non-trivial. -/
example :
    let P1 : Payload Nat := Recycle.IO.payloadOf [] [[1], [2], [3]] true (.path 3) 0 0 true
    let ops : List (Payload Nat × Op Nat) :=
      [(plain, .newList), (plain, .setSubset { Subset.empty with pos := true }), (P1, .analyse [1, 1, 1]),
       (plain, .collect 0), (plain, .setMode .A), ({ plain with maxLen := 2 }, .analyse [1, 1, 1]), (plain, .analyse []),
       (plain, .collect 0)]
    let w := (World.init .C).run .fix ops
    let a := w.step .fix subsetSensitive (.analyse [1, 1, 1])
    let f : World Nat := ((World.fresh w.tok.mode w.request).step .fix subsetSensitive .newList).1
    let b := f.step .fix subsetSensitive (.analyse [1, 1, 1])
    0 < w.lists.length ∧ w.tok.subset ≠ freshSubset w.tok.mode w.request ∧
    (Input.prepare subsetSensitive (w.tok.resetWith .fix [1, 1, 1]).input).1.modC2b.length - 1 ≤
      (Input.prepare subsetSensitive (w.tok.resetWith .fix [1, 1, 1]).input).1.modChars.length ∧
    (w.step .fix { plain with maxLen := 2 } (.analyse [1, 1, 1])).2 = .err .tooLong ∧
    a.2 = .ok ∧ b.2 = .ok ∧
    (World.result (· % 100) (a.1.collect 0).1 0).map (·.1) = (World.result (· % 100) (b.1.collect 0).1 0).map (·.1) ∧
    (World.result (· % 100) (a.1.collect 0).1 0).map (·.1) = some [7] ∧
    (World.result id (a.1.collect 0).1 0).map (·.1) ≠ (World.result id (b.1.collect 0).1 0).map (·.1) ∧
    (World.result id (a.1.collect 0).1 0).map (·.2.original) = some [1, 1, 1] := by
  decide +kernel

end C10
