import Sudachi.Proofs.TotalSucceeds
import Sudachi.Proofs.TotalBundled
import Sudachi.Proofs.TotalRows
import Sudachi.Model.TotalIO
import Sudachi.Props.C01
/-!
# C03 — Tokenization is total: never panics, succeeds within the documented limits

Model: `Model/Total.lean` (the fixed-width lattice `connect_node`/`insert`/`connect_eos`/`fill_top_path`,
`resolve_best_path`, `NodeSplitIterator::next`, the `Morpheme` accessors, and `tokenize` = the stages of
`do_tokenize` in their order) on top of `Model/Edit.lean` (`start_build`, `commit`), `Model/Oov.lean`
(`build_lattice`) and `Model/Lattice.lean` (candidate nodes).  `addI32` is the checked `i32` addition
(`none` = `attempt to add with overflow` in a debug build), `asU16` the `as u16` cast.
-/
namespace C03
open Total EditM
open Oov hiding NodeOk

/-! ## clause "never … overflows": the `i32` accumulator of `connect_node` -/

/-- Full statement wanted: *for every loadable dictionary and every text within the documented limits
(≤ 65535 characters) no `i32` addition of `connect_node`/`connect_eos` overflows.*  That is FALSE
(`cost_overflow_counterexample`, D7).  Proved: it holds whenever the normalised text has at most
**32767 characters** (`len * 65536 + 32768 ≤ 2^31`), all word and connection costs being `i16`
(`I16Conn`, `NodeOk`) — by the invariant "every stored total of a node ending at `e` is the sentinel or
within `± 65536·e`" (`RowsInv`), by induction over the insertion order.  Then every `insert` succeeds
and `connect_eos` returns a cost or `EosBosDisconnect`, never a panic.  The constant is exact for this
invariant: with all costs `-32768` a text of 32768 characters overflows at `connect_eos` (directed
correspondence case), with all costs `32767` one of 32769 characters does (D7). -/
theorem cost_no_overflow_partial (conn : Nat → Nat → Int) (hconn : I16Conn conn) (len : Nat)
    (hlen : len ≤ 32767) (nodes : List Vit.Node) (hnodes : ∀ n ∈ nodes, NodeOk len n) :
    ∃ rows ents, buildAll addI32 I32_MAX conn nodes (reset len) [] = .ok (rows, ents) ∧
      RowsInv len rows ∧
      ((∃ r, connectEos addI32 I32_MAX conn rows len = .ok r) ∨
        connectEos addI32 I32_MAX conn rows len = .err "Disconnect") :=
  Vit.buildAll_connectEos_ok conn hconn len hlen nodes hnodes

/-- non-vacuity: an `i16` matrix, two candidates over a two-character text -/
example : I16Conn (fun _ _ => 32767) ∧ (∀ n ∈ [(⟨0, 1, 0, 0, 32767⟩ : Vit.Node), ⟨1, 2, 0, 0, -32768⟩], NodeOk 2 n) := by
  refine ⟨fun _ _ => by constructor <;> simp, ?_⟩
  intro n hn
  simp only [List.mem_cons, List.not_mem_nil, or_false] at hn
  rcases hn with rfl | rfl <;> simp [NodeOk]

/-- one connection step alone: within the bounds the two additions of `connect_node` succeed -/
theorem connect_node_no_overflow (conn : Nat → Nat → Int) (hconn : I16Conn conn) (n : Vit.Node)
    (hc : -32768 ≤ n.c ∧ n.c ≤ 32767) (row : List Entry) (b : Nat) (hb : b ≤ 32766)
    (hrow : RowBound ((b : Int) * 65536) row) :
    ∃ r, connectNode addI32 I32_MAX conn row n = some r :=
  let ⟨r, h, _⟩ := Vit.connectNode_ok conn hconn n ((b : Int) * 65536) 32768 ⟨by omega, by omega⟩ (by omega) row hrow
  ⟨r, h⟩

/-- **D7 on a small-width instance of the same model** (accumulator range `[-128, 127]`, all word and
connection costs 7): a chain of ten one-character words overflows — the tenth `insert` is the
`attempt to add with overflow`.  The full-size instance (`i32`, costs 32767, 32769 characters) is
replayed on the real code by the harness (directed cases `d7-chain-*`) and by the `cost` correspondence. -/
theorem cost_overflow_counterexample :
    buildAll (addW 127) 127 (fun _ _ => 7)
      ((List.range 10).map (fun i => (⟨i, i + 1, 0, 0, 7⟩ : Vit.Node))) (reset 10) [] = .panic "overflow" ∧
    latticeOutcome (addW 127) 127 (fun _ _ => 7)
      ((List.range 8).map (fun i => (⟨i, i + 1, 0, 0, 7⟩ : Vit.Node))) 8 = .ok (119, 8, 0) := by
  constructor <;> decide

/-- **the sentinel coincidence** (same small width): a path whose cost is exactly the maximum is taken
for "not connected to BOS", so `connect_eos` reports `EosBosDisconnect` although every position has a
candidate and no addition overflowed (full size: directed case `d7-sentinel`, text `2` + 32769 × `1`). -/
theorem cost_sentinel_counterexample :
    latticeOutcome (addW 127) 127 (fun _ _ => 7)
      ((List.range 10).map (fun i => (⟨i, i + 1, 0, 0, if i = 0 then -6 else 7⟩ : Vit.Node))) 10
      = .err "Disconnect" := by
  decide

/-! ## clause "`as u16` casts": identity under the length limit -/

/-- Every character offset and every byte offset of a text of at most 65535 bytes survives `as u16`
(`Node::new(ch_off as u16, end_c as u16, …)`, `byte_begin as u16`, the EOS position `(len-1) as u16`), and so
does a back-pointer `NodeIdx::new(begin as u16, i as u16)`, the form it has in the tree without the repair 9fb3dd8,
**provided the row has at most 65536 entries** (`rowLen ≤ 65536`: nothing in that code enforces it; with 9fb3dd8 the row
index is a `u32`, `Total.asU32`). -/
theorem u16_casts_identity (nchars nbytes : Nat) (hb : nbytes ≤ 65535) (hc : nchars ≤ nbytes) :
    (∀ p, p ≤ nchars → asU16 p = p) ∧ (∀ b, b ≤ nbytes → asU16 b = b) ∧
    eosNode nchars = ⟨nchars, nchars, 0, 0, 0⟩ ∧
    (∀ begin i rowLen, begin ≤ nchars → i < rowLen → rowLen ≤ 65536 → (asU16 begin, asU16 i) = (begin, i)) := by
  refine ⟨fun p hp => asU16_id p (by omega), fun b hb' => asU16_id b (by omega), ?_, ?_⟩
  · simp [eosNode, asU16_id nchars (by omega)]
  · intro begin i rowLen h1 h2 h3
    rw [asU16_id begin (by omega), asU16_id i (by omega)]

/-- beyond that the cast is not the identity: with a `u16` row index the 65537th entry of a row gets back-pointer
index 0 (a wrong predecessor, not a panic) -/
theorem u16_cast_wraps_counterexample : asU16 65536 = 0 ∧ asU16 65535 = 65535 := by decide

-- `hb`, `hc` of `u16_casts_identity` at the limit of `start_build`: 49149 bytes of three-byte characters (16383 of them)
example : (49149 : Nat) ≤ 65535 ∧ (16383 : Nat) ≤ 49149 := by omega

/-! ## clause "reports an input-too-long error beyond the limits" -/

/-- `start_build` rejects exactly the inputs of more than 49149 bytes, before any other work -/
theorem start_build_limit (orig : List Nat) :
    (startBuild orig = none ↔ orig.length > 49149) := by
  unfold startBuild MAX_LENGTH
  split <;> simp_all

/-- Full statement for the first limit: an input of more than 49149 bytes gives the input-too-long error,
whatever the configuration -/
theorem tokenize_too_long (v : SplitV) (lv : LenV) (cfg : Cfg) (orig : List Nat) (h : orig.length > 49149) :
    tokenize v lv cfg orig = .err "TooLong" :=
  tokenize_tooLong v lv cfg orig h

/-- second limit: when the plugins themselves return their edits, the only error `rewrite_input` can
report is input-too-long (both length guards).  In the pinned tree (`lv = running`) it is reported exactly when
the running length of a commit exceeds 65535 (`C08.commit_too_long`) — the *running* length, checked after
every edit of the batch, not the length of the normalised text (finding `commit-transient-length`,
`commit_transient_counterexample`); in the repaired tree (`lv = final`) exactly when the rewritten text of a
commit exceeds 65535 bytes (`commit_final_too_long_iff`). -/
theorem rewrite_input_only_too_long (lv : LenV) (ps : List (List Nat → Outcome (List (Edit Nat)))) (l : List (P Nat))
    (hp : ∀ p ∈ ps, ∀ t, ∃ es, p t = .ok es) (k : String) (h : rewriteInput lv ps l = .err k) : k = "TooLong" :=
  rewriteInput_err lv ps l hp k h

/-- **the pinned guard (variant `running`)**: the running-length check rejects a batch whose result would be
within the limit: 65535 bytes, insert one byte, delete one byte (a one-edit-at-a-time instance of the finding);
the repaired guard (variant `final`) accepts the same batch -/
theorem commit_transient_counterexample :
    lenOk 65535 65535 [(⟨0, 0, [1]⟩ : Edit Nat), ⟨1, 2, []⟩] = false ∧
    ((65535 : Int) + 1 - 1 ≤ 65535) ∧
    lenGuard .running 65535 65535 [(⟨0, 0, [1]⟩ : Edit Nat), ⟨1, 2, []⟩] = false ∧
    lenGuard .final 65535 65535 [(⟨0, 0, [1]⟩ : Edit Nat), ⟨1, 2, []⟩] = true := by
  refine ⟨by decide, by omega, by decide, by decide⟩

/-- **The repaired guard (variant `final`): `commit` fails iff the FINAL length exceeds the limit.**  For a
buffer of the shape every reachable state has (`Shape`: one map entry per byte plus the sentinel) and a non-empty
batch of sorted, non-overlapping, in-range edits (`EditsOk`, what the plugins emit: C07 `*_edits_ok`), the batch is
rejected with input-too-long exactly when the rewritten text — `resolve_edits` run to its end — would be longer
than 65535 bytes; otherwise it is committed and the result is that rewritten text.  This is the clause of the
property ("succeeds … whose normalised form is at most 65535 bytes") that `commit_transient_counterexample`
refutes for the pinned guard. -/
theorem commit_final_too_long_iff (N : Nat) (l : List (P Nat)) (hs : Shape N l) (es : List (Edit Nat)) (hne : es ≠ [])
    (hok : EditsOk (l.length - 1) 0 es) :
    (commitV .final l es = none ↔ 65535 < (textOf (resolve l es)).length) ∧
    (∀ l', commitV .final l es = some l' ↔ l' = resolve l es ∧ (textOf (resolve l es)).length ≤ 65535) :=
  ⟨commitV_final_none_iff N l hs es hne hok, fun l' => commitV_final_some_iff N l hs es hne hok l'⟩

/-- the length the repaired `resolve_edits` computes before copying anything (`finalLen`) IS the length of the
rewritten text: current length plus, per edit, replacement length minus replaced length -/
theorem final_length_is_text_length (N : Nat) (l : List (P Nat)) (hs : Shape N l) (es : List (Edit Nat))
    (hok : EditsOk (l.length - 1) 0 es) :
    (((textOf (resolve l es)).length : Nat) : Int) = finalLen (((textOf l).length : Nat) : Int) es :=
  resolve_text_length N l hs es hok

/-- the repair removes no functionality: every batch the pinned `commit` accepts is accepted by the repaired one
with the same result (no hypothesis on the edits) -/
theorem commit_final_extends_running (l : List (P Nat)) (es : List (Edit Nat)) (l' : List (P Nat))
    (h : commitV .running l es = some l') : commitV .final l es = some l' :=
  commit_imp_commitV_final l es l' h

/-- non-vacuity of `Shape`/`EditsOk`/`es ≠ []`, and the finding's shape at small scale: text `ab`, first byte
replaced by three bytes, second byte deleted — both guards commit, result `[1,2,3]` with map `[0,1,1,2]` -/
example : Shape 2 (identFrom 0 [97, 98]) ∧
    EditsOk ((identFrom 0 [97, 98]).length - 1) 0 [(⟨0, 1, [1, 2, 3]⟩ : Edit Nat), ⟨1, 2, []⟩] ∧
    (commitV .final (identFrom 0 [97, 98]) [(⟨0, 1, [1, 2, 3]⟩ : Edit Nat), ⟨1, 2, []⟩]).map (fun l => (textOf l, snds l))
      = some ([1, 2, 3], [0, 1, 1, 2]) ∧
    commitV .running (identFrom 0 [97, 98]) [(⟨0, 1, [1, 2, 3]⟩ : Edit Nat), ⟨1, 2, []⟩]
      = commitV .final (identFrom 0 [97, 98]) [(⟨0, 1, [1, 2, 3]⟩ : Edit Nat), ⟨1, 2, []⟩] := by
  refine ⟨ident_shape [97, 98], by simp [EditsOk, identFrom], by decide, by decide⟩

/-! ## clause "every accessor of every returned morpheme is safe to call" (offsets) -/

/-- Under the C08 invariant of the offset map (`EditM.Inv`, established by `C08.m2o_inv` for admissible
batches) `Morpheme::begin()`/`end()` (`morphRangeC`: `mod_c2b` then `m2o`) are defined for every node whose
character range lies inside the normalised text, and the offsets are inside the original text. -/
theorem morph_range_defined {st : Nat → Bool} {Bo : Nat → Prop} {N : Nat} (l : List (P Nat))
    (hinv : Inv st Bo N l) (n : EditM.NodeRange) (hb : n.bc ≤ nchars (textOf l)) (he : n.ec ≤ nchars (textOf l)) :
    ∃ b e, morphRangeC l n = some (b, e) ∧ b ≤ N ∧ e ≤ N := by
  obtain ⟨b, hb1, hb2⟩ := toOrigByteIdx_some l hinv n.bc hb
  obtain ⟨e, he1, he2⟩ := toOrigByteIdx_some l hinv n.ec he
  exact ⟨b, e, by simp [morphRangeC, hb1, he1], hb2, he2⟩

/-- the byte route of `surface()` (`m2o[begin_bytes]..m2o[end_bytes]`) is defined for byte offsets inside
the normalised text -/
theorem morph_range_bytes_defined {st : Nat → Bool} {Bo : Nat → Prop} {N : Nat} (l : List (P Nat))
    (hinv : Inv st Bo N l) (n : EditM.NodeRange) (hb : n.bb ≤ (textOf l).length) (he : n.eb ≤ (textOf l).length) :
    ∃ b e, morphRangeB l n = some (b, e) := by
  have hlen := shape_length hinv.shape
  refine ⟨valAt l n.bb, valAt l n.eb, ?_⟩
  unfold morphRangeB
  rw [snds_getElem? l n.bb (by omega), snds_getElem? l n.eb (by omega)]

/-! ## clause "never panics": `NodeSplitIterator::next` (D6 and its repair) -/

/-- D6 on the variant `cur`, the code **without** the repair `fix: keep split units inside their parent token`: a
split unit longer than its parent (`東` = 3 bytes, first unit `東京都` = 9 bytes) makes `NodeSplitIterator::next`
index `mod_b2c` out of range; a well-formed split does not.  (The tree carries the repair, variant `d6fix`; the
harness selects the variant by probing `analysis/node.rs`, so this is the witness of what the code without the
repair does, which is what a regression would do.) -/
theorem split_longer_than_parent_counterexample :
    isPanic (split .cur (b2c [0xE6, 0x9D, 0xB1]) (c2b [0xE6, 0x9D, 0xB1]) ⟨0, 1, 0, 3⟩ [9, 3]) = true ∧
    isPanic (split .cur (b2c [0xE6, 0x9D, 0xB1, 0xE4, 0xBA, 0xAC]) (c2b [0xE6, 0x9D, 0xB1, 0xE4, 0xBA, 0xAC])
      ⟨0, 2, 0, 6⟩ [3, 3]) = false := by decide

/-- variant `cur`: well-formed units (every proper prefix sum of the unit lengths is a byte offset inside
the text) never index out of range: one step of the iterator -/
theorem split_step_in_range (b2c c2b : List Nat) (ce be h u : Nat) (rest : List Nat) (cs bs : Nat)
    (hin : bs + h < b2c.length) :
    ∃ c, b2c[bs + h]? = some c ∧
      isPanic (splitGo .cur b2c c2b ce be (h :: u :: rest) cs bs) =
        isPanic (splitGo .cur b2c c2b ce be (u :: rest) (asU16 c) (asU16 (bs + h))) := by
  refine ⟨b2c[bs + h], List.getElem?_eq_getElem hin, ?_⟩
  simp only [splitGo, unitEnd, List.getElem?_eq_getElem hin]
  cases splitGo .cur b2c c2b ce be (u :: rest) (asU16 b2c[bs + h]) (asU16 (bs + h)) <;> rfl

/-- **The repaired iterator (variant `d6fix`, the code of the tree) never indexes `mod_b2c` / `mod_c2b`
out of range — for ANY unit key lengths** (no well-formedness of the split declaration is assumed) and any
parent node whose byte end is inside the buffer.  The only facts used are the range facts of a built buffer
(`TablesRange`): `mod_b2c[i]` exists for every `i ≤ nb` and is an index of `mod_c2b`.  They hold for the
tables of every text with at least one character (`tables_of_text`; the model's `b2c`/`c2b` are the tables the
`access` correspondence recomputes from the dumped text). -/
theorem split_d6fix_never_out_of_range (tb2c tc2b : List Nat) (nb : Nat) (hr : TablesRange tb2c tc2b nb)
    (n : EditM.NodeRange) (hn : n.eb ≤ nb) (units : List Nat) :
    ∃ us, split .d6fix tb2c tc2b n units = .ok us :=
  splitGo_d6fix_ok tb2c tc2b nb hr n.ec n.eb hn units n.bc n.bb

/-- the range facts are those of the tables of a text: instance of the previous theorem for `mod_b2c`/`mod_c2b`
as `InputBuffer::build` fills them (any text that begins with a character start, any units, any node ending
inside the text) -/
theorem split_d6fix_never_out_of_range_text (t : List Nat) (h1 : 1 ≤ nchars t)
    (n : EditM.NodeRange) (hn : n.eb ≤ t.length) (units : List Nat) :
    ∃ us, split .d6fix (b2c t) (c2b t) n units = .ok us :=
  split_d6fix_never_out_of_range _ _ t.length (tables_of_text t h1) n hn units

/-- **Every unit of the repaired iterator stays inside its parent** — again for any unit key lengths.  Under the
table invariants of a built buffer of `nb ≤ 65535` bytes and `nc ≤ 65535` characters (`TablesOk`: `mod_b2c` and
`mod_c2b` non-decreasing and in range, `mod_c2b[mod_b2c[i]] ≤ i`, `mod_b2c[mod_c2b[k]] = k`; cf. `Split.B2cOk`/`Split.C2bOk`
(`Proofs/Split.lean`, C09), `EditM.c2b_spec` (`Proofs/Edit.lean`, C08)) and for a parent that begins and ends on character starts inside the buffer (`At`), the split
succeeds and its units (a) lie in the parent's byte range and character range, (b) run forward (`begin ≤ end`, so
`surface()` never slices backwards — the third D6 symptom), (c) begin and end on character starts (so no
`off char boundary` assertion), (d) tile the parent: the first begins where the parent begins, each next one where
the previous ended, the last ends where the parent ends. -/
theorem split_d6fix_units_inside_parent (tb2c tc2b : List Nat) (nb nc : Nat) (ht : TablesOk tb2c tc2b nb nc)
    (hnb : nb ≤ 65535) (hnc : nc ≤ 65535) (n : EditM.NodeRange) (hle : n.bb ≤ n.eb) (hn : n.eb ≤ nb)
    (hb : At tb2c tc2b n.bc n.bb) (he : At tb2c tc2b n.ec n.eb) (units : List Nat) (hu : units ≠ []) :
    ∃ us, split .d6fix tb2c tc2b n units = .ok us ∧ (∀ u ∈ us, UnitOk tb2c tc2b n u) ∧
      Tiles us n.bc n.bb n.ec n.eb := by
  obtain ⟨us, h1, h2, h3⟩ := splitGo_d6fix_spec tb2c tc2b nb nc ht hnb hnc n hn he units n.bc n.bb hu hb
    (Nat.le_refl _) hle (Nat.le_refl _)
  exact ⟨us, h1, h3, h2⟩

/-- non-vacuity, and the D6 witness under the repair: `東` (3 bytes, 1 character) satisfies the table invariants
(`tablesOk_of_text`), the parent `0..1 / 0..3` is on character starts, and the ill-formed units `[9, 3]` give
`東` + an empty unit at the parent's end (what the repaired code returns: directed cases `d6-split-*`) -/
example : TablesOk (b2c [0xE6, 0x9D, 0xB1]) (c2b [0xE6, 0x9D, 0xB1]) 3 1 ∧
    At (b2c [0xE6, 0x9D, 0xB1]) (c2b [0xE6, 0x9D, 0xB1]) 0 0 ∧ At (b2c [0xE6, 0x9D, 0xB1]) (c2b [0xE6, 0x9D, 0xB1]) 1 3 ∧
    split .d6fix (b2c [0xE6, 0x9D, 0xB1]) (c2b [0xE6, 0x9D, 0xB1]) ⟨0, 1, 0, 3⟩ [9, 3] = .ok [⟨0, 1, 0, 3⟩, ⟨1, 1, 3, 3⟩] :=
  ⟨tablesOk_of_text [0xE6, 0x9D, 0xB1] 0xE6 [0x9D, 0xB1] rfl (by decide), by unfold At; decide, by unfold At; decide, rfl⟩

/-! ## clause "never … indexes out of bounds": back-pointers of `fill_top_path`, `mod_c2b` in `resolve_best_path` -/

/-- **`lattice_index_in_range`.**  After `build_lattice` (all `insert`s, then a `connect_eos` that succeeded) the walk of
`fill_top_path` along the back-pointers never indexes `ends`/`indices` out of range, terminates within `len + 1` steps
at a node that begins at 0, visits only nodes inside the text (`begin < end ≤ len`), and `resolve_best_path`'s
`mod_c2b` lookups for those nodes are in range — for ANY addition (`add` arbitrary: checked, wrapping, overflowing or
not), any costs and any connection matrix.  Hypotheses: the candidates are non-empty and inside the text (`hnodes`), the
text has between 1 and 65535 characters, and **at most 2^32 − 1 candidates end at any one boundary** (`hrow`: the row
index of the back-pointer is a `u32`; nothing in the code enforces this; for the `u16` index of the tree without the repair
9fb3dd8 the bound is 65535: `row_index_u16_wraps_counterexample`), `t` is a text with at least `len` character starts
(`utf8Decode_length_le`).
Invariant (`PathInv`, by induction over the insertion order): every stored entry lies in the row of its end, begins
before it, and is either unconnected (sentinel) or points to `(begin, index of a connected entry of row begin)`. -/
theorem lattice_index_in_range (add : Int → Int → Option Int) (conn : Nat → Nat → Int) (len : Nat)
    (hlen : 1 ≤ len ∧ len ≤ 65535) (nodes : List Vit.Node) (hnodes : ∀ n ∈ nodes, n.b < n.e ∧ n.e ≤ len)
    (hrow : ∀ e, nodes.countP (fun n => n.e == e) ≤ 4294967295)
    (rows : Rows) (ents : List Entry) (c : Int) (pe pi : Nat)
    (hb : buildAll add I32_MAX conn nodes (reset len) [] = .ok (rows, ents))
    (he : connectEos add I32_MAX conn rows len = .ok (c, pe, pi)) (t : List Nat) (ht : len ≤ nchars t) :
    ∃ path, topPath rows (len + 1) (pe, pi) [] = .ok path ∧
      (∀ x ∈ path, x.node.b < x.node.e ∧ x.node.e ≤ len) ∧
      ∃ rs, mapM (resultNode (c2b t)) path = .ok rs :=
  (bestPath_index add conn len hlen rows
    (buildAll_pathInv add conn len hlen.2 nodes (reset len) [] rows ents (reset_pathInv len nodes hrow) hnodes hb)
    c pe pi he t ht).2

/-- non-vacuity: two one-character words over `ab`; the walk returns both, in text order -/
example : ∃ rows ents c pe pi,
    buildAll addI32 I32_MAX (fun _ _ => 1) [⟨0, 1, 0, 0, 5⟩, ⟨1, 2, 0, 0, 5⟩] (reset 2) [] = .ok (rows, ents) ∧
    connectEos addI32 I32_MAX (fun _ _ => 1) rows 2 = .ok (c, pe, pi) ∧
    (match topPath rows 3 (pe, pi) [] with | .ok p => p.map (fun x => (x.node.b, x.node.e)) | _ => []) = [(0, 1), (1, 2)] :=
  ⟨_, _, _, _, _, rfl, rfl, rfl⟩

/-! ## clause "never … indexes out of bounds": the candidates of `build_lattice` lie inside the text -/

/-- **Every candidate `build_lattice` inserts is non-empty and ends inside the text** (`begin < end ≤ n`): dictionary
words (entered by the C04 look-up specification), MeCab candidates (grouped and per length), the Simple provider's
node and the regex provider's match — so `Lattice::insert` indexes `ends[begin]`/`ends[end]` in range.  Hypothesis
`BufOk`: the buffer has one class word and one word-start flag per character and every run of
`mod_cat_continuity` ends inside the text (`offset + cont[offset] ≤ n`). -/
theorem candidates_inside_text (ps : List Provider) (lex : List Word) (buf : Buf) (hb : BufOk buf)
    (nodes : List Oov.Node) (h : buildLattice ps lex buf = .ok nodes) :
    ∀ x ∈ nodes, x.b < x.e ∧ x.e ≤ buf.chars.length :=
  buildLattice_cand ps lex buf hb nodes h

/-- the hypothesis `BufOk` is discharged for the buffer of `Model/Oov.lean` with the left-to-right run table
(`mkBufV .forward`, what the C13 correspondence ties to `InputBuffer::build` of the tree after
`fix: compute character-class runs left to right`; either word-start variant): all candidates lie inside the text -/
theorem candidates_inside_text_built (bowFix : Bool) (tab : List (Nat × Nat)) (chars : List Nat) (buf : Buf)
    (hbuf : mkBufV .forward bowFix tab chars = some buf) (ps : List Provider) (lex : List Word)
    (nodes : List Oov.Node) (h : buildLattice ps lex buf = .ok nodes) :
    ∀ x ∈ nodes, x.b < x.e ∧ x.e ≤ chars.length := by
  obtain ⟨_, hb, hc⟩ := mkBufV_ok .forward bowFix tab chars buf hbuf
  rw [← hc]
  exact candidates_inside_text ps lex buf hb nodes h

/-! ## clause "never panics (also with debug assertions on)": the regex provider and the empty match -/

/-- **the pinned provider (`skipEmpty = false`)**: the configuration `[a]{0,}` (relaxed boundaries) loads; on the
text `b` the pattern matches the empty string at offset 0 and `provide_oov` reaches `CreatedWords::single(0)`
(`debug_assert!(raw > 0)`): a panic in a debug build (directed case `regex-empty-match`; a release build inserts a
node of length 0).  The repaired provider returns no node for the same call. -/
theorem regex_empty_match_counterexample :
    regexProvide ⟨0, 0, 100, 0, [⟨[97], 0, none⟩], 8, false, false⟩ ⟨[98], [1], [1], [true]⟩ 0 0 []
      = .panic "CreatedWords::single(0)" ∧
    regexProvide ⟨0, 0, 100, 0, [⟨[97], 0, none⟩], 8, false, true⟩ ⟨[98], [1], [1], [true]⟩ 0 0 [] = .ok [] := by
  constructor <;> decide

/-- **The repaired provider (`skipEmpty = true`) never yields an empty node and never panics.**  For every
pattern (every list of alternatives, also ones that can match the empty string), every buffer, offset, created
mask and node buffer: (1) a node it returns begins at the offset, is non-empty and ends inside the text — in every
build profile, because the empty match is dropped before `CreatedWords` is consulted; (2) it never reaches
`CreatedWords::single(0)`; (3) at an offset inside a buffer that has one run length per character it does not
panic at all (the `cat_continuous_len` reads and the slice are in range). -/
theorem regex_fix_never_empty_node (cfg : RegexCfg) (hfix : cfg.skipEmpty = true) (buf : Buf) (o created : Nat)
    (existing : List Oov.Node) :
    (∀ nodes, regexProvide cfg buf o created existing = .ok nodes →
      ∀ x ∈ nodes, x.b = o ∧ x.b < x.e ∧ x.e ≤ buf.chars.length) ∧
    regexProvide cfg buf o created existing ≠ .panic "CreatedWords::single(0)" ∧
    (buf.cont.length = buf.chars.length → o < buf.chars.length →
      NoPanic (regexProvide cfg buf o created existing)) := by
  refine ⟨?_, ?_, fun hc ho => regexProvide_fix_noPanic cfg hfix buf hc o ho created existing⟩
  · intro nodes h x hx
    obtain ⟨h1, h2, h3⟩ := regexProvide_ok cfg buf o created existing nodes h x hx
    exact ⟨h1, by omega, h3⟩
  · intro h
    rcases regexProvide_cases cfg buf o created existing with ⟨_, e⟩ | ⟨_, e⟩ | ⟨hs, _⟩ | e | ⟨_, _, _, _, _, e⟩
    · rw [e] at h; exact absurd (Outcome.panic.inj h) (by decide)
    · rw [e] at h; exact absurd (Outcome.panic.inj h) (by decide)
    · rw [hfix] at hs; cases hs
    · rw [e] at h; cases h
    · rw [e] at h; cases h

/-- non-vacuity: the repaired provider with the pattern `[a]{0,}` on `ba`: nothing at `b`, the node `1..2` at `a` -/
example : regexProvide ⟨0, 0, 100, 0, [⟨[97], 0, none⟩], 8, false, true⟩ ⟨[98, 97], [1, 1], [1, 1], [true, true]⟩ 0 0 [] = .ok [] ∧
    regexProvide ⟨0, 0, 100, 0, [⟨[97], 0, none⟩], 8, false, true⟩ ⟨[98, 97], [1, 1], [1, 1], [true, true]⟩ 1 0 []
      = .ok [⟨1, 2, 0, 0, 100, true, 0⟩] := by
  constructor <;> decide

/-! ## the composition: `do_tokenize` never panics -/

/-- **The composition, relative to the text that is reached.**  The hypotheses are explained one by one in the doc comment of
`tokenize_total_partial`, the next theorem, which is the special case in which they are asked of every text: there
`hlat`, `hbuf`, `hcost`, `hrowsz` quantify over ALL character sequences, not only over the rewritten text of `orig`.  For `hrowsz` that is not satisfiable by any realistic configuration: over a text of
65536·2^32 characters `toVit` casts the boundaries `e₀ + 65536·k` to the same `u16`, so 2^32 candidates "end at" `e₀` as
soon as every position has one.  Here every component hypothesis is asked only of a text `chars` that `Reaches lv cfg orig`
(accepted by `start_build`, rewritten by the input-text plugins, decoded), which together with `hbound` makes them
satisfiable (non-vacuity: the example for `totalCfg` after `rows_from_configuration_bounds`).  The remaining hypotheses are those of `tokenize_total_partial`. -/
theorem tokenize_total_at_partial (v : SplitV) (lv : LenV) (cfg : Cfg) (orig : List Nat)
    (hplug : ∀ p ∈ cfg.inputPlugins, ∀ t, NoPanic (p t))
    (hutf : ∀ l0 l, startBuild orig = some l0 → rewriteInput lv cfg.inputPlugins l0 = .ok l →
      Wire.utf8Decode (textOf l) ≠ none)
    (hlat : ∀ chars, Reaches lv cfg orig chars → NoPanic (buildLattice cfg.providers cfg.lex (cfg.mkBuf chars)))
    (hbuf : ∀ chars, Reaches lv cfg orig chars → BufOk (cfg.mkBuf chars) ∧ (cfg.mkBuf chars).chars.length = chars.length)
    (hcost : ∀ chars nodes, Reaches lv cfg orig chars → buildLattice cfg.providers cfg.lex (cfg.mkBuf chars) = .ok nodes →
      ∀ x ∈ nodes, -32768 ≤ x.c ∧ x.c ≤ 32767)
    (hconn : I16Conn cfg.conn)
    (hbound : ∀ chars, Reaches lv cfg orig chars → chars.length ≤ 32767)
    (hrowsz : ∀ chars nodes, Reaches lv cfg orig chars → buildLattice cfg.providers cfg.lex (cfg.mkBuf chars) = .ok nodes →
      ∀ e, (nodes.map toVit).countP (fun n => n.e == e) ≤ 4294967295)
    (hrew : ∀ path, NoPanic (cfg.rewrite path))
    (hsplit : v = .cur → ∀ text path path', cfg.rewrite path = .ok path' →
      NoPanic (splitPath .cur (b2c text) (c2b text) path'))
    (hkeep : v = .d6fix → ∀ (nb : Nat) path path', (∀ q ∈ path, q.eb ≤ nb) → cfg.rewrite path = .ok path' →
      ∀ p ∈ path', p.1.eb ≤ nb) :
    NoPanic (tokenize v lv cfg orig) := by
  refine tokenize_noPanic_of v lv cfg orig hplug hutf fun l0 l chars h0 h1 h2 hne => ?_
  have hr : Reaches lv cfg orig chars := ⟨l0, l, h0, h1, h2⟩
  refine analyse_noPanic v cfg l chars hne (hbound chars hr) (utf8Decode_length_le _ (textOf l) chars (Nat.le_refl _) h2)
    (hlat chars hr) (hbuf chars hr).1 (hbuf chars hr).2 hconn (fun nodes => hcost chars nodes hr)
    (fun nodes => hrowsz chars nodes hr) fun rows c pi es path _ _ _ h6 => ⟨hrew path, fun path' h7 => ?_⟩
  cases v with
  | cur => exact hsplit rfl (textOf l) path path' h7
  | d6fix =>
    have hin' : ∀ q ∈ path, q.eb ≤ (textOf l).length := by
      intro q hq
      obtain ⟨ent, _, hf⟩ := mapM_mem _ es path h6 q hq
      exact (resultNode_bytes_le (textOf l) ent q hf).2
    exact splitPath_d6fix_noPanic (textOf l) (nchars_pos_of_utf8 (textOf l) chars h2 hne) path'
      (hkeep rfl (textOf l).length path path' hin' h7)

/-- Full statement wanted (`tokenize_total`): *for every text and every configuration that loaded
successfully the outcome of `tokenize` is `ok` or `err`, never `panic`; with a fallback provider last it is
`ok` whenever `|orig| ≤ 49149 ∧ |normalised| ≤ 65535`, and `err TooLong` beyond.*  It is FALSE for the code
(D7 overflow / sentinel; for the pinned guards also the running-length check — variant `lv = running`,
`commit_transient_counterexample` — and the regex provider's empty match — `skipEmpty = false`,
`regex_empty_match_counterexample`; the numeral loop of C14; for the variant `cur`, the code without the commit
`fix: keep split units inside their parent token`, also D6, ill-formed splits).

Proved (partial): the stages compose without a panic when
* `hplug`  the input-text plugins return edits or an error (bundled plugins: C07 `*_edits_ok`, `edits_ok_apply_total`);
* `hutf`   the rewritten text is valid UTF-8 (C08 `m2o_inv`: replacements are whole strings);
* `hlat`   the lattice builder does not panic (`lattice_builder_never_panics` for well-formed buffers; C13 proves "never
           Disconnect with a fallback last"; for the repaired regex provider (`skipEmpty`) `regex_fix_never_empty_node`
           shows it neither yields an empty node nor panics, whatever the pattern, so "no regex matches the empty string"
           is not part of this hypothesis);
* `hbuf`   the buffer `InputBuffer::build` produces has the shape `BufOk` (one class word / word-start flag per character,
           runs end inside the text); with it "every candidate is non-empty and inside the text" is PROVED
           (`candidates_inside_text`), so that all that is asked of the candidates is
* `hcost`  the candidates' word costs are `i16` values (they are read from `i16` fields of the dictionary / the plugin settings);
* `hconn`  the matrix is `i16`;
* `hbound` **the normalised text has at most 32767 characters** — the D7 hypothesis, not implied by the limits;
* `hrowsz` at most 2^32 − 1 candidates end at any one boundary (the back-pointer's row index is a `u32`); with it the
           back-pointer walk and the `mod_c2b` lookups are PROVED in range (`lattice_index_in_range`, `utf8Decode_length_le`);
* `hrew`   word-info lookup and the path-rewrite plugins do not panic (C14 `join_katakana_total`; the numeral loop
           can diverge: C14 finding);
* `hsplit` ONLY for the variant `cur` (the code before the repair of D6): split units are well formed
           (`split_step_in_range`; D6 otherwise).  For the variant `d6fix` (the code of the tree) nothing of the kind
           is asked: `split_d6fix_never_out_of_range` + `tables_of_text` + `nchars_pos_of_utf8` show that `split_path` cannot
           panic on the tables of the rewritten text whatever the units are; what is asked instead is
* `hkeep`  (variant `d6fix`) the word-info lookup / path-rewrite plugins keep the byte end of every node inside the text
           when the nodes they are given are (`concat_nodes` takes the end of the last node: C14 `join_*_coarsens`); that the
           nodes of `resolve_best_path` are inside the text is proved here (`resultNode_bytes_le`).
Under the same hypotheses an input of more than 49149 bytes gives `err TooLong` (`tokenize_too_long`, unconditional).

CAVEAT (why `tokenize_total_at_partial` is the usable form; the arithmetic of its doc comment once more): `hlat`, `hbuf`, `hcost` and `hrowsz` quantify over ALL
character sequences `chars`, not only over the rewritten text of `orig`.  For `hrowsz` this is not satisfiable by any
realistic configuration: `toVit` casts the candidate ends `as u16`, so over a text of 65536·2^32 characters the boundaries
`e₀ + 65536·k` (k < 2^32) all count as `e₀`, and as soon as every position has a candidate (any configuration with a
fallback provider, e.g. `exampleCfg` defined with the non-vacuity examples further down) 2^32 of them "end at" `e₀`.  The theorem is true but vacuous for such
configurations.  `tokenize_total_at_partial` asks the same hypotheses only of the text that is reached (`Reaches`), where
`hbound` caps the length; `tokenize_total` and `tokenize_succeeds` are proved from it. -/
theorem tokenize_total_partial (v : SplitV) (lv : LenV) (cfg : Cfg) (orig : List Nat)
    (hplug : ∀ p ∈ cfg.inputPlugins, ∀ t, NoPanic (p t))
    (hutf : ∀ l0 l, startBuild orig = some l0 → rewriteInput lv cfg.inputPlugins l0 = .ok l →
      Wire.utf8Decode (textOf l) ≠ none)
    (hlat : ∀ chars, NoPanic (buildLattice cfg.providers cfg.lex (cfg.mkBuf chars)))
    (hbuf : ∀ chars, BufOk (cfg.mkBuf chars) ∧ (cfg.mkBuf chars).chars.length = chars.length)
    (hcost : ∀ chars nodes, buildLattice cfg.providers cfg.lex (cfg.mkBuf chars) = .ok nodes →
      ∀ x ∈ nodes, -32768 ≤ x.c ∧ x.c ≤ 32767)
    (hconn : I16Conn cfg.conn)
    (hbound : ∀ l0 l chars, startBuild orig = some l0 → rewriteInput lv cfg.inputPlugins l0 = .ok l →
      Wire.utf8Decode (textOf l) = some chars → chars.length ≤ 32767)
    (hrowsz : ∀ chars nodes, buildLattice cfg.providers cfg.lex (cfg.mkBuf chars) = .ok nodes →
      ∀ e, (nodes.map toVit).countP (fun n => n.e == e) ≤ 4294967295)
    (hrew : ∀ path, NoPanic (cfg.rewrite path))
    (hsplit : v = .cur → ∀ text path path', cfg.rewrite path = .ok path' →
      NoPanic (splitPath .cur (b2c text) (c2b text) path'))
    (hkeep : v = .d6fix → ∀ (nb : Nat) path path', (∀ q ∈ path, q.eb ≤ nb) → cfg.rewrite path = .ok path' →
      ∀ p ∈ path', p.1.eb ≤ nb) :
    NoPanic (tokenize v lv cfg orig) :=
  tokenize_total_at_partial v lv cfg orig hplug hutf (fun chars _ => hlat chars) (fun chars _ => hbuf chars)
    (fun chars nodes _ => hcost chars nodes) hconn (fun chars ⟨l0, l, h0, h1, h2⟩ => hbound l0 l chars h0 h1 h2)
    (fun chars nodes _ => hrowsz chars nodes) hrew hsplit hkeep

/-! ## the composition with the component hypotheses discharged -/

/-- **The lattice builder never panics** (the hypothesis `hlat` of `tokenize_total_partial`).  For a buffer
with the shape `InputBuffer::build` guarantees (`Oov.Buf.WF`: one class word, one run length and one word-start flag per
character, every run at least 1 and ending inside the text — C13 `built_buffer_well_formed`), at least one OOV provider
(`hprov`: `oov_providers.last().unwrap()` — the loader refuses a configuration without one) and every regex provider the
repaired one (`hregex`; false for the pinned provider: `regex_empty_match_counterexample`), `build_lattice` does not
panic, whatever the dictionary words, the provider settings and the text are. -/
theorem lattice_builder_never_panics (ps : List Provider) (hprov : ps ≠ [])
    (hregex : ∀ p ∈ ps, ∀ c, p = .regex c → c.skipEmpty = true) (lex : List Word) (buf : Buf) (hwf : buf.WF) :
    NoPanic (buildLattice ps lex buf) :=
  buildLattice_noPanic ps hprov hregex lex buf hwf

/-- `hprov` is needed: with an empty provider list a position without dictionary word reaches `last().unwrap()` -/
theorem lattice_builder_no_provider_counterexample :
    buildLattice [] [] ⟨[98], [1], [1], [true]⟩ = .panic "unwrap" := by decide

/-- **Clause "succeeds" for the lattice builder.**  With the fallback (Simple) provider configured last, the regex
providers repaired and a buffer as `InputBuffer::build` produces it, `build_lattice` RETURNS a lattice for every text:
no panic (`lattice_builder_never_panics`) and no `EosBosDisconnect` (C13 `lattice_never_disconnects`); every candidate
lies inside the text (`candidates_inside_text`).  The rest of the "succeeds" clause of `tokenize` (outcome `ok`, or
`err TooLong` from the two length guards only) is `tokenize_succeeds`: `connect_eos` does not report `EosBosDisconnect`
under `hbound`, because there the `i32` lattice is the unbounded one of C02 (`Vit.buildAll_rep`, `Vit.connectEos_rep`), whose
`connect_eos` fails only if no chain of candidates covers the text; beyond `hbound` it is false (`cost_sentinel_counterexample`, D7b). -/
theorem lattice_builder_succeeds (ps : List Provider) (cfg : SimpleCfg) (hlast : ps.getLast? = some (.simple cfg))
    (hregex : ∀ p ∈ ps, ∀ c, p = .regex c → c.skipEmpty = true) (lex : List Word) (buf : Buf) (hwf : buf.WF) :
    ∃ nodes, buildLattice ps lex buf = .ok nodes ∧ ∀ x ∈ nodes, x.b < x.e ∧ x.e ≤ buf.chars.length := by
  obtain ⟨nodes, h⟩ := buildLattice_returns ps cfg hlast hregex lex buf hwf
  exact ⟨nodes, h, buildLattice_cand ps lex buf (wf_bufOk buf hwf) nodes h⟩

/-- **Every candidate's word cost is a configured cost** (the hypothesis `hcost` of `tokenize_total_partial`): when every lexicon word cost
and every provider cost (Simple / Regex `cost`, every MeCab `unk.def` line) is an `i16` value — they are parsed into
`i16` fields — so is the cost of every node `build_lattice` inserts. -/
theorem candidate_costs_i16 (ps : List Provider) (lex : List Word) (buf : Buf)
    (hlexcost : ∀ w ∈ lex, I16 w.c) (hprovcost : ∀ p ∈ ps, ProviderCostOk p) (nodes : List Oov.Node)
    (h : buildLattice ps lex buf = .ok nodes) : ∀ x ∈ nodes, -32768 ≤ x.c ∧ x.c ≤ 32767 := by
  intro x hx
  rcases buildLattice_sourced ps lex buf nodes h x hx with ⟨_, w, hw, _, _, e⟩ | ⟨_, p, hp, hd⟩
  · rw [e]; exact hlexcost w hw
  · exact (providerCostOk_iff p).mp (hprovcost p hp) _ hd

/-- **`InputBuffer::build` gives a well-formed buffer and is total** (the hypothesis `hbuf` of `tokenize_total_partial`): whatever the
run-table variant and word-start variant, a built buffer is `Buf.WF`, hence `BufOk`, and holds the characters it was
built from; and over a strictly increasing class table — every compiled character definition is one
(`CharCat.sinc_compile`, C17) — the build is defined for every text (`builtBuf` is that buffer written out). -/
theorem built_buffer_ok (rv : Variant) (bowFix : Bool) (tab : List (Nat × Nat)) (chars : List Nat) :
    (∀ buf, mkBufV rv bowFix tab chars = some buf → buf.WF ∧ BufOk buf ∧ buf.chars = chars) ∧
    (CharCat.SInc (CharCat.fsts tab) → mkBufV rv bowFix tab chars = some (builtBuf rv bowFix tab chars)) :=
  ⟨fun buf h => mkBufV_ok rv bowFix tab chars buf h, fun hs => mkBufV_total rv bowFix tab hs chars⟩

/-- **`tokenize_total`: `do_tokenize` with the repaired split iterator (`v = d6fix`; either length guard `lv`)
never panics**, under the hypotheses that genuinely remain.  Proved from `tokenize_total_at_partial` (the composition
lemma `tokenize_total_partial` with its component hypotheses asked only of the text that is reached — `Reaches`); the
hypotheses `hlat`, `hbuf`, `hcost`, `hsplit` are discharged (`lattice_builder_never_panics`, `built_buffer_ok`,
`candidate_costs_i16`; `hsplit` concerns the variant `cur` only).

Configuration hypotheses (what a successfully loaded dictionary/configuration satisfies):
* `hmk`       the buffer is the modelled `InputBuffer::build` over a class table `tab` (any run-table variant `rv`, either
              word-start variant `bowFix`).  For a compiled character definition the build is total
              (`built_buffer_ok`, C17 `lookup_compile_eq_union`): see `tokenize_total_compiled`, which does not ask `hmk`.
* `hprov`     at least one OOV provider is configured (the loader refuses a configuration without one; without it
              `lattice_builder_no_provider_counterexample`).
* `hregex`    every regex provider is the repaired one (`skipEmpty`) — for the pinned provider the statement is false
              (`regex_empty_match_counterexample`); the harness probes the tree for the variant.
* `hlexcost`, `hprovcost`  word costs of the lexicon and of the provider settings are `i16` values (their field type).
* `hconn`     the connection matrix holds `i16` values (its element type).
Remaining component hypotheses:
* `hplug`     the input-text plugins return edits or an error.  Bundled plugins: C07 `default_edits_ok`, `psm_edits_ok`,
              `yomigana_edits_ok` + `edits_ok_apply_total` show their edit lists are sorted, non-overlapping and in range and
              apply without a panic — on CODE POINTS; the glue to this model's byte-offset plugins (`edits_ok_bytes` +
              UTF-8 encoding of the replacements) is not formalised.  Not asked without plugins (`tokenize_total_no_plugins`).
* `hutf`      the rewritten text is valid UTF-8: C08 `m2o_inv` (edits on character boundaries, whole-string replacements);
              what is missing is the lemma "`resolve` of boundary-aligned edits with UTF-8 replacements on a UTF-8 text decodes".
              Without plugins it is the `&str` guarantee of the input (`tokenize_total_no_plugins`).
* `hbound`    **the rewritten text (`Reaches`) has at most 32767 characters** — D7, a FINDING of the Rust code: beyond it the `i32`
              path cost can overflow (`cost_overflow_counterexample`; C02 `i32_lattice_eq_model` is stated for the same bound),
              so the theorem is stated for ≤ 32767 characters; the documented limits (49149 / 65535 bytes) do not imply it.
* `hrowsz`    at most 2^32 − 1 candidates end at any one boundary of the rewritten text: nothing in the Rust code enforces
              it; beyond it the `u32` row index of the back-pointer wraps and the walk may read a wrong slot (as a `u16`
              index, the tree without the repair 9fb3dd8, does beyond 65535: `row_index_u16_wraps_counterexample`).  It follows from two
              bounds of the configuration — at most `K` candidates per position, each at most `L` characters, `K·L ≤ 65535`
              (`rows_from_configuration_bounds`) — or from `rowCap ≤ 65537` alone (`rows_from_row_cap_u32`).
* `hrew`      word-info lookup and the path-rewrite plugins do not panic: C14 proves termination (`rewrite_stack_total`,
              repaired numeral loop) and the coarsening, not index safety of the plugin loops (see `rewriteOfStack_noPanic`
              in `Proofs/TotalCompose.lean`: for a rewrite built from the C14 model this is exactly "`rewriteAll ≠ panic`").
              Not asked without path-rewrite plugin (`tokenize_total_no_plugins`).
* `hkeep`     they keep every node's byte end inside the text when their input's are: follows from C14
              `boundaries_subset` (every output end is an input end: `rewriteOfStack_keep`); kept as a
              hypothesis because `Cfg.rewrite` is an arbitrary function here. -/
theorem tokenize_total (lv : LenV) (cfg : Cfg) (orig : List Nat)
    (rv : Variant) (bowFix : Bool) (tab : List (Nat × Nat))
    (hmk : ∀ chars, mkBufV rv bowFix tab chars = some (cfg.mkBuf chars))
    (hprov : cfg.providers ≠ [])
    (hregex : ∀ p ∈ cfg.providers, ∀ c, p = .regex c → c.skipEmpty = true)
    (hlexcost : ∀ w ∈ cfg.lex, I16 w.c)
    (hprovcost : ∀ p ∈ cfg.providers, ProviderCostOk p)
    (hconn : I16Conn cfg.conn)
    (hplug : ∀ p ∈ cfg.inputPlugins, ∀ t, NoPanic (p t))
    (hutf : ∀ l0 l, startBuild orig = some l0 → rewriteInput lv cfg.inputPlugins l0 = .ok l →
      Wire.utf8Decode (textOf l) ≠ none)
    (hbound : ∀ chars, Reaches lv cfg orig chars → chars.length ≤ 32767)
    (hrowsz : ∀ chars nodes, Reaches lv cfg orig chars → buildLattice cfg.providers cfg.lex (cfg.mkBuf chars) = .ok nodes →
      ∀ e, (nodes.map toVit).countP (fun n => n.e == e) ≤ 4294967295)
    (hrew : ∀ path, NoPanic (cfg.rewrite path))
    (hkeep : ∀ (nb : Nat) path path', (∀ q ∈ path, q.eb ≤ nb) → cfg.rewrite path = .ok path' →
      ∀ p ∈ path', p.1.eb ≤ nb) :
    NoPanic (tokenize .d6fix lv cfg orig) := by
  have hb := fun chars => mkBufV_ok rv bowFix tab chars (cfg.mkBuf chars) (hmk chars)
  refine tokenize_total_at_partial .d6fix lv cfg orig hplug hutf
    (fun chars _ => buildLattice_noPanic cfg.providers hprov hregex cfg.lex _ (hb chars).1)
    (fun chars _ => ⟨(hb chars).2.1, by rw [(hb chars).2.2]⟩)
    (fun chars nodes _ h => candidate_costs_i16 cfg.providers cfg.lex _ hlexcost hprovcost nodes h)
    hconn hbound hrowsz hrew (fun h => by cases h) (fun _ => hkeep)

/-- **`hrowsz` from two bounds of the configuration.**  If at every position `build_lattice` inserts at most `K`
candidates (`stepAt`), each beginning there and at most `L` characters long, then at most `K·L` candidates end at any
one boundary; with `K·L ≤ 65535` and a text of at most 65535 characters (so that the `as u16` casts of the node ends are
the identity) this implies the hypothesis `hrowsz` of `tokenize_total`.  (For configurations without MeCab provider
`K = |lexicon entries| + |providers| + 1` and `L` = the longest surface / regex `maxLength`: `rows_small` in
`Proofs/TotalRows.lean`, used for `totalCfg` in the example that follows.) -/
theorem rows_from_configuration_bounds (ps : List Provider) (lex : List Word) (buf : Buf) (K L : Nat)
    (hK : ∀ p new, stepAt ps lex buf p = .ok new → new.length ≤ K ∧ ∀ x ∈ new, x.b = p ∧ x.b < x.e ∧ x.e ≤ x.b + L)
    (hKL : K * L ≤ 65535) (hb : BufOk buf) (hn : buf.chars.length ≤ 65535)
    (nodes : List Oov.Node) (h : buildLattice ps lex buf = .ok nodes) (e : Nat) :
    (nodes.map toVit).countP (fun n => n.e == e) ≤ 65535 :=
  Nat.le_trans (buildLattice_rows ps lex buf K L hK hb hn nodes h e) hKL

/-! ### non-vacuity of `tokenize_total`: one configuration that satisfies all its hypotheses at once -/

/-- all hypotheses of `tokenize_total` (`hmk`, `hprov`, `hregex`, `hlexcost`, `hprovcost`, `hconn`, `hplug`, `hutf`,
`hbound`, `hrowsz`, `hrew`, `hkeep`) hold together for `totalCfg` on the text `ab` with either length guard; `Reaches`,
`I16`, `ProviderCostOk`, `SmallProvider` are inhabited on the way -/
example (lv : LenV) :
    (∀ chars, mkBufV .forward true [] chars = some (totalCfg.mkBuf chars)) ∧
    totalCfg.providers ≠ [] ∧
    (∀ p ∈ totalCfg.providers, ∀ c, p = .regex c → c.skipEmpty = true) ∧
    (∀ w ∈ totalCfg.lex, I16 w.c) ∧
    (∀ p ∈ totalCfg.providers, ProviderCostOk p) ∧
    I16Conn totalCfg.conn ∧
    (∀ p ∈ totalCfg.inputPlugins, ∀ t, NoPanic (p t)) ∧
    (∀ l0 l, startBuild [97, 98] = some l0 → rewriteInput lv totalCfg.inputPlugins l0 = .ok l →
      Wire.utf8Decode (textOf l) ≠ none) ∧
    Reaches lv totalCfg [97, 98] [97, 98] ∧
    (∀ chars, Reaches lv totalCfg [97, 98] chars → chars.length ≤ 32767) ∧
    (∀ chars nodes, Reaches lv totalCfg [97, 98] chars →
      buildLattice totalCfg.providers totalCfg.lex (totalCfg.mkBuf chars) = .ok nodes →
      ∀ e, (nodes.map toVit).countP (fun n => n.e == e) ≤ 65535) ∧
    (∀ path, NoPanic (totalCfg.rewrite path)) ∧
    (∀ (nb : Nat) path path', (∀ q ∈ path, q.eb ≤ nb) → totalCfg.rewrite path = .ok path' →
      ∀ p ∈ path', p.1.eb ≤ nb) := by
  have hmk : ∀ chars, mkBufV .forward true [] chars = some (totalCfg.mkBuf chars) :=
    fun chars => mkBufV_total .forward true [] (by simp [CharCat.fsts, CharCat.SInc]) chars
  have hdec : ∀ chars, Reaches lv totalCfg [97, 98] chars → chars = [97, 98] := by
    intro chars hr
    have h := totalCfg_reaches lv _ _ hr
    rw [utf8_ab] at h; cases h; rfl
  refine ⟨hmk, by simp [totalCfg], ?_, ?_, ?_, ?_, ?_, ?_, ?_, ?_, ?_, ?_, ?_⟩
  · intro p hp c hc
    simp only [totalCfg, List.mem_cons, List.not_mem_nil, or_false] at hp
    rcases hp with rfl | rfl
    · cases hc; rfl
    · cases hc
  · intro w hw
    simp only [totalCfg, List.mem_singleton] at hw
    subst hw; simp [I16]
  · intro p hp
    simp only [totalCfg, List.mem_cons, List.not_mem_nil, or_false] at hp
    rcases hp with rfl | rfl <;> simp [ProviderCostOk, I16]
  · intro a b; constructor <;> simp [totalCfg]
  · intro p hp t w h
    simp only [totalCfg, List.mem_singleton] at hp
    subst hp; cases h
  · intro l0 l h0 h1
    rw [totalCfg_rewriteInput lv l0 l h1, startBuild_text _ l0 h0, utf8_ab]
    exact Option.some_ne_none _
  · refine ⟨identFrom 0 [97, 98], identFrom 0 [97, 98], by decide, ?_, ?_⟩
    · simp [totalCfg, rewriteInput, commitV]
    · rw [textOf_identFrom]; exact utf8_ab
  · intro chars hr; rw [hdec chars hr]; decide
  · intro chars nodes hr h e
    have hb := mkBufV_ok .forward true [] chars _ (hmk chars)
    refine rows_small 8 _ _ _ hb.1 (by rw [hb.2.2, hdec chars hr]; decide) ?_ ?_ (by decide) nodes h e
    · intro p hp
      simp only [totalCfg, List.mem_cons, List.not_mem_nil, or_false] at hp
      rcases hp with rfl | rfl
      · show (8 : Nat) ≤ 8; omega
      · exact ⟨builtBuf_nil_bow .forward true chars, by omega⟩
    · intro w hw
      simp only [totalCfg, List.mem_singleton] at hw
      subst hw; simp
  · intro path w h; cases h
  · intro nb path path' hin h
    cases h
    exact forall_map_units _ path hin

/-- … and the analysis of `ab` with that configuration runs through every stage: two morphemes (`a` from the lexicon,
`b` from the Simple provider; the regex provider's empty match at `b` is skipped) -/
example : morphCount (tokenize .d6fix .final totalCfg [97, 98]) = some 2 := by
  rw [tokenize_eq_analyse _ _ _ _ (identFrom 0 [97, 98]) (identFrom 0 [97, 98]) [97, 98] (by decide) (by decide) utf8_ab
    (by decide)]
  decide

/-- non-vacuity of `lattice_builder_succeeds` / `lattice_builder_never_panics`: `totalCfg`'s providers end with the Simple
provider, its regex provider is the repaired one, and its buffer over `ab` is well formed -/
example : totalCfg.providers.getLast? = some (.simple ⟨0, 0, 100, 0⟩) ∧ (totalCfg.mkBuf [97, 98]).WF :=
  ⟨rfl, (mkBufV_ok .forward true [] [97, 98] _
    (mkBufV_total .forward true [] (by simp [CharCat.fsts, CharCat.SInc]) [97, 98])).1⟩

/-- `tokenize_total` for a configuration whose buffer is built over a COMPILED character definition
(`CharCat.compile rs`, any definition lines `rs`): the hypothesis `hmk` is replaced by the definitional equation
`hbuild`; that the class look-up never leaves the table is C17 (`CharCat.lookup_eq_denF`, `sinc_compile`). -/
theorem tokenize_total_compiled (lv : LenV) (cfg : Cfg) (orig : List Nat)
    (rv : Variant) (bowFix : Bool) (rs : List CharCat.CatRange)
    (hbuild : cfg.mkBuf = builtBuf rv bowFix (CharCat.compile rs))
    (hprov : cfg.providers ≠ [])
    (hregex : ∀ p ∈ cfg.providers, ∀ c, p = .regex c → c.skipEmpty = true)
    (hlexcost : ∀ w ∈ cfg.lex, I16 w.c)
    (hprovcost : ∀ p ∈ cfg.providers, ProviderCostOk p)
    (hconn : I16Conn cfg.conn)
    (hplug : ∀ p ∈ cfg.inputPlugins, ∀ t, NoPanic (p t))
    (hutf : ∀ l0 l, startBuild orig = some l0 → rewriteInput lv cfg.inputPlugins l0 = .ok l →
      Wire.utf8Decode (textOf l) ≠ none)
    (hbound : ∀ chars, Reaches lv cfg orig chars → chars.length ≤ 32767)
    (hrowsz : ∀ chars nodes, Reaches lv cfg orig chars → buildLattice cfg.providers cfg.lex (cfg.mkBuf chars) = .ok nodes →
      ∀ e, (nodes.map toVit).countP (fun n => n.e == e) ≤ 4294967295)
    (hrew : ∀ path, NoPanic (cfg.rewrite path))
    (hkeep : ∀ (nb : Nat) path path', (∀ q ∈ path, q.eb ≤ nb) → cfg.rewrite path = .ok path' →
      ∀ p ∈ path', p.1.eb ≤ nb) :
    NoPanic (tokenize .d6fix lv cfg orig) :=
  tokenize_total lv cfg orig rv bowFix (CharCat.compile rs)
    (fun chars => by rw [hbuild]; exact mkBufV_compile_total rv bowFix rs chars)
    hprov hregex hlexcost hprovcost hconn hplug hutf hbound hrowsz hrew hkeep

/-- **No input-text plugin, no path-rewrite plugin** (`hnoplug`, `hnorew`: the word-info look-up yields any per-node unit
table `units`): `hplug`, `hutf`, `hrew`, `hkeep` are not asked.  What remains besides the configuration hypotheses: the input
is valid UTF-8 (`hstr`: the `&str` type of the argument guarantees it), D7 (`hbound`, on the input itself) and `hrowsz`. -/
theorem tokenize_total_no_plugins (lv : LenV) (cfg : Cfg) (orig : List Nat)
    (rv : Variant) (bowFix : Bool) (tab : List (Nat × Nat)) (units : EditM.NodeRange → List Nat)
    (hnoplug : cfg.inputPlugins = [])
    (hnorew : cfg.rewrite = fun p => .ok (p.map (fun n => (n, units n))))
    (hmk : ∀ chars, mkBufV rv bowFix tab chars = some (cfg.mkBuf chars))
    (hprov : cfg.providers ≠ [])
    (hregex : ∀ p ∈ cfg.providers, ∀ c, p = .regex c → c.skipEmpty = true)
    (hlexcost : ∀ w ∈ cfg.lex, I16 w.c)
    (hprovcost : ∀ p ∈ cfg.providers, ProviderCostOk p)
    (hconn : I16Conn cfg.conn)
    (hstr : Wire.utf8Decode orig ≠ none)
    (hbound : ∀ chars, Wire.utf8Decode orig = some chars → chars.length ≤ 32767)
    (hrowsz : ∀ chars nodes, Wire.utf8Decode orig = some chars →
      buildLattice cfg.providers cfg.lex (cfg.mkBuf chars) = .ok nodes →
      ∀ e, (nodes.map toVit).countP (fun n => n.e == e) ≤ 4294967295) :
    NoPanic (tokenize .d6fix lv cfg orig) := by
  refine tokenize_total lv cfg orig rv bowFix tab hmk hprov hregex hlexcost hprovcost hconn ?_ ?_ ?_ ?_ ?_ ?_
  · intro p hp; rw [hnoplug] at hp; cases hp
  · intro l0 l h0 h1; rw [rewriteInput_nil_text lv cfg hnoplug orig l0 l h0 h1]; exact hstr
  · intro chars hr; exact hbound chars (reaches_nil lv cfg hnoplug orig chars hr)
  · intro chars nodes hr; exact hrowsz chars nodes (reaches_nil lv cfg hnoplug orig chars hr)
  · intro path w h; rw [hnorew] at h; cases h
  · intro nb path path' hin h
    rw [hnorew] at h
    cases h
    exact forall_map_units units path hin

/-! ## clause "succeeds within the limits" -/

/-- **`tokenize_succeeds`: within the cost bound `do_tokenize` returns morphemes or input-too-long, nothing else.**
With the fallback (Simple) provider LAST (`hlast`), the hypotheses of `tokenize_total` (tree with D6 repaired; either length
guard `lv`), and the plugins / the rewrite stage returning no error of their own (`hplugok`, `hrewok`, which replace `hplug`,
`hrew`), the outcome of `tokenize` is `ok r` or `err TooLong` — never a panic, never `EosBosDisconnect`:
* `build_lattice` cannot report it (C13 `lattice_never_disconnects`; `lattice_builder_succeeds`);
* `connect_eos` cannot report it under `hbound`: there the `i32` lattice is the unbounded lattice of C02 (every total is a
  REAL cost within `± 65536·e`, never the "not connected" sentinel: `C02.i32_lattice_eq_model`), whose `connect_eos` fails
  only if no chain of candidates covers the text (`C02.disconnected_iff`); every candidate begins at 0 or where another
  candidate ends (the `reachable` test of the position loop: `Oov.LatInv.node_ok`), they are inserted in order of begin
  (`Oov.buildFrom_sorted`), and the loop has reached the end of the text, so such a chain exists (`isChain_to`,
  `lattice_connects`).  Beyond `hbound` this is false: `cost_sentinel_counterexample` (D7b);
* `fill_top_path` and `resolve_best_path` return from the back-pointer `connect_eos` hands over (`bestPath_index`), the repaired
  `split_path` returns whatever the units are (`splitPath_d6fix_ok`): every stage returns, so the chain does (`analyse_ok`).
Moreover the input-too-long error comes from exactly two places (second conjunct): `start_build`, i.e. the input has more
than 49149 bytes (`start_build_limit`; conversely `tokenize_too_long`), or a `commit` of `rewrite_input`.  For the repaired
guard (`lv = final`) a commit of a non-empty `EditsOk` batch on a `Shape` buffer fails exactly when the rewritten text is
longer than 65535 bytes (`commit_final_too_long_iff`), so for `lv = final`: **`err TooLong` iff the input exceeds 49149 bytes
or a plugin's rewritten text exceeds 65535 bytes, `ok` otherwise** (within `hbound`).  For `lv = running` the commit may
also fail on a transient length (`commit_transient_counterexample`: finding).  Without input-text plugin:
`tokenize_succeeds_within_limits`. -/
theorem tokenize_succeeds (lv : LenV) (cfg : Cfg) (orig : List Nat)
    (rv : Variant) (bowFix : Bool) (tab : List (Nat × Nat)) (sc : SimpleCfg)
    (hlast : cfg.providers.getLast? = some (.simple sc))
    (hmk : ∀ chars, mkBufV rv bowFix tab chars = some (cfg.mkBuf chars))
    (hregex : ∀ p ∈ cfg.providers, ∀ c, p = .regex c → c.skipEmpty = true)
    (hlexcost : ∀ w ∈ cfg.lex, I16 w.c)
    (hprovcost : ∀ p ∈ cfg.providers, ProviderCostOk p)
    (hconn : I16Conn cfg.conn)
    (hplugok : ∀ p ∈ cfg.inputPlugins, ∀ t, ∃ es, p t = .ok es)
    (hutf : ∀ l0 l, startBuild orig = some l0 → rewriteInput lv cfg.inputPlugins l0 = .ok l →
      Wire.utf8Decode (textOf l) ≠ none)
    (hbound : ∀ chars, Reaches lv cfg orig chars → chars.length ≤ 32767)
    (hrowsz : ∀ chars nodes, Reaches lv cfg orig chars → buildLattice cfg.providers cfg.lex (cfg.mkBuf chars) = .ok nodes →
      ∀ e, (nodes.map toVit).countP (fun n => n.e == e) ≤ 4294967295)
    (hrewok : ∀ path, ∃ path', cfg.rewrite path = .ok path')
    (hkeep : ∀ (nb : Nat) path path', (∀ q ∈ path, q.eb ≤ nb) → cfg.rewrite path = .ok path' →
      ∀ p ∈ path', p.1.eb ≤ nb) :
    (∃ r, tokenize .d6fix lv cfg orig = .ok r) ∨
    (tokenize .d6fix lv cfg orig = .err "TooLong" ∧
      (orig.length > 49149 ∨ ∃ l0, startBuild orig = some l0 ∧ rewriteInput lv cfg.inputPlugins l0 = .err "TooLong")) := by
  have hb := fun chars => mkBufV_ok rv bowFix tab chars (cfg.mkBuf chars) (hmk chars)
  rcases tokenize_cases .d6fix lv cfg orig with
    ⟨h0, e⟩ | ⟨l0, h0, ⟨k, h1, e⟩ | ⟨w, h1, _⟩ | ⟨l, h1, ⟨h2, _⟩ | ⟨_, e⟩ | ⟨chars, h2, hne, e⟩⟩⟩
  · exact Or.inr ⟨e, Or.inl ((start_build_limit orig).1 h0)⟩
  · obtain rfl := rewriteInput_err lv _ l0 hplugok k h1
    exact Or.inr ⟨e, Or.inr ⟨l0, h0, h1⟩⟩
  · refine absurd h1 (rewriteInput_noPanic lv _ l0 (fun p hp t w' h => ?_) w)
    obtain ⟨es, he⟩ := hplugok p hp t
    rw [he] at h; cases h
  · exact absurd h2 (hutf l0 l h0 h1)
  · exact Or.inl ⟨_, e⟩
  · have hr : Reaches lv cfg orig chars := ⟨l0, l, h0, h1, h2⟩
    obtain ⟨ms, ha⟩ := analyse_ok cfg l chars hne (hbound chars hr) (utf8Decode_length_le _ _ chars (Nat.le_refl _) h2)
      sc hlast hregex (hb chars).1 (by rw [(hb chars).2.2]) hconn (candidate_costs_i16 _ _ _ hlexcost hprovcost)
      (fun nodes => hrowsz chars nodes hr)
      fun path hin => let ⟨path', h8⟩ := hrewok path; ⟨path', h8, hkeep _ path path' hin h8⟩
    exact Or.inl ⟨_, e.trans ha⟩

/-- **Within the limits the analysis succeeds** (no input-text plugin, so the only length limit is the first one): an input
of at most 49149 bytes — valid UTF-8 (`hstr`), at most 32767 characters (`hbound`, D7) — is analysed into morphemes:
`tokenize` returns `ok`.  (Beyond 49149 bytes: `tokenize_too_long`.) -/
theorem tokenize_succeeds_within_limits (lv : LenV) (cfg : Cfg) (orig : List Nat)
    (rv : Variant) (bowFix : Bool) (tab : List (Nat × Nat)) (sc : SimpleCfg)
    (hlast : cfg.providers.getLast? = some (.simple sc))
    (hnoplug : cfg.inputPlugins = [])
    (hmk : ∀ chars, mkBufV rv bowFix tab chars = some (cfg.mkBuf chars))
    (hregex : ∀ p ∈ cfg.providers, ∀ c, p = .regex c → c.skipEmpty = true)
    (hlexcost : ∀ w ∈ cfg.lex, I16 w.c)
    (hprovcost : ∀ p ∈ cfg.providers, ProviderCostOk p)
    (hconn : I16Conn cfg.conn)
    (hlimit : orig.length ≤ 49149)
    (hstr : Wire.utf8Decode orig ≠ none)
    (hbound : ∀ chars, Wire.utf8Decode orig = some chars → chars.length ≤ 32767)
    (hrowsz : ∀ chars nodes, Wire.utf8Decode orig = some chars →
      buildLattice cfg.providers cfg.lex (cfg.mkBuf chars) = .ok nodes →
      ∀ e, (nodes.map toVit).countP (fun n => n.e == e) ≤ 4294967295)
    (hrewok : ∀ path, ∃ path', cfg.rewrite path = .ok path')
    (hkeep : ∀ (nb : Nat) path path', (∀ q ∈ path, q.eb ≤ nb) → cfg.rewrite path = .ok path' →
      ∀ p ∈ path', p.1.eb ≤ nb) :
    ∃ r, tokenize .d6fix lv cfg orig = .ok r := by
  rcases tokenize_succeeds lv cfg orig rv bowFix tab sc hlast hmk hregex hlexcost hprovcost hconn
    (fun p hp => by rw [hnoplug] at hp; cases hp)
    (fun l0 l h0 h1 => by rw [rewriteInput_nil_text lv cfg hnoplug orig l0 l h0 h1]; exact hstr)
    (fun chars hr => hbound chars (reaches_nil lv cfg hnoplug orig chars hr))
    (fun chars nodes hr => hrowsz chars nodes (reaches_nil lv cfg hnoplug orig chars hr))
    hrewok hkeep with h | ⟨_, h | ⟨l0, _, h1⟩⟩
  · exact h
  · omega
  · rw [hnoplug, rewriteInput_nil] at h1; cases h1

/-- non-vacuity of the hypotheses `tokenize_succeeds` / `tokenize_succeeds_within_limits` add: `totalCfg` has the
Simple provider last (`hlast`), its plugin and its rewrite stage return no error (`hplugok`, `hrewok`); `totalCfg`
with its plugin list emptied has none (`hnoplug`) — the other hypotheses are those of `tokenize_total`, satisfied by `totalCfg` on `ab`
(example above), where the analysis indeed returns `ok` (two morphemes, example above) -/
example : totalCfg.providers.getLast? = some (.simple ⟨0, 0, 100, 0⟩) ∧
    (∀ p ∈ totalCfg.inputPlugins, ∀ t, ∃ es, p t = .ok es) ∧
    (∀ path, ∃ path', totalCfg.rewrite path = .ok path') ∧
    ({ totalCfg with inputPlugins := [] } : Cfg).inputPlugins = [] ∧ ([97, 98] : List Nat).length ≤ 49149 := by
  refine ⟨rfl, ?_, fun path => ⟨_, rfl⟩, rfl, by decide⟩
  intro p hp t
  simp only [totalCfg, List.mem_singleton] at hp
  subst hp
  exact ⟨[], rfl⟩

/-! ## clause "every accessor of every returned morpheme is safe to call": the morphemes of a result -/

/-- The full statement — *for every morpheme `m` of an `ok` result, `access orig r.tables m` (`begin`, `end`, `begin_c`,
`end_c`, `surface`) does not panic* — is `morpheme_access_total` below (from `C01.tokens_partition_original`).  This
weaker theorem needs fewer hypotheses (no `horig`, no `PluginOk`, any rewrite stage that keeps offsets inside the text).
Proved here (partial): **`begin()`/`end()` (`morphRangeC`:
`mod_c2b` then `m2o`) and the byte route of `surface()` (`morphRangeB`: `m2o[begin_bytes]..m2o[end_bytes]`) are defined for
every morpheme of the result**, and `begin`/`end` lie inside the original text — because all four offsets of every morpheme
lie inside the rewritten text (`InText`): the nodes of `resolve_best_path` do (`lattice_index_in_range`,
`resultNode_inText`), the rewrite stage keeps that (`hkeepall`: every offset of an output node is an offset of an input node,
C14 `boundaries_subset`), and the repaired split iterator only produces offsets read from `mod_b2c`/`mod_c2b` or taken from
the parent (`splitPath_d6fix_inText`, for ANY unit lengths).  `hinv` is the C08 invariant of the result's offset map
(`C08.m2o_inv`; without plugin `EditM.ident_inv`).  Not covered here: `begin_c`/`end_c` (`to_orig_char_idx`: the `m2o`
image of a character start is a character start of the original) and the slice `&original[a..b]` (`a ≤ b` on character
boundaries: needs the units to begin/end on character starts, `split_d6fix_units_inside_parent`, and the rewrite stage to
keep `begin ≤ end`): see `morpheme_access_total`. -/
theorem morpheme_offsets_defined_partial (lv : LenV) (cfg : Cfg) (orig : List Nat)
    (rv : Variant) (bowFix : Bool) (tab : List (Nat × Nat))
    (hmk : ∀ chars, mkBufV rv bowFix tab chars = some (cfg.mkBuf chars))
    (hbound : ∀ chars, Reaches lv cfg orig chars → chars.length ≤ 32767)
    (hrowsz : ∀ chars nodes, Reaches lv cfg orig chars → buildLattice cfg.providers cfg.lex (cfg.mkBuf chars) = .ok nodes →
      ∀ e, (nodes.map toVit).countP (fun n => n.e == e) ≤ 4294967295)
    (hkeepall : ∀ (t : List Nat) path path', (∀ q ∈ path, InText t q) → cfg.rewrite path = .ok path' →
      ∀ p ∈ path', InText t p.1)
    (r : Result) (h : tokenize .d6fix lv cfg orig = .ok r)
    {st : Nat → Bool} {Bo : Nat → Prop} {N : Nat} (hinv : Inv st Bo N r.tables) :
    ∀ m ∈ r.morphs, InText (textOf r.tables) m ∧
      (∃ b e, morphRangeC r.tables m = some (b, e) ∧ b ≤ N ∧ e ≤ N) ∧ (∃ b e, morphRangeB r.tables m = some (b, e)) := by
  have key : ∀ m ∈ r.morphs, InText (textOf r.tables) m := by
    obtain ⟨l0, l, chars, h0, h1, h2, ⟨_, rfl⟩ | ⟨hne, ha⟩⟩ := tokenize_eq_ok .d6fix lv cfg orig r h
    · intro m hm; cases hm
    · have hr : Reaches lv cfg orig chars := ⟨l0, l, h0, h1, h2⟩
      have hb := mkBufV_ok rv bowFix tab chars (cfg.mkBuf chars) (hmk chars)
      have hlen := hbound chars hr
      obtain ⟨nodes, rows, ents, c, pe, pi, es, path, path', ms, h3, h4, h5, h6, h7, h8, h9, rfl⟩ :=
        analyse_eq_ok .d6fix cfg l chars r ha
      have hin := buildLattice_cand cfg.providers cfg.lex (cfg.mkBuf chars) hb.2.1 nodes h3
      rw [hb.2.2] at hin
      have hnodes := toVit_inside chars.length (by omega) nodes hin
      have hnc := utf8Decode_length_le _ (textOf l) chars (Nat.le_refl _) h2
      obtain ⟨es', g6, hes, _⟩ := C03.lattice_index_in_range addI32 cfg.conn chars.length
        ⟨List.length_pos_iff.mpr hne, by omega⟩ (nodes.map toVit) hnodes (hrowsz chars nodes hr h3) rows ents c pe pi h4 h5
        (textOf l) hnc
      rw [h6] at g6; cases g6
      have hpath : ∀ q ∈ path, InText (textOf l) q := by
        intro q hq
        obtain ⟨ent, hent, hf⟩ := mapM_mem _ es path h7 q hq
        obtain ⟨a1, a2⟩ := hes ent hent
        exact resultNode_inText (textOf l) ent q hf (by omega) (by omega)
      exact splitPath_d6fix_inText (textOf l) (nchars_pos_of_utf8 (textOf l) chars h2 hne) path' ms h9
        (hkeepall (textOf l) path path' hpath h8)
  intro m hm
  obtain ⟨k1, k2, k3, k4⟩ := key m hm
  exact ⟨⟨k1, k2, k3, k4⟩, C03.morph_range_defined r.tables hinv m k1 k2, C03.morph_range_bytes_defined r.tables hinv m k3 k4⟩

/-- non-vacuity of `hkeepall` and `hinv`: `totalCfg`'s rewrite stage keeps every offset, and the offset map of its
result on `ab` (no edit) is the identity map, which satisfies the C08 invariant (`EditM.ident_inv`) -/
example : (∀ (t : List Nat) path path', (∀ q ∈ path, InText t q) → totalCfg.rewrite path = .ok path' →
      ∀ p ∈ path', InText t p.1) ∧
    Inv isStart (BoOf [97, 98]) 2 (identFrom 0 [97, 98]) := by
  refine ⟨?_, ident_inv [97, 98] (by simp)⟩
  intro t path path' hin h
  cases h
  exact forall_map_units _ path hin

/-! ### the configuration the driver EXECUTES (op `pipe`) is in the scope of `tokenize_total` -/

/-- the bundled input-text plugins as the driver instantiates them (`TotalIO.plugin`: C07's `defaultEdits` / `psmEdits` /
`yomiEdits` turned into byte edits) return edits or an error, never a panic — `hplug` for the executed configuration -/
theorem pipe_plugins_never_panic (a : Array Normalize.Fact) (S : Normalize.Setup) (p : Char) (t : List Nat) :
    NoPanic (TotalIO.plugin a S p t) := by
  intro w h
  unfold TotalIO.plugin at h
  split at h
  · cases h
  · split at h <;> cases h

/-- **`tokenize_total` for the configuration of a `C03 pipe` case line** (`TotalIO.mkCfg`: what `Model/TotalIO.lean` builds
from the line and hands to `Total.tokenize`, so the theorem and the correspondence run are about the SAME instance of the
SAME function).  Discharged for this instance: `hmk` (the buffer is `mkBufV` over the compiled `char.def`:
`mkBufV_compile_total`), `hrew`, `hkeep` (word-info look-up without path-rewrite plugin) and, with
`pipe_plugins_never_panic`, `hplug`.  What remains are the facts about the shipped dictionary/configuration (`hprov`,
`hregex`, `hlexcost`, `hprovcost`, `hconn` — all decidable on a case line), `hutf`, and the two genuine bounds `hbound` (D7)
and `hrowsz`. -/
theorem pipe_configuration_total (lv : LenV) (orig : List Nat)
    (plugins : List (List Nat → Outcome (List (Edit Nat)))) (rv : Variant) (bowFix : Bool)
    (rs : List CharCat.CatRange) (ps : List Provider) (lex : List Word) (conn : Nat → Nat → Int)
    (units : EditM.NodeRange → List Nat)
    (hprov : ps ≠ [])
    (hregex : ∀ p ∈ ps, ∀ c, p = .regex c → c.skipEmpty = true)
    (hlexcost : ∀ w ∈ lex, I16 w.c)
    (hprovcost : ∀ p ∈ ps, ProviderCostOk p)
    (hconn : I16Conn conn)
    (hplug : ∀ p ∈ plugins, ∀ t, NoPanic (p t))
    (hutf : ∀ l0 l, startBuild orig = some l0 → rewriteInput lv plugins l0 = .ok l → Wire.utf8Decode (textOf l) ≠ none)
    (hbound : ∀ chars, Reaches lv (TotalIO.mkCfg plugins rv bowFix rs ps lex conn units) orig chars → chars.length ≤ 32767)
    (hrowsz : ∀ chars nodes, Reaches lv (TotalIO.mkCfg plugins rv bowFix rs ps lex conn units) orig chars →
      buildLattice ps lex (TotalIO.mkBufOf rv bowFix (CharCat.compile rs) chars) = .ok nodes →
      ∀ e, (nodes.map toVit).countP (fun n => n.e == e) ≤ 4294967295) :
    NoPanic (tokenize .d6fix lv (TotalIO.mkCfg plugins rv bowFix rs ps lex conn units) orig) := by
  refine tokenize_total_compiled lv _ orig rv bowFix rs (funext (mkBufOf_compile rv bowFix rs)) hprov hregex hlexcost hprovcost hconn hplug hutf hbound
    hrowsz ?_ ?_
  · intro path w h
    cases h
  · intro nb path path' hin h
    cases h
    exact forall_map_units units path hin

/-- non-vacuity: a `pipe` configuration (no plugin, compiled empty `char.def`, Simple provider, one word) analyses `ab`
into two morphemes through `TotalIO.mkCfg` -/
example : morphCount (tokenize .d6fix .final
    (TotalIO.mkCfg [] .forward true [] [.simple ⟨0, 0, 100, 0⟩] [⟨[97], 0, 0, 5⟩] (fun _ _ => 10) (fun _ => [])) [97, 98]) = some 2 := by
  rw [tokenize_eq_analyse _ _ _ _ (identFrom 0 [97, 98]) (identFrom 0 [97, 98]) [97, 98] (by decide) rfl utf8_ab (by decide)]
  decide

/-! ### clause "never … overflows", "every accessor … is safe": `MorphemeList::get_internal_cost` -/

/-- **Finding NEW-3 (`get_internal_cost` overflows, DESIGN.md) on the model (variant `max` = the pinned code).**  `get_internal_cost` = `last.total_cost() - first.total_cost()`
in `i32`, and a node made by `NodeSplitIterator` reports `i32::MAX`: for the path `東` (total −290) + `京都` (total −230,
A-split into two units) in mode A the subtraction `i32::MAX − (−290)` overflows (`none` = `attempt to subtract with
overflow`; directed case `internal-cost-split` replays it on the real list); in mode C (no unit table) and for the repaired
tree (variant `parent`: units report the total of the word they come from) the same path gives −230 − (−290) = 60. -/
theorem internal_cost_overflow_counterexample :
    TotalIO.internalCostV true false [((0, 1), []), ((1, 3), [3, 3])] ⟨⟨0, 1, 0, 0, -300⟩, -290, 0, 0⟩ ⟨⟨1, 3, 0, 0, 50⟩, -230, 0, 0⟩ = none ∧
    TotalIO.internalCostV true false [((0, 1), []), ((1, 3), [])] ⟨⟨0, 1, 0, 0, -300⟩, -290, 0, 0⟩ ⟨⟨1, 3, 0, 0, 50⟩, -230, 0, 0⟩ = some 60 ∧
    TotalIO.internalCostV true true [((0, 1), []), ((1, 3), [3, 3])] ⟨⟨0, 1, 0, 0, -300⟩, -290, 0, 0⟩ ⟨⟨1, 3, 0, 0, 50⟩, -230, 0, 0⟩ = some 60 := by
  refine ⟨by decide, by decide, by decide⟩

/-- **The repaired accessor (variant `parent`) does not overflow inside the cost bound.**  When split units report the
total of their parent, `get_internal_cost` subtracts two lattice totals.  The first path node is connected to BOS by one
step, so its total is one connection cost plus one word cost (`hf`: within ±65536, both `i16`); the last one ends at
`len ≤ 32766` characters and is within ±65536·len by `RowsInv` (`hl`, cf. `cost_no_overflow_partial`).  Then the checked
subtraction succeeds, whatever the unit table is.  (For `len = 32767` the bound `65536·32767 + 65536 = 2^31` is one too
large: the hypothesis is `len ≤ 32766`.) -/
theorem internal_cost_inherit_in_range (tab : List ((Nat × Nat) × List Nat)) (f l : Entry) (len : Nat) (hlen : len ≤ 32766)
    (hf : -65536 ≤ f.total ∧ f.total ≤ 65536)
    (hl : -(65536 * (len : Int)) ≤ l.total ∧ l.total ≤ 65536 * (len : Int)) :
    ∃ v, TotalIO.internalCostV true true tab f l = some v ∧ v = l.total - f.total := by
  refine ⟨l.total - f.total, ?_, rfl⟩
  have h1 : (len : Int) ≤ 32766 := by omega
  have e1 : TotalIO.unitTotal true tab l = l.total := by simp [TotalIO.unitTotal]
  have e2 : TotalIO.unitTotal true tab f = f.total := by simp [TotalIO.unitTotal]
  unfold TotalIO.internalCostV
  rw [e1, e2]
  unfold addP addW I32_MAX
  rw [if_pos rfl, if_pos (by constructor <;> omega)]
  rfl

/-- non-vacuity of `hf`/`hl`: the totals of the directed path (−290 after one step, −230 at the end of three characters) -/
example : (-65536 ≤ (-290 : Int) ∧ (-290 : Int) ≤ 65536) ∧ (-(65536 * ((3 : Nat) : Int)) ≤ (-230 : Int) ∧ (-230 : Int) ≤ 65536 * ((3 : Nat) : Int)) := by
  omega

/-! ### non-vacuity of the composition lemmas: a second configuration, with a hand-written buffer -/

/-- a configuration without plugins, a one-word lexicon and the Simple provider last, over a buffer written out by hand (every
character of class 1, run length 1, word start); the examples that follow use it -/
def exampleCfg : Cfg :=
  { inputPlugins := [], mkBuf := fun cs => ⟨cs, cs.map (fun _ => 1), cs.map (fun _ => 1), cs.map (fun _ => true)⟩,
    providers := [.simple ⟨0, 0, 100, 0⟩], lex := [⟨[97], 0, 0, 5⟩], conn := fun _ _ => 10,
    rewrite := fun p => .ok (p.map (fun n => (n, []))) }

/-- non-vacuity of `ProviderCostOk` for a MeCab provider (one class, one `unk.def` line of cost 300), of the equation
`hbuild` of `tokenize_total_compiled` (a configuration over the compiled empty definition) and of `hnoplug`/`hnorew`/`hstr`
of `tokenize_total_no_plugins` (`exampleCfg` has no plugin; `ab` decodes) -/
example : ProviderCostOk (.mecab ⟨[(1, ⟨1, true, false, 2⟩)], [(1, [⟨0, 0, 300, 0⟩])], false⟩) ∧
    ({ totalCfg with mkBuf := builtBuf .forward true (CharCat.compile []) } : Cfg).mkBuf
      = builtBuf .forward true (CharCat.compile []) ∧
    exampleCfg.inputPlugins = [] ∧
    exampleCfg.rewrite = (fun p => .ok (p.map (fun n => (n, (fun _ => ([] : List Nat)) n)))) ∧
    Wire.utf8Decode [97, 98] ≠ none := by
  refine ⟨?_, rfl, rfl, rfl, by rw [utf8_ab]; simp⟩
  intro kv hkv d hd
  simp only [List.mem_singleton] at hkv
  subst hkv
  simp only [List.mem_singleton] at hd
  subst hd
  simp [I16]

/-- non-vacuity of `hbuf`: the example configuration's buffer has the shape `BufOk` -/
example : ∀ chars, BufOk (exampleCfg.mkBuf chars) ∧ (exampleCfg.mkBuf chars).chars.length = chars.length := by
  intro chars
  refine ⟨⟨by simp [exampleCfg], by simp [exampleCfg], ?_⟩, by simp [exampleCfg]⟩
  intro o c h
  simp only [exampleCfg, List.getElem?_map] at h
  cases hc : chars[o]? with
  | none => rw [hc] at h; cases h
  | some v =>
    rw [hc] at h; simp only [Option.map_some, Option.some.injEq] at h
    have := (List.getElem?_eq_some_iff.mp hc).1
    simp only [exampleCfg]; omega

/-- non-vacuity of `hrowsz` / `hcost` on the example: the candidates over `a` -/
example : (match buildLattice exampleCfg.providers exampleCfg.lex (exampleCfg.mkBuf [97]) with
    | .ok nodes => decide ((nodes.map toVit).countP (fun n => n.e == 1) ≤ 65535) && nodes.all (fun x => decide (-32768 ≤ x.c ∧ x.c ≤ 32767)) && !nodes.isEmpty
    | _ => false) = true := by decide

/-- non-vacuity of `hkeep`: the example configuration's path rewrite keeps byte ends inside the text -/
example : ∀ (nb : Nat) path path', (∀ q ∈ path, q.eb ≤ nb) → exampleCfg.rewrite path = .ok path' →
    ∀ p ∈ path', p.1.eb ≤ nb := by
  intro nb path path' hin h
  cases h
  exact forall_map_units _ path hin

example : morphCount (tokenize .d6fix .final exampleCfg [97]) = some 1 ∧ morphCount (tokenize .d6fix .running exampleCfg []) = some 0 ∧
    morphCount (tokenize .cur .running exampleCfg [97]) = some 1 := by
  have ha : Wire.utf8Decode (textOf (identFrom 0 [97])) = some [97] := by simp [Wire.utf8Decode, textOf, identFrom]
  refine ⟨?_, ?_, ?_⟩
  · rw [tokenize_eq_analyse _ _ _ _ (identFrom 0 [97]) (identFrom 0 [97]) [97] (by decide) rfl ha (by decide)]
    decide
  · simp [tokenize, startBuild, MAX_LENGTH, identFrom, exampleCfg, rewriteInput, textOf, Wire.utf8Decode, morphCount]
  · rw [tokenize_eq_analyse _ _ _ _ (identFrom 0 [97]) (identFrom 0 [97]) [97] (by decide) rfl ha (by decide)]
    decide

/-! ## the provider side: what the bundled OOV providers put into the lattice -/

/-- **Contract of the bundled OOV providers** (`MeCabOovPlugin`, `SimpleOovPlugin`, `RegexOovProvider` with the
empty-match guard of the tree — `hrx`; for the pinned regex provider see `regex_empty_match_counterexample`).  Asked at a
position `o` inside a buffer as `InputBuffer::build` produces it (`Buf.WF`), with ANY `created` mask and ANY node buffer,
`provide_oov` neither panics nor returns an error, and every node it returns
* begins at the asked position, is non-empty and ends inside the text (positions are character indices, so the end is a
  character boundary by construction),
* is an OOV node,
* carries one of the (left id, right id, cost, POS id) quadruples the provider was configured with (`providerDefs`: the
  `unk.def` lines / the `leftId, rightId, cost, oovPOS` settings) — hence everything the loader validated about those
  quadruples (`V`: ids against the matrix, cost an `i16`, POS id inside the POS table) holds for the node. -/
theorem bundled_provider_contract (p : Provider) (hrx : ∀ c, p = .regex c → c.skipEmpty = true) (buf : Buf) (hwf : buf.WF)
    (o : Nat) (ho : o < buf.chars.length) (created : Nat) (existing : List Oov.Node)
    (V : OovDef → Prop) (hV : ∀ d ∈ providerDefs p, V d) :
    NoPanic (provide p buf o created existing) ∧ (∀ k, provide p buf o created existing ≠ .err k) ∧
    ∀ nodes, provide p buf o created existing = .ok nodes →
      ∀ x ∈ nodes, x.b = o ∧ x.b < x.e ∧ x.e ≤ buf.chars.length ∧ x.oov = true ∧ defOf x ∈ providerDefs p ∧ V (defOf x) := by
  refine ⟨provide_noPanic p hrx buf hwf o ho created existing, fun k => provide_ne_err p buf o created existing k, ?_⟩
  intro nodes h x hx
  obtain ⟨a1, a2, a3⟩ := provide_ok p buf o created existing nodes hwf ho h x hx
  obtain ⟨b1, b2⟩ := provide_fields p buf o created existing nodes h x hx
  exact ⟨a1, by omega, a3, b1, b2, hV _ b2⟩

/-- non-vacuity: a MeCab provider (class 1 grouped, one `unk.def` line) at position 0 of `ab` (one run of two characters)
returns the grouped node and the one-character node, both with the configured quadruple `(3, 4, 300, 7)`; the buffer is
well formed; the validated fact `V` = "ids below 10, `i16` cost, POS below 8" -/
example : (provide (.mecab ⟨[(1, ⟨1, true, true, 1⟩)], [(1, [⟨3, 4, 300, 7⟩])], true⟩) ⟨[97, 98], [1, 1], [2, 1], [true, true]⟩ 0 0 []
      = .ok [⟨0, 2, 3, 4, 300, true, 7⟩, ⟨0, 1, 3, 4, 300, true, 7⟩]) ∧
    (⟨[97, 98], [1, 1], [2, 1], [true, true]⟩ : Buf).WF ∧
    (∀ d ∈ providerDefs (.mecab ⟨[(1, ⟨1, true, true, 1⟩)], [(1, [⟨3, 4, 300, 7⟩])], true⟩), d.l < 10 ∧ d.r < 10 ∧ I16 d.c ∧ d.pos < 8) := by
  refine ⟨by decide, ⟨rfl, rfl, rfl, ?_⟩, ?_⟩
  · intro i c h
    match i, h with
    | 0, h => simp at h; subst h; simp
    | 1, h => simp at h; subst h; simp
    | i + 2, h => simp at h
  · intro d hd
    simp only [providerDefs, List.flatMap_cons, List.flatMap_nil, List.append_nil, List.mem_singleton] at hd
    subst hd; simp [I16]

/-- **Every node of the lattice is sourced**: a node `build_lattice` inserts is either a dictionary word with the ids and
the cost of a lexicon row, or an OOV node carrying a configured quadruple of a configured provider — so connection ids
validated at load (`L` for lexicon rows: C06; `V` for provider settings: C20) are the only ids `connect_node` ever feeds
to the connection matrix, and the POS id an OOV morpheme reports (`part_of_speech_id`, the index `part_of_speech()` uses
into the POS table) is a configured one. -/
theorem lattice_nodes_validated (ps : List Provider) (lex : List Word) (buf : Buf) (nodes : List Oov.Node)
    (h : buildLattice ps lex buf = .ok nodes)
    (L : Nat → Nat → Int → Prop) (hL : ∀ w ∈ lex, L w.l w.r w.c)
    (V : OovDef → Prop) (hV : ∀ p ∈ ps, ∀ d ∈ providerDefs p, V d) :
    ∀ x ∈ nodes, (x.oov = false ∧ L x.l x.r x.c) ∨ (x.oov = true ∧ V (defOf x)) := by
  intro x hx
  rcases buildLattice_sourced ps lex buf nodes h x hx with ⟨a, w, hw, e1, e2, e3⟩ | ⟨a, p, hp, hd⟩
  · exact Or.inl ⟨a, by rw [e1, e2, e3]; exact hL w hw⟩
  · exact Or.inr ⟨a, hV p hp _ hd⟩

/-! ## the composition with ONE rewrite hypothesis, asked only of the path that is reached -/

open Partition in
/-- **`tokenize_total_path`: `do_tokenize` never panics — the rewrite stage enters through ONE hypothesis asked only of
token lists that can reach it.**  In `tokenize_total` the rewrite stage has two hypotheses over ALL node lists (`hrew`: no
panic, `hkeep`: byte ends stay inside the text).  Here `hrew` is asked only of a path that satisfies `Partition.PathOk`
(tokens laid end to end from `(0,0)` to `(#characters, #bytes)` of the rewritten text, each running forward and beginning
and ending on character starts — proved of the path `resolve_best_path` hands over: `topPath_chain`, `resultNodes_tiles`),
and it says: the stage does not panic on it and returns a `PathOk` list (for every stack of bundled path-rewrite plugins the
second half is a theorem: `C01.rewrite_stack_tiles`; see `tokenize_total_bundled`).  `hkeep` is not asked: a `PathOk` list ends
inside the text.  Input side: `horig`/`hplug` as in `C01.tokens_partition_original` (`PluginOk`: sorted in-range edits on
character starts) + `hplugnp` (no panic), `hutf` in the form "the rewritten text decodes to as many characters as it has
character starts".  Remaining bounds: `hbound` (D7), `hrowsz` (see `rows_from_row_cap`). -/
theorem tokenize_total_path (lv : LenV) (cfg : Cfg) (orig : List Nat) (horig : BoOf orig 0)
    (hplug : ∀ p ∈ cfg.inputPlugins, PluginOk orig p)
    (hplugnp : ∀ p ∈ cfg.inputPlugins, ∀ t, NoPanic (p t))
    (hutf : ∀ l0 l, startBuild orig = some l0 → rewriteInput lv cfg.inputPlugins l0 = .ok l →
      ∃ chars, Wire.utf8Decode (textOf l) = some chars ∧ chars.length = nchars (textOf l))
    (rv : Variant) (bowFix : Bool) (tab : List (Nat × Nat))
    (hmk : ∀ chars, mkBufV rv bowFix tab chars = some (cfg.mkBuf chars))
    (hprov : cfg.providers ≠ [])
    (hregex : ∀ p ∈ cfg.providers, ∀ c, p = .regex c → c.skipEmpty = true)
    (hlexcost : ∀ w ∈ cfg.lex, I16 w.c)
    (hprovcost : ∀ p ∈ cfg.providers, ProviderCostOk p)
    (hconn : I16Conn cfg.conn)
    (hbound : ∀ chars, Reaches lv cfg orig chars → chars.length ≤ 32767)
    (hrowsz : ∀ chars nodes, Reaches lv cfg orig chars → buildLattice cfg.providers cfg.lex (cfg.mkBuf chars) = .ok nodes →
      ∀ e, (nodes.map toVit).countP (fun n => n.e == e) ≤ 4294967295)
    (hrew : ∀ (tb2c tc2b : List Nat) (nc nb : Nat) path, PathOk tb2c tc2b nc nb path →
      NoPanic (cfg.rewrite path) ∧
      ∀ path', cfg.rewrite path = .ok path' → PathOk tb2c tc2b nc nb (path'.map (·.1))) :
    NoPanic (tokenize .d6fix lv cfg orig) := by
  refine tokenize_noPanic_of .d6fix lv cfg orig hplugnp
    (fun l0 l h0 h1 => by obtain ⟨cs, hc, _⟩ := hutf l0 l h0 h1; rw [hc]; exact Option.some_ne_none cs)
    fun l0 l chars h0 h1 h2 hne => ?_
  obtain ⟨_, hnb⟩ := rewriteInput_inv lv orig horig cfg.inputPlugins l0 l hplug (startBuild_bufInv orig l0 h0) h1
  obtain ⟨chars', h2', hnc⟩ := hutf l0 l h0 h1
  rw [h2] at h2'; cases h2'
  have hr : Reaches lv cfg orig chars := ⟨l0, l, h0, h1, h2⟩
  have hb := mkBufV_ok rv bowFix tab chars (cfg.mkBuf chars) (hmk chars)
  obtain ⟨htab, hbo0⟩ := tablesOk_of_utf8 (textOf l) chars h2 hne
  refine analyse_noPanic .d6fix cfg l chars hne (hbound chars hr) (Nat.le_of_eq hnc)
    (buildLattice_noPanic cfg.providers hprov hregex cfg.lex _ hb.1) hb.2.1 (by rw [hb.2.2]) hconn
    (candidate_costs_i16 cfg.providers cfg.lex _ hlexcost hprovcost) (fun nodes => hrowsz chars nodes hr)
    fun rows c pi es path hpinv h4 h5 h7 => ?_
  have hpath := bestPath_pathOk addI32 cfg.conn (textOf l) htab hbo0 hnb chars.length hnc (List.length_pos_iff.mpr hne)
    rows hpinv c _ pi h4 es h5 path h7
  obtain ⟨hnp, hpres⟩ := hrew _ _ _ _ path hpath
  refine ⟨hnp, fun path' h8 => ?_⟩
  obtain ⟨_, u2⟩ := hpres path' h8
  exact splitPath_d6fix_noPanic (textOf l) (nchars_pos_of_utf8 (textOf l) chars h2 hne) path'
    fun p hp => (c2b_getElem_boOf (u2 p.1 (List.mem_map.mpr ⟨p, hp, rfl⟩)).2.2.2.2).2

/-- non-vacuity of `hrew` of `tokenize_total_path`: the rewrite stage without plugin (every node keeps its range, any unit table)
satisfies `hrew` of `tokenize_total_path`; `Partition.partCfg`/`Partition.bang_ok` inhabit `PluginOk` (C01) -/
example (units : EditM.NodeRange → List Nat) :
    ∀ (tb2c tc2b : List Nat) (nc nb : Nat) path, Partition.PathOk tb2c tc2b nc nb path →
      NoPanic (TotalIO.rewriteOf units path) ∧
      ∀ path', TotalIO.rewriteOf units path = .ok path' → Partition.PathOk tb2c tc2b nc nb (path'.map (·.1)) := by
  intro tb2c tc2b nc nb path hp
  refine ⟨fun w h => (by cases h), ?_⟩
  intro path' h
  cases h
  rw [map_fst_map_units]
  exact hp

/-- the `Total.Cfg` of a configuration made of BUNDLED components: any input-text plugin functions, the buffer over a
compiled `char.def`, a non-empty list of bundled OOV providers (`b :: bs`: the loader refuses an empty list —
`NoOOVPluginProvided`), a lexicon, a matrix, and the word-info + path-rewrite stage built from the C14 model
(`Total.rewriteOfStack` with the repaired numeral loop, any stack `pls` of `JoinNumericPlugin`/`JoinKatakanaOovPlugin`) -/
def bundledCfg (plugins : List (List Nat → Outcome (List (Edit Nat)))) (rv : Variant) (bowFix : Bool)
    (rs : List CharCat.CatRange) (b : Bundled) (bs : List Bundled) (lex : List Word) (conn : Nat → Nat → Int)
    (cat : List Nat) (P : List Char → Rewrite.POut) (pls : List Rewrite.Plugin)
    (info : EditM.NodeRange → Rewrite.Node) (units : Rewrite.Node → List Nat) : Cfg :=
  ⟨plugins, TotalIO.mkBufOf rv bowFix (CharCat.compile rs), (b :: bs).map Bundled.prov, lex, conn,
    rewriteOfStack .fix cat P pls info units⟩

open Partition in
/-- **`tokenize_total_bundled`: `do_tokenize` with bundled components never panics.**  For a configuration made of bundled
OOV providers (`Bundled`, at least one), a compiled `char.def` and a stack of bundled path-rewrite plugins:
* `hprov`, `hregex`, `hmk`, `hkeep` of `tokenize_total` are DISCHARGED (non-empty by construction; the regex provider is the
  one with the empty-match guard; `mkBufV_compile_total`; `PathOk` lists end inside the text);
* `hprovcost` is replaced by the loader's fact about the configured quadruples (`hdefs`: costs are `i16`);
* the rewrite stage enters through ONE hypothesis of the shape C14 provides — `hidx`: **for every token list satisfying
  `PathOk`, `Rewrite.rewriteAll` of the configured stack on its word-info nodes is not `panic`** (index safety of the plugin
  loops; termination is C14 `rewrite_stack_total`, `PathOk`-preservation is `C01.rewrite_stack_tiles`, both used here);
  `hinfo`: the word-info look-up leaves the four offsets of a node alone.
Remaining: the input side (`horig`, `hplug`, `hplugnp`, `hutf`), `hlexcost`/`hconn` (field types), `hbound` (D7), `hrowsz`. -/
theorem tokenize_total_bundled (lv : LenV) (orig : List Nat) (horig : BoOf orig 0)
    (plugins : List (List Nat → Outcome (List (Edit Nat)))) (rv : Variant) (bowFix : Bool)
    (rs : List CharCat.CatRange) (b : Bundled) (bs : List Bundled) (lex : List Word) (conn : Nat → Nat → Int)
    (cat : List Nat) (P : List Char → Rewrite.POut) (pls : List Rewrite.Plugin)
    (info : EditM.NodeRange → Rewrite.Node) (units : Rewrite.Node → List Nat)
    (hinfo : ∀ n, rng (info n) = n)
    (hplug : ∀ p ∈ plugins, PluginOk orig p)
    (hplugnp : ∀ p ∈ plugins, ∀ t, NoPanic (p t))
    (hutf : ∀ l0 l, startBuild orig = some l0 → rewriteInput lv plugins l0 = .ok l →
      ∃ chars, Wire.utf8Decode (textOf l) = some chars ∧ chars.length = nchars (textOf l))
    (hlexcost : ∀ w ∈ lex, I16 w.c)
    (hdefs : ∀ q ∈ b :: bs, ∀ d ∈ providerDefs q.prov, I16 d.c)
    (hconn : I16Conn conn)
    (hbound : ∀ chars, Reaches lv (bundledCfg plugins rv bowFix rs b bs lex conn cat P pls info units) orig chars →
      chars.length ≤ 32767)
    (hrowsz : ∀ chars nodes, Reaches lv (bundledCfg plugins rv bowFix rs b bs lex conn cat P pls info units) orig chars →
      buildLattice ((b :: bs).map Bundled.prov) lex (TotalIO.mkBufOf rv bowFix (CharCat.compile rs) chars) = .ok nodes →
      ∀ e, (nodes.map toVit).countP (fun n => n.e == e) ≤ 4294967295)
    (hidx : ∀ (tb2c tc2b : List Nat) (nc nb : Nat) path, PathOk tb2c tc2b nc nb path →
      Rewrite.rewriteAll .fix cat P pls (path.map info) ≠ .panic) :
    NoPanic (tokenize .d6fix lv (bundledCfg plugins rv bowFix rs b bs lex conn cat P pls info units) orig) := by
  refine tokenize_total_path lv _ orig horig hplug hplugnp hutf rv bowFix (CharCat.compile rs) ?_ ?_ ?_ hlexcost ?_ hconn
    hbound hrowsz ?_
  · exact mkBufV_mkBufOf rv bowFix rs
  · simp [bundledCfg]
  · exact bundled_regexRepaired (b :: bs)
  · intro p hp
    obtain ⟨q, hq, rfl⟩ := List.mem_map.mp hp
    exact (providerCostOk_iff _).mpr (hdefs q hq)
  · intro tb2c tc2b nc nb path hp
    refine ⟨rewriteOfStack_noPanic cat P pls info units path (hidx tb2c tc2b nc nb path hp), ?_⟩
    intro path' h
    exact rewriteOfStack_pathOk .fix cat P pls info units hinfo tb2c tc2b nc nb path path' hp h

/-- non-vacuity of `hidx`/`hdefs`: with an EMPTY stack of path-rewrite plugins `rewriteAll` returns its input (never `panic`),
for any word-info look-up `mk`, and the bundled providers Regex `[a]{0,}` + Simple have `i16` costs.  (`hinfo` is assumed
of `mk` here, not exhibited; a look-up that copies the four offsets satisfies it.) -/
example (mk : EditM.NodeRange → Rewrite.Node) (hmk : ∀ n, Partition.rng (mk n) = n) (cat : List Nat) (P : List Char → Rewrite.POut) :
    (∀ (path : List EditM.NodeRange), Rewrite.rewriteAll .fix cat P [] (path.map mk) ≠ .panic) ∧
    (∀ q ∈ [Bundled.regex ⟨0, 0, 200, 0, [⟨[97], 0, none⟩], 8, false, false⟩, Bundled.simple ⟨0, 0, 100, 0⟩],
      ∀ d ∈ providerDefs q.prov, I16 d.c) := by
  refine ⟨fun path h => ?_, ?_⟩
  · simp [Rewrite.rewriteAll] at h
  · intro q hq d hd
    simp only [List.mem_cons, List.not_mem_nil, or_false] at hq
    rcases hq with rfl | rfl <;>
      (simp only [Bundled.prov, providerDefs, List.mem_singleton] at hd; subst hd; simp [I16])

/-! ## clause "every accessor of every returned morpheme is safe to call" -/

open Partition in
/-- **`morpheme_access_total`: every accessor of every morpheme of an `ok` result is defined.**  For every result `r` that
`Total.tokenize` returns (tree with D6 repaired, either length guard) and EVERY morpheme `m` of it, `Total.access` — the
model of `Morpheme::begin()`, `end()`, `begin_c()`, `end_c()`, `surface()` with every index into `mod_c2b`/`m2o`/the
original-text tables, the two `is_char_boundary` debug assertions, the `usize::MAX` marker assertion of
`to_orig_char_idx` and the slice check of `&original[a..b]` — returns a value: no panic, no error; the offsets run
forward inside the original text, `surface()` is `original[begin..end]`, and `begin_c`/`end_c` count the code points before.
This is the sentence "every accessor of every returned morpheme is safe to call" with named hypotheses only — they are
those of `C01.tokens_partition_original`, from which it is derived (not re-proved): `horig`, `hplug` (`PluginOk`),
`hutf`, `hmk`, `hrowsz`, `hrew` (the rewrite stage keeps `PathOk`; a theorem for every bundled stack:
`C01.rewrite_stack_tiles`).  The table-indexing accessors of an OOV morpheme (`part_of_speech_id` / `part_of_speech()`:
index into the POS table; connection ids) are covered by `lattice_nodes_validated`; those of a dictionary morpheme read
the word-info record (C05/C11). -/
theorem morpheme_access_total (lv : LenV) (cfg : Cfg) (orig : List Nat) (horig : BoOf orig 0)
    (hplug : ∀ p ∈ cfg.inputPlugins, PluginOk orig p)
    (hutf : ∀ l0 l chars, startBuild orig = some l0 → rewriteInput lv cfg.inputPlugins l0 = .ok l →
      Wire.utf8Decode (textOf l) = some chars → chars.length = nchars (textOf l))
    (rv : Variant) (bowFix : Bool) (tab : List (Nat × Nat))
    (hmk : ∀ chars, mkBufV rv bowFix tab chars = some (cfg.mkBuf chars))
    (hrowsz : ∀ chars nodes, Reaches lv cfg orig chars → buildLattice cfg.providers cfg.lex (cfg.mkBuf chars) = .ok nodes →
      ∀ e, (nodes.map toVit).countP (fun n => n.e == e) ≤ 4294967295)
    (hrew : ∀ (tb2c tc2b : List Nat) (nc nb : Nat) path path', PathOk tb2c tc2b nc nb path → cfg.rewrite path = .ok path' →
      PathOk tb2c tc2b nc nb (path'.map (·.1)))
    (r : Result) (h : tokenize .d6fix lv cfg orig = .ok r) :
    ∀ m ∈ r.morphs, ∃ a, access orig r.tables m = .ok a ∧
      a.b ≤ a.e ∧ a.e ≤ orig.length ∧ a.sb = a.b ∧ a.se = a.e ∧
      a.bc = nchars (orig.take a.b) ∧ a.ec = nchars (orig.take a.e) := by
  intro m hm
  rcases C01.tokens_partition_original lv cfg orig horig hplug hutf rv bowFix tab hmk hrowsz hrew r h with
    ⟨_, hnil⟩ | ⟨_, _, acs, hacc, hpart, hall⟩
  · rw [hnil] at hm; cases hm
  · obtain ⟨a, ha, hf⟩ := mapM_ok_mem (access orig r.tables) r.morphs acs hacc m hm
    obtain ⟨e1, e2, e3, e4⟩ := hall a ha
    have hmem : (a.b, a.e) ∈ acs.map (fun a => (a.b, a.e)) := List.mem_map.mpr ⟨a, ha, rfl⟩
    have hfw := hpart.fwd _ hmem
    have hbd := (hpart.bnd _ hmem).2
    refine ⟨a, hf, hfw, ?_, e1, e2, e3, e4⟩
    rcases hbd with hb | ⟨hb, _⟩
    · exact Nat.le_of_eq hb
    · exact Nat.le_of_lt hb

/-- **the same for the configuration a `pipe` case line is executed with** (`TotalIO.mkCfg`, what the driver runs against the
real tokenizer, whose harness side calls every accessor of every morpheme under `catch_unwind`): `hmk` and `hrew` are
discharged (`C01.pipe_tokens_partition`) -/
theorem pipe_morpheme_access_total (lv : LenV) (orig : List Nat) (horig : BoOf orig 0)
    (plugins : List (List Nat → Outcome (List (Edit Nat)))) (rv : Variant) (bowFix : Bool)
    (rs : List CharCat.CatRange) (ps : List Provider) (lex : List Word) (conn : Nat → Nat → Int)
    (units : EditM.NodeRange → List Nat)
    (hplug : ∀ p ∈ plugins, Partition.PluginOk orig p)
    (hutf : ∀ l0 l chars, startBuild orig = some l0 → rewriteInput lv plugins l0 = .ok l →
      Wire.utf8Decode (textOf l) = some chars → textOf l = TotalIO.encode chars)
    (hrowsz : ∀ chars nodes, Reaches lv (TotalIO.mkCfg plugins rv bowFix rs ps lex conn units) orig chars →
      buildLattice ps lex (TotalIO.mkBufOf rv bowFix (CharCat.compile rs) chars) = .ok nodes →
      ∀ e, (nodes.map toVit).countP (fun n => n.e == e) ≤ 4294967295)
    (r : Result) (h : tokenize .d6fix lv (TotalIO.mkCfg plugins rv bowFix rs ps lex conn units) orig = .ok r) :
    ∀ m ∈ r.morphs, ∃ a, access orig r.tables m = .ok a ∧
      a.b ≤ a.e ∧ a.e ≤ orig.length ∧ a.sb = a.b ∧ a.se = a.e ∧
      a.bc = nchars (orig.take a.b) ∧ a.ec = nchars (orig.take a.e) := by
  refine morpheme_access_total lv _ orig horig hplug ?_ rv bowFix (CharCat.compile rs) ?_ hrowsz ?_ r h
  · intro l0 l chars a1 a2 a3
    rw [hutf l0 l chars a1 a2 a3, Partition.nchars_encode]
  · exact mkBufV_mkBufOf rv bowFix rs
  · intro tb2c tc2b nc nb path path' hp hh
    cases hh
    rw [map_fst_map_units]
    exact hp

/-- non-vacuity: the analysis of `ab` by the `pipe` configuration (no plugin, Simple provider, one word) returns two
morphemes whose accessors evaluate to `0..1` and `1..2` (bytes = code points = surface range) -/
example : (match tokenize .d6fix .final
      (TotalIO.mkCfg [] .forward true [] [.simple ⟨0, 0, 100, 0⟩] [⟨[97], 0, 0, 5⟩] (fun _ _ => 10) (fun _ => [])) [97, 98] with
    | .ok r => r.morphs.map (fun m => match access [97, 98] r.tables m with | .ok a => [a.b, a.e, a.bc, a.ec, a.sb, a.se] | _ => [])
    | _ => []) = [[0, 1, 0, 1, 0, 1], [1, 2, 1, 2, 1, 2]] := by
  rw [tokenize_eq_analyse _ _ _ _ (identFrom 0 [97, 98]) (identFrom 0 [97, 98]) [97, 98] (by decide) rfl utf8_ab (by decide)]
  decide

/-! ## `hrowsz` from the configuration -/

/-- **`hrowsz` from an explicit bound of the configuration.**  `rowCap ps lex` = number of lexicon rows + twice the sum over
the configured providers of what one `provide_oov` call can return (Simple, Regex: 1; MeCab: 19 classes × the largest number
of `unk.def` lines of a class × (1 + the largest `length` of a class)) bounds the candidates `build_lattice` inserts at ONE
position (`stepAt_cap`); every candidate lies inside the text, so at most `rowCap · |text|` candidates end at one boundary.
Hence `rowCap ps lex · |text| ≤ 65535` implies `hrowsz`.  The factor `|text|` cannot be removed — see
`row_size_grows_with_run_counterexample`. -/
theorem rows_from_row_cap (ps : List Provider) (lex : List Word) (buf : Buf) (hwf : buf.WF)
    (hcap : rowCap ps lex * buf.chars.length ≤ 65535) (nodes : List Oov.Node)
    (h : buildLattice ps lex buf = .ok nodes) (e : Nat) :
    (nodes.map toVit).countP (fun n => n.e == e) ≤ 65535 := by
  cases nodes with
  | nil => exact Nat.zero_le _
  | cons x xs =>
    -- a candidate exists, so some position got one and `rowCap` is positive: the text is at most `65535` characters long
    have h1 : 1 ≤ rowCap ps lex := buildLattice_forall (fun _ => 1 ≤ rowCap ps lex) ps lex buf
      (fun p new hnew y hy => Nat.le_trans (List.length_pos_of_mem hy) (stepAt_cap ps lex buf p new hnew)) _ h x
      List.mem_cons_self
    exact Nat.le_trans (rows_le_cap_mul ps lex buf hwf (Nat.le_trans (Nat.le_mul_of_pos_left _ h1) hcap) _ h e) hcap

/-- **when the bound `rowCap · |text| ≤ 65535` of `rows_from_row_cap` fails in the real code.**  A class with `group = 1` contributes, from EVERY reachable position of a run
of that class, one grouped candidate per `unk.def` line that ends at the END OF THE RUN; so a run of `n` characters with `D`
lines puts at least `D·n` candidates into one row, whatever `rowCap` is: here `D = 3`, `n = 4` gives 12 grouped candidates
ending at boundary 4, and `n = 8` gives 24 — while `rowCap` = 228 does not depend on the text.  At full size a `u16` row index
(the tree without the repair 9fb3dd8) wraps as soon as `D·n ≥ 65536` — e.g. 4 lines and a run of 16384 letters (16 KiB of ASCII,
inside every documented limit and inside `hbound`); the harness runs that point on the real tokenizer in the thorough tier (directed case
`row-wrap`): no panic, every accessor defined, but the path is not the cheapest one (C02's clause, not C03's). -/
theorem row_size_grows_with_run_counterexample :
    (match buildLattice [.mecab ⟨[(1, ⟨1, true, true, 1⟩)], [(1, [⟨0, 0, 1, 0⟩, ⟨0, 0, 2, 0⟩, ⟨0, 0, 3, 0⟩])], true⟩] []
        ⟨[97, 97, 97, 97], [1, 1, 1, 1], [4, 3, 2, 1], [true, true, true, true]⟩ with
      | .ok nodes => (nodes.map toVit).countP (fun n => n.e == 4)
      | _ => 0) = 12 ∧
    (match buildLattice [.mecab ⟨[(1, ⟨1, true, true, 1⟩)], [(1, [⟨0, 0, 1, 0⟩, ⟨0, 0, 2, 0⟩, ⟨0, 0, 3, 0⟩])], true⟩] []
        ⟨List.replicate 8 97, List.replicate 8 1, [8, 7, 6, 5, 4, 3, 2, 1], List.replicate 8 true⟩ with
      | .ok nodes => (nodes.map toVit).countP (fun n => n.e == 8)
      | _ => 0) = 24 ∧
    rowCap [.mecab ⟨[(1, ⟨1, true, true, 1⟩)], [(1, [⟨0, 0, 1, 0⟩, ⟨0, 0, 2, 0⟩, ⟨0, 0, 3, 0⟩])], true⟩] [] = 228 := by
  refine ⟨by decide, by decide, by decide⟩

/-- **`tokenize_total` for the `pipe` configuration with `hrowsz` DISCHARGED from the configuration**: what is asked instead is
the arithmetic fact `rowCap ps lex · (characters of the rewritten text) ≤ 65535` about the case line (decidable; the `pipe`
worlds have texts of at most 48 characters, so it holds whenever `rowCap ≤ 1365`) -/
theorem pipe_configuration_total_capped (lv : LenV) (orig : List Nat)
    (plugins : List (List Nat → Outcome (List (Edit Nat)))) (rv : Variant) (bowFix : Bool)
    (rs : List CharCat.CatRange) (ps : List Provider) (lex : List Word) (conn : Nat → Nat → Int)
    (units : EditM.NodeRange → List Nat)
    (hprov : ps ≠ [])
    (hregex : ∀ p ∈ ps, ∀ c, p = .regex c → c.skipEmpty = true)
    (hlexcost : ∀ w ∈ lex, I16 w.c)
    (hprovcost : ∀ p ∈ ps, ProviderCostOk p)
    (hconn : I16Conn conn)
    (hplug : ∀ p ∈ plugins, ∀ t, NoPanic (p t))
    (hutf : ∀ l0 l, startBuild orig = some l0 → rewriteInput lv plugins l0 = .ok l → Wire.utf8Decode (textOf l) ≠ none)
    (hbound : ∀ chars, Reaches lv (TotalIO.mkCfg plugins rv bowFix rs ps lex conn units) orig chars → chars.length ≤ 32767)
    (hcap : ∀ chars, Reaches lv (TotalIO.mkCfg plugins rv bowFix rs ps lex conn units) orig chars →
      rowCap ps lex * chars.length ≤ 65535) :
    NoPanic (tokenize .d6fix lv (TotalIO.mkCfg plugins rv bowFix rs ps lex conn units) orig) := by
  refine pipe_configuration_total lv orig plugins rv bowFix rs ps lex conn units hprov hregex hlexcost hprovcost hconn hplug
    hutf hbound ?_
  intro chars nodes hr h e
  obtain ⟨hwf, _, hch⟩ := mkBufV_ok rv bowFix (CharCat.compile rs) chars _ (mkBufV_mkBufOf rv bowFix rs chars)
  exact Nat.le_trans (rows_from_row_cap ps lex _ hwf (by rw [hch]; exact hcap chars hr) nodes h e) (by decide)

/-- **`hrowsz` for the `u32` row index, from the configuration alone.**  The back-pointer
of a lattice node stores the index of the best previous node inside its row; `NodeIdx.index` is a `u32`
(`Total.asU32` in `Total.connGo`; as a `u16`, the tree without the repair 9fb3dd8, it wraps in a row of more than 65536
candidates: `row_index_u16_wraps_counterexample`).  A text the length guards admit has at most 65535 characters, so `rowCap ≤ 65537` keeps
every row at or below 2^32 - 1 entries for EVERY text: there is no factor `|text|` as in `rows_from_row_cap`. -/
theorem rows_from_row_cap_u32 (ps : List Provider) (lex : List Word) (buf : Buf) (hwf : buf.WF)
    (hn : buf.chars.length ≤ 65535) (hcap : rowCap ps lex ≤ 65537) (nodes : List Oov.Node)
    (h : buildLattice ps lex buf = .ok nodes) (e : Nat) :
    (nodes.map toVit).countP (fun n => n.e == e) ≤ 4294967295 := by
  refine Nat.le_trans (rows_le_cap_mul ps lex buf hwf hn nodes h e) ?_
  calc rowCap ps lex * buf.chars.length ≤ 65537 * 65535 := Nat.mul_le_mul hcap hn
    _ = 4294967295 := by decide

/-- `Total.connGo` with the row index stored as `i % W` (the same definition as `Total.connGoW` of `Proofs/RowWrap.lean`, which this
file does not import) -/
def connGoW (W : Nat) (add : Int → Int → Option Int) (M : Int) (conn : Nat → Nat → Int) (n : Vit.Node) :
    List Entry → Nat → Int × Nat × Nat → Option (Int × Nat × Nat)
  | [], _, st => some st
  | l :: rest, i, st =>
    if l.total = M then connGoW W add M conn n rest (i + 1) st
    else match add l.total (conn l.node.r n.l) with
      | none => none
      | some x => match add x n.c with
        | none => none
        | some nc =>
          if nc < st.1 then connGoW W add M conn n rest (i + 1) (nc, asU16 n.b, i % W)
          else connGoW W add M conn n rest (i + 1) st

theorem connGoW_u32 (add : Int → Int → Option Int) (M : Int) (conn : Nat → Nat → Int) (n : Vit.Node) :
    ∀ (row : List Entry) (i : Nat) (st : Int × Nat × Nat),
      connGoW 4294967296 add M conn n row i st = connGo add M conn n row i st := by
  intro row
  induction row with
  | nil => intro i st; rfl
  | cons l rest ih =>
    intro i st
    simp only [connGoW, connGo, ih, asU32]
    split
    · rfl
    · cases add l.total (conn l.node.r n.l) with
      | none => rfl
      | some x =>
        cases add x n.c with
        | none => rfl
        | some nc => rfl

/-- **a `u16` row index wraps (kernel-checked on a small-width instance).**  `connGoW W` is
`Total.connGo` with the index stored as `i % W`; `connGoW 4294967296` IS the model of the tree (`connGoW_u32`).  With width
`W = 4` (standing for 65536) and a row of five connected entries of which the LAST is the cheapest, the loop stores the right
minimum (10) with the index `4 % 4 = 0`: the back-pointer names entry 0 (total 50), a chain that is 40 dearer than the cost
that was stored — `fill_top_path` follows it.  At full size (4 `unk.def` lines × a run of 16400 letters = 65600 grouped
candidates in one row) the real tokenizer returns 16 tokens of cost -160 instead of 16400 tokens of cost -164000
with the `u16` index (the tree without the repair 9fb3dd8) and the cheapest path with the `u32` one (directed case `row-wrap`,
C02/C03).  End to end, with `fill_top_path`: `Total.row_wrap_returns_dearer_path` (`Proofs/RowWrap.lean`). -/
theorem row_index_u16_wraps_counterexample :
    let row : List Entry := [⟨⟨0, 1, 0, 0, 0⟩, 50, 0, 0⟩, ⟨⟨0, 1, 0, 0, 0⟩, 40, 0, 0⟩, ⟨⟨0, 1, 0, 0, 0⟩, 30, 0, 0⟩,
      ⟨⟨0, 1, 0, 0, 0⟩, 20, 0, 0⟩, ⟨⟨0, 1, 0, 0, 0⟩, 10, 0, 0⟩]
    let n : Vit.Node := ⟨1, 2, 0, 0, 0⟩
    -- width 4 ("u16"): minimum 10 stored with index 0 - the entry of total 50
    connGoW 4 addI32 I32_MAX (fun _ _ => 0) n row 0 (I32_MAX, 65535, 3) = some (10, 1, 0) ∧
    (row[0]?.map Entry.total) = some 50 ∧
    -- the model of the tree (u32): index 4 - the entry whose total is the stored minimum
    connGo addI32 I32_MAX (fun _ _ => 0) n row 0 (I32_MAX, 65535, idxNone) = some (10, 1, 4) ∧
    (row[4]?.map Entry.total) = some 10 := by
  decide

open Partition in
/-- **`tokenize_total_bundled` with `hrowsz` DISCHARGED for the `u32` row index**: the only thing left of it is the
text-independent, decidable fact `rowCap ≤ 65537` about the loaded configuration (number of lexicon rows + twice what the
configured providers can return at one position); `hbound` (D7) already keeps the text at or below 32767 characters. -/
theorem tokenize_total_bundled_u32 (lv : LenV) (orig : List Nat) (horig : BoOf orig 0)
    (plugins : List (List Nat → Outcome (List (Edit Nat)))) (rv : Variant) (bowFix : Bool)
    (rs : List CharCat.CatRange) (b : Bundled) (bs : List Bundled) (lex : List Word) (conn : Nat → Nat → Int)
    (cat : List Nat) (P : List Char → Rewrite.POut) (pls : List Rewrite.Plugin)
    (info : EditM.NodeRange → Rewrite.Node) (units : Rewrite.Node → List Nat)
    (hinfo : ∀ n, rng (info n) = n)
    (hplug : ∀ p ∈ plugins, PluginOk orig p)
    (hplugnp : ∀ p ∈ plugins, ∀ t, NoPanic (p t))
    (hutf : ∀ l0 l, startBuild orig = some l0 → rewriteInput lv plugins l0 = .ok l →
      ∃ chars, Wire.utf8Decode (textOf l) = some chars ∧ chars.length = nchars (textOf l))
    (hlexcost : ∀ w ∈ lex, I16 w.c)
    (hdefs : ∀ q ∈ b :: bs, ∀ d ∈ providerDefs q.prov, I16 d.c)
    (hconn : I16Conn conn)
    (hbound : ∀ chars, Reaches lv (bundledCfg plugins rv bowFix rs b bs lex conn cat P pls info units) orig chars →
      chars.length ≤ 32767)
    (hcap : rowCap ((b :: bs).map Bundled.prov) lex ≤ 65537)
    (hidx : ∀ (tb2c tc2b : List Nat) (nc nb : Nat) path, PathOk tb2c tc2b nc nb path →
      Rewrite.rewriteAll .fix cat P pls (path.map info) ≠ .panic) :
    NoPanic (tokenize .d6fix lv (bundledCfg plugins rv bowFix rs b bs lex conn cat P pls info units) orig) := by
  refine tokenize_total_bundled lv orig horig plugins rv bowFix rs b bs lex conn cat P pls info units hinfo hplug hplugnp
    hutf hlexcost hdefs hconn hbound ?_ hidx
  intro chars nodes hr h e
  obtain ⟨hwf, _, hch⟩ := mkBufV_ok rv bowFix (CharCat.compile rs) chars _ (mkBufV_mkBufOf rv bowFix rs chars)
  exact rows_from_row_cap_u32 _ lex _ hwf (by rw [hch]; have := hbound chars hr; omega) hcap nodes h e

/-- non-vacuity of `hcap` of `tokenize_total_bundled_u32`: Regex + Simple over a one-word lexicon have `rowCap` 5 -/
example : rowCap ([Bundled.regex ⟨0, 0, 200, 0, [⟨[97], 0, none⟩], 8, false, false⟩, Bundled.simple ⟨0, 0, 100, 0⟩].map Bundled.prov)
    [⟨[97], 0, 0, 5⟩] ≤ 65537 := by decide

/-- non-vacuity of `hcap`: the `pipe` example configuration (Simple provider, one word) has `rowCap = 3`; on `ab` 3·2 ≤ 65535 -/
example : rowCap [.simple ⟨0, 0, 100, 0⟩] [⟨[97], 0, 0, 5⟩] * ([97, 98] : List Nat).length ≤ 65535 := by decide

/-! ## the exact threshold of the `i32` accumulator -/

/-- **The exact threshold of D7.**  `cost_no_overflow_partial`: no text of at most 32767 characters can overflow the `i32`
accumulator, whatever the (`i16`) costs are.  Here, at FULL width (`addI32`, `I32_MAX`, not the small-width instance of
`cost_overflow_counterexample`), by the closed form of the chain lattice (`chain_closed`: the totals are `i·(k+c)`):
* **32768 characters CAN overflow** — one-character words of cost −32768 over a matrix of −32768: every `insert` succeeds
  (the last total is exactly `i32::MIN`), `connect_eos` is `attempt to add with overflow`.  This is the smallest length
  (32767 is safe), reached only with the most negative costs;
* with the most POSITIVE costs (32767/32767) 32768 characters are still fine (EOS cost 2 147 450 879) and 32769 overflow at
  `connect_eos` (the witness of finding D7).
Both witnesses are replayed on the real `Lattice` (`cost` lines `gen=chain:32768:-32768:-32768`, `chain:32768/32769:32767`) and
on the real tokenizer (directed cases `d7-chain-32769`, `d7-neg-chain-32768`). -/
theorem cost_overflow_threshold :
    latticeOutcome addI32 I32_MAX (fun _ _ => -32768) (chainNodes 32768 (-32768)) 32768 = .panic "overflow" ∧
    latticeOutcome addI32 I32_MAX (fun _ _ => 32767) (chainNodes 32768 32767) 32768
      = .ok (((32768 : Nat) : Int) * (32767 + 32767) + 32767, 32768, 0) ∧
    (((32768 : Nat) : Int) * (32767 + 32767) + 32767 = 2147450879) ∧
    latticeOutcome addI32 I32_MAX (fun _ _ => 32767) (chainNodes 32769 32767) 32769 = .panic "overflow" := by
  have eneg : ((-32768 : Int) + -32768) = -65536 := rfl
  have epos : ((32767 : Int) + 32767) = 65534 := rfl
  refine ⟨?_, ?_, by omega, ?_⟩
  · refine (chain_outcome (-32768) (-32768) 32768 (by omega) ?_ (by rw [eneg]; omega)).1 (by rw [eneg]; omega)
    intro i hi; unfold StepOk; rw [eneg]; omega
  · refine (chain_outcome 32767 32767 32768 (by omega) ?_ (by rw [epos]; omega)).2 (by rw [epos]; omega)
    intro i hi; unfold StepOk; rw [epos]; omega
  · refine (chain_outcome 32767 32767 32769 (by omega) ?_ (by rw [epos]; omega)).1 (by rw [epos]; omega)
    intro i hi; unfold StepOk; rw [epos]; omega

/-- non-vacuity of `StepOk` / `ChainInv`: the first step of the negative chain, and the initial rows -/
example : StepOk (-32768) (-32768) 0 ∧ ChainInv 2 (-65536) 0 (reset 2) :=
  ⟨by unfold StepOk; omega, chain_reset 2 (-65536)⟩

/-! ## the `oov=` part of a `pipe` answer: the candidate behind a path entry -/

/-- **what the `oov=` part of a `pipe` answer prints is a configured POS id.**  `TotalIO.candAt nodes e i` — the model of
`ends_full[e][i]`, the node `Lattice::node(pid)` hands to `resolve_best_path` — is one of the candidates `build_lattice`
inserted; when it is an OOV node it carries a configured quadruple of a configured provider (so a fact `V` the loader
validated, e.g. "POS id inside the POS table", holds of it: `part_of_speech()` indexes the table in range), and the POS id
its morpheme reports (`WordId::oov(pos)`, then `word() as u16`: `TotalIO.oovPosId`) is that configured id whenever it
fits the `u16` field it is stored in. -/
theorem pipe_oov_pos_configured (ps : List Provider) (lex : List Word) (buf : Buf) (nodes : List Oov.Node)
    (h : buildLattice ps lex buf = .ok nodes) (e i : Nat) (x : Oov.Node) (hx : TotalIO.candAt nodes e i = some x)
    (hoov : x.oov = true) (V : OovDef → Prop) (hV : ∀ p ∈ ps, ∀ d ∈ providerDefs p, V d) :
    x ∈ nodes ∧ V (defOf x) ∧ (x.pos < 65536 → TotalIO.oovPosId x = x.pos) := by
  have hmem : x ∈ nodes := by
    unfold TotalIO.candAt at hx
    exact (List.mem_filter.mp (List.mem_of_getElem? hx)).1
  refine ⟨hmem, ?_, ?_⟩
  · rcases lattice_nodes_validated ps lex buf nodes h (fun _ _ _ => True) (fun _ _ => trivial) V hV x hmem with ⟨a, _⟩ | ⟨_, b⟩
    · rw [hoov] at a; cases a
    · exact b
  · intro hp
    unfold TotalIO.oovPosId Oov.widWord Oov.wordIdOov
    omega

/-- non-vacuity: over `ab` with one word `a` and the Simple provider (POS id 7) the second path entry is the OOV node
`1..2`, found at row 2, index 0; the driver prints `1:2:7` -/
example : TotalIO.candAt [⟨0, 1, 0, 0, 5, false, 0⟩, ⟨1, 2, 0, 0, 100, true, 7⟩] 2 0 = some ⟨1, 2, 0, 0, 100, true, 7⟩ ∧
    TotalIO.oovItems [⟨0, 1, 0, 0, 5, false, 0⟩, ⟨1, 2, 0, 0, 100, true, 7⟩]
      [⟨⟨0, 1, 0, 0, 5⟩, 15, 0, 0⟩, ⟨⟨1, 2, 0, 0, 100⟩, 125, 1, 0⟩] (2, 0) = ["1:2:7"] ∧
    TotalIO.maxRow [⟨0, 1, 0, 0, 5, false, 0⟩, ⟨1, 2, 0, 0, 100, true, 7⟩] 2 = 1 := by
  refine ⟨by decide, by decide, by decide⟩

/-! ## the composition for bundled input-text plugins -/

open Partition Utf8Inv in
/-- **`tokenize_total_bundled_plugins` — `tokenize_total` (`do_tokenize` never panics) with `hplug` and `hutf` discharged** for
every configuration whose input-text plugins are bundled ones: `hplug` by `C03.pipe_plugins_never_panic`, `hutf` by the
UTF-8 invariant (`bundled_stack_utf8`).  The remaining hypotheses are those of `C03.tokenize_total`, unchanged (see there:
configuration facts, `hbound` = D7, `hrowsz`, `hrew`/`hkeep` of the path-rewrite stage). -/
theorem tokenize_total_bundled_plugins (lv : LenV) (cfg : Cfg) (orig : List Nat)
    (horig : ∃ cs, orig = TotalIO.encode cs)
    (hbundled : ∀ p ∈ cfg.inputPlugins, Bundled p)
    (rv : Variant) (bowFix : Bool) (tab : List (Nat × Nat))
    (hmk : ∀ chars, mkBufV rv bowFix tab chars = some (cfg.mkBuf chars))
    (hprov : cfg.providers ≠ [])
    (hregex : ∀ p ∈ cfg.providers, ∀ c, p = .regex c → c.skipEmpty = true)
    (hlexcost : ∀ w ∈ cfg.lex, I16 w.c)
    (hprovcost : ∀ p ∈ cfg.providers, ProviderCostOk p)
    (hconn : I16Conn cfg.conn)
    (hbound : ∀ chars, Reaches lv cfg orig chars → chars.length ≤ 32767)
    (hrowsz : ∀ chars nodes, Reaches lv cfg orig chars → buildLattice cfg.providers cfg.lex (cfg.mkBuf chars) = .ok nodes →
      ∀ e, (nodes.map toVit).countP (fun n => n.e == e) ≤ 4294967295)
    (hrew : ∀ path, NoPanic (cfg.rewrite path))
    (hkeep : ∀ (nb : Nat) path path', (∀ q ∈ path, q.eb ≤ nb) → cfg.rewrite path = .ok path' →
      ∀ p ∈ path', p.1.eb ≤ nb) :
    NoPanic (tokenize .d6fix lv cfg orig) := by
  refine tokenize_total lv cfg orig rv bowFix tab hmk hprov hregex hlexcost hprovcost hconn ?_ ?_ hbound hrowsz hrew hkeep
  · intro p hp t
    obtain ⟨a, S, c, rfl⟩ := hbundled p hp
    exact pipe_plugins_never_panic a S c t
  · intro l0 l a1 a2
    obtain ⟨_, r2, _⟩ := bundled_reach lv orig horig cfg.inputPlugins hbundled l0 l a1 a2
    exact enc_decodes l r2

end C03
