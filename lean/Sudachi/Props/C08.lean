import Sudachi.Proofs.Edit
import Sudachi.Proofs.EditAccess
import Sudachi.Proofs.EditExact
import Sudachi.Proofs.EditGhost
import Sudachi.Props.C01
/-!
# C08 — Code-point offsets agree with byte offsets; the offset map is monotone and anchored

Model: `EditM.resolve` (`edit.rs: resolve_edits`/`add_replace`), `EditM.commitV`/`commitAllV`
(`with_editor` → `commit`, successive batches; `lv : LenV` = which length guard the tree has: `running` = the
pinned `commit`/`commitAll`, `final` = the repaired one — every theorem below holds for both), `EditM.identFrom` (`start_build`), `EditM.origB2C`
(`fill_orig_b2c`), `EditM.c2b` (`build`).  Texts are byte lists; `isStart` marks first bytes of
characters; a *character boundary* of a text is its end or the offset of a first byte (`BoOf`).
`m2o[i]` is `valAt l i` (= `(snds l)[i]`, lemma `snds_getElem?`).

Hypothesis `BatchesOk`: every batch is sorted, non-overlapping, in range, on character boundaries of
the text it is applied to, and leaves the text non-empty — exactly the property's "any sequence of
ordered, non-overlapping replacements … that leave the text non-empty".
-/
namespace C08
open EditM

/-- **Offset map after any sequence of batches** (second sentence of the property): the map has one
entry per byte plus one; it is non-decreasing; start ↦ start; end ↦ end; every character boundary of the
rewritten text is sent to a character boundary of the original. -/
theorem m2o_inv (o : List Nat) (hne : o ≠ []) (h0 : BoOf o 0)
    (bs : List (List (Edit Nat))) (l : List (P Nat))
    (hok : BatchesOk isStart (identFrom 0 o) bs) (lv : LenV) (h : commitAllV lv (identFrom 0 o) bs = some l) :
    (snds l).length = (textOf l).length + 1 ∧
    Mono (snds l) ∧
    valAt l 0 = 0 ∧
    valAt l (textOf l).length = o.length ∧
    (∀ i (hi : i < l.length), isB isStart l[i] → BoOf o (valAt l i)) := by
  have hi := Reached.inv (And.intro hne ⟨h0, hok, h⟩)
  exact ⟨inv_length hi, hi.mono, hi.first, inv_last hi, fun i hlt hb => inv_boundary hi i hlt hb⟩

/-- **Unreplaced characters map to themselves**: after any admissible sequence of batches every
entry `(byte, offset)` of the map is either an entry of the identity map — the byte `o[offset]` of
the original text with its own offset —, or the sentinel, or the first entry (forced to 0: a leading
deletion attaches to the first character), or was written by a replacement. -/
theorem unreplaced_keep_offset (o : List Nat) (hne : o ≠ []) (h0 : BoOf o 0)
    (bs : List (List (Edit Nat))) (l : List (P Nat))
    (hok : BatchesOk isStart (identFrom 0 o) bs) (lv : LenV) (h : commitAllV lv (identFrom 0 o) bs = some l) :
    ∀ p ∈ l, (∃ hlt : p.2 < o.length, p.1 = some o[p.2]) ∨ p = (none, o.length) ∨ p.2 = 0 ∨
      FromRepl (identFrom 0 o) bs p := by
  intro p hp
  rcases commitAllV_mem lv isStart (BoOf o) o.length h0 bs _ l (ident_inv o hne) hok h p hp with h1 | h1 | h1
  · rcases ident_mem o p h1 with h2 | h2
    · exact Or.inr (Or.inl h2)
    · exact Or.inl h2
  · exact Or.inr (Or.inr (Or.inl h1))
  · exact Or.inr (Or.inr (Or.inr h1))

/-- a replacement maps its first byte to the start of the replaced span and every other byte to its
end; a deletion writes nothing (so deleted text attaches to the neighbouring entry) -/
theorem replacement_entries (l : List (P Nat)) (ed : Edit Nat) :
    (ed.w = [] → repl l ed = []) ∧
    (∀ b bs, ed.w = b :: bs → snds (repl l ed) = valAt l ed.s :: List.replicate bs.length (valAt l ed.e)) :=
  ⟨fun h => by unfold repl; rw [h], fun b bs h => by rw [snds_repl, h]⟩

/-- **Code-point offsets** (first sentence): at every character boundary `b` of the original text
the table consulted by `begin_c`/`end_c` holds the number of code points of the original text before
byte `b`; with `m2o_inv` (boundaries ↦ boundaries) every morpheme offset is such a `b`. -/
theorem origB2C_counts (o : List Nat) (hne : 0 < nchars o) (b : Nat) (hb : BoOf o b) :
    (origB2C o)[b]? = some (some (nchars (o.take b))) :=
  EditM.origB2C_counts o hne b hb

/-- every entry of the character → byte table of the rewritten text is a character boundary of it,
the table is non-decreasing, starts at 0 and ends at the text length -/
theorem c2b_boundaries (t : List Nat) (h0 : BoOf t 0) :
    Mono (c2b t) ∧ (∀ x ∈ c2b t, BoOf t x) ∧ (c2b t)[0]? = some 0 ∧ (c2b t)[nchars t]? = some t.length :=
  ⟨(c2b_spec t).1, (c2b_spec t).2, c2b_head t h0, c2b_last t⟩

/-- the length guard of `commit` in the pinned tree (variant `running`): a batch is rejected exactly when the
running length exceeds 65535.  (For the repaired tree, variant `final`, the batch is rejected exactly when the
length of the rewritten text exceeds 65535: `C03.commit_final_too_long_iff`.) -/
theorem commit_too_long (l : List (P Nat)) (es : List (Edit Nat)) (hne : es ≠ []) :
    commit l es = none ↔ lenOk REALLY_MAX_LENGTH ((l.length : Int) - 1) es = false := by
  cases es with
  | nil => exact absurd rfl hne
  | cons ed es =>
    rw [← commitV_running, commitV_cons]
    show (if lenOk REALLY_MAX_LENGTH ((l.length : Int) - 1) (ed :: es) = true then _ else none) = none ↔ _
    cases lenOk REALLY_MAX_LENGTH ((l.length : Int) - 1) (ed :: es)
    · exact ⟨fun _ => rfl, fun _ => rfl⟩
    · exact ⟨fun h => (nomatch h), fun h => (nomatch h)⟩

/-- the repository's own example `宇宙人` (9 bytes): first character replaced by six bytes (`あい`), then (second
batch) bytes 9..12 of the rewritten text `あい宙人`, its last character `人`, deleted.  The text begins with a
character's first byte, both batches are committed, and the map of `あい宙` is as expected (the sentinel entry
keeps the value 9, so the deleted `人` falls into the image of the last byte of `宙`). -/
example :
    let o := [0xE5, 0xAE, 0x87, 0xE5, 0xAE, 0x99, 0xE4, 0xBA, 0xBA]
    let b1 : List (Edit Nat) := [⟨0, 3, [0xE3, 0x81, 0x82, 0xE3, 0x81, 0x84]⟩]
    let b2 : List (Edit Nat) := [⟨9, 12, []⟩]
    BoOf o 0 ∧
    (commitAll (identFrom 0 o) [b1, b2]).map snds = some [0, 3, 3, 3, 3, 3, 3, 4, 5, 9] := by
  exact ⟨Or.inr ⟨by decide, by decide⟩, by decide +kernel⟩

/-! ## the code-point offsets of a morpheme, the two routes, and the accessor family of `InputBuffer`

`EditM.Reached o bs lv l` (`Proofs/Edit.lean`) abbreviates the hypotheses of `m2o_inv`: `l` is the buffer (`modified` + `m2o`) reached
from the non-empty original text `o` (which begins with a character's first byte) by the admissible batches `bs`
under either length guard.  A node of the result has a CHARACTER range `bc..ec` and a BYTE range `bb..eb` of the
rewritten text; `resolve_best_path`/`NodeSplitIterator::next` make them consistent: `bb = mod_c2b[bc]`,
`eb = mod_c2b[ec]` (C01 `PathOk`; hypotheses `hb`, `he` where the byte route is involved). -/

/-- **`morpheme_codepoints`** (first sentence of the property, full strength): for a buffer reached by any admissible
batches, a node whose character range is `[bc, ec)` of the rewritten text has `begin()`/`end()` defined
(`to_orig_byte_idx`: no index out of range), `begin ≤ end ≤ |original|`, both character boundaries of the original, and
`begin_c()`/`end_c()` (`to_orig_char_idx`: never the `usize::MAX` marker, so the `debug_assert_ne!` cannot fire) are the
numbers of code points of the ORIGINAL text before the byte offsets `begin()`/`end()` report; they are ordered. -/
theorem morpheme_codepoints (o : List Nat) (bs : List (List (Edit Nat))) (lv : LenV) (l : List (P Nat))
    (hr : Reached o bs lv l) (bc ec : Nat) (hbe : bc ≤ ec) (hec : ec ≤ nchars (textOf l)) :
    ∃ b e, toOrigByteIdx l bc = some b ∧ toOrigByteIdx l ec = some e ∧
      b ≤ e ∧ e ≤ o.length ∧ BoOf o b ∧ BoOf o e ∧
      toOrigCharIdx o l bc = some (nchars (o.take b)) ∧ toOrigCharIdx o l ec = some (nchars (o.take e)) ∧
      nchars (o.take b) ≤ nchars (o.take e) := by
  have hinv := hr.inv
  obtain ⟨x, hx⟩ := c2b_getElem_some (textOf l) bc (Nat.le_trans hbe hec)
  obtain ⟨y, hy⟩ := c2b_getElem_some (textOf l) ec hec
  obtain ⟨_, _, hxo, _, hxb, hxc⟩ := hinv.at_c2b hr.nchars_pos hx
  obtain ⟨_, hyl, hyo, hyn, hyb, hyc⟩ := hinv.at_c2b hr.nchars_pos hy
  have hle : valAt l x ≤ valAt l y := mono_valAt hinv.mono (c2b_getElem_mono hbe hx hy) hyl
  exact ⟨_, _, hxb, hyb, hle, hyn, hxo, hyo, hxc, hyc, nchars_take_mono o hle⟩

/-- **the character route and the byte route of `Morpheme` agree**: `begin()`/`end()` go through `mod_c2b` then `m2o`
(`morphRangeC`), `surface()` slices `original[m2o[bb]..m2o[eb]]` (`morphRangeB`); for a node whose byte range is the
`mod_c2b` image of its character range they are the same pair (also when undefined).  (C09 `routes_agree` shows that
split units satisfy `hb`/`he`; C01 `PathOk` carries them through the whole analysis.) -/
theorem routes_agree (l : List (P Nat)) (n : NodeRange)
    (hb : (c2b (textOf l))[n.bc]? = some n.bb) (he : (c2b (textOf l))[n.ec]? = some n.eb) :
    morphRangeC l n = morphRangeB l n := by
  unfold morphRangeC morphRangeB toOrigByteIdx
  rw [hb, he]

/-- **slicing by code points = slicing by bytes** (`slice_agree`): with `b..e` the byte offsets and `cb..ce` the
code-point offsets a node reports, character number `cb` (`ce`) of the ORIGINAL text begins at byte `b` (`e`) - so the
code-point slice `original[cb:ce]` (what Python's `text[m.begin():m.end()]` and the pre-tokenizer's
`string.slice(begin_c..end_c)` take) is the byte slice `original[b..e]` = `surface()` -, and Python's
`len(m) = end_c - begin_c` is the number of code points of that surface. -/
theorem slice_agree (o : List Nat) (bs : List (List (Edit Nat))) (lv : LenV) (l : List (P Nat))
    (hr : Reached o bs lv l) (bc ec : Nat) (hbe : bc ≤ ec) (hec : ec ≤ nchars (textOf l)) :
    ∃ b e cb ce, toOrigByteIdx l bc = some b ∧ toOrigByteIdx l ec = some e ∧
      toOrigCharIdx o l bc = some cb ∧ toOrigCharIdx o l ec = some ce ∧
      (c2b o)[cb]? = some b ∧ (c2b o)[ce]? = some e ∧ ce - cb = nchars (slice o b e) := by
  obtain ⟨b, e, h1, h2, h3, _, h5, h6, h7, h8, _⟩ := morpheme_codepoints o bs lv l hr bc ec hbe hec
  exact ⟨b, e, _, _, h1, h2, h7, h8, c2b_nchars_take o b h5, c2b_nchars_take o e h6, (nchars_slice o h3).symm⟩

/-- **code-point offsets are anchored**: the end of the rewritten text reports the number of code points of the
original; its start reports 0 (hypothesis `h0t`: the rewritten text begins with a character's first byte - true of
every Rust `String`, not implied by `BatchesOk`, which does not constrain the replacement bytes). -/
theorem codepoints_anchored (o : List Nat) (bs : List (List (Edit Nat))) (lv : LenV) (l : List (P Nat))
    (hr : Reached o bs lv l) :
    toOrigCharIdx o l (nchars (textOf l)) = some (nchars o) ∧
    (BoOf (textOf l) 0 → toOrigByteIdx l 0 = some 0 ∧ toOrigCharIdx o l 0 = some 0) := by
  have hinv := hr.inv
  constructor
  · have := (hinv.at_c2b hr.nchars_pos (c2b_last (textOf l))).2.2.2.2.2
    rwa [inv_last hinv, List.take_length] at this
  · intro h0t
    obtain ⟨_, _, _, _, h5, h6⟩ := hinv.at_c2b hr.nchars_pos (c2b_head _ h0t)
    rw [hinv.first] at h5 h6
    exact ⟨h5, h6⟩

/-- **every offset accessor of a morpheme is defined and both routes give the surface**
(`EditAcc.morpheme` = `Morpheme::{begin, end, begin_c, end_c, surface}` with every index check, `debug_assert!` and `str`
slice check of the debug profile; `EditAcc.pyOffsets` = Python `begin()/end()/len()`): for a reached buffer and a node
inside the text whose byte range is the `mod_c2b` image of its character range, nothing panics, `surface()` is
`original[begin..end]`, `begin_c`/`end_c` are the code points before `begin`/`end`, and `len(m)` is the number of code
points of the surface. -/
theorem morpheme_accessors_total (o : List Nat) (bs : List (List (Edit Nat))) (lv : LenV) (l : List (P Nat))
    (hr : Reached o bs lv l) (n : NodeRange) (hbe : n.bc ≤ n.ec) (hec : n.ec ≤ nchars (textOf l))
    (hb : (c2b (textOf l))[n.bc]? = some n.bb) (he : (c2b (textOf l))[n.ec]? = some n.eb) :
    ∃ B E, B ≤ E ∧ E ≤ o.length ∧
      EditAcc.morpheme ⟨o, l⟩ n = .ok ⟨B, E, nchars (o.take B), nchars (o.take E), slice o B E⟩ ∧
      EditAcc.pyOffsets ⟨o, l⟩ n = .ok (nchars (o.take B), nchars (o.take E), nchars (slice o B E)) := by
  obtain ⟨B, E, h1, h2, h3, h4, h5, h6, h7, h8, h9⟩ := morpheme_codepoints o bs lv l hr n.bc n.ec hbe hec
  -- the byte route reads the same two map entries
  have hB : (snds l)[n.bb]? = some B := by unfold toOrigByteIdx at h1; rwa [hb] at h1
  have hE : (snds l)[n.eb]? = some E := by unfold toOrigByteIdx at h2; rwa [he] at h2
  have a3 := EditAcc.toOrigCharIdxA_eq ⟨o, l⟩ h1 (EditM.origB2C_counts o hr.nchars_pos _ h5)
  have a4 := EditAcc.toOrigCharIdxA_eq ⟨o, l⟩ h2 (EditM.origB2C_counts o hr.nchars_pos _ h6)
  refine ⟨B, E, h3, h4, ?_, ?_⟩
  · unfold EditAcc.morpheme
    rw [EditAcc.toOrigByteIdxA_eq ⟨o, l⟩ h1, EditAcc.toOrigByteIdxA_eq ⟨o, l⟩ h2, a3, a4,
      EditAcc.origSlice_ok ⟨o, l⟩ (c2b_getElem_boOf hb).1 (c2b_getElem_boOf he).1 hB hE h3 h5 h6]
  · unfold EditAcc.pyOffsets
    rw [a3, a4]; simp only []
    rw [if_pos h9, nchars_slice o h3]

/-- **`get_original_index`, exactly**: on a character boundary of the rewritten text (`str::is_char_boundary`) it
returns the map entry, which is a character boundary of the original inside it; anywhere else (inside a character,
beyond the end) the `debug_assert!` fires. -/
theorem get_original_index_spec (o : List Nat) (bs : List (List (Edit Nat))) (lv : LenV) (l : List (P Nat))
    (hr : Reached o bs lv l) (i : Nat) :
    (EditAcc.isCharBoundary (textOf l) i = true →
      EditAcc.getOriginalIndex ⟨o, l⟩ i = .ok (valAt l i) ∧ BoOf o (valAt l i) ∧ valAt l i ≤ o.length) ∧
    (EditAcc.isCharBoundary (textOf l) i = false → ∃ w, EditAcc.getOriginalIndex ⟨o, l⟩ i = .panic w) := by
  have hinv := hr.inv
  have hlen := shape_length hinv.shape
  constructor
  · intro hb
    have hil : i ≤ (textOf l).length ∧ BoOf o (valAt l i) := by
      rcases Nat.eq_zero_or_pos i with rfl | hpos
      · exact ⟨Nat.zero_le _, by rw [hinv.first]; exact hr.2.1⟩
      · have hbo := EditAcc.boOf_of_isCharBoundary hpos hb
        exact ⟨hbo.le, (hinv.image hbo).2.1⟩
    refine ⟨?_, hil.2, inv_le_last hinv i hil.1⟩
    unfold EditAcc.getOriginalIndex
    rw [show EditAcc.isCharBoundary (EditAcc.Buf.cur ⟨o, l⟩) i = true from hb, if_pos rfl]
    exact EditAcc.idx_ok (snds_getElem? l i (hlen ▸ Nat.lt_succ_of_le hil.1))
  · intro hb
    exact ⟨_, by unfold EditAcc.getOriginalIndex; rw [show EditAcc.isCharBoundary (EditAcc.Buf.cur ⟨o, l⟩) i = false from hb]; rfl⟩

/-- **`char_distance`, exactly** (any buffer): inside the text it is `offset` cut off at the end of the text (it never
reports a position beyond the last character: the repaired MeCab provider relies on it); a start beyond the end is
`attempt to subtract with overflow` in the debug profile. -/
theorem char_distance_spec (b : EditAcc.Buf) (cpt off : Nat) :
    (cpt ≤ b.nch → EditAcc.charDistance b cpt off = .ok (Nat.min off (b.nch - cpt)) ∧ cpt + Nat.min off (b.nch - cpt) ≤ b.nch) ∧
    (b.nch < cpt → ∃ w, EditAcc.charDistance b cpt off = .panic w) := by
  unfold EditAcc.charDistance
  constructor
  · intro h
    have h2 : Nat.min (cpt + off) b.nch - cpt = Nat.min off (b.nch - cpt) := by
      show min (cpt + off) b.nch - cpt = min off (b.nch - cpt)
      rw [← Nat.sub_min_sub_right, Nat.add_sub_cancel_left]
    simp only []
    rw [if_pos (Nat.le_min.mpr ⟨Nat.le_add_right _ _, h⟩), h2]
    exact ⟨rfl, Nat.le_trans (Nat.add_le_add_left (Nat.min_le_right _ _) cpt) (Nat.le_of_eq (Nat.add_sub_of_le h))⟩
  · intro h
    simp only []
    exact ⟨_, if_neg fun hc => Nat.not_le_of_lt h (Nat.le_trans hc (Nat.min_le_right _ _))⟩

/-- **`ch_idx ∘ to_curr_byte_idx` is the identity** (any text with at least one character; what
`NodeSplitIterator::next` relies on when it snaps a byte end to a character start): for every character index `i` up
to and including the end index both look-ups are in range and `mod_b2c[mod_c2b[i]] = i`; beyond the sentinel
`to_curr_byte_idx` is an index panic. -/
theorem ch_idx_roundtrip (b : EditAcc.Buf) (hpos : 0 < b.nch) (i : Nat) :
    (i ≤ b.nch → ∃ x, EditAcc.toCurrByteIdx b i = .ok x ∧ x ≤ b.cur.length ∧ EditAcc.chIdx b x = .ok i) ∧
    (b.nch < i → ∃ w, EditAcc.toCurrByteIdx b i = .panic w) := by
  constructor
  · intro hi
    obtain ⟨x, hx⟩ := c2b_getElem_some b.cur i hi
    exact ⟨x, EditAcc.idx_ok hx, (c2b_getElem_boOf hx).2,
      EditAcc.idx_ok (b2c_c2b hpos hx)⟩
  · intro hi
    exact ⟨_, by unfold EditAcc.toCurrByteIdx EditAcc.idx; rw [c2b_getElem_none _ _ hi]⟩

/-- **the slices by character index** (`curr_slice_c`, `orig_slice_c`) of a reached buffer, for `s ≤ e` inside the
text: both are defined; `curr_slice_c` is the rewritten text between the two characters' first bytes and `orig_slice_c`
is the slice of the ORIGINAL between their images - the same bytes `orig_slice` returns for that byte range. -/
theorem slices_by_chars (o : List Nat) (bs : List (List (Edit Nat))) (lv : LenV) (l : List (P Nat))
    (hr : Reached o bs lv l) (s e : Nat) (hse : s ≤ e) (hen : e ≤ nchars (textOf l)) :
    ∃ x y, (c2b (textOf l))[s]? = some x ∧ (c2b (textOf l))[e]? = some y ∧ x ≤ y ∧
      EditAcc.currSliceC ⟨o, l⟩ s e = .ok (slice (textOf l) x y) ∧
      EditAcc.origSliceC ⟨o, l⟩ s e = .ok (slice o (valAt l x) (valAt l y)) ∧
      EditAcc.origSlice ⟨o, l⟩ x y = .ok (slice o (valAt l x) (valAt l y)) := by
  have hinv := hr.inv
  obtain ⟨x, hx⟩ := c2b_getElem_some (textOf l) s (Nat.le_trans hse hen)
  obtain ⟨y, hy⟩ := c2b_getElem_some (textOf l) e hen
  obtain ⟨hxb, hxl, hxB, _, hxo, _⟩ := hinv.at_c2b hr.nchars_pos hx
  obtain ⟨hyb, hyl, hyB, _, hyo, _⟩ := hinv.at_c2b hr.nchars_pos hy
  have hxy : x ≤ y := c2b_getElem_mono hse hx hy
  have hle : valAt l x ≤ valAt l y := mono_valAt hinv.mono hxy hyl
  refine ⟨x, y, hx, hy, hxy, ?_, ?_, ?_⟩
  · unfold EditAcc.currSliceC EditAcc.toCurrByteIdx EditAcc.Buf.cur
    rw [EditAcc.idx_ok hx, EditAcc.idx_ok hy]
    exact EditAcc.strSlice_ok hxy hxb hyb
  · unfold EditAcc.origSliceC
    rw [EditAcc.toOrigByteIdxA_eq ⟨o, l⟩ hxo, EditAcc.toOrigByteIdxA_eq ⟨o, l⟩ hyo]
    exact EditAcc.strSlice_ok hle hxB hyB
  · exact EditAcc.origSlice_ok ⟨o, l⟩ hxb hyb (snds_getElem? l x hxl) (snds_getElem? l y hyl) hle hxB hyB

/-- non-vacuity of `h0t`, `hb`/`he`, the range hypotheses and of `Reached` up to `BatchesOk` (which is not evaluated here):
`宇宙人`, first character replaced by `あい`, then (second batch) the last character `人` of `あい宙人` deleted.  The node
"characters 1..3" (`い宙`, bytes 3..9) of the rewritten text `あい宙` reports bytes 3..9 of the original, code points 1..3 and
the surface `宙人` (the deleted `人` attaches to it; `len` 2), ending at the end of the original; the node `あ` reports `宇`. -/
example :
    let o := [0xE5, 0xAE, 0x87, 0xE5, 0xAE, 0x99, 0xE4, 0xBA, 0xBA]
    let b1 : List (Edit Nat) := [⟨0, 3, [0xE3, 0x81, 0x82, 0xE3, 0x81, 0x84]⟩]
    let b2 : List (Edit Nat) := [⟨9, 12, []⟩]
    ∃ l, commitAllV .final (identFrom 0 o) [b1, b2] = some l ∧ o ≠ [] ∧ BoOf o 0 ∧ BoOf (textOf l) 0 ∧
      nchars (textOf l) = 3 ∧ (c2b (textOf l))[1]? = some 3 ∧ (c2b (textOf l))[3]? = some 9 ∧
      EditAcc.morpheme ⟨o, l⟩ ⟨1, 3, 3, 9⟩ = .ok ⟨3, 9, 1, 3, [0xE5, 0xAE, 0x99, 0xE4, 0xBA, 0xBA]⟩ ∧
      EditAcc.pyOffsets ⟨o, l⟩ ⟨1, 3, 3, 9⟩ = .ok (1, 3, 2) ∧
      EditAcc.morpheme ⟨o, l⟩ ⟨0, 1, 0, 3⟩ = .ok ⟨0, 3, 0, 1, [0xE5, 0xAE, 0x87]⟩ := by
  refine ⟨_, rfl, by decide, Or.inr ⟨by decide, by decide⟩, Or.inr ⟨by decide, by decide⟩, by decide, by decide,
    by decide, by decide, by decide, by decide⟩

/-- non-vacuity of the panic branches: inside a character `get_original_index` asserts; `char_distance` from beyond the end
underflows; `to_orig_char_idx` on a map entry inside a character (NOT reachable by admissible batches: here a hand-made
map) meets the `usize::MAX` marker -/
example :
    let o := [0xE5, 0xAE, 0x87, 0x61]
    EditAcc.getOriginalIndex ⟨o, identFrom 0 o⟩ 1 = .panic "debug_assert: off char boundary" ∧
    EditAcc.getOriginalIndex ⟨o, identFrom 0 o⟩ 3 = .ok 3 ∧
    EditAcc.charDistance ⟨o, identFrom 0 o⟩ 3 1 = .panic "attempt to subtract with overflow" ∧
    EditAcc.charDistance ⟨o, identFrom 0 o⟩ 1 5 = .ok 1 ∧
    EditAcc.toOrigCharIdxA ⟨o, [(some 0x61, 0), (some 0x61, 1), (none, 4)]⟩ 1 = .panic "debug_assert_ne: usize::MAX marker" := by
  decide +kernel

/-- observations OUTSIDE the property's quantifier (it asks for a non-empty text after every batch), reproduced on the real
buffer by the directed `acc` cases 0 and 1: for an EMPTY original `to_orig_char_idx(0)` is 1 (`fill_orig_b2c` writes `max + 1`
with `max = 0` although there is no character; likewise the `mod_b2c` sentinel: `ch_idx(0) = 1`), and when a batch deletes
the WHOLE text the only map entry left is the sentinel, which "the first entry MUST be 0" overwrites: end ↦ 0, not end ↦ 1. -/
example :
    EditAcc.toOrigCharIdxA ⟨[], identFrom 0 []⟩ 0 = .ok 1 ∧ EditAcc.chIdx ⟨[], identFrom 0 []⟩ 0 = .ok 1 ∧
    (commitAllV .final (identFrom 0 [0x61]) [[⟨0, 1, []⟩]]).map snds = some [0] := by
  decide +kernel

/-! ## `unreplaced_exact`: deletions as ghost state

`EditG.commitAllVG` (`Model/EditGhost.lean`) is the SAME loop as `resolve_edits` run on bytes that carry a ghost `Tag`
(`org = some k`: byte `k` of the original, never written by a replacement; `att = some d`: a deletion run is attached after the
byte and its image in the original ends at `d`; `lead`: the byte has been the first entry of a batch result).  The ghost state is
write-only; erasing it gives the executed buffer (`mapP Prod.fst lg = l`).  `EditG.Deleted (identFrom 0 o) bs j`: the original
offset `j` lies in the image `[m2o[s], m2o[e])` of an edit `s..e ↦ ""` of one of the batches (`m2o` = the map that batch is applied
to).  `EditG.startOf t k = if t.lead then 0 else k`, `EditG.endOf t k = match t.att with | none => k + 1 | some d => d`. -/

/-- **`unreplaced_exact`** (last clause of the property, FULL statement of DESIGN §3 C08; any number of successive batches, either
length guard).  The ghost-tagged run of the executed batches exists and erases to the executed buffer `l` (same bytes, same map
values).  For EVERY entry `i` of it that carries an unreplaced byte (`org = some k`: byte `k` of the original text, copied by
every batch, never written by a replacement):
* it is not the sentinel entry (`i + 1` is an entry) and still carries the byte `o[k]`;
* its image `[m2o[i], m2o[i+1])` STARTS at its own offset `k` - or at 0 if it has become the first entry of a batch result
  (`lead`), and then every original offset before `k` lies in the image of a deleting edit (a leading deletion);
* its image ENDS EXACTLY at its own end `k + 1`, unless a deletion run is attached after it (`att = some d`), in which case it
  ends exactly at `d ≥ k + 1`, the end of that run, and every original offset in `[k + 1, d)` lies in the image of a deleting
  edit;
* no map value lies strictly inside the image.
The property's sentence "maps each unreplaced character to itself" is the special case "not adjacent to a deletion"
(`unreplaced_maps_to_itself` below). -/
theorem unreplaced_exact (o : List Nat) (bs : List (List (Edit Nat))) (lv : LenV) (l : List (P Nat))
    (hr : Reached o bs lv l) :
    ∃ lg : List (P EditG.GB),
      EditG.commitAllVG lv (EditG.ghostIdent o) bs = some lg ∧ mapP Prod.fst lg = l ∧ snds lg = snds l ∧
      ∀ (i : Nat) (hi : i < lg.length) (b : Nat) (t : EditG.Tag) (k : Nat), (lg[i]).1 = some (b, t) → t.org = some k →
        ∃ h : i + 1 < lg.length,
          (∃ hk : k < o.length, b = o[k]) ∧
          (lg[i]).2 = EditG.startOf t k ∧
          (lg[i + 1]).2 = EditG.endOf t k ∧
          k + 1 ≤ EditG.endOf t k ∧
          (t.lead = true → ∀ j, j < k → EditG.Deleted (identFrom 0 o) bs j) ∧
          (∀ d, t.att = some d → ∀ j, k + 1 ≤ j → j < d → EditG.Deleted (identFrom 0 o) bs j) ∧
          (∀ (j : Nat) (hj : j < lg.length), ¬ ((lg[i]).2 < (lg[j]).2 ∧ (lg[j]).2 < (lg[i + 1]).2)) := by
  obtain ⟨lg, h1, h2, hinvg, hsh⟩ := EditG.ghost_run o bs lv l hr.2.2.1 hr.2.2.2
  have h3 : snds lg = snds l := by rw [← h2, snds_mapP]
  refine ⟨lg, h1, h2, h3, ?_⟩
  intro i hi b t k hb hk
  have hinv := hr.inv
  -- an entry that carries a byte is not the sentinel entry
  have hi' := EditG.shape_succ hsh hi hb
  obtain ⟨g1, g2, g3, g4, g5, g6⟩ := EditG.chainV_getElem lg hinvg i hi' b t k hb hk
  refine ⟨hi', g1, g2, g3, g4, g6, fun d hd => by rwa [EditG.endOf_some k hd] at g5, ?_⟩
  -- the map is non-decreasing: the entries up to `i` lie below, those from `i + 1` on above
  have hm : Mono (snds lg) := h3 ▸ hinv.mono
  intro j hj ⟨c1, c2⟩
  rw [← valAt_eq lg i hi, ← valAt_eq lg j hj] at c1
  rw [← valAt_eq lg (i + 1) hi', ← valAt_eq lg j hj] at c2
  rcases Nat.lt_or_ge i j with hij | hij
  · exact Nat.not_lt_of_le (mono_valAt hm hij hj) c2
  · exact Nat.not_lt_of_le (mono_valAt hm hij hi) c1

/-- **"maps each unreplaced character to itself"**, the property's own sentence, as the special case "not adjacent to a
deletion" of `unreplaced_exact`: an unreplaced byte `k` with no deletion run attached after it (`att = none`) that has not
become a first entry after a leading deletion (`lead = false`, or it is byte 0 itself) has the image `[k, k + 1)` - exactly
itself.  For a character (all its bytes unreplaced and adjacent, edits being on character boundaries) the images of its bytes
tile its own byte range. -/
theorem unreplaced_maps_to_itself (o : List Nat) (bs : List (List (Edit Nat))) (lv : LenV) (l : List (P Nat))
    (hr : Reached o bs lv l) (lg : List (P EditG.GB)) (hg : EditG.commitAllVG lv (EditG.ghostIdent o) bs = some lg)
    (i : Nat) (hi : i < lg.length) (b : Nat) (t : EditG.Tag) (k : Nat) (hb : (lg[i]).1 = some (b, t)) (hk : t.org = some k)
    (hatt : t.att = none) (hlead : t.lead = false ∨ k = 0) :
    ∃ h : i + 1 < lg.length, (lg[i]).2 = k ∧ (lg[i + 1]).2 = k + 1 ∧ valAt l i = k ∧ valAt l (i + 1) = k + 1 := by
  obtain ⟨lg', h1, h2, h3, h4⟩ := unreplaced_exact o bs lv l hr
  cases Option.some.inj (h1.symm.trans hg)
  obtain ⟨h, _, g2, g3, _⟩ := h4 i hi b t k hb hk
  have e1 : (lg[i]).2 = k := by
    rw [g2]
    rcases hlead with hl | rfl
    · exact EditG.startOf_not_lead k hl
    · unfold EditG.startOf; cases t.lead <;> rfl
  have e2 : (lg[i + 1]).2 = k + 1 := by rw [g3, EditG.endOf_none k hatt]
  refine ⟨h, e1, e2, ?_, ?_⟩
  · rw [← h2, valAt_mapP, valAt_eq lg i hi]; exact e1
  · rw [← h2, valAt_mapP, valAt_eq lg (i + 1) h]; exact e2

/-- **without deletions every unreplaced byte maps exactly to itself**: when no edit of any batch has an empty replacement, the
image of every byte that no replacement wrote is `[k, k + 1)` (nothing can be attached, nothing can be forced). -/
theorem no_deletion_exact (o : List Nat) (bs : List (List (Edit Nat))) (lv : LenV) (l : List (P Nat))
    (hr : Reached o bs lv l) (hnd : ∀ es ∈ bs, ∀ ed ∈ es, ed.w ≠ [])
    (lg : List (P EditG.GB)) (hg : EditG.commitAllVG lv (EditG.ghostIdent o) bs = some lg)
    (i : Nat) (hi : i < lg.length) (b : Nat) (t : EditG.Tag) (k : Nat) (hb : (lg[i]).1 = some (b, t)) (hk : t.org = some k) :
    ∃ h : i + 1 < lg.length, (lg[i]).2 = k ∧ (lg[i + 1]).2 = k + 1 := by
  have hno := EditG.not_deleted hnd (identFrom 0 o)
  obtain ⟨lg', h1, h2, h3, h4⟩ := unreplaced_exact o bs lv l hr
  cases Option.some.inj (h1.symm.trans hg)
  obtain ⟨h, _, g2, g3, g4, g5, g6, _⟩ := h4 i hi b t k hb hk
  refine ⟨h, ?_, ?_⟩
  · rw [g2]
    cases hl : t.lead with
    | false => exact EditG.startOf_not_lead k hl
    | true =>
      -- a first entry with something before it would need a deletion
      rcases Nat.eq_zero_or_pos k with rfl | h0
      · unfold EditG.startOf; rw [hl]; rfl
      · exact absurd (g5 hl 0 h0) (hno 0)
  · rw [g3]
    cases hat : t.att with
    | none => exact EditG.endOf_none k hat
    | some d =>
      rw [EditG.endOf_some k hat] at g4 ⊢
      exact (Nat.lt_or_eq_of_le g4).elim (fun h6 => absurd (g6 d hat (k + 1) (Nat.le_refl _) h6) (hno (k + 1)))
        Eq.symm

/-- **two unreplaced bytes that are neighbours in the rewritten text**: the second has never been forced to 0 and its own offset
`k'` is exactly where the image of the first ends - `k' = k + 1` (neighbours in the original too) unless a deletion run is attached
after the first, and then everything in between, `[k + 1, k')`, lies in the image of deleting edits.  (This is the character-level
reading: the bytes of an unreplaced character, and two unreplaced characters that follow each other, tile their own original range.) -/
theorem unreplaced_neighbours (o : List Nat) (bs : List (List (Edit Nat))) (lv : LenV) (l : List (P Nat))
    (hr : Reached o bs lv l) (lg : List (P EditG.GB)) (hg : EditG.commitAllVG lv (EditG.ghostIdent o) bs = some lg)
    (i : Nat) (hi : i + 1 < lg.length) (b b' : Nat) (t t' : EditG.Tag) (k k' : Nat)
    (hb : (lg[i]).1 = some (b, t)) (hk : t.org = some k) (hb' : (lg[i + 1]).1 = some (b', t')) (hk' : t'.org = some k') :
    t'.lead = false ∧ k' = EditG.endOf t k ∧ k + 1 ≤ k' ∧ (lg[i + 1]).2 = k' ∧
      (t.att = none → k' = k + 1) ∧ (∀ j, k + 1 ≤ j → j < k' → t.att ≠ none ∧ EditG.Deleted (identFrom 0 o) bs j) := by
  obtain ⟨lg', h1, h2, h3, h4⟩ := unreplaced_exact o bs lv l hr
  cases Option.some.inj (h1.symm.trans hg)
  obtain ⟨_, _, _, g3, g4, _, g6, _⟩ := h4 i (Nat.lt_of_succ_lt hi) b t k hb hk
  obtain ⟨_, _, f2, _⟩ := h4 (i + 1) hi b' t' k' hb' hk'
  -- the second entry has the value `endOf t k ≥ 1`, so it has not been forced to 0
  have hl : t'.lead = false := by
    cases hl : t'.lead with
    | false => rfl
    | true =>
      have h0 : EditG.startOf t' k' = 0 := by unfold EditG.startOf; rw [hl]; rfl
      rw [g3, h0] at f2
      exact absurd (f2 ▸ g4) (Nat.not_succ_le_zero k)
  rw [EditG.startOf_not_lead k' hl] at f2
  have hkk : k' = EditG.endOf t k := f2.symm.trans g3
  refine ⟨hl, hkk, hkk ▸ g4, f2, fun hat => hkk.trans (EditG.endOf_none k hat), fun j hj1 hj2 => ?_⟩
  cases hat : t.att with
  | none =>
    rw [hkk, EditG.endOf_none k hat] at hj2
    exact absurd hj2 (Nat.not_lt_of_le hj1)
  | some d =>
    rw [hkk, EditG.endOf_some k hat] at hj2
    exact ⟨fun h => (nomatch h), g6 d hat j hj1 hj2⟩

/-- **what the driver predicts is the map**: the `edits` answer line lists, for the `i`-th byte of the rewritten text whose ghost
state `t` (`EditG.tagsOf`: the ghost states of the entries in order - the sentinel entry has none, so position `i` in that list IS
byte offset `i`) says "unreplaced byte `k`", the image `[startOf t k, endOf t k)` computed from the ghost state alone
(`EditG.predicted`); that pair is `[m2o[i], m2o[i+1])` of the EXECUTED buffer.  (The harness compares the same pair with
`get_original_index` on the real buffer: the kernel-checked half of the `uimg=` tie.) -/
theorem predicted_image_is_map (o : List Nat) (bs : List (List (Edit Nat))) (lv : LenV) (l : List (P Nat))
    (hr : Reached o bs lv l) (lg : List (P EditG.GB)) (hg : EditG.commitAllVG lv (EditG.ghostIdent o) bs = some lg)
    (i : Nat) (t : EditG.Tag) (k : Nat) (ht : (EditG.tagsOf lg)[i]? = some t) (hk : t.org = some k) :
    i + 1 ≤ (textOf l).length ∧ valAt l i = EditG.startOf t k ∧ valAt l (i + 1) = EditG.endOf t k := by
  obtain ⟨lg', h1, h2, h3, h4⟩ := unreplaced_exact o bs lv l hr
  cases Option.some.inj (h1.symm.trans hg)
  have hinv := hr.inv
  obtain ⟨hi', b, hb⟩ := EditG.tagsOf_getElem
    (EditG.shape_of_mapP Prod.fst (h2 ▸ hinv.shape : Shape o.length (mapP Prod.fst lg))) ht
  have hi := Nat.lt_of_succ_lt hi'
  obtain ⟨h, _, g2, g3, _⟩ := h4 i hi b t k hb hk
  have hlen : (textOf l).length + 1 = lg.length := by rw [shape_length hinv.shape, ← h2, mapP_length]
  refine ⟨Nat.le_of_lt_succ (by rw [Nat.succ_eq_add_one, hlen]; exact hi'), ?_, ?_⟩
  · rw [← h2, valAt_mapP, valAt_eq _ i hi]; exact g2
  · rw [← h2, valAt_mapP, valAt_eq _ (i + 1) h]; exact g3

/-- non-vacuity of the ghost-tagged run: `abcd`, batch 1 deletes `a` (leading deletion) and `c`, batch 2 inserts `xy` before `b`:
`b` is tagged `1`, has been a first entry (`lead`, value 0: the deleted `a` attaches to it) and the deleted `c` is attached after
it (`att = some 3`: its image ends at 3, not at 2); `d` maps to itself; the inserted bytes are tagged "written by a
replacement".  Predicted images `[0, 3)` and `[3, 4)` = the map values. -/
example :
    EditG.commitAllVG .final (EditG.ghostIdent [0x61, 0x62, 0x63, 0x64]) [[⟨0, 1, []⟩, ⟨2, 3, []⟩], [⟨0, 0, [0x78, 0x79]⟩]]
      = some [(some (0x78, ⟨none, none, true⟩), 0), (some (0x79, ⟨none, none, false⟩), 0),
              (some (0x62, ⟨some 1, some 3, true⟩), 0), (some (0x64, ⟨some 3, none, false⟩), 3), (none, 4)] ∧
    EditG.Deleted (identFrom 0 [0x61, 0x62, 0x63, 0x64]) [[⟨0, 1, []⟩, ⟨2, 3, []⟩], [⟨0, 0, [0x78, 0x79]⟩]] 2 ∧
    EditG.Deleted (identFrom 0 [0x61, 0x62, 0x63, 0x64]) [[⟨0, 1, []⟩, ⟨2, 3, []⟩], [⟨0, 0, [0x78, 0x79]⟩]] 0 := by
  exact ⟨by decide +kernel, Or.inl ⟨⟨2, 3, []⟩, List.mem_cons_of_mem _ List.mem_cons_self, rfl, by decide, by decide⟩,
    Or.inl ⟨⟨0, 1, []⟩, List.mem_cons_self, rfl, by decide, by decide⟩⟩

/-- non-vacuity of `no_deletion_exact`'s hypothesis and of "the image may end later only next to a deletion": `宇宙人` with the
second character replaced by `x` (no deletion): the bytes of `宇` and `人` map to themselves; the replacement byte has the image
`[3, 6)` -/
example :
    (EditG.commitAllVG .final (EditG.ghostIdent [0xE5, 0xAE, 0x87, 0xE5, 0xAE, 0x99, 0xE4, 0xBA, 0xBA]) [[⟨3, 6, [0x78]⟩]]).map
      (fun lg => (snds lg, EditG.predicted 0 (EditG.tagsOf lg)))
      = some ([0, 1, 2, 3, 6, 7, 8, 9], ["0:0:1", "1:1:2", "2:2:3", "4:6:7", "5:7:8", "6:8:9"]) ∧
    (∀ es ∈ [[(⟨3, 6, [0x78]⟩ : Edit Nat)]], ∀ ed ∈ es, ed.w ≠ []) := by
  decide +kernel

/-! ## the whole tokenizer: code-point offsets of every morpheme, no `hb`/`he` -/

open Total Partition Oov in
/-- **`tokenizer_morpheme_codepoints`** (first sentence of the property for the WHOLE of `do_tokenize`; `C01.tokens_partition_original`
composed with `slice_agree`'s arithmetic - the hypotheses `hb`/`he` of `routes_agree`/`morpheme_accessors_total` are not needed: that the
byte range of a morpheme is the `mod_c2b` image of its character range is what C01's `PathOk` carries through the lattice, the
rewrite stage and `split_path`).  For EVERY morpheme `m` of EVERY result `Total.tokenize` returns (every mode, dictionary, plugin
stack; hypotheses exactly those of `C01.tokens_partition_original`): all five accessors are defined (`Total.access` = `begin`,
`end`, `begin_c`, `end_c`, `surface` with every index check and debug assertion), `begin ≤ end ≤ |original|` on character
boundaries of the ORIGINAL, `begin_c`/`end_c` are the numbers of code points of the original before `begin()`/`end()`, character
number `begin_c` (`end_c`) of the original begins at byte `begin()` (`end()`) - slicing the original by code points IS slicing it
by bytes -, `end_c - begin_c` is the number of code points of that slice (Python `len(m)`), and `surface()` is that slice
(`sb = begin`, `se = end`: the byte route gives the same range). -/
theorem tokenizer_morpheme_codepoints (lv : LenV) (cfg : Cfg) (orig : List Nat) (horig : BoOf orig 0)
    (hplug : ∀ p ∈ cfg.inputPlugins, PluginOk orig p)
    (hutf : ∀ l0 l chars, startBuild orig = some l0 → rewriteInput lv cfg.inputPlugins l0 = .ok l →
      Wire.utf8Decode (textOf l) = some chars → chars.length = nchars (textOf l))
    (rv : Oov.Variant) (bowFix : Bool) (tab : List (Nat × Nat))
    (hmk : ∀ chars, Oov.mkBufV rv bowFix tab chars = some (cfg.mkBuf chars))
    (hrowsz : ∀ chars nodes, Reaches lv cfg orig chars → Oov.buildLattice cfg.providers cfg.lex (cfg.mkBuf chars) = .ok nodes →
      ∀ e, (nodes.map toVit).countP (fun n => n.e == e) ≤ 4294967295)
    (hrew : ∀ (tb2c tc2b : List Nat) (nc nb : Nat) path path', PathOk tb2c tc2b nc nb path → cfg.rewrite path = .ok path' →
      PathOk tb2c tc2b nc nb (path'.map (·.1)))
    (r : Result) (h : tokenize .d6fix lv cfg orig = .ok r) :
    ∀ m ∈ r.morphs, ∃ a, access orig r.tables m = .ok a ∧
      a.b ≤ a.e ∧ a.e ≤ orig.length ∧ BoOf orig a.b ∧ BoOf orig a.e ∧
      a.bc = nchars (orig.take a.b) ∧ a.ec = nchars (orig.take a.e) ∧
      (c2b orig)[a.bc]? = some a.b ∧ (c2b orig)[a.ec]? = some a.e ∧
      a.ec - a.bc = nchars (slice orig a.b a.e) ∧
      a.sb = a.b ∧ a.se = a.e := by
  exact codepoints_of_partition orig r
    (C01.tokens_partition_original lv cfg orig horig hplug hutf rv bowFix tab hmk hrowsz hrew r h)

open Total Partition Oov in
/-- **`tokenizer_morpheme_codepoints` for the configuration a `pipe` case line is executed with** (`TotalIO.mkCfg`: the SAME instance
of the SAME function the driver runs against the real tokenizer in C03's correspondence stream; `C01.pipe_tokens_partition`
composed): `hmk` and `hrew` are discharged there (buffer over the compiled `char.def`, word-info stage with ANY unit table = any
split mode and any - also ill-formed - split declarations), `hutf` is in its honest form (the rewritten text IS the UTF-8 encoding
of the characters it decodes to).  Remaining: `horig` (a `&str`), `hplug` (the input-text plugins emit sorted, non-overlapping,
in-range edits on character starts), `hrowsz` (at most 2^32 − 1 candidates per boundary). -/
theorem pipe_morpheme_codepoints (lv : LenV) (orig : List Nat) (horig : BoOf orig 0)
    (plugins : List (List Nat → Outcome (List (Edit Nat)))) (rv : Oov.Variant) (bowFix : Bool)
    (rs : List CharCat.CatRange) (ps : List Oov.Provider) (lex : List Oov.Word) (conn : Nat → Nat → Int)
    (units : EditM.NodeRange → List Nat)
    (hplug : ∀ p ∈ plugins, PluginOk orig p)
    (hutf : ∀ l0 l chars, startBuild orig = some l0 → rewriteInput lv plugins l0 = .ok l →
      Wire.utf8Decode (textOf l) = some chars → textOf l = TotalIO.encode chars)
    (hrowsz : ∀ chars nodes, Reaches lv (TotalIO.mkCfg plugins rv bowFix rs ps lex conn units) orig chars →
      Oov.buildLattice ps lex (TotalIO.mkBufOf rv bowFix (CharCat.compile rs) chars) = .ok nodes →
      ∀ e, (nodes.map toVit).countP (fun n => n.e == e) ≤ 4294967295)
    (r : Result) (h : tokenize .d6fix lv (TotalIO.mkCfg plugins rv bowFix rs ps lex conn units) orig = .ok r) :
    ∀ m ∈ r.morphs, ∃ a, access orig r.tables m = .ok a ∧
      a.b ≤ a.e ∧ a.e ≤ orig.length ∧ BoOf orig a.b ∧ BoOf orig a.e ∧
      a.bc = nchars (orig.take a.b) ∧ a.ec = nchars (orig.take a.e) ∧
      (c2b orig)[a.bc]? = some a.b ∧ (c2b orig)[a.ec]? = some a.e ∧
      a.ec - a.bc = nchars (slice orig a.b a.e) ∧
      a.sb = a.b ∧ a.se = a.e :=
  codepoints_of_partition orig r
    (C01.pipe_tokens_partition lv orig horig plugins rv bowFix rs ps lex conn units hplug hutf hrowsz r h)

end C08
