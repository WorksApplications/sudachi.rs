import Sudachi.Proofs.CharCat
import Sudachi.Proofs.CharCatIter
import Sudachi.Proofs.CharCatRead
/-!
# C17 — Character classes of a code point are the union of all definitions covering it

Model: `CharCat.compile` (`character_category.rs: compile`, `collect_boundaries`) and
`CharCat.lookup` (`get_category_types`), which calls `CharCat.bsearch`, a transcription of the
standard library's `slice::binary_search_by` (rustc 1.95.0, the toolchain the harness is built with);
its documented contract (`searchIdx`, a linear scan) is PROVED of it (`binary_search_contract`), not
assumed.  Quantifiers: every list of definition lines that loads (each `begin < end`, which the loader
enforces: `loaded_ranges_wellformed`) and every code point.

The READER is in the model byte for byte (`readDef`: `BufRead::lines`, UTF-8 validation,
`trim`/`split_whitespace` with Unicode White_Space, `split("..")`, `trim_start_matches("0x")`,
`u32::from_str_radix` with its error kinds, the `+ 1` overflow, the range checks, the comment cut and
`CategoryType::from_str` = the bitflags flag-expression parser) and so is `CharacterCategory::iter()`
(`iterRanges`).
-/
namespace C17
open CharCat

/-- Full statement.  For every loaded definition `rs` and every code point `x`, the class set
reported by bisection over the compiled table is the union of the classes of all lines covering
`x`, or DEFAULT when that union is empty. -/
theorem lookup_compile_eq_union (rs : List CatRange) (hwf : ∀ r ∈ rs, r.b < r.e) (x : Nat) :
    lookup (compile rs) x = some (spec rs x) := by
  rw [lookup_eq_denF _ (sinc_compile rs), compile_correct rs hwf]

/-- **Bisection meets its contract.**  On every strictly increasing slice the transcribed
`binary_search_by` loop (halving `size`, branch-free `base` update, final three-way comparison)
returns exactly the contract value: `Ok(i)` with `l[i] = x`, else `Err` of the insertion point. -/
theorem binary_search_contract (l : List Nat) (hs : SInc l) (x : Nat) :
    bsearch l x = some (searchIdx l x) :=
  bsearch_eq_searchIdx l hs x

/-- what the contract value is: the flag says whether `x` occurs, the index is the number of
elements smaller than `x` (so `l[i] = x` on a hit), for every strictly increasing slice -/
theorem binary_search_meaning (l : List Nat) (hs : SInc l) (x : Nat) :
    ∃ i b, bsearch l x = some (i, b) ∧ i ≤ l.length ∧ (b = true ↔ l[i]? = some x) ∧ (b = true ↔ x ∈ l) ∧
      (∀ j (h : j < l.length), j < i → l[j] < x) ∧ (∀ j (h : j < l.length), i ≤ j → x ≤ l[j]) := by
  obtain ⟨k, hk, hle, h1, h2⟩ := bsearch_lower_bound l hs x
  refine ⟨k, decide (l[k]? = some x), hk, hle, decide_eq_true_iff, ?_, h1, h2⟩
  rw [decide_eq_true_iff]
  refine ⟨List.mem_of_getElem?, fun hx => ?_⟩
  obtain ⟨j, hj, rfl⟩ := List.getElem_of_mem hx
  -- `l[j]` does not stand before `k`, and what stands after `k` is greater than `l[k] ≥ l[j]`
  have hkj : k ≤ j := Nat.not_lt.mp fun hjk => Nat.lt_irrefl _ (h1 j hj hjk)
  rcases Nat.eq_or_lt_of_le hkj with rfl | hlt
  · exact List.getElem?_eq_getElem hj
  · exact absurd (sinc_getElem l hs k j hj hlt) (Nat.not_lt.mpr (h2 k (Nat.lt_trans hlt hj) (Nat.le_refl _)))

/-- memory safety of the two `get_unchecked` calls of `binary_search_by`: for ANY slice (sorted or
not) and any key the transcribed loop never reads outside the slice -/
theorem binary_search_in_range (l : List Nat) (x : Nat) : bsearch l x ≠ none :=
  bsearch_in_range l x

/-- `compile`'s own `boundaries.binary_search(&range.begin)`: for every loaded line the search over the
collected boundaries is a hit (the `panic!("there can not be not found boundaries")` arm is
unreachable) at the position holding `begin` — the position `applyRange` finds by scanning (it is
unique, the boundaries being strictly increasing). -/
theorem compile_search_hits (rs : List CatRange) (r : CatRange) (hr : r ∈ rs) :
    ∃ i, bsearch (collectBoundaries rs) r.b = some (i, true) ∧ (collectBoundaries rs)[i]? = some r.b := by
  obtain ⟨i, b, h1, _, h3, h4, _, _⟩ := binary_search_meaning (collectBoundaries rs) (sinc_collect rs) r.b
  have hb : b = true := h4.mpr ((mem_collect rs r.b).mpr ⟨r, hr, Or.inl rfl⟩)
  subst hb
  exact ⟨i, h1, h3.mp rfl⟩

/-- `spec` really is the union: a class bit is reported iff some covering line carries it
(when at least one class is carried at all). -/
theorem spec_is_union (rs : List CatRange) (x k : Nat) (hne : unionAt rs x ≠ 0) :
    (spec rs x).testBit k = rs.any (fun r => decide (r.b ≤ x ∧ x < r.e) && r.c.testBit k) := by
  simp [spec, hne, testBit_unionAt]

theorem spec_default (rs : List CatRange) (x : Nat) (h : unionAt rs x = 0) :
    spec rs x = DEFAULT := by
  simp [spec, h]

/-- Independence of order, duplication, overlap and adjacency: two definitions whose lines cover
every code point with the same classes report the same classes everywhere. -/
theorem order_independent (rs rs' : List CatRange)
    (hwf : ∀ r ∈ rs, r.b < r.e) (hwf' : ∀ r ∈ rs', r.b < r.e)
    (hsame : ∀ x k, rs.any (fun r => decide (r.b ≤ x ∧ x < r.e) && r.c.testBit k) =
                    rs'.any (fun r => decide (r.b ≤ x ∧ x < r.e) && r.c.testBit k)) (x : Nat) :
    lookup (compile rs) x = lookup (compile rs') x := by
  rw [lookup_compile_eq_union rs hwf, lookup_compile_eq_union rs' hwf']
  have hu : unionAt rs x = unionAt rs' x := by
    apply Nat.eq_of_testBit_eq
    intro k
    rw [testBit_unionAt, testBit_unionAt, hsame]
  simp [spec, hu]

/-- permutation of the lines is a special case -/
theorem perm_independent (rs rs' : List CatRange) (hp : rs.Perm rs')
    (hwf : ∀ r ∈ rs, r.b < r.e) (x : Nat) :
    lookup (compile rs) x = lookup (compile rs') x :=
  order_independent rs rs' hwf (fun r hr => hwf r (hp.mem_iff.mpr hr)) (fun _ _ => hp.any_eq) x

/-- `unionAt` is empty exactly when every covering line has an empty class list -/
theorem union_empty_iff (rs : List CatRange) (x : Nat) :
    unionAt rs x = 0 ↔ ∀ r ∈ rs, r.b ≤ x ∧ x < r.e → r.c = 0 :=
  unionAt_eq_zero rs x

/-- **`lookup_total`.**  Every code point gets an answer from the bisection (no panic, no index out of the
table), the answer is never the empty set, it is DEFAULT when no line covers the code point, and an answer
other than DEFAULT is witnessed by a covering line with a non-empty class list.  "DEFAULT exactly when no
line covers it" is the reading of the property for lines with non-empty class lists that do not name
DEFAULT themselves; the exact statement is the last clause (`default_does_not_mean_uncovered` shows the
two ways a covered code point is DEFAULT). -/
theorem lookup_total (rs : List CatRange) (hwf : ∀ r ∈ rs, r.b < r.e) (x : Nat) :
    ∃ c, lookup (compile rs) x = some c ∧ c ≠ 0 ∧
      ((∀ r ∈ rs, ¬ (r.b ≤ x ∧ x < r.e)) → c = DEFAULT) ∧
      (c ≠ DEFAULT → ∃ r ∈ rs, r.b ≤ x ∧ x < r.e ∧ r.c ≠ 0) ∧
      (c = DEFAULT ↔ (∀ r ∈ rs, r.b ≤ x ∧ x < r.e → r.c = 0) ∨ unionAt rs x = DEFAULT) := by
  refine ⟨spec rs x, lookup_compile_eq_union rs hwf x, ?_⟩
  have hspec : spec rs x = if unionAt rs x = 0 then DEFAULT else unionAt rs x := rfl
  by_cases hu : unionAt rs x = 0
  · rw [hspec, if_pos hu]
    exact ⟨by decide, fun _ => rfl, fun h => absurd rfl h, fun _ => .inl ((union_empty_iff rs x).mp hu), fun _ => rfl⟩
  · rw [hspec, if_neg hu]
    refine ⟨hu, fun h => absurd ((union_empty_iff rs x).mpr fun r hr hc => absurd hc (h r hr)) hu, fun _ => ?_,
      .inr, fun h => h.elim (fun h => absurd ((union_empty_iff rs x).mpr h) hu) id⟩
    exact Classical.byContradiction fun hne => hu ((union_empty_iff rs x).mpr fun r hr hc =>
      Classical.byContradiction fun hc0 => hne ⟨r, hr, hc.1, hc.2, hc0⟩)

/-- a covered code point is DEFAULT when its lines carry no class (`0x30 #comment`) or name DEFAULT -/
theorem default_does_not_mean_uncovered :
    lookup (compile [⟨48, 49, 0⟩]) 48 = some DEFAULT ∧ lookup (compile [⟨48, 49, 1⟩]) 48 = some DEFAULT := by
  decide +kernel

/-- **The reader lets through proper ranges only**: every range of a file that loads has
`begin < end ≤ char::MAX` with both ends scalar values — the hypothesis `hwf` of the theorems above and the
reason why the `char::from_u32(..).unwrap()` calls of `iter()` cannot panic. -/
theorem loaded_ranges_wellformed (bytes : List Nat) (rs : List CatRange) (h : readDef bytes = .ok rs) :
    ∀ r ∈ rs, r.b < r.e ∧ isScalar r.b = true ∧ isScalar r.e = true ∧ r.e ≤ 0x10FFFF := by
  intro r hr
  obtain ⟨line, hl⟩ := readFrom_ok_mem _ _ _ h r hr
  exact parseLine_ok_wf line r hl

/-- the property for FILES: whatever bytes load, bisection over the compiled table reports the union of
the classes of the covering lines of that file, or DEFAULT -/
theorem loaded_file_lookup (bytes : List Nat) (rs : List CatRange) (h : readDef bytes = .ok rs) (x : Nat) :
    lookup (compile rs) x = some (spec rs x) :=
  lookup_compile_eq_union rs (fun r hr => (loaded_ranges_wellformed bytes rs h r hr).1) x

/-- **Reader, clause 1: total, in order.**  The loop over the lines either accepts every line and then
yields exactly the ranges of the well-formed lines in file order (`lineRange` = the `(begin, end, classes)`
triple of a line, `none` for a skipped one), or it stops at the FIRST refused line and reports it with its
0-based line number; there is no third outcome. -/
theorem reader_total_in_order (ls : List (List Char)) (i : Nat) :
    ((∀ l ∈ ls, lineOk l) ∧ parseLinesFrom i ls = .ok (ls.filterMap lineRange)) ∨
    (∃ pre l post e, ls = pre ++ l :: post ∧ (∀ l' ∈ pre, lineOk l') ∧ parseLine l = .error e ∧
      parseLinesFrom i ls = .error (i + pre.length, e)) := by
  induction ls with
  | nil => exact .inl ⟨nofun, rfl⟩
  | cons l ls ih =>
    cases hl : parseLine l with
    | error e => exact .inr ⟨[], l, ls, e, rfl, nofun, hl, parseLinesFrom_error [] l ls i e nofun hl⟩
    | ok o =>
      rcases ih with ⟨hall, _⟩ | ⟨pre, l', post, e, heq, hpre, hl', _⟩
      · have hp : ∀ l' ∈ l :: ls, lineOk l' := List.forall_mem_cons.mpr ⟨⟨o, hl⟩, hall⟩
        exact .inl ⟨hp, parseLinesFrom_ok _ i hp⟩
      · have hp : ∀ x ∈ l :: pre, lineOk x := List.forall_mem_cons.mpr ⟨⟨o, hl⟩, hpre⟩
        exact .inr ⟨l :: pre, l', post, e, congrArg (l :: ·) heq, hp, hl',
          heq ▸ parseLinesFrom_error (l :: pre) l' post i e hp hl'⟩

/-- **Reader, clause 2: bytes.**  `BufRead::lines` in front of the loop: when every segment is UTF-8 the
result is the loop on the decoded lines; the first segment that is not UTF-8 — if everything before it was
accepted — ends the load with an I/O error. -/
theorem reader_bytes (segs : List (List Nat × Bool)) (i : Nat) :
    (∀ ls : List (List Char), segs.map decodeSegment = ls.map some → readFrom i segs = parseLinesFrom i ls) ∧
    (∀ pre seg post, segs = pre ++ seg :: post → (∀ s ∈ pre, ∃ l, decodeSegment s = some l ∧ lineOk l) →
      decodeSegment seg = none → readFrom i segs = .error (i + pre.length, .io)) :=
  ⟨fun ls h => readFrom_eq_parseLinesFrom segs ls i h,
   fun pre seg post heq hpre hseg => by rw [heq]; exact readFrom_io pre seg post i hpre hseg⟩

/-- the two places where the loop body indexes / unwraps (`r[0]`, `elem.chars().next().unwrap()`) cannot
panic: the only panic of the reader is the `+ 1` on `0xFFFFFFFF` (debug build) -/
theorem reader_no_index_panic (line : List Char) : parseLine line ≠ .error .panicUnreachable := by
  intro h
  rcases parseLine_cases line with hp | ⟨_, hp, hne⟩ | ⟨_, hp, _⟩ <;> rw [hp] at h <;> cases h
  exact hne rfl

/-- **`u32::from_str_radix(_, 16)`** (both number fields and the hex form of a class column): `Ok(n)` iff the
string, after one optional `+`, is a non-empty string of hex digits (either case, any number of leading
zeros) with positional value `n < 2³²` -/
theorem from_str_radix_spec (s : List Char) (n : Nat) :
    u32FromStrRadix16 s = .ok n ↔ afterSign s ≠ [] ∧ hexValue (afterSign s) 0 = some n ∧ n < 4294967296 := by
  rw [u32FromStrRadix16_eq]
  by_cases h : afterSign s = []
  · rw [if_pos h]; exact ⟨nofun, fun h' => absurd h h'.1⟩
  · rw [if_neg h]; exact (radixGo_spec _ 0 n (by decide)).trans ⟨fun h' => ⟨h, h'⟩, fun h' => h'.2⟩

/-- **Class names** (`CategoryType::from_str`, seeded C17b): `ALL` is the constant without the two
NOOOVBOW bits, not "every bit"; `A|B` is the union; a hex number is taken bit for bit -/
theorem all_is_without_noovbow :
    categoryFromStr "ALL".toList = some 0x3FFFFFFF ∧ (0x3FFFFFFF : Nat).testBit 30 = false ∧
    (0x3FFFFFFF : Nat).testBit 31 = false ∧
    categoryFromStr "ALL|NOOOVBOW".toList = some 0x7FFFFFFF ∧
    categoryFromStr "KANJI|ALPHA".toList = some 36 ∧ categoryFromStr "0x40".toList = some 64 ∧
    categoryFromStr "|".toList = none ∧ categoryFromStr "kanji".toList = none ∧ categoryFromStr "0x".toList = none := by
  -- the kernel decodes a string literal slowly; as `String.ofList` of its characters it need not
  repeat rw [String.toList_ofList]
  decide +kernel

/-- **U+10FFFF can never be given a class**: a line containing it would need `end = 0x110000`, which the
reader refuses (`InvalidChar`); so for every file that loads the last scalar value is DEFAULT. -/
theorem max_scalar_never_covered (bytes : List Nat) (rs : List CatRange) (h : readDef bytes = .ok rs) :
    lookup (compile rs) 0x10FFFF = some DEFAULT := by
  rw [loaded_file_lookup bytes rs h]
  have : unionAt rs 0x10FFFF = 0 := by
    rw [union_empty_iff]
    intro r hr hc
    exact absurd (Nat.lt_of_lt_of_le hc.2 (loaded_ranges_wellformed bytes rs h r hr).2.2.2) (Nat.lt_irrefl _)
  simp [spec, this]

/-- **`iter()`, full statement.**  For every file that loads and has at least one range line, `iter()` does
not panic and yields consecutive HALF-OPEN ranges `start..end` running from 0 to `char::MAX` (`Chain`);
every code point below `char::MAX` lies in exactly one of them; the classes of a range are, for every code
point in it, the union of the classes of the covering lines or DEFAULT (what `get_category_types` reports);
neighbouring ranges carry the same classes only when these are DEFAULT (so for every other class set the
ranges are the MAXIMAL runs); and `char::MAX` itself lies in no range (it is DEFAULT by
`max_scalar_never_covered`). -/
theorem iter_ranges_spec (bytes : List Nat) (rs : List CatRange) (h : readDef bytes = .ok rs) (hne : rs ≠ []) :
    ∃ items, iterRanges (compile rs) = some items ∧ Chain 0 items charMax ∧
      (∀ x, x < charMax → countIn x items = 1) ∧
      (∀ it ∈ items, ∀ x, it.1 ≤ x → x < it.2.1 → it.2.2 = spec rs x) ∧
      AdjEqDef (items.map (·.2.2)) ∧
      countIn charMax items = 0 := by
  have hwf := loaded_ranges_wellformed bytes rs h
  have hsc : ∀ b ∈ fsts (compile rs), isScalar b = true := by
    intro b hb
    obtain ⟨r, hr, hb'⟩ := mem_fsts_compile rs b hb
    rcases hb' with rfl | rfl
    · exact (hwf r hr).2.1
    · exact (hwf r hr).2.2.1
  obtain ⟨items, h1, h2, h3, h4⟩ := iterRanges_of_sinc (compile rs) (compile_ne_nil rs hne) (sinc_compile rs) hsc
  refine ⟨items, h1, h2, fun x hx => (countIn_chain h2 x).trans (if_pos ⟨Nat.zero_le _, hx⟩), ?_, ?_,
    (countIn_chain h2 _).trans (if_neg fun h => Nat.lt_irrefl _ h.2)⟩
  · intro it hit x hx1 hx2
    rw [h3 it hit x hx1 hx2, compile_correct rs (fun r hr => (hwf r hr).1)]
  · rw [h4]; exact adjEqDef_compile rs

/-- **Finding (pinned code).**  A definition file without any range line (empty, comments only, a BOM in front
of its only line) loads, every code point is DEFAULT — and `iter()` panics on it
(`boundaries.last().unwrap()` on the empty vector; reached from `IgnoreYomiganaPlugin::set_up`). -/
theorem iter_empty_table_counterexample :
    readDef [] = .ok [] ∧ readDef [0x23, 0x61, 0x0A] = .ok [] ∧
    readDef [0xEF, 0xBB, 0xBF, 0x30, 0x78, 0x33, 0x30, 0x20, 0x30, 0x78, 0x31, 0x0A] = .ok [] ∧
    (∀ x, lookup (compile []) x = some DEFAULT) ∧ iterRanges (compile []) = none := by
  exact ⟨rfl, rfl, rfl, fun _ => rfl, rfl⟩

/-- the repair (`c5a8024` in the repository, finding F-ITER-EMPTY): one range `0..char::MAX` with DEFAULT on the empty table,
nothing changed on any other table -/
theorem iter_repaired_empty_table :
    iterRangesV .fix (compile []) = some [(0, charMax, DEFAULT)] ∧
    (∀ tab, tab ≠ [] → iterRangesV .fix tab = iterRangesV .cur tab) ∧
    (∀ tab, iterRangesV .cur tab = iterRanges tab) := by
  refine ⟨by rfl, ?_, ?_⟩
  · intro tab h; cases tab with
    | nil => exact absurd rfl h
    | cons p t => rfl
  · intro tab; cases tab <;> rfl

/-- the ranges of `iter()` are NOT always maximal: DEFAULT written out next to an empty class list
(`0x30 DEFAULT` / `0x31 #nothing`), or next to the uncovered rest, gives neighbouring DEFAULT ranges -/
theorem iter_not_maximal_counterexample :
    iterRanges (compile [⟨48, 49, 1⟩, ⟨49, 50, 0⟩]) = some [(0, 49, 1), (49, 50, 1), (50, charMax, 1)] := by
  decide +kernel

/-- **The classes the analyser gets (seeded C17e).**  `InputBuffer::build` is the only place where the analyser
asks for the classes of the characters of a text.  For every definition file that loads and EVERY text: `build` does
not panic, its category column `mod_cat` has one entry per character, and `cat_at_char(i)` reports exactly the union of
the classes of the lines covering the i-th character (DEFAULT when none) - a function of that character and the file
alone, independent of the other characters of the text and of the position. -/
theorem buffer_categories_eq_union (bytes : List Nat) (rs : List CatRange) (h : readDef bytes = .ok rs)
    (text : List Nat) :
    ∃ mc, bufferCats (compile rs) text = some mc ∧ mc.length = text.length ∧
      ∀ (i : Nat) (hi : i < text.length), catAtChar mc i = some (spec rs text[i]) := by
  refine ⟨text.map (spec rs), bufferCats_eq_map _ _ (loaded_file_lookup bytes rs h) text, by simp, ?_⟩
  intro i hi
  simp [catAtChar, hi]

/-- corollary, the independence spelled out: the same character in two texts (or at two positions of one text) built
with the same loaded file is reported with the same classes -/
theorem buffer_categories_context_independent (bytes : List Nat) (rs : List CatRange) (h : readDef bytes = .ok rs)
    (t₁ t₂ mc₁ mc₂ : List Nat) (h₁ : bufferCats (compile rs) t₁ = some mc₁) (h₂ : bufferCats (compile rs) t₂ = some mc₂)
    (i j : Nat) (hi : i < t₁.length) (hj : j < t₂.length) (heq : t₁[i] = t₂[j]) :
    catAtChar mc₁ i = catAtChar mc₂ j := by
  obtain ⟨m₁, e₁, _, a₁⟩ := buffer_categories_eq_union bytes rs h t₁
  obtain ⟨m₂, e₂, _, a₂⟩ := buffer_categories_eq_union bytes rs h t₂
  rw [h₁] at e₁; rw [h₂] at e₂
  cases e₁; cases e₂
  rw [a₁ i hi, a₂ j hj, heq]

/-- `cat_of_range(s..e)` on a built buffer: for a non-empty range inside the text no panic, and the classes common
to the unions of the covering lines of the characters `s..e` (fold of `&` from `CategoryType::all()`); for the
one-character range `i..i+1` that is `ALL_BITS &&& (classes of character i)` -/
theorem buffer_range_eq_common (bytes : List Nat) (rs : List CatRange) (h : readDef bytes = .ok rs)
    (text mc : List Nat) (hb : bufferCats (compile rs) text = some mc) (s e : Nat) (hse : s < e) (he : e ≤ text.length) :
    catOfRange mc s e = some ((((text.drop s).take (e - s)).map (spec rs)).foldl (fun a b => a &&& b) ALL_BITS) := by
  have hm := bufferCats_eq_map _ _ (loaded_file_lookup bytes rs h) text
  rw [hb] at hm
  cases hm
  have h2 : ¬ (text.map (spec rs)).length < e := by rw [List.length_map]; exact Nat.not_lt.mpr he
  simp only [catOfRange, Nat.not_le.mpr hse, h2, if_false]
  rw [← List.map_drop, ← List.map_take]

/-- non-vacuity of the buffer theorems and the seeded change C17e in the kernel: with `0x41..0x5A ALPHA` and
`0x20000..0x2A6DF KANJI` the text `A U+20041` reports ALPHA then KANJI, the reversed text KANJI then ALPHA (a cache
keyed by the low 16 bits of the code point would answer ALPHA, ALPHA / KANJI, KANJI); the empty text; a range query -/
example :
    bufferCats (compile [⟨0x41, 0x5B, 32⟩, ⟨0x20000, 0x2A6E0, 4⟩]) [0x41, 0x20041] = some [32, 4] ∧
    bufferCats (compile [⟨0x41, 0x5B, 32⟩, ⟨0x20000, 0x2A6E0, 4⟩]) [0x20041, 0x41, 0x141, 0x20041] = some [4, 32, 1, 4] ∧
    bufferCats (compile [⟨0x41, 0x5B, 32⟩, ⟨0x20000, 0x2A6E0, 4⟩]) [] = some [] ∧
    catAtChar [32, 4] 1 = some 4 ∧ catAtChar [32, 4] 2 = none ∧
    catOfRange [36, 4, 32] 0 2 = some 4 ∧ catOfRange [36, 4, 32] 0 3 = some 0 ∧ catOfRange [36, 4, 32] 2 2 = some 0 ∧
    catOfRange [36, 4, 32] 2 4 = none := by
  decide +kernel

/-- non-vacuity of the hypothesis `readDef bytes = .ok rs` together with a text: the file `0x30 0x4` + LF -/
example : ∃ rs mc, readDef [0x30, 0x78, 0x33, 0x30, 0x20, 0x30, 0x78, 0x34, 0x0A] = .ok rs ∧
    bufferCats (compile rs) [0x30, 0x10030, 0x30] = some mc ∧ mc = [4, 1, 4] :=
  ⟨[⟨48, 49, 4⟩], [4, 1, 4], by rfl, by decide +kernel, rfl⟩

/-- non-vacuity of the reader theorems: lines in every accepted spelling, refused lines with their error -/
example :
    parseLine "0x0030..0x0039 NUMERIC".toList = .ok (some ⟨48, 58, 16⟩) ∧
    parseLine "　 0x+30..39..7\tKANJI|0x40 #c".toList = .ok (some ⟨48, 58, 68⟩) ∧
    parseLine "0x0x30 #nothing".toList = .ok (some ⟨48, 49, 0⟩) ∧
    parseLine "0X30 KANJI".toList = .ok none ∧ parseLine " # 0x30".toList = .ok none ∧
    parseLine "0x30".toList = .error .invalidFormat ∧
    parseLine "0x39..0x30 KANJI".toList = .error .invalidFormat ∧
    parseLine "0xD7FF KANJI".toList = .error (.invalidChar 0xD800) ∧
    parseLine "0x10FFFF KANJI".toList = .error (.invalidChar 0x110000) ∧
    parseLine "0x100000000 KANJI".toList = .error (.parseInt .posOverflow) ∧
    parseLine "0x KANJI".toList = .error (.parseInt .empty) ∧
    parseLine "0x30.. KANJI".toList = .error (.parseInt .empty) ∧
    parseLine "0x-30 KANJI".toList = .error (.parseInt .invalidDigit) ∧
    parseLine "0xFFFFFFFF KANJI".toList = .error .panicOverflow ∧
    parseLine "0x30 KANJII".toList = .error (.invalidType "KANJII".toList) := by
  repeat rw [String.toList_ofList]
  refine ⟨by rfl, by rfl, by rfl, by rfl, by rfl, by rfl, by rfl, by rfl, by rfl, by rfl, by rfl, by rfl, by rfl, by rfl, by rfl⟩

/-- non-vacuity of `reader_bytes` / first-error order: CRLF, no final newline, a refused line before bytes
that are not UTF-8 and the other way round -/
example :
    readDef [0x30, 0x78, 0x33, 0x30, 0x20, 0x30, 0x78, 0x34, 0x0D, 0x0A, 0x30, 0x78, 0x33, 0x31, 0x20, 0x30, 0x78, 0x38]
      = .ok [⟨48, 49, 4⟩, ⟨49, 50, 8⟩] ∧
    readDef [0x30, 0x78, 0x33, 0x30, 0x0A, 0x23, 0xFF, 0x0A] = .error (0, .invalidFormat) ∧
    readDef [0x23, 0xFF, 0x0A, 0x30, 0x78, 0x33, 0x30, 0x0A] = .error (0, .io) ∧
    readDef [0x23, 0xED, 0xA0, 0x80, 0x0A] = .error (0, .io) ∧ readDef [0x23, 0xC0, 0x80] = .error (0, .io) := by
  refine ⟨by rfl, by rfl, by rfl, by rfl, by rfl⟩

/-- non-vacuity at the boundary values the seeded changes exposed: U+00FF/U+0100 (table size, `u8`),
U+FFFF/U+10000 (`u16`, 3/4-byte), the last coverable code point U+10FFFE and U+10FFFF, the surrogate gap
U+D7FF/U+E000 — hypotheses of `lookup_compile_eq_union` met, values as the union says -/
example :
    (∀ r ∈ [⟨0xC0, 0x100, 32⟩, (⟨0x100, 0x180, 512⟩ : CatRange)], r.b < r.e) ∧
    lookup (compile [⟨0xC0, 0x100, 32⟩, ⟨0x100, 0x180, 512⟩]) 0xFF = some 32 ∧
    lookup (compile [⟨0xC0, 0x100, 32⟩, ⟨0x100, 0x180, 512⟩]) 0x100 = some 512 ∧
    lookup (compile [⟨0xFFFF, 0x10000, 4⟩, ⟨0x10000, 0x10001, 32⟩]) 0xFFFF = some 4 ∧
    lookup (compile [⟨0xFFFF, 0x10000, 4⟩, ⟨0x10000, 0x10001, 32⟩]) 0x10000 = some 32 ∧
    lookup (compile [⟨0x10FFFE, 0x10FFFF, 4⟩]) 0x10FFFE = some 4 ∧
    lookup (compile [⟨0x10FFFE, 0x10FFFF, 4⟩]) 0x10FFFF = some 1 ∧
    lookup (compile [⟨0xD7FF, 0xE000, 32⟩]) 0xD7FE = some 1 ∧
    lookup (compile [⟨0xD7FF, 0xE000, 32⟩]) 0xD7FF = some 32 ∧
    lookup (compile [⟨0xD7FF, 0xE000, 32⟩]) 0xE000 = some 1 ∧
    iterRanges (compile [⟨0xD7FF, 0xE000, 32⟩]) = some [(0, 0xD7FF, 1), (0xD7FF, 0xE000, 32), (0xE000, 0x10FFFF, 1)] ∧
    iterRanges (compile [⟨0, 1, 2⟩]) = some [(0, 0, 1), (0, 1, 2), (1, 0x10FFFF, 1)] := by
  decide +kernel

/-- non-vacuity of `iter_ranges_spec`: a file that loads with one range line -/
example : ∃ rs, readDef [0x30, 0x78, 0x33, 0x30, 0x20, 0x30, 0x78, 0x34, 0x0A] = .ok rs ∧ rs ≠ [] :=
  ⟨[⟨48, 49, 4⟩], by rfl, by simp⟩

/-- non-vacuity: the overlapping example of DESIGN §2.3 (NUMERIC 0x30..0x39, KANJI 0x35,
SYMBOL 0x3A..0x40) meets the hypothesis and yields the hand-computed table. -/
example : (∀ r ∈ [⟨48, 58, 16⟩, ⟨53, 54, 4⟩, (⟨58, 65, 8⟩ : CatRange)], r.b < r.e) ∧
    compile [⟨48, 58, 16⟩, ⟨53, 54, 4⟩, ⟨58, 65, 8⟩] = [(48, 1), (53, 16), (54, 20), (58, 16), (65, 8)] ∧
    lookup (compile [⟨48, 58, 16⟩, ⟨53, 54, 4⟩, ⟨58, 65, 8⟩]) 53 = some 20 := by
  decide +kernel

/-- non-vacuity of `binary_search_contract`: hits, misses below / between / above, odd and even
lengths, the one-element and the empty slice -/
example : SInc [48, 53, 54, 58, 65] ∧
    bsearch [48, 53, 54, 58, 65] 53 = some (1, true) ∧ bsearch [48, 53, 54, 58, 65] 65 = some (4, true) ∧
    bsearch [48, 53, 54, 58, 65] 0 = some (0, false) ∧ bsearch [48, 53, 54, 58, 65] 57 = some (3, false) ∧
    bsearch [48, 53, 54, 58, 65] 66 = some (5, false) ∧ bsearch [48, 53, 54, 58] 54 = some (2, true) ∧
    bsearch [7] 7 = some (0, true) ∧ bsearch [7] 9 = some (1, false) ∧ bsearch [] 9 = some (0, false) := by
  exact ⟨by simp [SInc], by decide +kernel⟩

end C17
