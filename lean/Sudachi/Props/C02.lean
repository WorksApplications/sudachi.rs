import Sudachi.Proofs.Lattice
import Sudachi.Proofs.LatticeRec
import Sudachi.Proofs.LatticeI32
import Sudachi.Proofs.LatticeLex
import Sudachi.Proofs.TotalPathCost
import Sudachi.Proofs.RowWrap
import Sudachi.Props.C04
/-!
# C02 — The chosen segmentation is a minimum-cost lattice path (Viterbi optimality)

Model: `Vit.connect`/`insert`/`build` (`lattice.rs: connect_node, insert`; `build_lattice` inserts
candidates position by position), `Vit.eosCost` (`connect_eos`).  `conn a b` is
`matrix.cost(left_word.right_id = a, right_word.left_id = b)`; costs are unbounded integers here
(the `i32` accumulator is C03's subject).  `F` is the list of candidate nodes in insertion order.

Hypotheses, both guaranteed by `build_lattice`: every candidate is non-empty (`WF`: `b < e`) and
candidates are inserted in non-decreasing order of their begin position.
A *covering sequence* is `ws` with `IsChain F bos ws` (every word a candidate, each beginning where
the previous ended, the first at 0) and `lastEnd bos ws = len`; its cost `chainCost conn bos ws`
is the sum of word costs plus connection costs including the BOS and EOS connections.

Back-pointers: the model recomputes the pointer of a node by `Vit.argmin` on the finished lattice
instead of storing it at insertion (`argmin_spec`, `stored_total_is_connect`: same value);
`Vit.bestPath` follows the pointers from EOS (`fill_top_path`).  `viterbi_path`, `total_prefix`,
`path_contiguous` are the theorems about the returned chain; `*_exec` restate them for the
vector-of-rows lattice `buildL` (the functional rows as a concrete list of rows; no operation of `vdriver` runs it).

The recycled lattice (what `vdriver` executes): `Vit.Lat` is the RECYCLED `struct Lattice` — three parallel row
vectors that never shrink, `size`, `eos`, `reset`/`reset_vec`/`connect_bos`, stored `indices` — and the
`recycled_*` theorems transfer everything above to it for EVERY previous state
(`reset_then_build_eq_fresh`); `partial_clear_counterexample` is the seeded change C02b;
`i32_lattice_eq_model` is the side condition under which the `i32` code (C03's model) equals this one
(`Proofs/LatticeI32.lean`).

The fixed-width lattice of `Model/Total.lean` (checked `i32` additions, `u16`/`u32` back-pointers):
`chosen_path_cost_is_stored_minimum` (`Proofs/TotalPathCost.lean`: the returned path costs the stored minimum, for fewer
than 2^32 candidates per boundary), `row_wrap_returns_dearer_path_counterexample` (`Proofs/RowWrap.lean`: it fails with a
narrower row index), `chosen_path_is_cheapest` (both models together: the returned path is a cheapest path).

The builder (op `build` of `vdriver`): the position loop of `LatticeBuilder::build_lattice` with the
DICTIONARY inside the model (`Model/LatticeLex.lean`): `has_previous_node` on the recycled state, the look-up by its
C04 contract (`lookup_is_c04_spec`), the `can_bow` filter, `get_word_param`, `ch_idx`, dictionary words before the
providers' nodes, the early `Err(EosBosDisconnect)`.  `builder_eq_candidate_list`, `lattice_has_every_candidate`,
`optimal_over_dictionary`, `early_exit_leaves_eos_none`: the lattice holds EVERY candidate the dictionaries and
providers offer at every reachable position, so the optimality theorems range over all sequences of words of the
dictionary + providers (`CandChain`), not over the rows of the lattice.
-/
namespace C02
open Vit

variable (conn : Nat → Nat → Int)

/-- every stored cumulative cost is the minimum over all candidate chains BOS → … → that node
(`none` iff no chain reaches it), and every candidate is stored in the row of its end -/
theorem viterbi_min (F : List Node) (hwf : WF F) (hs : F.Pairwise (fun a b => a.b ≤ b.b)) :
    (∀ e, ∀ ent ∈ build conn F init e, Opt conn F ent.1 ent.2) ∧
    (∀ m ∈ F, ∃ t, (m, t) ∈ build conn F init m.e) :=
  Vit.viterbi_min conn F hwf (ordered_of_sorted F hwf hs)

/-- **Optimality**: the final path cost is no larger than the cost of any sequence of candidate
words covering the text, sentence-start and sentence-end connections included -/
theorem no_cheaper_covering (F : List Node) (hwf : WF F) (hs : F.Pairwise (fun a b => a.b ≤ b.b))
    (len : Nat) (ws : List Node) (hc : IsChain F bos ws) (hl : lastEnd bos ws = len) :
    ∃ v, eosCost conn (build conn F init) len = some v ∧ v ≤ chainCost conn bos ws :=
  (eos_min conn F hwf (ordered_of_sorted F hwf hs) len).le ⟨ws, hc, hl, rfl⟩

/-- **Attainment**: the final path cost is the cost of some covering sequence of candidates -/
theorem eos_attained (F : List Node) (hwf : WF F) (hs : F.Pairwise (fun a b => a.b ≤ b.b))
    (len : Nat) (v : Int) (h : eosCost conn (build conn F init) len = some v) :
    ∃ ws, IsChain F bos ws ∧ lastEnd bos ws = len ∧ chainCost conn bos ws = v := by
  have ho := eos_min conn F hwf (ordered_of_sorted F hwf hs) len
  rw [h] at ho
  exact ho.1

/-- the search reports "disconnected" exactly when no covering sequence exists -/
theorem disconnected_iff (F : List Node) (hwf : WF F) (hs : F.Pairwise (fun a b => a.b ≤ b.b)) (len : Nat) :
    eosCost conn (build conn F init) len = none ↔ ¬ ∃ ws, IsChain F bos ws ∧ lastEnd bos ws = len := by
  have h := eos_min conn F hwf (ordered_of_sorted F hwf hs) len
  cases hres : eosCost conn (build conn F init) len with
  | none => rw [hres] at h; exact ⟨fun _ ⟨ws, h1, h2⟩ => h _ ⟨ws, h1, h2, rfl⟩, fun _ => rfl⟩
  | some v =>
    rw [hres] at h
    obtain ⟨ws, h1, h2, _⟩ := h.1
    exact ⟨nofun, fun hn => absurd ⟨ws, h1, h2⟩ hn⟩

/-! ## back-pointers: the returned path (`connect_node` index half, `fill_top_path`, `resolve_best_path`) -/

/-- **Back-pointer of `connect_node`.**  `argmin` (the `(prev_idx, min_cost)` pair of the Rust loop)
reports a position iff `connect` reports a cost, and it is the same cost; the position holds a
connected entry `(m, t)` with `v = t + conn m.r n.l + n.c`; no entry of the row offers less and every
EARLIER entry offers strictly more, i.e. `i` is the first index attaining the minimum (strict `<`). -/
theorem argmin_spec (row : List Entry) (n : Node) (v : Int) :
    ((∃ i, argmin conn row n = some (i, v)) ↔ connect conn row n = some v) ∧
    ∀ i, argmin conn row n = some (i, v) →
      ∃ m t, row[i]? = some (m, some t) ∧ v = t + conn m.r n.l + n.c ∧
        (∀ (j : Nat) (m' : Node) (t' : Int), row[j]? = some (m', some t') → v ≤ t' + conn m'.r n.l + n.c) ∧
        (∀ (j : Nat) (m' : Node) (t' : Int), j < i → row[j]? = some (m', some t') → v < t' + conn m'.r n.l + n.c) := by
  refine ⟨⟨?_, connect_argmin conn row n v⟩, ?_⟩
  · rintro ⟨i, hi⟩; rw [← argmin_connect, hi]; rfl
  · exact fun i => argmin_some conn row n i v

/-- **Stored totals are `connect_node` over the FINAL rows.**  In the fully built lattice every stored
entry `(n, t)` other than BOS has `t = connect conn (rows n.b) n` where `rows` is the finished lattice:
the row at `n.b` did not change after `n` was inserted (insertion order).  Hence recomputing the
back-pointer by `argmin` on the finished lattice gives the pointer `insert` stored. -/
theorem stored_total_is_connect (F : List Node) (hwf : WF F) (hs : F.Pairwise (fun a b => a.b ≤ b.b))
    (e : Nat) (n : Node) (t : Option Int) (h : (n, t) ∈ build conn F init e) (hn : n ≠ bos) :
    t = connect conn (build conn F init n.b) n :=
  stored_total conn F hwf (ordered_of_sorted F hwf hs) e (n, t) h hn

/-- **The returned path** (`viterbi_path` of DESIGN §3 C02).  When EOS is connected with cost `v`, the
chain obtained by following the back-pointers from EOS is a covering sequence of candidates (each a
candidate, the first beginning at 0, each beginning where the previous one ended, the last ending at
`len`) and its recomputed cost, BOS and EOS connections included, is exactly `v` — so by
`no_cheaper_covering` it is a minimum-cost covering sequence.  Termination of `fill_top_path`: the
walk reaches BOS within `len + 1` steps; any larger fuel returns the same path. -/
theorem viterbi_path (F : List Node) (hwf : WF F) (hs : F.Pairwise (fun a b => a.b ≤ b.b))
    (len : Nat) (v : Int) (h : eosCost conn (build conn F init) len = some v) :
    IsChain F bos (bestPath conn (build conn F init) len) ∧
    lastEnd bos (bestPath conn (build conn F init) len) = len ∧
    chainCost conn bos (bestPath conn (build conn F init) len) = v ∧
    ∀ fuel, len + 1 ≤ fuel →
      pathFrom conn (build conn F init) fuel (eosNode len) [] = bestPath conn (build conn F init) len := by
  have hord := ordered_of_sorted F hwf hs
  obtain ⟨h1, h2, h3, h4, _⟩ := bestPath_spec conn F hwf _ F (inv_build_init conn F hwf hord)
    (stored_total conn F hwf hord) len v h
  exact ⟨h1, h2, h3, h4⟩

/-- **Cumulative costs along the returned path** (`total_prefix`; what `Morpheme::total_cost` reports in
mode C).  For every prefix `p₁ ++ [n]` of the returned path, the node `n` is stored in the lattice with
the total `prefixCost conn bos (p₁ ++ [n])` = word costs + connection costs from BOS up to and
including `n`, WITHOUT the connection to EOS; and every entry stored for `n` carries that total. -/
theorem total_prefix (F : List Node) (hwf : WF F) (hs : F.Pairwise (fun a b => a.b ≤ b.b))
    (len : Nat) (v : Int) (h : eosCost conn (build conn F init) len = some v)
    (p₁ p₂ : List Node) (n : Node) (hp : bestPath conn (build conn F init) len = p₁ ++ n :: p₂) :
    (n, some (prefixCost conn bos (p₁ ++ [n]))) ∈ build conn F init n.e ∧
    ∀ t, (n, t) ∈ build conn F init n.e → t = some (prefixCost conn bos (p₁ ++ [n])) := by
  have hord := ordered_of_sorted F hwf hs
  have hst := stored_total conn F hwf hord
  obtain ⟨hc, _, _, _, hpre⟩ := bestPath_spec conn F hwf _ F (inv_build_init conn F hwf hord) hst len v h
  have hmem := hpre p₁ n p₂ hp
  have hne := isChain_ne_bos hwf (hp ▸ hc) (List.mem_append_right _ (List.mem_cons_self ..))
  -- every entry stored for `n` carries `connect` over the final row at `n.b`
  exact ⟨hmem, fun t ht => (hst n.e (n, t) ht hne).trans (hst n.e (n, some _) hmem hne).symm⟩

/-- the complete path cost is the cumulative cost of the last word plus its connection to EOS -/
theorem path_cost_is_last_total_plus_eos (F : List Node) (hwf : WF F) (hs : F.Pairwise (fun a b => a.b ≤ b.b))
    (len : Nat) (v : Int) (h : eosCost conn (build conn F init) len = some v) :
    v = prefixCost conn bos (bestPath conn (build conn F init) len) +
        conn (lastNode bos (bestPath conn (build conn F init) len)).r 0 := by
  rw [← chainCost_prefix, (viterbi_path conn F hwf hs len v h).2.2.1]

/-- **Contiguity of the returned path** (`path_contiguous` of DESIGN §3 C01), in the form
`C01.lattice_tokens_partition` consumes.  `tab` is any non-decreasing table indexed by character position
with `len < tab.length` (the character→byte table `mod_c2b` of `resolve_best_path`:
`byte_end = to_curr_byte_idx(node.end())`).  The nodes start at 0, each begins where the previous one
ended, ends strictly increase, the last ends at `len`; consequently the byte ends
`cuts = path.map (tab[·.e])` form a non-decreasing chain from `tab[0]` to `tab[len]` and every table
access is in range. -/
theorem path_contiguous (F : List Node) (hwf : WF F) (hs : F.Pairwise (fun a b => a.b ≤ b.b))
    (len : Nat) (v : Int) (h : eosCost conn (build conn F init) len = some v)
    (tab : List Nat) (htab : tab.Pairwise (· ≤ ·)) (hlen : len < tab.length) :
    let p := bestPath conn (build conn F init) len
    IsChain F bos p ∧ lastEnd bos p = len ∧ p.Pairwise (fun a b => a.e < b.e) ∧
    (((tab[0]?).getD 0) :: p.map (fun n => (tab[n.e]?).getD 0)).Pairwise (· ≤ ·) ∧
    (((tab[0]?).getD 0) :: p.map (fun n => (tab[n.e]?).getD 0)).getLast (by simp) = (tab[len]?).getD 0 ∧
    ∀ n ∈ p, n.e < tab.length := by
  intro p
  obtain ⟨h1, h2, _, _⟩ := viterbi_path conn F hwf hs len v h
  obtain ⟨c1, c2, c3⟩ := chain_cuts F hwf tab htab p h1 (by rw [h2]; exact hlen)
  exact ⟨h1, h2, (chain_ends F hwf p bos h1).2.1, c1, h2 ▸ c2, c3⟩

/-! ### the same statements about the vector-of-rows lattice `buildL` (the rows as a concrete list; `vdriver` runs the recycled state below) -/

/-- the rows `buildL` computes are the rows the theorems speak about -/
theorem exec_rows (F : List Node) : rowAt (buildL conn F initL) = build conn F init := by
  rw [rowAt_buildL, rowAt_initL]

/-- `viterbi_path` for the vector-of-rows lattice -/
theorem viterbi_path_exec (F : List Node) (hwf : WF F) (hs : F.Pairwise (fun a b => a.b ≤ b.b))
    (len : Nat) (v : Int) (h : eosCost conn (rowAt (buildL conn F initL)) len = some v) :
    IsChain F bos (bestPath conn (rowAt (buildL conn F initL)) len) ∧
    lastEnd bos (bestPath conn (rowAt (buildL conn F initL)) len) = len ∧
    chainCost conn bos (bestPath conn (rowAt (buildL conn F initL)) len) = v := by
  rw [exec_rows] at h ⊢
  obtain ⟨h1, h2, h3, _⟩ := viterbi_path conn F hwf hs len v h
  exact ⟨h1, h2, h3⟩

/-- `total_prefix` and `stored_total_is_connect` for the vector-of-rows lattice -/
theorem total_prefix_exec (F : List Node) (hwf : WF F) (hs : F.Pairwise (fun a b => a.b ≤ b.b))
    (len : Nat) (v : Int) (h : eosCost conn (rowAt (buildL conn F initL)) len = some v)
    (p₁ p₂ : List Node) (n : Node) (hp : bestPath conn (rowAt (buildL conn F initL)) len = p₁ ++ n :: p₂) :
    (n, some (prefixCost conn bos (p₁ ++ [n]))) ∈ rowAt (buildL conn F initL) n.e ∧
    (∀ t, (n, t) ∈ rowAt (buildL conn F initL) n.e → t = some (prefixCost conn bos (p₁ ++ [n]))) ∧
    connect conn (rowAt (buildL conn F initL) n.b) n = some (prefixCost conn bos (p₁ ++ [n])) := by
  rw [exec_rows] at h hp ⊢
  obtain ⟨h1, h2⟩ := total_prefix conn F hwf hs len v h p₁ p₂ n hp
  refine ⟨h1, h2, ?_⟩
  have hc := (viterbi_path conn F hwf hs len v h).1
  have hne := isChain_ne_bos hwf (hp ▸ hc) (List.mem_append_right _ (List.mem_cons_self ..))
  exact (stored_total_is_connect conn F hwf hs n.e n _ h1 hne).symm

/-! ## the RECYCLED lattice (`Lattice::reset`/`reset_vec`, `size`, `connect_bos`, stored `indices`)

`Vit.Lat` (`Model/LatticeRec.lean`) is `struct Lattice` as it is: three parallel row vectors that never
shrink, `size`, `eos`; `reset`, `insertS`, `connectEosS`, `fillTopPath`, `nodeS` transcribe the Rust
functions, `none` = the Rust code would panic (index out of bounds, `size - 1` underflow) or `fill_top_path`
would not terminate.  `s` below is ANY previous state: any rows (also inconsistent ones), any `size`, any
`eos`.  `F` is the list of candidates of the new text in insertion order, all inside the text
(`n.e ≤ len`; proved of the builder in C03 `candidates_inside_text`). -/

/-- **`reset` then the insertion sequence = the lattice built from scratch.**  For EVERY previous state:
`reset(len)` and all `insert`s succeed (no index panic), `size = len + 1`, `eos = None`, and on every valid
row `e ≤ len` the three vectors are exactly the images of the functional rows `build conn F init e` the
optimality theorems speak about: `ends[e]` = (right id, total) of every entry incl. the BOS entry of row 0,
`ends_full[e]` = the nodes (without BOS), `indices[e]` = the `connect_node` pointers `buildP`.  Rows past
`size` that stay allocated are EMPTY, and each vector holds `max(previous length, len + 1)` rows (it never
shrinks).  No hypothesis on the order or shape of `F` beyond lying inside the text. -/
theorem reset_then_build_eq_fresh (s : Lat) (len : Nat) (F : List Node) (hF : ∀ n ∈ F, n.b ≤ len ∧ n.e ≤ len) :
    ∃ s1 s2, reset s len = some s1 ∧ buildS conn F s1 = some s2 ∧ s2.size = len + 1 ∧ s2.eos = none ∧
      (∀ e, e ≤ len →
        s2.ends[e]? = some ((build conn F init e).map vn) ∧
        s2.full[e]? = some (((build conn F init e).map (·.1)).drop (off e)) ∧
        s2.idx[e]? = some (buildP conn F init initP e)) ∧
      (∀ e, len < e → (∀ row, s2.ends[e]? = some row → row = []) ∧ (∀ row, s2.full[e]? = some row → row = []) ∧
        (∀ row, s2.idx[e]? = some row → row = [])) ∧
      s2.ends.length = max s.ends.length (len + 1) ∧ s2.full.length = max s.full.length (len + 1) ∧
      s2.idx.length = max s.idx.length (len + 1) := by
  obtain ⟨s1, s2, h1, h2, hsim, h4, l1, l2, l3, _⟩ := analyse_spec conn s len F hF
  exact ⟨s1, s2, h1, h2, hsim.size, h4, fun e he => ⟨hsim.ends e he, hsim.full e he, hsim.idx e he⟩, hsim.clean,
    l1, l2, l3⟩

/-- the same, as the history-independence it is: whatever the lattice held before, the valid rows after
`reset` + inserts are those of a NEW tokenizer (`Lattice::default()`) -/
theorem recycled_eq_new_tokenizer (s : Lat) (len : Nat) (F : List Node) (hF : ∀ n ∈ F, n.b ≤ len ∧ n.e ≤ len) :
    ∃ s2 t2, (reset s len).bind (buildS conn F) = some s2 ∧ (reset Lat.empty len).bind (buildS conn F) = some t2 ∧
      s2.size = t2.size ∧ s2.eos = t2.eos ∧
      ∀ e, e < s2.size → s2.ends[e]? = t2.ends[e]? ∧ s2.full[e]? = t2.full[e]? ∧ s2.idx[e]? = t2.idx[e]? := by
  obtain ⟨s1, s2, a1, a2, a3, a4, a5, _⟩ := reset_then_build_eq_fresh conn s len F hF
  obtain ⟨t1, t2, b1, b2, b3, b4, b5, _⟩ := reset_then_build_eq_fresh conn Lat.empty len F hF
  refine ⟨s2, t2, by simp [a1, a2], by simp [b1, b2], by rw [a3, b3], by rw [a4, b4], ?_⟩
  intro e he
  rw [a3] at he
  obtain ⟨x1, x2, x3⟩ := a5 e (by omega)
  obtain ⟨y1, y2, y3⟩ := b5 e (by omega)
  exact ⟨by rw [x1, y1], by rw [x2, y2], by rw [x3, y3]⟩

/-- **The seeded partial clear is NOT covered** (`seeded/C02b`: `reset_vec` clears only the first
`min(previous size, new size)` rows).  Kernel-checked witness with connection cost 0: the texts have
3, 1, 3 characters; the first leaves a node `1..3` of cost -500 (total -400) in row 3, the second clears rows
0..1 only and sets `size = 2`, the third clears rows 0..1 again.  Its candidates are three one-character words
of cost 100: the stale entry in row 3 (total -400) wins `connect_eos`, although the only covering sequence
costs 300 — while `reset` (the code) returns 300 from the same previous state. -/
theorem partial_clear_counterexample :
    let conn : Nat → Nat → Int := fun _ _ => 0
    let t1 : List Node := [⟨0, 1, 0, 0, 100⟩, ⟨1, 3, 0, 0, -500⟩]
    let t2 : List Node := [⟨0, 1, 0, 0, 100⟩]
    let t3 : List Node := [⟨0, 1, 0, 0, 100⟩, ⟨1, 2, 0, 0, 100⟩, ⟨2, 3, 0, 0, 100⟩]
    let run := fun (rst : Lat → Nat → Option Lat) (s : Lat) (len : Nat) (F : List Node) =>
      ((rst s len).bind (buildS conn F)).bind (connectEosS conn)
    -- the seeded variant, three analyses on one lattice
    (((run resetSeed Lat.empty 3 t1).bind (fun x => run resetSeed x.1 1 t2)).bind
        (fun x => run resetSeed x.1 3 t3)).map (fun x => x.1.eos) = some (some ((3, 0), -400)) ∧
    -- the code, same three analyses
    (((run reset Lat.empty 3 t1).bind (fun x => run reset x.1 1 t2)).bind
        (fun x => run reset x.1 3 t3)).map (fun x => x.1.eos) = some (some ((3, 0), 300)) ∧
    -- the only covering sequence of the third text costs 300
    eosCost conn (build conn t3 init) 3 = some 300 := by
  refine ⟨by decide, by decide, by decide⟩

/-- **`viterbi_min` for the recycled lattice.**  After `reset` + inserts on any previous state, every valid
row is the image of a list of entries whose totals are the minimum over all candidate chains from BOS
(`none` = `i32::MAX` iff no chain reaches the node), and every candidate is stored in the row of its end. -/
theorem recycled_viterbi_min (s : Lat) (len : Nat) (F : List Node) (hwf : WF F)
    (hs : F.Pairwise (fun a b => a.b ≤ b.b)) (hF : ∀ n ∈ F, n.e ≤ len) :
    ∃ s2, (reset s len).bind (buildS conn F) = some s2 ∧
      ∀ e, e ≤ len → ∃ row : List Entry,
        s2.ends[e]? = some (row.map vn) ∧ s2.full[e]? = some ((row.map (·.1)).drop (off e)) ∧
        (∀ ent ∈ row, Opt conn F ent.1 ent.2) ∧ ∀ m ∈ F, m.e = e → ∃ t, (m, t) ∈ row := by
  obtain ⟨s1, s2, a1, a2, _, _, a5, _⟩ := reset_then_build_eq_fresh conn s len F (hwf.inside hF)
  obtain ⟨v1, v2⟩ := viterbi_min conn F hwf hs
  refine ⟨s2, by simp [a1, a2], ?_⟩
  intro e he
  obtain ⟨x1, x2, _⟩ := a5 e he
  exact ⟨build conn F init e, x1, x2, v1 e, fun m hm hme => by obtain ⟨t, ht⟩ := v2 m hm; exact ⟨t, hme ▸ ht⟩⟩

/-- **The search on a recycled lattice never panics and reports the functional `eosCost`.**  For every
previous state, `reset`, all inserts and `connect_eos` succeed; `Err(EosBosDisconnect)` (`false`, `eos` stays
`None`) iff no covering sequence of candidates exists; otherwise `eos = Some((len, j), v)` where `v` is
attained by a covering sequence and no covering sequence is cheaper (BOS and EOS connections included) and
`j` is the first index of row `len` attaining it. -/
theorem recycled_optimal (s : Lat) (len : Nat) (F : List Node) (hwf : WF F)
    (hs : F.Pairwise (fun a b => a.b ≤ b.b)) (hF : ∀ n ∈ F, n.e ≤ len) :
    ∃ s3 b, analyse conn s len F = some (s3, b) ∧ s3.size = len + 1 ∧
      (b = false ↔ ¬ ∃ ws, IsChain F bos ws ∧ lastEnd bos ws = len) ∧
      (b = false → s3.eos = none) ∧
      (b = true → ∃ j v, s3.eos = some ((len, j), v) ∧
        argmin conn (build conn F init len) (eosNode len) = some (j, v) ∧
        (∃ ws, IsChain F bos ws ∧ lastEnd bos ws = len ∧ chainCost conn bos ws = v) ∧
        ∀ ws, IsChain F bos ws → lastEnd bos ws = len → v ≤ chainCost conn bos ws) := by
  obtain ⟨s1, s2, _, _, hsim, h4, _, _, _, ha⟩ := analyse_spec conn s len F (hwf.inside hF)
  have ho := eos_min conn F hwf (ordered_of_sorted F hwf hs) len
  cases hv : eosCost conn (build conn F init) len with
  | none =>
    rw [hv] at ha ho
    exact ⟨s2, false, ha, hsim.size, ⟨fun _ ⟨ws, w1, w2⟩ => ho _ ⟨ws, w1, w2, rfl⟩, fun _ => rfl⟩, fun _ => h4, nofun⟩
  | some v =>
    rw [hv] at ha ho
    obtain ⟨j, hj⟩ := connect_argmin conn (build conn F init len) (eosNode len) v hv
    obtain ⟨ws, w1, w2, _⟩ := ho.1
    exact ⟨_, true, ha, hsim.size, ⟨nofun, fun h => absurd ⟨ws, w1, w2⟩ h⟩, nofun,
      fun _ => ⟨j, v, by rw [hj]; rfl, hj, ho.1, fun ws w1 w2 => ho.2 _ ⟨ws, w1, w2, rfl⟩⟩⟩

/-- **`viterbi_path` / `total_prefix` / `path_contiguous` for the recycled lattice, over the STORED
back-pointers.**  Whenever the analysis of a non-empty text on ANY previous state ends with `Ok` (`true`):
`fill_top_path` — the walk over the stored `indices` from `eos`, nothing recomputed — terminates within
`size` steps without leaving the vectors, `Lattice::node` succeeds on every index, and the resulting
`(node, cost)` list `p` (the `ResultNode`s of `resolve_best_path`) satisfies: its nodes are exactly
`bestPath` of the functional model (so the `argmin` recomputation there and the stored pointers agree), they
form a covering sequence of candidates whose recomputed cost is the `eos` cost `v` (minimal by
`recycled_optimal`), ends strictly increase, and the cost carried by the k-th node is `some` of the prefix sum
of word and connection costs from BOS up to and including it (`Morpheme::total_cost` in mode C). -/
theorem recycled_path (s : Lat) (len : Nat) (hlen : 0 < len) (F : List Node) (hwf : WF F)
    (hs : F.Pairwise (fun a b => a.b ≤ b.b)) (hF : ∀ n ∈ F, n.e ≤ len)
    (s3 : Lat) (h : analyse conn s len F = some (s3, true)) :
    ∃ id v p, s3.eos = some (id, v) ∧ resolvePath s3 = some p ∧
      p.map (·.1) = bestPath conn (build conn F init) len ∧
      IsChain F bos (p.map (·.1)) ∧ lastEnd bos (p.map (·.1)) = len ∧ chainCost conn bos (p.map (·.1)) = v ∧
      (p.map (·.1)).Pairwise (fun a b => a.e < b.e) ∧
      ∀ (q₁ q₂ : List (Node × Option Int)) (n : Node) (t : Option Int), p = q₁ ++ (n, t) :: q₂ →
        t = some (prefixCost conn bos (q₁.map (·.1) ++ [n])) := by
  obtain ⟨s1, s2, _, _, hsim, h4, _, _, _, ha⟩ := analyse_spec conn s len F (hwf.inside hF)
  have hfin := fin_build conn F hwf (ordered_of_sorted F hwf hs)
  cases hv : eosCost conn (build conn F init) len with
  | none => rw [hv, h] at ha; cases ha
  | some v =>
    rw [hv, h] at ha
    cases ha
    obtain ⟨p, r1, r2, r3⟩ := resolve_spec conn (hsim.with_eos _) hfin hlen hv rfl
    obtain ⟨c1, c2, c3, _⟩ := viterbi_path conn F hwf hs len v hv
    rw [← r2] at c1 c2 c3
    refine ⟨_, v, p, rfl, r1, r2, c1, c2, c3, (chain_ends F hwf _ bos c1).2.1, ?_⟩
    intro q₁ q₂ n t hp
    have hb : bestPath conn (build conn F init) len = q₁.map (·.1) ++ n :: q₂.map (·.1) := by
      rw [← r2, hp, List.map_append, List.map_cons]
    have hmem : (n, t) ∈ build conn F init n.e :=
      r3 (n, t) (hp ▸ List.mem_append_right _ (List.mem_cons_self ..))
    exact (total_prefix conn F hwf hs len v hv _ _ n hb).2 t hmem

/-- `path_contiguous` for the recycled lattice: the nodes `resolve_best_path` reads through the stored
back-pointers start at 0, abut, end at `len`; the byte ends read from any non-decreasing character→byte
table form a non-decreasing chain ending at `tab[len]`, every access in range (what
`C01.lattice_tokens_partition` consumes — so the partition theorem holds on recycled tokenizers too). -/
theorem recycled_path_contiguous (s : Lat) (len : Nat) (hlen : 0 < len) (F : List Node) (hwf : WF F)
    (hs : F.Pairwise (fun a b => a.b ≤ b.b)) (hF : ∀ n ∈ F, n.e ≤ len)
    (s3 : Lat) (h : analyse conn s len F = some (s3, true))
    (tab : List Nat) (htab : tab.Pairwise (· ≤ ·)) (hlt : len < tab.length) :
    ∃ p, resolvePath s3 = some p ∧ IsChain F bos (p.map (·.1)) ∧ lastEnd bos (p.map (·.1)) = len ∧
      (((tab[0]?).getD 0) :: (p.map (·.1)).map (fun n => (tab[n.e]?).getD 0)).Pairwise (· ≤ ·) ∧
      (((tab[0]?).getD 0) :: (p.map (·.1)).map (fun n => (tab[n.e]?).getD 0)).getLast (by simp) = (tab[len]?).getD 0 ∧
      ∀ x ∈ p, x.1.e < tab.length := by
  obtain ⟨_, v, p, _, r1, r2, c1, c2, _, _, _⟩ := recycled_path conn s len hlen F hwf hs hF s3 h
  obtain ⟨d1, d2, d3⟩ := chain_cuts F hwf tab htab (p.map (·.1)) c1 (by rw [c2]; exact hlt)
  exact ⟨p, r1, c1, c2, d1, c2 ▸ d2, fun x hx => d3 x.1 (List.mem_map.mpr ⟨x, hx, rfl⟩)⟩

/-- non-vacuity of the recycled theorems: a DIRTY previous state — five allocated rows, `size = 5`, a stale
`eos`, a stale cheap node (total -400) in row 3 and a disconnected one in row 4, i.e. beyond the new `size` —
then the five-candidate text of three characters of the non-vacuity examples below.  The analysis succeeds with the cost `-1` of the
functional model, the back-pointer stored for EOS is `(3, 1)`, the walk over the stored `indices` visits
`(2, 0), (3, 1)`, `resolve_best_path` returns the optimal chain with the stored totals `-7, -4`, row 4 is
empty afterwards; the candidates lie inside the text and the text is non-empty. -/
example :
    let conn : Nat → Nat → Int := fun a b => (3 : Int) * a - 2 * b
    let F : List Node := [⟨0, 1, 1, 1, 5⟩, ⟨0, 2, 2, 2, -3⟩, ⟨1, 2, 3, 3, 4⟩, ⟨1, 3, 1, 2, 7⟩, ⟨2, 3, 2, 1, 1⟩]
    let s : Lat := ⟨[[⟨0, some 0⟩], [], [], [⟨7, some (-400)⟩], [⟨1, none⟩]],
      [[], [], [], [⟨1, 3, 0, 7, -500⟩], [⟨2, 4, 1, 1, 5⟩]], [[], [], [], [(1, 0)], [(65535, 4294967295)]], some ((3, 0), -400), 5⟩
    (∀ n ∈ F, n.b ≤ 3 ∧ n.e ≤ 3) ∧ 0 < 3 ∧
    (analyse conn s 3 F).map (fun x => (x.2, x.1.eos, x.1.size)) = some (true, some ((3, 1), -1), 4) ∧
    (analyse conn s 3 F).bind (fun x => fillTopPath x.1) = some [(2, 0), (3, 1)] ∧
    (analyse conn s 3 F).bind (fun x => resolvePath x.1) =
      some [(⟨0, 2, 2, 2, -3⟩, some (-7)), (⟨2, 3, 2, 1, 1⟩, some (-4))] ∧
    (analyse conn s 3 F).map (fun x => (x.1.ends[4]?, x.1.full[4]?, x.1.idx[4]?)) = some (some [], some [], some []) ∧
    -- a disconnected text on the same dirty state: `Err(EosBosDisconnect)`, `eos` reset to `None`
    (analyse conn s 3 [⟨0, 1, 1, 1, 5⟩]).map (fun x => (x.2, x.1.eos)) = some (false, none) := by
  refine ⟨by decide, by decide, by decide, by decide, by decide, by decide, by decide⟩

/-! ## unbounded costs vs the `i32` accumulator: the side condition under which they coincide -/

/-- **C02 ∘ C03.**  The model above keeps totals in `Int` and writes `none` for the sentinel `i32::MAX`;
`lattice.rs` adds in `i32` (`(total + connect_cost) + node_cost`, panic on overflow in a debug build) and
compares with the sentinel.  C03's model `Total.buildAll addI32 I32_MAX` does exactly that.  Under the side
condition of `C03.cost_no_overflow_partial` — every connection cost in `i16` (`I16Conn`), every candidate
non-empty, inside the text and with an `i16` word cost (`NodeOk`), at most **32767 characters** — the two
models coincide: every `i32` insert succeeds, on every row the `i32` lattice holds the same nodes with the
totals `enc` of the unbounded model (`none` ↦ `i32::MAX`), every connected total of a node ending at `e` lies
within `± 65536·e` (so `|total| ≤ 2^31 - 65536` and it is never mistaken for the sentinel), and `connect_eos`
returns `EosBosDisconnect` / the cost and back-pointer that `argmin` gives on the unbounded rows.  Hence all
optimality theorems of this file hold for the `i32` code within these limits; beyond them D7 (C03) applies. -/
theorem i32_lattice_eq_model (hconn : Total.I16Conn conn) (len : Nat) (hlen : len ≤ 32767) (F : List Node)
    (hF : ∀ n ∈ F, Total.NodeOk len n) :
    ∃ rows ents, Total.buildAll Total.addI32 Total.I32_MAX conn F (Total.reset len) [] = .ok (rows, ents) ∧
      (∀ e, e ≤ len → ∃ row, rows[e]? = some row ∧
        row.map (fun x => (x.node, x.total)) = (build conn F init e).map (fun ent => (ent.1, enc ent.2))) ∧
      (∀ e, e ≤ len → ∀ ent ∈ build conn F init e, ∀ v, ent.2 = some v →
        -((e : Int) * 65536) ≤ v ∧ v ≤ (e : Int) * 65536 ∧ v < 2147483647) ∧
      Total.connectEos Total.addI32 Total.I32_MAX conn rows len =
        (match argmin conn (build conn F init len) (eosNode len) with
         | none => .err "Disconnect"
         | some (j, v) => .ok (v, len, Total.asU32 j)) := by
  obtain ⟨rows, ents, h1, h2, h3⟩ := buildAll_rep conn hconn len hlen F (Total.reset len) init []
    (Total.reset_inv len) (reset_rep len) hF
  refine ⟨rows, ents, h1, ?_, ?_, connectEos_rep conn hconn len hlen rows _ h2 h3⟩
  · intro e he
    obtain ⟨row, g, rep⟩ := h3 e he
    exact ⟨row, g, rep ▸ decRow_enc row⟩
  · intro e he ent hent v hv
    obtain ⟨row, g, rep⟩ := h3 e he
    rw [rep] at hent
    obtain ⟨x, hx, rfl⟩ := List.mem_map.mp hent
    -- a model total is the `i32` total of an entry that is not at the sentinel
    by_cases hm : x.total = Total.I32_MAX
    · rw [if_pos hm] at hv; cases hv
    · rw [if_neg hm] at hv; cases hv
      have hb := (h2.2 e row g x hx).resolve_left hm
      have : (e : Int) ≤ 32767 := by omega
      omega

/-- non-vacuity of the side condition (and the limit is tight for the invariant: see `C03.cost_overflow_counterexample`) -/
example : Total.I16Conn (fun _ _ => 32767) ∧ (2 : Nat) ≤ 32767 ∧
    (∀ n ∈ [(⟨0, 1, 0, 0, 32767⟩ : Node), ⟨1, 2, 0, 0, -32768⟩], Total.NodeOk 2 n) ∧
    eosCost (fun _ _ => 32767) (build (fun _ _ => 32767) [⟨0, 1, 0, 0, 32767⟩, ⟨1, 2, 0, 0, -32768⟩] init) 2 = some 98300 := by
  refine ⟨fun _ _ => by constructor <;> simp, by decide, ?_, by decide⟩
  intro n hn
  simp only [List.mem_cons, List.not_mem_nil, or_false] at hn
  rcases hn with rfl | rfl <;> simp [Total.NodeOk]

/-- **the path `fill_top_path` returns costs the minimum `connect_eos` stored** - the executed fixed-width model
(`Model/Total.lean`: checked `i32` additions, `as u16` end boundary, `as u32` row index of the back-pointer).  For candidates
inside a text of at most 65535 characters, fewer than 2^32 of them ending at any one boundary: when `build_lattice` and
`connect_eos` succeed with minimum `c` and back-pointer `(pe, pi)`, the walk from `(pe, pi)` returns a path (entries in text
order) that is a COST CHAIN from BOS - every stored total is the previous total + connection cost + word cost - and `c` is
the sum of connection and word costs recomputed along that path (BOS connection included) plus the connection to EOS.
With the row index stored modulo a smaller width (`u16`, ROW-WRAP) this clause fails: the totals are right, the back-pointer
names another entry of the row (`C03.row_index_u16_wraps_counterexample`, `row_wrap_returns_dearer_path_counterexample`); the
row bound `hcnt` is used exactly where the stored index has to be the index (`Total.insert_costInv`, `asU32_id`). -/
theorem chosen_path_cost_is_stored_minimum (len : Nat) (hlen : len ≤ 65535) (hlen0 : 1 ≤ len) (nodes : List Node)
    (hnodes : ∀ n ∈ nodes, n.b < n.e ∧ n.e ≤ len)
    (hcnt : ∀ e, nodes.countP (fun n => n.e == e) ≤ 4294967295)
    (rows : Total.Rows) (ents : List Total.Entry)
    (hb : Total.buildAll Total.addI32 Total.I32_MAX conn nodes (Total.reset len) [] = .ok (rows, ents))
    (c : Int) (pe pi : Nat) (he : Total.connectEos Total.addI32 Total.I32_MAX conn rows len = .ok (c, pe, pi)) :
    ∃ path, Total.topPath rows (len + 1) (pe, pi) [] = .ok path ∧ Total.ChainFrom conn bos.r 0 path ∧
      c = Total.pathCostFrom conn bos.r path + conn (Total.chainEnd bos.r 0 path).1 0 :=
  Total.chosen_path_cost conn len hlen nodes hnodes hlen0 hcnt rows ents hb c pe pi he

/-- **ROW-WRAP end to end (the pinned tree's `u16` row index, kernel-checked on a small-width instance).**  `Total.buildAllW W`
/ `connectEosW W` are the lattice of `Model/Total.lean` with the back-pointer's row index stored as `i % W`; for `W = 2^32` they
ARE the model (`Total.buildAllW_u32`, `connectEosW_u32`).  A text of two characters, five candidates over the first character
(costs 50, 40, 30, 20, 10) and one over the second: with width 4 (standing for 65536) the lattice stores the right minimum 10
and `fill_top_path` returns the chain through the FIRST candidate, whose recomputed cost is 50 - the returned path is not a
cheapest path, `chosen_path_cost_is_stored_minimum` fails without its row bound; with the width of the tree both are 10.
(At full size the harness ran it on the real tokenizer: 16400 letters, 65600 candidates in one row; directed case `row-wrap`.) -/
theorem row_wrap_returns_dearer_path_counterexample :
    Total.wrapOutcome 4 = some (10, 50) ∧ Total.wrapOutcome 4294967296 = some (10, 10) ∧
    (∀ ns rows acc, Total.buildAllW 4294967296 Total.addI32 Total.I32_MAX conn ns rows acc =
      Total.buildAll Total.addI32 Total.I32_MAX conn ns rows acc) ∧
    (∀ rows k, Total.connectEosW 4294967296 Total.addI32 Total.I32_MAX conn rows k =
      Total.connectEos Total.addI32 Total.I32_MAX conn rows k) :=
  ⟨Total.row_wrap_returns_dearer_path.1, Total.row_wrap_returns_dearer_path.2,
    Total.buildAllW_u32 Total.addI32 Total.I32_MAX conn, Total.connectEosW_u32 Total.addI32 Total.I32_MAX conn⟩

/-- **C02 for the executed fixed-width lattice: the returned path is a cheapest path.**  Under the side condition of
`i32_lattice_eq_model` (connection costs and word costs in `i16`, candidates non-empty and inside a text of 1..32767
characters) and fewer than 2^32 candidates per boundary: if the unbounded model's optimum is `v`
(`eosCost … = some v`: the minimum over ALL chains of candidates from BOS to EOS, `viterbi_min` / `eos_attained` /
`no_cheaper_covering`), then the `i32`/`u32` lattice builds, `connect_eos` reports `v`, and `fill_top_path` returns a path
whose cost RECOMPUTED from word costs and connection costs (BOS and EOS connection included) is `v`. -/
theorem chosen_path_is_cheapest (hconn : Total.I16Conn conn) (len : Nat) (hlen : len ≤ 32767) (hlen0 : 1 ≤ len)
    (F : List Node) (hF : ∀ n ∈ F, Total.NodeOk len n)
    (hcnt : ∀ e, F.countP (fun n => n.e == e) ≤ 4294967295)
    (v : Int) (hopt : eosCost conn (build conn F init) len = some v) :
    ∃ rows ents pe pi path,
      Total.buildAll Total.addI32 Total.I32_MAX conn F (Total.reset len) [] = .ok (rows, ents) ∧
      Total.connectEos Total.addI32 Total.I32_MAX conn rows len = .ok (v, pe, pi) ∧
      Total.topPath rows (len + 1) (pe, pi) [] = .ok path ∧ Total.ChainFrom conn bos.r 0 path ∧
      v = Total.pathCostFrom conn bos.r path + conn (Total.chainEnd bos.r 0 path).1 0 := by
  obtain ⟨rows, ents, h1, _, _, h4⟩ := i32_lattice_eq_model conn hconn len hlen F hF
  obtain ⟨j, hj⟩ := connect_argmin conn (build conn F init len) (eosNode len) v hopt
  rw [hj] at h4
  obtain ⟨path, p1, p2, p3⟩ := chosen_path_cost_is_stored_minimum conn len (by omega) hlen0 F
    (fun n hn => ⟨(hF n hn).1, (hF n hn).2.1⟩) hcnt rows ents h1 v len (Total.asU32 j) h4
  exact ⟨rows, ents, len, Total.asU32 j, path, h1, h4, p1, p2, p3⟩

/-- non-vacuity of `chosen_path_is_cheapest`: two positions, three candidates; the optimum -20 is the two-word chain -/
example : eosCost (fun _ _ => 0) (build (fun _ _ => 0) [⟨0, 1, 0, 0, -10⟩, ⟨0, 2, 0, 0, -5⟩, ⟨1, 2, 0, 0, -10⟩] init) 2 = some (-20) ∧
    (∀ n ∈ [(⟨0, 1, 0, 0, -10⟩ : Node), ⟨0, 2, 0, 0, -5⟩, ⟨1, 2, 0, 0, -10⟩], Total.NodeOk 2 n) ∧
    (∀ e, [(⟨0, 1, 0, 0, -10⟩ : Node), ⟨0, 2, 0, 0, -5⟩, ⟨1, 2, 0, 0, -10⟩].countP (fun n => n.e == e) ≤ 4294967295) := by
  refine ⟨by decide, ?_, ?_⟩
  · intro n hn
    simp only [List.mem_cons, List.not_mem_nil, or_false] at hn
    rcases hn with rfl | rfl | rfl <;> simp [Total.NodeOk]
  · intro e
    exact Nat.le_trans List.countP_le_length (by decide)

/-! ## non-vacuity of the optimality and path theorems (`no_cheaper_covering`, `viterbi_path`, `total_prefix`, `path_contiguous`) -/

/-- non-vacuity: three positions, five overlapping candidates, a negative word cost and negative connection costs -/
example :
    let conn : Nat → Nat → Int := fun a b => (3 : Int) * a - 2 * b
    let F : List Node := [⟨0, 1, 1, 1, 5⟩, ⟨0, 2, 2, 2, -3⟩, ⟨1, 2, 3, 3, 4⟩, ⟨1, 3, 1, 2, 7⟩, ⟨2, 3, 2, 1, 1⟩]
    WF F ∧ F.Pairwise (fun a b => a.b ≤ b.b) ∧
    eosCost conn (build conn F init) 3 = some (-1) ∧
    chainCost conn bos [⟨0, 2, 2, 2, -3⟩, ⟨2, 3, 2, 1, 1⟩] = -1 := by
  refine ⟨by intro n hn; simp at hn; rcases hn with rfl | rfl | rfl | rfl | rfl <;> decide, by decide, by decide, by decide⟩

/-- non-vacuity of the path theorems on the same lattice (vector-of-rows version): the
back-pointer walk returns the optimal chain `[0..2, 2..3]`; the totals stored along it are the prefix
sums `(0 - 4) - 3 = -7` and `-7 + (6 - 4) + 1 = -4`; with the EOS connection `3 - 0` the path costs
`-1`; and the tie rule of `argmin` picks the FIRST minimal connected entry -/
example :
    let conn : Nat → Nat → Int := fun a b => (3 : Int) * a - 2 * b
    let F : List Node := [⟨0, 1, 1, 1, 5⟩, ⟨0, 2, 2, 2, -3⟩, ⟨1, 2, 3, 3, 4⟩, ⟨1, 3, 1, 2, 7⟩, ⟨2, 3, 2, 1, 1⟩]
    bestPath conn (rowAt (buildL conn F initL)) 3 = [⟨0, 2, 2, 2, -3⟩, ⟨2, 3, 2, 1, 1⟩] ∧
    prefixCost conn bos [⟨0, 2, 2, 2, -3⟩] = -7 ∧
    prefixCost conn bos [⟨0, 2, 2, 2, -3⟩, ⟨2, 3, 2, 1, 1⟩] = -4 ∧
    rowAt (buildL conn F initL) 2 = [(⟨0, 2, 2, 2, -3⟩, some (-7)), (⟨1, 2, 3, 3, 4⟩, some 4)] ∧
    -- ties: two entries offering the same cost, the first one is the back-pointer
    argmin (fun _ _ => 0) [(⟨0, 1, 0, 0, 0⟩, some 5), (⟨0, 1, 1, 1, 0⟩, none), (⟨0, 1, 2, 2, 0⟩, some 3),
      (⟨0, 1, 3, 3, 0⟩, some 3)] ⟨1, 2, 0, 0, 1⟩ = some (2, 4) := by
  refine ⟨by decide, by decide, by decide, by decide, by decide⟩

/-- non-vacuity of `path_contiguous`: a character→byte table of a three-character text (1+3+2 bytes) -/
example : [0, 1, 4, 6].Pairwise (· ≤ ·) ∧ 3 < [0, 1, 4, 6].length ∧
    ([⟨0, 2, 2, 2, -3⟩, ⟨2, 3, 2, 1, 1⟩] : List Node).map (fun n => ([0, 1, 4, 6][n.e]?).getD 0) = [4, 6] := by
  refine ⟨by decide, by decide, by decide⟩

/-! ## the position loop of `build_lattice` with the DICTIONARY inside (`Model/LatticeLex.lean`)

`Vit.buildLattice conn x s` is `LatticeBuilder::build_lattice` on ANY previous lattice state `s`: `reset`, the loop over the
character positions (`has_previous_node`, `LexiconSet::lookup`, the `can_bow` filter, `get_word_param`, `ch_idx`, one
`insert` per word, then the providers' nodes, the early `Err(EosBosDisconnect)`), `connect_eos`.  `Vit.collect x ps []` is
the same candidates as a list.  The theorems below say that the loop inserts exactly that list, that the list is exactly
"every dictionary hit that may end where it ends + every provider node, at every position a previous node ends at", and
that the reported `eos` cost is minimal over ALL sequences of such words — the dictionary is inside the statement. -/

/-- **The stateful position loop equals the functional candidate list, on every previous lattice.**  Whatever state `s`
the recycled `Lattice` was left in, if the candidate list of the text is `F` (`fin = true`: the loop of `build_lattice`
ran over all positions; `fin = false`: it returned `Err(EosBosDisconnect)` at a reachable position where neither the
lexicon nor the providers created a word) and every node lies inside the text, then: `reset` succeeds (`s1`), the
position loop on `s1` — which decides `has_previous_node` by READING the recycled `ends` vector — performs exactly the
inserts `buildS conn F` and panics nowhere (`s2`), `eos` is still `None` after the loop, and `build_lattice` as a whole is
`reset` + those inserts + `connect_eos` (`analyse`, the subject of the `recycled_*` theorems) when the loop ran to its
end, and `(s2, Err)` without touching `eos` otherwise. -/
theorem builder_eq_candidate_list (x : BIn) (s : Lat) (ps : List (Nat × Nat)) (F : List Node) (fin : Bool)
    (hps : positions x = some ps) (hpos : ∀ p ∈ ps, p.1 ≤ x.nchars)
    (hc : collect x ps [] = some (F, fin)) (hF : ∀ n ∈ F, n.b ≤ x.nchars ∧ n.e ≤ x.nchars) :
    ∃ s1 s2, reset s x.nchars = some s1 ∧ buildS conn F s1 = some s2 ∧ buildLatS conn x ps s1 = some (s2, fin) ∧
      s2.eos = none ∧
      buildLattice conn x s = (if fin then analyse conn s x.nchars F else some (s2, false)) := by
  obtain ⟨s1, r1, r2, r3, _⟩ := reset_sim s x.nchars
  obtain ⟨_, rfl, h⟩ := buildLatS_collect conn x x.nchars ps [] F fin hc
  obtain ⟨s2, e2, e3, _, e5⟩ := h s1 hpos r2 hF
  refine ⟨s1, s2, r1, e3, e2, by rw [e5, r3], ?_⟩
  simp only [buildLattice, r1, hps, e2, analyse, e3]
  cases fin <;> rfl

/-- **The lattice holds every dictionary/provider candidate of every reachable position, and nothing else.**
`F` = the nodes `build_lattice` inserted (loop ran to its end), each of positive length.  (1) at every character
position `o` (byte `bo`) at which some inserted node ends (or `o = 0`) the look-up did not panic and everything it
produced (`candsAt`: dictionary words first, then the providers' nodes) is in the lattice; (2) spelled out: every
entry `(word id, end)` of `LexiconSet::lookup(bytes, bo)` — by `lookup_is_c04_spec` exactly the indexed rows of all
dictionaries whose surface is a prefix of the text at `bo` — that ends at the text end or where a word may begin
(`can_bow`) is in the lattice as the node `(o, ch_idx(end), left as u16, right as u16, cost)` of ITS row
(`get_word_param`), and so is every node the providers pushed at `o`; (3) every node of the lattice is such a
candidate of some position; (4) nodes are inserted in non-decreasing order of begin (what `WF`/`Pairwise` in the
`recycled_*` theorems ask for). -/
theorem lattice_has_every_candidate (x : BIn) (ps : List (Nat × Nat)) (F : List Node)
    (hps : positions x = some ps) (hc : collect x ps [] = some (F, true)) (hwf : WF F) :
    (∀ o bo, (o, bo) ∈ ps → reachable F o = true → ∃ new, candsAt x o bo = some new ∧ ∀ n ∈ new, n ∈ F) ∧
    (∀ o bo, (o, bo) ∈ ps → reachable F o = true →
      (∀ w e, (w, e) ∈ dictLookup x bo → (x.text.length ≤ e ∨ x.bow[e]? = some true) →
        ∃ p ec, wordParam x w = some p ∧ x.b2c[e]? = some ec ∧
          (⟨o, ec, toU16 p.left, toU16 p.right, p.cost⟩ : Node) ∈ F) ∧
      ∀ n ∈ x.oov, n.b = o → n ∈ F) ∧
    (∀ n ∈ F, ∃ o bo new, (o, bo) ∈ ps ∧ candsAt x o bo = some new ∧ n ∈ new) ∧
    F.Pairwise (fun a b => a.b ≤ b.b) := by
  obtain ⟨_, rfl, e2, e3, e4⟩ := collect_spec x ps [] F true hc rfl (positions_sorted x ps hps) hwf
  refine ⟨e3, ?_, e2, e4⟩
  intro o bo hm hre
  obtain ⟨new, c1, c2⟩ := e3 o bo hm hre
  refine ⟨?_, fun n hn hb => c2 n (candsAt_oov x o bo new c1 n hn hb)⟩
  intro w e hw hb
  obtain ⟨p, ec, g1, g2, g3⟩ := candsAt_dict x o bo new c1 w e hw hb
  exact ⟨p, ec, g1, g2, c2 _ g3⟩

/-- **Optimality over the dictionary.**  For every previous lattice state: `build_lattice` (with its own look-ups)
does not panic; it returns `Err(EosBosDisconnect)` iff NO sequence of dictionary/provider candidates (`Cand`: a hit of
`LexiconSet::lookup` at the position that passes `can_bow`, with the parameters of its row, or a provider node of
that position) starting at 0, each word beginning where the previous ended, reaches the end of the text; otherwise
`eos = Some((len, j), v)` where `v` is the cost of such a sequence (word costs + connection costs, BOS and EOS
included) and NO such sequence is cheaper.  The quantifier ranges over sequences of words of the dictionaries and
providers, not over rows of the lattice. -/
theorem optimal_over_dictionary (x : BIn) (s : Lat) (ps : List (Nat × Nat)) (F : List Node)
    (hps : positions x = some ps) (hpos : ∀ p ∈ ps, p.1 ≤ x.nchars)
    (hc : collect x ps [] = some (F, true)) (hwf : WF F) (hin : ∀ n ∈ F, n.e ≤ x.nchars) :
    ∃ s3 b, buildLattice conn x s = some (s3, b) ∧
      (b = false ↔ ¬ ∃ ws, CandChain x ps bos ws ∧ lastEnd bos ws = x.nchars) ∧
      (b = false → s3.eos = none) ∧
      (b = true → ∃ j v, s3.eos = some ((x.nchars, j), v) ∧
        (∃ ws, CandChain x ps bos ws ∧ lastEnd bos ws = x.nchars ∧ chainCost conn bos ws = v) ∧
        ∀ ws, CandChain x ps bos ws → lastEnd bos ws = x.nchars → v ≤ chainCost conn bos ws) := by
  obtain ⟨_, _, _, _, _, _, hb⟩ := builder_eq_candidate_list conn x s ps F true hps hpos hc (hwf.inside hin)
  simp only [if_true] at hb
  obtain ⟨b1, _, b3, b4⟩ := lattice_has_every_candidate x ps F hps hc hwf
  -- chains of dictionary/provider candidates are the chains over the inserted list
  have hiff : ∀ ws, CandChain x ps bos ws ↔ IsChain F bos ws :=
    fun ws => ⟨candChain_isChain x ps F b1 ws bos (Or.inl rfl), isChain_candChain x ps F b3 ws bos⟩
  obtain ⟨s3, b, r1, _, r3, r4, r5⟩ := recycled_optimal conn s x.nchars F hwf b4 hin
  simp only [hiff]
  exact ⟨s3, b, hb.trans r1, r3, r4, fun hbt => let ⟨j, v, q1, _, q3, q4⟩ := r5 hbt; ⟨j, v, q1, q3, q4⟩⟩

/-- **The early exit leaves `eos = None`.**  If at some reachable position neither the lexicon nor the providers create
a word (`collect … = some (F, false)`), `build_lattice` on any previous state returns `Err(EosBosDisconnect)` from
inside the loop: the nodes inserted so far are in the lattice, `connect_eos` is never called and `eos` is `None` — not
the `eos` of the previous text. -/
theorem early_exit_leaves_eos_none (x : BIn) (s : Lat) (ps : List (Nat × Nat)) (F : List Node)
    (hps : positions x = some ps) (hpos : ∀ p ∈ ps, p.1 ≤ x.nchars)
    (hc : collect x ps [] = some (F, false)) (hF : ∀ n ∈ F, n.b ≤ x.nchars ∧ n.e ≤ x.nchars) :
    ∃ s2, buildLattice conn x s = some (s2, false) ∧ s2.eos = none ∧
      (reset s x.nchars).bind (buildS conn F) = some s2 := by
  obtain ⟨s1, s2, a1, a2, _, a4, a5⟩ := builder_eq_candidate_list conn x s ps F false hps hpos hc hF
  exact ⟨s2, by simpa using a5, a4, by simp [a1, a2]⟩

/-- **Composition with C04: the look-up inside the builder model is what C04 proves of the real trie walk.**  For every
stack of source row lists compiled into lexicons (the hypotheses of `C04.lookup_spec`, evaluated by the driver for
every lexicon of a run) whose `(surface, left id)` columns are the dictionaries of the case, every text and every
byte offset: `LexiconSet::lookup` — double-array traversal, word-id table, dictionary stamping — returns exactly
`dictLookup x off`, the list `build_lattice` iterates over in `buildLattice`. -/
theorem lookup_is_c04_spec (x : BIn) (ws : List (List Trie.Entry × Trie.Lex)) (set : List Trie.Lex)
    (hset : Trie.mkSet (ws.map (·.2)) = some set) (hcmp : ∀ w ∈ ws, Trie.CompiledRaw w.1 w.2)
    (hs : ∀ w ∈ ws, w.1.all Trie.surfaceOk = true)
    (hsrc : ws.map (·.1) = x.dicts.map (·.map toEntry)) (hn : ∀ b ∈ x.text, b < 256) (off : Nat) :
    Trie.setLookup true set x.text off = some (dictLookup x off) := by
  rw [dictLookup_eq_spec, ← hsrc]
  exact C04.lookup_spec ws set hset hcmp hs x.text off hn

/-- Non-vacuity of the hypotheses of the builder theorems, on the text "abc" (three one-byte characters; a word may
begin at bytes 0 and 1 but not at byte 2).  System dictionary: "a", "ab", "abc", "b", "c" and a row "bc" with
`left = -1` (not indexed); user dictionary: a homograph "a" with the same right id and another left id; the providers
pushed one node (1, 3).  The loop inserts, in this order: the USER "a" (later dictionaries first), the system "a", "abc"
("ab" ends at byte 2 where no word may begin: filtered), then at position 1 only the provider node ("b" ends at byte 2,
"bc" is not indexed); position 2 has no previous node and is skipped, so "c" is never looked at.  All hypotheses of
`builder_eq_candidate_list`, `lattice_has_every_candidate`, `optimal_over_dictionary` hold; `build_lattice` on a new
and on a dirty recycled lattice reports the same `eos`; without the provider node the loop returns
`Err(EosBosDisconnect)` at position 1 and `eos` is `None`. -/
example :
    let x : BIn :=
      { text := [97, 98, 99], nchars := 3, c2b := [0, 1, 2, 3], b2c := [0, 1, 2, 3], bow := [true, true, false],
        dicts := [[⟨[97], 1, 1, 100⟩, ⟨[97, 98], 2, 2, 50⟩, ⟨[97, 98, 99], 3, 3, 700⟩, ⟨[98], 4, 4, 100⟩,
                   ⟨[99], 5, 5, 100⟩, ⟨[98, 99], -1, 6, 10⟩],
                  [⟨[97], 9, 1, 80⟩]],
        oov := [⟨1, 3, 7, 7, 500⟩] }
    let ps : List (Nat × Nat) := [(0, 0), (1, 1), (2, 2)]
    let F : List Node := [⟨0, 1, 9, 1, 80⟩, ⟨0, 1, 1, 1, 100⟩, ⟨0, 3, 3, 3, 700⟩, ⟨1, 3, 7, 7, 500⟩]
    let conn : Nat → Nat → Int := fun a b => if a == 0 && b == 9 then 1000 else 0
    let dirty : Lat := ⟨[[⟨0, some 0⟩], [], [], [⟨7, some (-400)⟩], [⟨1, none⟩]],
      [[], [], [], [⟨1, 3, 0, 7, -500⟩], [⟨2, 4, 1, 1, 5⟩]], [[], [], [], [(1, 0)], [(65535, 4294967295)]], some ((3, 0), -400), 5⟩
    positions x = some ps ∧ (∀ p ∈ ps, p.1 ≤ x.nchars) ∧
    dictLookup x 0 = [(268435456, 1), (0, 1), (1, 2), (2, 3)] ∧ dictLookup x 1 = [(3, 2)] ∧
    candsAt x 1 1 = some [⟨1, 3, 7, 7, 500⟩] ∧
    collect x ps [] = some (F, true) ∧ (∀ n ∈ F, n.b < n.e) ∧ (∀ n ∈ F, n.b ≤ x.nchars ∧ n.e ≤ x.nchars) ∧
    (buildLattice conn x Lat.empty).map (fun r => (r.2, r.1.eos)) = some (true, some ((3, 1), 600)) ∧
    (buildLattice conn x dirty).map (fun r => (r.2, r.1.eos)) = some (true, some ((3, 1), 600)) ∧
    -- no provider node: nothing is created at the reachable position 1
    collect { x with oov := [] } ps [] = some ([⟨0, 1, 9, 1, 80⟩, ⟨0, 1, 1, 1, 100⟩, ⟨0, 3, 3, 3, 700⟩], false) ∧
    (buildLattice conn { x with oov := [] } dirty).map (fun r => (r.2, r.1.eos, r.1.full[1]?)) =
      some (false, none, some [⟨0, 1, 9, 1, 80⟩, ⟨0, 1, 1, 1, 100⟩]) := by
  refine ⟨by decide, by decide, by decide, by decide, by decide, by decide, by decide, by decide, by decide, by decide,
    by decide, by decide⟩

end C02
