import Sudachi.Proofs.Split
/-!
# C09 — Modes A and B refine mode C with exactly the dictionary's split units

Model: `Model/Split.lean` (`resolve_best_path` incl. the byte range it computes from `mod_c2b`,
`split_path`, `NodeSplitIterator::next`, `MorphemeList::split_into`, `set_mode`/`set_subset`/`normalize`,
the early-exit word-info reader, `update_dict_id`, `Morpheme::begin/end` and `Morpheme::surface`; `MorphemeList::lookup`,
the deprecated `Morpheme::split`, and the nodes `concat_nodes` / `concat_oov_nodes` make, entered as grouping of the path).

Two functions of the model have two instances.  `Variant.d6fix` is `NodeSplitIterator::next` of the present code (clamp
to the parent's end, snap to a character start: `03842e3`), `Variant.cur` the iterator before it; `LookupV.fix` is the
present `MorphemeList::lookup` (records the subset of the call: `171a12c`), `LookupV.cur` the one before.  Clauses that
hold for every dictionary only of the present code are stated for `.d6fix`; the `.cur` instances are kept for the witnesses.

A path is a list of `Node`s with character range `cb..ce` and byte range `bb..be` in the rewritten
text.  `Linked p c b c' b'` = the nodes start at `(c, b)`, abut, and end at `(c', b')`; this is the
shape the lattice search returns (C02) and the path-rewrite plugins preserve (C14).
-/
namespace C09
open Split

/-! ## clause 1: A/B boundaries refine C (all dictionaries) -/

/-- **Clause 1 (all dictionaries, all histories): A/B boundaries ⊇ C boundaries, tokens without
declared splits unchanged.**  For every lexicon set (well-formed or not), every loaded subset,
every offset table and every path: if `split_path` returns, every begin/end (characters and bytes)
of a node of the input path is a begin/end of a node of the output path, and every node that
declares at most one unit is itself a node of the output. -/
theorem boundaries_refine (cx : Ctx) (m : Mode) (path out : List Node)
    (h : splitPath cx m path = .ok out) :
    (∀ n ∈ path, n.cb ∈ out.map (·.cb) ∧ n.bb ∈ out.map (·.bb) ∧ n.ce ∈ out.map (·.ce) ∧ n.be ∈ out.map (·.be)) ∧
    (∀ n ∈ path, numSplits n m ≤ 1 → n ∈ out) := by
  rw [splitPath_eq_go] at h
  have key : ∀ n ∈ path, ∃ o1 us o2, out = o1 ++ us ++ o2 ∧ expand cx m n = .ok us := by
    intro n hn
    obtain ⟨p1, p2, rfl⟩ := List.append_of_mem hn
    obtain ⟨o1, us, o2, ho, _, hus, _⟩ := splitPathGo_decompose cx m p1 n p2 out h
    exact ⟨o1, us, o2, ho, hus⟩
  constructor
  · intro n hn
    obtain ⟨o1, us, o2, rfl, hus⟩ := key n hn
    obtain ⟨hne, hl⟩ := expand_linked cx m n us hus
    obtain ⟨h1, h2, h3, h4⟩ := linked_bounds us _ _ _ _ hne hl
    simp only [List.map_append, List.mem_append]
    exact ⟨.inl (.inr h1), .inl (.inr h2), .inl (.inr h3), .inl (.inr h4)⟩
  · intro n hn hle
    obtain ⟨o1, us, o2, rfl, hus⟩ := key n hn
    rw [expand, if_pos hle] at hus
    cases hus
    exact List.mem_append_left _ (List.mem_append_right _ List.mem_cons_self)

/-- **Chain form of clause 1** (the hypothesis `C01.surfaces_partition` needs, before the
monotonicity supplied by `units_exact`): if the mode C path is a linked chain from `(c, b)` to
`(c', b')` then so is the A/B path — same start, same end, every token begins where the previous
one ended, in characters and in bytes.  Holds for all dictionaries. -/
theorem chain_preserved (cx : Ctx) (m : Mode) (path out : List Node)
    (c b c' b' : Nat) (h : splitPath cx m path = .ok out) (hl : Linked path c b c' b') :
    Linked out c b c' b' := by
  rw [splitPath_eq_go] at h
  exact splitPathGo_linked cx m path out _ _ _ _ h hl

/-- the sub-tokens of a split node carry the declared unit ids, in order (all dictionaries) -/
theorem units_ids (cx : Ctx) (m : Mode) (n : Node) (us : List Node)
    (h : split cx n m = .ok us) : us.map (·.wid) = splitsOf n m :=
  (splitGo_shape cx _ _ _ _ _ us (split_ok h)).1

/-! ## clause 2: exactly the declared units, under the property's hypothesis -/

/-- what the offset tables of the buffer must satisfy (established by `InputBuffer::build`; for
`mod_b2c` proved of the table construction in `mkB2c_ok`; checked on the real tables by the harness):
`mod_b2c` at the byte offset of character `k` is `k`; (repaired variant only) `mod_c2b[k]` is that
byte offset; the text is shorter than 65536 bytes (`start_build`/`commit` enforce 49149/65535). -/
structure TextOk (cx : Ctx) (w : Nat → Nat) (cs : List Nat) : Prop where
  b2c : B2cOk w cs cx.b2c
  c2b : cx.v = Variant.d6fix → C2bOk w cs cx.c2b
  size : pre w cs cs.length < 65536 ∧ cs.length < 65536

/-- **The property's own hypothesis** for one parent node `n` over the rewritten text `cs`
(scalar values, `w` = UTF-8 width): `key u` is the key (CSV column 0) of unit `u`; the declared
units' keys concatenate to the text the parent covers — which is the parent's key, lookup being an
exact match (C04) —; the parent's byte range is the byte image of its character range; each unit's
word info loads and its stored `head_word_length` is the byte length of its key (what
`dic/build/lexicon.rs: write_word_info` writes). -/
structure SplitsConcat (cx : Ctx) (w : Nat → Nat) (cs : List Nat) (key : Nat → List Nat) (n : Node) (m : Mode) : Prop where
  range : n.cb ≤ n.ce ∧ n.ce ≤ cs.length
  bytes : n.bb = pre w cs n.cb ∧ n.be = pre w cs n.ce
  concat : ((splitsOf n m).map key).flatten = (cs.drop n.cb).take (n.ce - n.cb)
  keys : KeysLoaded cx w key (splitsOf n m)

/-- **Clause 2: under `SplitsConcat` the sub-tokens are exactly the declared units, in order, and
their ranges partition the parent's.**  For a parent declaring at least one unit, in either variant
of the iterator: `split` does not panic; the sub-tokens carry the declared ids in order; sub-token
`i` covers exactly the characters of unit `i`'s key (`unitsSpec`: starts where unit `i-1` ended,
is `|key i|` characters long, byte range = byte image of the character range); the text under it
IS that key; the sub-tokens form a linked chain from the parent's start to the parent's end and
each runs forward. -/
theorem units_exact (cx : Ctx) (w : Nat → Nat) (cs : List Nat) (key : Nat → List Nat) (n : Node) (m : Mode)
    (ht : TextOk cx w cs) (hs : SplitsConcat cx w cs key n m) (h0 : numSplits n m ≠ 0) :
    ∃ us, split cx n m = .ok us ∧
      us.map (·.wid) = splitsOf n m ∧
      us.map Node.core = unitsSpec w cs key (splitsOf n m) n.cb ∧
      us.map (fun u => (cs.drop u.cb).take (u.ce - u.cb)) = (splitsOf n m).map key ∧
      Linked us n.cb n.bb n.ce n.be ∧
      (∀ u ∈ us, u.cb ≤ u.ce ∧ u.bb ≤ u.be) := by
  obtain ⟨us, hus, hcore⟩ := splitGo_exact cx w cs key ht.b2c ht.c2b ht.size n.ce hs.range.2
    (splitsOf n m) n.cb (splitsOf_ne_nil h0) hs.range.1 hs.keys hs.concat
  rw [← hs.bytes.1, ← hs.bytes.2, ← split_eq_splitGo cx h0] at hus
  refine ⟨us, hus, units_ids cx m n us hus, hcore, ?_, split_linked cx n m us h0 hus,
    fun u hu => unitsSpec_forward w cs key _ _ (hcore ▸ List.mem_map_of_mem (f := Node.core) hu)⟩
  have := unitsSpec_text w cs key n.ce (splitsOf n m) n.cb hs.concat
  rwa [← hcore, List.map_map] at this

/-- **Partition lemma in the form `C01.surfaces_partition` consumes.**  If the mode C path is a
linked chain of forward-running nodes from `(c, b)` to `(c', b')` (lattice path, C02/C14) and every
node that gets split (≥ 2 declared units) satisfies `SplitsConcat`, then the A/B path is a linked
chain with the same ends and its cut points (token ends, in bytes and in characters of the
rewritten text) are non-decreasing: `Mono (b :: cuts)` with last cut `b'`. -/
theorem partition_chain (cx : Ctx) (w : Nat → Nat) (cs : List Nat) (key : Nat → List Nat) (m : Mode)
    (path out : List Node) (c b c' b' : Nat) (ht : TextOk cx w cs)
    (h : splitPath cx m path = .ok out) (hl : Linked path c b c' b')
    (hf : ∀ n ∈ path, n.cb ≤ n.ce ∧ n.bb ≤ n.be)
    (hs : ∀ n ∈ path, 2 ≤ numSplits n m → SplitsConcat cx w cs key n m) :
    Linked out c b c' b' ∧ (b :: out.map (·.be)).Pairwise (· ≤ ·) ∧
      (c :: out.map (·.ce)).Pairwise (· ≤ ·) ∧ b ≤ b' ∧ c ≤ c' := by
  have hlo := chain_preserved cx m path out c b c' b' h hl
  have hfo : ∀ u ∈ out, u.cb ≤ u.ce ∧ u.bb ≤ u.be := by
    rw [splitPath_eq_go] at h
    intro u hu
    obtain ⟨n, hn, ⟨_, rfl⟩ | ⟨h2, us, hgo, huu⟩⟩ := splitPathGo_mem cx m path out u h hu
    · exact hf _ hn
    · obtain ⟨us', hus', _, _, _, _, hfw⟩ := units_exact cx w cs key n m ht (hs n hn h2) (by omega)
      rw [split_eq_splitGo cx (by omega), hgo] at hus'
      cases hus'
      exact hfw u huu
  obtain ⟨h1, h2, h3, h4⟩ := linked_cuts_mono out c b c' b' hlo hfo
  exact ⟨hlo, h1, h2, h3, h4⟩

/-! ## clause 3: on demand = direct -/

/-- **Clause 3a: words declaring no unit.**  `split_into` reports `false` and appends nothing. -/
theorem ondemand_none (cx : Ctx) (m : Mode) (n : Node)
    (h0 : numSplits n m = 0) : splitInto cx m n = .ok (false, []) := by
  rw [splitInto, if_pos h0]

/-- **Clause 3b: on demand = direct.**  For a node declaring two or more units, wherever it stands
in a mode C path: the A/B path is (output for the nodes before) ++ `us` ++ (output for the nodes
after), where `us` is exactly what `split_into` appends for that node, and `split_into` reports
`true`.  (Both sides read word infos with the same subset `s`; for two subsets see `ondemand_other_subset`.) -/
theorem ondemand_eq_direct (cx : Ctx) (m : Mode) (p1 p2 : List Node)
    (n : Node) (out : List Node) (h2 : 2 ≤ numSplits n m)
    (h : splitPath cx m (p1 ++ n :: p2) = .ok out) :
    ∃ o1 us o2, out = o1 ++ us ++ o2 ∧ splitInto cx m n = .ok (true, us) ∧
      splitPath cx m p1 = .ok o1 ∧ splitPath cx m p2 = .ok o2 := by
  simp only [splitPath_eq_go] at h ⊢
  obtain ⟨o1, us, o2, ho, h1, hus, h3⟩ := splitPathGo_decompose cx m p1 n p2 out h
  exact ⟨o1, us, o2, ho, by rw [splitInto_eq_expand cx h2, hus]; rfl, h1, h3⟩

/-- a failing on-demand split is a failing direct tokenisation and vice versa (≥ 2 units) -/
theorem ondemand_fails_iff_direct (cx : Ctx) (m : Mode) (n : Node)
    (h2 : 2 ≤ numSplits n m) :
    (∃ us, splitInto cx m n = .ok (true, us)) ↔ (∃ us, splitPath cx m [n] = .ok us) := by
  rw [splitPath_eq_go, splitPathGo_cons, splitInto_eq_expand cx h2]
  cases expand cx m n <;> simp [Outcome.bind, splitPathGo]

/-! ## subsets and tokenizer histories -/

/-- the key length needed by `NodeSplitIterator` is loaded whenever a split list is requested:
`set_subset` adds the `HEAD_WORD_LENGTH` bit (`normalize`), `set_mode` does NOT — but the reader
writes `head_word_length` unconditionally when it has to walk past it to reach the split lists -/
theorem split_loads_key_length (s : Subset) (h : SPLIT_A ∈ s ∨ SPLIT_B ∈ s) :
    HEAD_WORD_LENGTH ∈ readFields s := by
  rcases h with h | h <;> exact hwl_read_of_later s _ h (by decide)

/-- **Re-stamping (`update_dict_id`).**  Reading word `id` of dictionary `dicOf id` with the A (B)
split requested returns the stored list with every user reference (`dic > 0`) replaced by
(owning dictionary, same word number) and every system reference unchanged; the key length is
returned as stored. -/
theorem restamp (lex : Lex) (id : Nat) (s : Subset) (l : List Entry) (e : Entry)
    (hd : dicOf id < 16) (hl : lex[dicOf id]? = some l) (he : l[wordOf id]? = some e)
    (hs : SPLIT_A ∈ s ∨ SPLIT_B ∈ s) :
    ∃ info, getWordInfoSubset lex id s = .ok info ∧ info.hwl = e.hwl ∧
      (SPLIT_A ∈ s → info.a = e.a.map (Split.restamp (dicOf id))) ∧
      (SPLIT_B ∈ s → info.b = e.b.map (Split.restamp (dicOf id))) :=
  ⟨_, getWordInfoSubset_eq lex id s l e hd hl he, if_pos (split_loads_key_length s hs),
    fun h => if_pos h, fun h => if_pos h⟩

/-- what re-stamping does to one reference: system references stay, user references get the
owner's dictionary id and keep their word number -/
theorem restamp_id (d r : Nat) (hd : d < 16) :
    (dicOf r = 0 → Split.restamp d r = r) ∧
    (0 < dicOf r → dicOf (Split.restamp d r) = d ∧ wordOf (Split.restamp d r) = wordOf r) := by
  constructor
  · intro h; rw [Split.restamp, if_neg (by omega)]
  · intro h
    rw [Split.restamp, if_pos h]
    exact ⟨dicOf_mkId _ _ (wordOf_lt r), wordOf_mkId _ _ (wordOf_lt r)⟩

/-- **`set_mode` / `set_subset`: the split field of the mode is always loaded.**  After any
sequence of `new`, `set_subset`, `set_mode` calls the subset contains the split field of the
current mode. -/
theorem history_loads_split_field (ops : List Op) :
    ModeLoaded (runOps ops (create Mode.C) []).1 :=
  runOps_loaded ops _ _ (create_loaded _)

/-- `set_mode` alone does not put `HEAD_WORD_LENGTH` into the subset (only `set_subset` does):
`new(C); set_subset({POS_ID}); set_mode(A)` ends with `{POS_ID, SPLIT_A}`. -/
theorem set_mode_does_not_normalize :
    toBits (runOps [.new .C, .sub [POS_ID], .md .A] (create .C) []).1.subset = 68 := by decide

/-- the two inputs of the iterator that depend on the subset — the unit's key length and the unit
list of the mode — are the same under any two subsets that hold the split field, for every existing
word (the oracle's `winfo` stream checks exactly this) -/
theorem subset_irrelevant_inputs (lex : Lex) (id : Nat) (s s' : Subset) (l : List Entry) (e : Entry)
    (hd : dicOf id < 16) (hl : lex[dicOf id]? = some l) (he : l[wordOf id]? = some e) :
    (SPLIT_A ∈ s → SPLIT_A ∈ s' → ∃ i i', getWordInfoSubset lex id s = .ok i ∧
      getWordInfoSubset lex id s' = .ok i' ∧ i.hwl = i'.hwl ∧ i.a = i'.a) ∧
    (SPLIT_B ∈ s → SPLIT_B ∈ s' → ∃ i i', getWordInfoSubset lex id s = .ok i ∧
      getWordInfoSubset lex id s' = .ok i' ∧ i.hwl = i'.hwl ∧ i.b = i'.b) := by
  constructor
  · intro h h'
    obtain ⟨i, hi, h1, h2, _⟩ := restamp lex id s l e hd hl he (Or.inl h)
    obtain ⟨i', hi', h1', h2', _⟩ := restamp lex id s' l e hd hl he (Or.inl h')
    exact ⟨i, i', hi, hi', by rw [h1, h1'], by rw [h2 h, h2' h']⟩
  · intro h h'
    obtain ⟨i, hi, h1, _, h3⟩ := restamp lex id s l e hd hl he (Or.inr h)
    obtain ⟨i', hi', h1', _, h3'⟩ := restamp lex id s' l e hd hl he (Or.inr h')
    exact ⟨i, i', hi, hi', by rw [h1, h1'], by rw [h3 h, h3' h']⟩

/-- **The other subset bits do not matter.**  For every lexicon set (well-formed or not), variant of
the iterator, offset tables and path found by the lattice search (word ids are `u32`: 4-bit dictionary
ids): two tokenizers whose subsets both hold the split field of mode `m` (every history does:
`history_loads_split_field`) produce the same outcome — same panic, or the same tokens with the same
ids, character ranges and byte ranges (`Node.core`).  The induction over `NodeSplitIterator::next` is
`Split.splitGo_agree`; the sub-tokens' own word infos do differ (each is loaded with its subset). -/
theorem subset_irrelevant (v : Variant) (lex : Lex) (b2c c2b : List Nat) (s s' : Subset) (m : Mode)
    (raws : List RawNode) (hs : ∀ x ∈ modeSubset m, x ∈ s) (hs' : ∀ x ∈ modeSubset m, x ∈ s')
    (hd : ∀ r ∈ raws, dicOf r.wid < 16) :
    directCore v lex b2c c2b s m raws = directCore v lex b2c c2b s' m raws := by
  rw [directCore_eq, directCore_eq]
  exact coreOut_eq_of_agree ((resolvePath_agree lex c2b s s' m hs hs' raws hd).bind
    fun p p' hp => splitPath_agree v lex b2c c2b s s' m hs hs' p p' hp)

/-- **Clause 3 across subsets: the list the morpheme lives in may have been made with another subset
than the direct tokenizer.**  A path node resolved by a mode-C tokenizer with subset `s'` and split on
demand (`split_into` reads the units with the LIST's subset `s'`, copied by `collect_results`) gives
the same sub-tokens — ids and ranges — as the loop body of `split_path` in a direct tokenizer with
subset `s`, whenever both subsets hold the split field of the mode and the word declares ≥ 2 units.
(A list made WITHOUT the split field has nothing loaded: `ondemand_none` applies — the documented
opt-out "you need to load splits if you want to use split".) -/
theorem ondemand_other_subset (v : Variant) (lex : Lex) (b2c c2b : List Nat) (s s' : Subset) (m : Mode)
    (r : RawNode) (n n' : Node) (hs : ∀ x ∈ modeSubset m, x ∈ s) (hs' : ∀ x ∈ modeSubset m, x ∈ s')
    (hd : dicOf r.wid < 16) (hn : resolveNode lex s c2b r = .ok n) (hn' : resolveNode lex s' c2b r = .ok n')
    (h2 : 2 ≤ numSplits n m) :
    2 ≤ numSplits n' m ∧
    coreOut (expand ⟨v, lex, s, b2c, c2b⟩ m n) =
      coreOut (match splitInto ⟨v, lex, s', b2c, c2b⟩ m n' with
        | .ok (_, us) => .ok us | .err k => .err k | .panic w => .panic w) := by
  have ha := resolveNode_agree lex c2b s s' m hs hs' r hd
  rw [hn, hn'] at ha
  obtain ⟨ha⟩ := ha
  have hnum : numSplits n' m = numSplits n m := by
    rw [numSplits, numSplits, splitsOf_eq, splitsOf_eq, ha.2.1]
  refine ⟨by omega, ?_⟩
  rw [coreOut_eq_of_agree (expand_agree v lex b2c c2b s s' m hs hs' n n' ha), splitInto_eq_expand _ (by omega)]
  cases expand ⟨v, lex, s', b2c, c2b⟩ m n' <;> rfl

/-- **`new(C); set_subset(S); set_mode(M)` against `new(M); set_subset(S)`.**
`set_subset` adds only the flag of the CURRENT mode and normalises; a later `set_mode` ORs the new
mode's flag without re-normalising.  So after the first history the HEAD_WORD_LENGTH bit may be
missing where the second history has it (`set_mode_does_not_normalize`, e.g. `S = {SURFACE}`:
`{SURFACE, SPLIT_A}` vs `{SURFACE, HEAD_WORD_LENGTH, SPLIT_A}`) — and that is the ONLY difference,
and it is invisible: for every request `S` and every splitting mode `M` the two tokenizers are in the
same mode, their subsets agree on every other bit, the reader loads exactly the same fields
(`readFields`: the key length is a light field, written whenever the reader walks past it to a split
list), and the whole analysis — `resolve_best_path` + `split_path`, outcome, tokens, ranges AND the
loaded word infos — is identical for every lexicon set, iterator variant, offset table and path.
Not a defect of C09/C10/C11. -/
theorem set_subset_then_set_mode_eq_new (S : Subset) (M : Mode) (hM : M ≠ Mode.C) :
    let t1 := (runOps [.new .C, .sub S, .md M] (create .C) []).1
    let t2 := (runOps [.new M, .sub S] (create .C) []).1
    t1.mode = M ∧ t2.mode = M ∧
    (∀ x, x ≠ HEAD_WORD_LENGTH → (x ∈ t1.subset ↔ x ∈ t2.subset)) ∧
    HEAD_WORD_LENGTH ∈ t2.subset ∧
    readFields t1.subset = readFields t2.subset ∧
    (∀ lex id, getWordInfoSubset lex id t1.subset = getWordInfoSubset lex id t2.subset) ∧
    (∀ v lex b2c c2b raws,
      (match resolvePath lex t1.subset c2b raws with
        | .ok p => splitPath ⟨v, lex, t1.subset, b2c, c2b⟩ t1.mode p | .err k => .err k | .panic w => .panic w) =
      (match resolvePath lex t2.subset c2b raws with
        | .ok p => splitPath ⟨v, lex, t2.subset, b2c, c2b⟩ t2.mode p | .err k => .err k | .panic w => .panic w)) := by
  intro t1 t2
  -- the split field `g` of the mode is none of the fields `normalize` looks at or adds
  obtain ⟨g, hMg, h5, h3, h4, hg0, hgh⟩ : ∃ g, modeSubset M = [g] ∧ ¬ READING_FORM = g ∧ ¬ NORMALIZED_FORM = g ∧
      ¬ DIC_FORM_WORD_ID = g ∧ g ≠ SURFACE ∧ g ≠ HEAD_WORD_LENGTH := by
    cases M
    · exact ⟨SPLIT_A, rfl, by decide⟩
    · exact ⟨SPLIT_B, rfl, by decide⟩
    · exact absurd rfl hM
  have e1 : t1.subset = normalize (S ++ []) ++ [] ++ [g] := hMg ▸ rfl
  have e2 : t2.subset = normalize (S ++ [g]) ++ [g] := hMg ▸ rfl
  have hagree : ∀ x, x ≠ HEAD_WORD_LENGTH → (x ∈ t1.subset ↔ x ∈ t2.subset) := by
    intro x hx
    rw [e1, e2]
    simp only [List.append_nil, List.mem_append, mem_normalize, List.mem_singleton, hx, h5, h3, h4,
      false_and, false_or, or_assoc, or_comm, or_self_left]
  have hg1 : g ∈ t1.subset := e1 ▸ List.mem_append_right _ (List.mem_singleton_self g)
  have hgw : ∀ lex id, getWordInfoSubset lex id t1.subset = getWordInfoSubset lex id t2.subset :=
    fun lex id => getWordInfoSubset_hwl_bit_irrelevant lex id _ _ hagree g hg1 hg0 hgh
  refine ⟨rfl, rfl, hagree, ?_, readFields_hwl_bit_irrelevant _ _ hagree g hg1 hg0 hgh, hgw, ?_⟩
  · exact (setSubset_contains (create M) S).2 hM
  · intro v lex b2c c2b raws
    rw [resolvePath_congr lex c2b _ _ (hgw lex) raws]
    cases resolvePath lex t2.subset c2b raws with
    | err k => rfl
    | panic w => rfl
    | ok p => exact splitPath_congr v lex b2c c2b _ _ (hgw lex) M p

/-! ## the present iterator (`d6fix`): totality, byte ranges, the two routes to the original text -/

/-- **Clause 1 at full strength for the code that exists (repaired iterator): A/B tokenisation always
returns, and refines C — no "if `split_path` returns".**  For EVERY lexicon set whose stored
references name existing words (`LexClosed`: what the builder's `validate_entries` enforces;
well-formedness of the declarations is NOT assumed — unit keys of any length, in any order), every
subset, every buffer whose tables have the range facts of a built buffer (`TablesRange`), every path
of nodes inside the text whose word ids exist or are synthesised (`RawOk`): `resolve_best_path`
succeeds, `split_path` succeeds — `NodeSplitIterator::next` never indexes out of range and never
fails to read a unit — and every begin/end of a mode-C node is a begin/end of an A/B node, nodes
declaring ≤ 1 unit are unchanged, a linked chain stays a linked chain. -/
theorem boundaries_refine_total (lex : Lex) (s : Subset) (b2c c2b : List Nat) (nb : Nat) (m : Mode)
    (raws : List RawNode) (hc : LexClosed lex) (hr : TablesRange b2c c2b nb)
    (hraw : ∀ r ∈ raws, RawOk lex c2b nb r) :
    ∃ path out, resolvePath lex s c2b raws = .ok path ∧
      path.map (fun n => (n.cb, n.ce, n.wid)) = raws.map (fun r => (r.cb, r.ce, r.wid)) ∧
      splitPath ⟨.d6fix, lex, s, b2c, c2b⟩ m path = .ok out ∧
      (∀ n ∈ path, n.cb ∈ out.map (·.cb) ∧ n.bb ∈ out.map (·.bb) ∧ n.ce ∈ out.map (·.ce) ∧ n.be ∈ out.map (·.be)) ∧
      (∀ n ∈ path, numSplits n m ≤ 1 → n ∈ out) ∧
      (∀ c b c' b', Linked path c b c' b' → Linked out c b c' b') := by
  obtain ⟨path, hp, hok, hmap⟩ := resolvePath_total lex hc s c2b nb raws hraw
  obtain ⟨out, ho⟩ := splitPathGo_d6fix_total ⟨.d6fix, lex, s, b2c, c2b⟩ rfl hc nb hr m path hok
  rw [← splitPath_eq_go] at ho
  obtain ⟨h1, h2⟩ := boundaries_refine _ m path out ho
  exact ⟨path, out, hp, hmap, ho, h1, h2, fun c b c' b' hl => chain_preserved _ m path out c b c' b' ho hl⟩

/-- **`resolve_best_path` computes the byte range from the character range** (`to_curr_byte_idx`), so the
field `bytes` of `SplitsConcat` is not an assumption about path nodes: under `C2bOk` (the table
`InputBuffer::build` makes) every node of a resolved path has `bb = pre w cs cb`, `be = pre w cs ce`. -/
theorem resolved_byte_range (lex : Lex) (s : Subset) (w : Nat → Nat) (cs : List Nat) (c2b : List Nat)
    (hc : C2bOk w cs c2b) (hsz : pre w cs cs.length < 65536) (r : RawNode) (n : Node)
    (hr : r.cb ≤ cs.length ∧ r.ce ≤ cs.length) (h : resolveNode lex s c2b r = .ok n) :
    n.cb = r.cb ∧ n.ce = r.ce ∧ n.wid = r.wid ∧ n.bb = pre w cs n.cb ∧ n.be = pre w cs n.ce := by
  obtain ⟨i, b1, b2, _, h1, h2, rfl⟩ := resolveNode_ok h
  simp only [currByteIdx, hc _ hr.1] at h1
  simp only [currByteIdx, hc _ hr.2] at h2
  cases h1
  cases h2
  exact ⟨rfl, rfl, rfl, asU16_id _ (Nat.lt_of_le_of_lt (pre_le w cs hr.1) hsz),
    asU16_id _ (Nat.lt_of_le_of_lt (pre_le w cs hr.2) hsz)⟩

/-- **The character route and the byte route to the original text agree** for every token of the
repaired code, all dictionaries: each node of the A/B path begins and ends on a character start
(`mod_c2b[cb] = bb`, `mod_c2b[ce] = be` — path nodes by `resolve_best_path`, non-last units by the
snap of the repaired iterator, last units by inheritance), hence whenever `surface()` returns, its
byte range in the original text is `begin()..end()`. -/
theorem routes_agree (lex : Lex) (s : Subset) (b2c c2b m2o : List Nat) (m : Mode) (raws : List RawNode)
    (path out : List Node) (hb : Small b2c) (hc : Small c2b)
    (hp : resolvePath lex s c2b raws = .ok path) (ho : splitPath ⟨.d6fix, lex, s, b2c, c2b⟩ m path = .ok out) :
    ∀ u ∈ out, OnChar c2b u ∧
      ∀ ob oe, surfaceRange b2c c2b m2o u.bb u.be = .ok (ob, oe) →
        origIdx c2b m2o u.cb = .ok ob ∧ origIdx c2b m2o u.ce = .ok oe := by
  have hpath := resolvePath_onChar lex s c2b hc raws path hp
  have hon : ∀ u ∈ out, OnChar c2b u := by
    rw [splitPath_eq_go] at ho
    intro u hu
    obtain ⟨n, hn, ⟨_, rfl⟩ | ⟨_, us, hgo, huu⟩⟩ := splitPathGo_mem _ m path out u ho hu
    · exact hpath _ hn
    · obtain ⟨h1, h2⟩ := hpath n hn
      exact splitGo_onChar ⟨.d6fix, lex, s, b2c, c2b⟩ rfl hb hc n.ce n.be h2 _ _ _ us h1 hgo u huu
  intro u hu
  obtain ⟨h1, h2⟩ := hon u hu
  refine ⟨⟨h1, h2⟩, fun ob oe hs => ?_⟩
  obtain ⟨hb', he'⟩ := surfaceRange_ok b2c c2b m2o u.bb u.be ob oe hs
  exact ⟨origIdx_eq_ok.mpr ⟨_, h1, hb'⟩, origIdx_eq_ok.mpr ⟨_, h2, he'⟩⟩

/-- **Clause 2, last sentence, in the ORIGINAL text: the sub-tokens' `begin()..end()` ranges partition
the parent's.**  Under the hypotheses of `units_exact`, if `begin()`/`end()` are defined on the
sub-tokens' boundaries and the offset map is monotone (`OrigMono`: C08 `offset map monotone`), the
original-text ranges of the sub-tokens form a chain: the first begins at the parent's `begin()`, each
next one where the previous ended, none runs backwards, the last ends at the parent's `end()`. -/
theorem units_partition_original (cx : Ctx) (w : Nat → Nat) (cs : List Nat) (key : Nat → List Nat) (n : Node) (m : Mode)
    (m2o : List Nat) (ht : TextOk cx w cs) (hs : SplitsConcat cx w cs key n m) (h0 : numSplits n m ≠ 0)
    (hm : OrigMono cx.c2b m2o) (o : Nat) (hbeg : origIdx cx.c2b m2o n.cb = .ok o)
    (hdef : ∀ c, n.cb ≤ c → c ≤ n.ce → ∃ x, origIdx cx.c2b m2o c = .ok x) :
    ∃ us o', split cx n m = .ok us ∧ origIdx cx.c2b m2o n.ce = .ok o' ∧ OrigLinked cx.c2b m2o us o o' := by
  obtain ⟨us, hus, _, _, _, hl, hf⟩ := units_exact cx w cs key n m ht hs h0
  obtain ⟨o', ho', hlk⟩ := origLinked_of_linked cx.c2b m2o hm us n.cb n.bb n.ce n.be o hl hf hdef hbeg
  exact ⟨us, o', hus, ho', hlk⟩

/-! ## `MorphemeList::lookup` -/

/-- **Recycled result list: `MorphemeList::lookup` before `171a12c` left the list's subset stale, `split_into`
then read the units with it.**  That `lookup(query, subset)` reads the found words with the subset of the
call but does not store it in the list (`InputPart.subset` keeps what the last `collect_results` put
there).  Witness: a list that collected the results of a tokenizer after `set_subset(SURFACE)`, then
`lookup("東京都", all)`: the morpheme found (word 2, A split `東京/都`) has its split loaded, `split_into(A)`
reads the units with `{SURFACE}` — the reader stops before `head_word_length` — and places `東京` on
`[0,0)` and `都` on `[0,3)` instead of `[0,2)`, `[2,3)`.  (Model variant `LookupV.cur`; `Split.handleLookup` is the
entry point of the harness's `lookup` stream.) -/
theorem lookup_stale_subset_counterexample :
    (match lookup .cur [[⟨6, [], []⟩, ⟨3, [], []⟩, ⟨9, [0, 1], []⟩]] [SURFACE] Subset.all 3 9 [2] with
     | .ok (ns, after) => ns.map (fun n =>
        match splitInto ⟨.d6fix, [[⟨6, [], []⟩, ⟨3, [], []⟩, ⟨9, [0, 1], []⟩]], after, [0, 0, 0, 1, 1, 1, 2, 2, 2, 3], [0, 3, 6, 9]⟩ .A n with
        | .ok (_, us) => us.map Node.core | _ => [])
     | _ => []) = [[(0, 0, 0, 0, 0), (1, 0, 3, 0, 9)]] := by decide

/-- the present `lookup` (it records the subset of the call in the list, variant `LookupV.fix`) on the
same input: `[0,2)`/bytes `[0,6)` and `[2,3)`/bytes `[6,9)` -/
theorem lookup_split_repaired :
    (match lookup .fix [[⟨6, [], []⟩, ⟨3, [], []⟩, ⟨9, [0, 1], []⟩]] [SURFACE] Subset.all 3 9 [2] with
     | .ok (ns, after) => ns.map (fun n =>
        match splitInto ⟨.d6fix, [[⟨6, [], []⟩, ⟨3, [], []⟩, ⟨9, [0, 1], []⟩]], after, [0, 0, 0, 1, 1, 1, 2, 2, 2, 3], [0, 3, 6, 9]⟩ .A n with
        | .ok (_, us) => us.map Node.core | _ => [])
     | _ => []) = [[(0, 0, 2, 0, 6), (1, 2, 3, 6, 9)]] := by decide

/-- **What the present `lookup` + `split_into` return does not depend on what the list went through
before** (`ls`, `ls'` = any two earlier subsets of the list): same nodes, and the subset the units will be
read with is the subset of the call.  For `LookupV.cur` the subset afterwards is the stale one. -/
theorem lookup_history_free (lex : Lex) (ls ls' sl : Subset) (ce be : Nat) (wids : List Nat) :
    lookup .fix lex ls sl ce be wids = lookup .fix lex ls' sl ce be wids ∧
    (∀ ns after, lookup .fix lex ls sl ce be wids = .ok (ns, after) → after = sl) ∧
    (∀ ns after, lookup .cur lex ls sl ce be wids = .ok (ns, after) → after = ls) := by
  have key : ∀ lv ns after, lookup lv lex ls sl ce be wids = .ok (ns, after) →
      after = match lv with | .cur => ls | .fix => sl := by
    intro lv ns after h
    unfold lookup at h
    cases hn : lookupNodes lex sl ce be wids <;> simp only [hn] at h <;> cases h
    rfl
  exact ⟨rfl, key .fix, key .cur⟩

/-! ## witnesses for the iterator before `03842e3` (D6); non-vacuity of the hypotheses -/

/-- D6 (C03/C06 territory; the C09 generator reaches it), iterator before `03842e3` (`Variant.cur`): `東` with the
A split `東京都/京` — the first unit's key (9 bytes) is longer than the parent (3 bytes), the
byte end 9 lies outside `mod_b2c` (length 4) and `ch_idx` panics. -/
theorem d6_counterexample :
    splitPath ⟨.cur, [[⟨9, [], []⟩, ⟨3, [], []⟩, ⟨3, [0, 1], []⟩]], Subset.all, [0, 0, 0, 1], [0, 3]⟩ .A
      [⟨0, 1, 0, 3, 2, ⟨3, [0, 1], []⟩⟩] = .panic "mod_b2c: index out of bounds" := rfl

/-- D6, second shape: the text continues after the parent (`東あいう`, 12 bytes), nothing panics
but the first unit ends at character 3 and the last unit "inherits" the parent's end 1: the
sub-token `[3, 1)` runs backwards. -/
theorem d6_backwards_counterexample :
    (match splitPath ⟨.cur, [[⟨9, [], []⟩, ⟨3, [], []⟩, ⟨3, [0, 1], []⟩]], Subset.all,
        [0, 0, 0, 1, 1, 1, 2, 2, 2, 3, 3, 3, 4], [0, 3, 6, 9, 12]⟩ .A [⟨0, 1, 0, 3, 2, ⟨3, [0, 1], []⟩⟩] with
     | .ok us => us.map (fun u => (u.cb, u.ce))
     | _ => []) = [(0, 3), (3, 1)] := by decide

/-- the present iterator (variant `d6fix`: clamp to the parent's end, snap to a character
start) has neither shape: `東` ↦ units `[0,1)`, `[1,1)` — no panic, no backwards range -/
theorem d6_repaired :
    (match splitPath ⟨.d6fix, [[⟨9, [], []⟩, ⟨3, [], []⟩, ⟨3, [0, 1], []⟩]], Subset.all, [0, 0, 0, 1], [0, 3]⟩ .A
        [⟨0, 1, 0, 3, 2, ⟨3, [0, 1], []⟩⟩] with
     | .ok us => us.map (fun u => (u.cb, u.ce, u.bb, u.be))
     | _ => []) = [(0, 1, 0, 3), (1, 1, 3, 3)] := by decide

/-- non-vacuity of clauses 1 and 3: `東京都` (ids 0 `東京`, 1 `都`, 2 `東京都` with A split `0/1`)
followed by `あ` (OOV): mode A replaces the first node by its two units, the second is unchanged,
and `split_into` returns the same two units / `false`. -/
example :
    splitPath ⟨.cur, [[⟨6, [], []⟩, ⟨3, [], []⟩, ⟨9, [0, 1], []⟩]], Subset.all, [0, 0, 0, 1, 1, 1, 2, 2, 2, 3, 3, 3, 4], [0, 3, 6, 9, 12]⟩ .A
      [⟨0, 3, 0, 9, 2, ⟨9, [0, 1], []⟩⟩, ⟨3, 4, 9, 12, 4026531840, Info.empty⟩]
      = .ok [⟨0, 2, 0, 6, 0, ⟨6, [], []⟩⟩, ⟨2, 3, 6, 9, 1, ⟨3, [], []⟩⟩, ⟨3, 4, 9, 12, 4026531840, Info.empty⟩] ∧
    splitInto ⟨.cur, [[⟨6, [], []⟩, ⟨3, [], []⟩, ⟨9, [0, 1], []⟩]], Subset.all, [0, 0, 0, 1, 1, 1, 2, 2, 2, 3, 3, 3, 4], [0, 3, 6, 9, 12]⟩ .A
      ⟨0, 3, 0, 9, 2, ⟨9, [0, 1], []⟩⟩ = .ok (true, [⟨0, 2, 0, 6, 0, ⟨6, [], []⟩⟩, ⟨2, 3, 6, 9, 1, ⟨3, [], []⟩⟩]) ∧
    splitInto ⟨.cur, [[⟨6, [], []⟩, ⟨3, [], []⟩, ⟨9, [0, 1], []⟩]], Subset.all, [0, 0, 0, 1, 1, 1, 2, 2, 2, 3, 3, 3, 4], [0, 3, 6, 9, 12]⟩ .A
      ⟨3, 4, 9, 12, 4026531840, Info.empty⟩ = .ok (false, []) ∧
    2 ≤ numSplits ⟨0, 3, 0, 9, 2, ⟨9, [0, 1], []⟩⟩ .A ∧ numSplits ⟨3, 4, 9, 12, 4026531840, Info.empty⟩ .A = 0 ∧
    Linked [⟨0, 3, 0, 9, 2, ⟨9, [0, 1], []⟩⟩, ⟨3, 4, 9, 12, 4026531840, Info.empty⟩] 0 0 4 12 := by
  refine ⟨by decide, by decide, by decide, by decide, by decide, ?_⟩
  exact ⟨rfl, rfl, rfl, rfl, rfl, rfl⟩

/-- non-vacuity of `TextOk` / `SplitsConcat` / `units_exact`: the text `ab𠮷` (widths 1, 1, 4) with the
word `ab𠮷` (id 2) declaring the units `ab` (id 0) / `𠮷` (id 1): the hypotheses hold for the table
`mkB2cFrom` builds, and the sub-tokens are `[0,2)`/bytes `[0,2)` and `[2,3)`/bytes `[2,6)`. -/
example :
    let w : Nat → Nat := fun c => if c < 128 then 1 else 4
    let cs : List Nat := [97, 98, 134071]
    let key : Nat → List Nat := fun id => if id = 0 then [97, 98] else if id = 1 then [134071] else [97, 98, 134071]
    let cx : Ctx := ⟨.cur, [[⟨2, [], []⟩, ⟨4, [], []⟩, ⟨6, [0, 1], []⟩]], Subset.all, mkB2cFrom w 0 cs, [0, 1, 2, 6]⟩
    let n : Node := ⟨0, 3, 0, 6, 2, ⟨6, [0, 1], []⟩⟩
    TextOk cx w cs ∧ SplitsConcat cx w cs key n .A ∧ numSplits n .A ≠ 0 ∧
      (match split cx n .A with | .ok us => us.map Node.core | _ => []) = [(0, 0, 2, 0, 2), (1, 2, 3, 2, 6)] := by
  intro w cs key cx n
  refine ⟨⟨?_, ?_, ?_⟩, ⟨?_, ?_, ?_, ?_⟩, ?_, ?_⟩
  · exact mkB2c_ok w (by intro c; simp only [w]; split <;> omega) cs
  · intro h; cases h
  · decide
  · decide
  · decide
  · decide
  · intro wid hwid
    simp only [n, splitsOf, List.mem_cons, List.not_mem_nil, or_false] at hwid
    rcases hwid with rfl | rfl
    · exact ⟨⟨2, [], []⟩, by decide, by decide⟩
    · exact ⟨⟨4, [], []⟩, by decide, by decide⟩
  · decide
  · decide

/-- non-vacuity of `restamp`: word 1 of the second user dictionary (dictionary id 2) stores the
references `U0` (dictionary 1 as written by the builder) and system word 1 -/
example :
    getWordInfoSubset [[⟨3, [], []⟩, ⟨3, [], []⟩], [⟨3, [], []⟩], [⟨3, [], []⟩, ⟨6, [mkId 1 0, 1], []⟩]]
      (mkId 2 1) Subset.all = .ok ⟨6, [mkId 2 0, 1], []⟩ := by decide

/-- non-vacuity of `subset_irrelevant` / `ondemand_other_subset`: `東京都` (word 2, A split `0/1`) read by a
tokenizer with subset `{POS_ID, SPLIT_A}` (no HEAD_WORD_LENGTH bit) and by one with all fields: the
hypotheses hold, both resolve the node (to DIFFERENT word infos: only one holds the B split), it declares two
units, and both give the sub-tokens
`[0,2)`/bytes `[0,6)` and `[2,3)`/bytes `[6,9)` -/
example :
    let lex : Lex := [[⟨6, [], []⟩, ⟨3, [], []⟩, ⟨9, [0, 1], [0, 1]⟩]]
    let s : Subset := [POS_ID, SPLIT_A]
    let r : RawNode := ⟨0, 3, 2, false⟩
    (∀ x ∈ modeSubset .A, x ∈ s) ∧ (∀ x ∈ modeSubset .A, x ∈ Subset.all) ∧ dicOf r.wid < 16 ∧
    (∃ n n', resolveNode lex s [0, 3, 6, 9] r = .ok n ∧ resolveNode lex Subset.all [0, 3, 6, 9] r = .ok n' ∧
      2 ≤ numSplits n .A ∧ n ≠ n') ∧
    directCore .d6fix lex [0, 0, 0, 1, 1, 1, 2, 2, 2, 3] [0, 3, 6, 9] s .A [r] = .ok [(0, 0, 2, 0, 6), (1, 2, 3, 6, 9)] ∧
    directCore .d6fix lex [0, 0, 0, 1, 1, 1, 2, 2, 2, 3] [0, 3, 6, 9] Subset.all .A [r] = .ok [(0, 0, 2, 0, 6), (1, 2, 3, 6, 9)] := by
  refine ⟨by decide, by decide, by decide,
    ⟨⟨0, 3, 0, 9, 2, ⟨9, [0, 1], []⟩⟩, ⟨0, 3, 0, 9, 2, ⟨9, [0, 1], [0, 1]⟩⟩, rfl, rfl, by decide, by decide⟩, rfl, rfl⟩

/-- the two histories on `S = {SURFACE}`, mode A: the subsets really differ — `{SURFACE, SPLIT_A}` = 65
without the HEAD_WORD_LENGTH bit against `{SURFACE, HEAD_WORD_LENGTH, SPLIT_A}` = 67 — while the loaded
fields are the same list (`set_subset_then_set_mode_eq_new`) -/
example :
    toBits (runOps [.new .C, .sub [SURFACE], .md .A] (create .C) []).1.subset = 65 ∧
    toBits (runOps [.new .A, .sub [SURFACE]] (create .C) []).1.subset = 67 ∧
    readFields (runOps [.new .C, .sub [SURFACE], .md .A] (create .C) []).1.subset = [0, 1, 2, 4, 6] ∧
    readFields (runOps [.new .A, .sub [SURFACE]] (create .C) []).1.subset = [0, 1, 2, 4, 6] := by decide

/-- non-vacuity of `boundaries_refine_total` on an ILL-FORMED dictionary (D6: `東` = word 2 with the A split
`東京都/京`), text `東`: the hypotheses hold and the repaired code returns `[0,1)`, `[1,1)` -/
example :
    let lex : Lex := [[⟨9, [], []⟩, ⟨3, [], []⟩, ⟨3, [0, 1], []⟩]]
    LexClosed lex ∧ TablesRange [0, 0, 0, 1] [0, 3] 3 ∧ RawOk lex [0, 3] 3 ⟨0, 1, 2, false⟩ ∧
    (match resolvePath lex Subset.all [0, 3] [⟨0, 1, 2, false⟩] with
      | .ok p => (match splitPath ⟨.d6fix, lex, Subset.all, [0, 0, 0, 1], [0, 3]⟩ .A p with
        | .ok us => us.map (fun u => (u.cb, u.ce, u.bb, u.be)) | _ => [])
      | _ => []) = [(0, 1, 0, 3), (1, 1, 3, 3)] := by
  intro lex
  refine ⟨?_, ?_, ?_, by decide⟩
  · intro d l hd hl e he r hr
    cases d with
    | succ d => cases hl
    | zero =>
      cases hl
      simp only [List.mem_cons, List.not_mem_nil, or_false] at he
      rcases he with rfl | rfl | rfl
      · cases hr
      · cases hr
      · simp only [List.append_nil, List.mem_cons, List.not_mem_nil, or_false] at hr
        rcases hr with rfl | rfl <;> exact ⟨by decide, _, _, rfl, rfl⟩
  · intro i hi
    have : i = 0 ∨ i = 1 ∨ i = 2 ∨ i = 3 := by omega
    rcases this with rfl | rfl | rfl | rfl <;> exact ⟨_, rfl, _, rfl⟩
  · exact ⟨⟨0, rfl⟩, ⟨3, rfl, by decide⟩, Or.inr ⟨by decide, _, _, rfl, rfl⟩⟩

/-- non-vacuity of `resolved_byte_range`, `routes_agree`, `units_partition_original`: text `ab𠮷`
(widths 1, 1, 4), tables as built, identity offset map: `C2bOk`, `Small`, `OrigMono` hold; the node
`ab𠮷` resolves to bytes `[0,6)`; the sub-tokens' surfaces are `[0,2)` and `[2,6)` by both routes -/
example :
    let w : Nat → Nat := fun c => if c < 128 then 1 else 4
    let cs : List Nat := [97, 98, 134071]
    let c2b : List Nat := [0, 1, 2, 6]
    let b2c : List Nat := mkB2cFrom w 0 cs
    let m2o : List Nat := [0, 1, 2, 3, 4, 5, 6]
    let lex : Lex := [[⟨2, [], []⟩, ⟨4, [], []⟩, ⟨6, [0, 1], []⟩]]
    C2bOk w cs c2b ∧ Small c2b ∧ Small b2c ∧ OrigMono c2b m2o ∧ pre w cs cs.length < 65536 ∧
    resolveNode lex Subset.all c2b ⟨0, 3, 2, false⟩ = .ok ⟨0, 3, 0, 6, 2, ⟨6, [0, 1], []⟩⟩ ∧
    (match split ⟨.d6fix, lex, Subset.all, b2c, c2b⟩ ⟨0, 3, 0, 6, 2, ⟨6, [0, 1], []⟩⟩ .A with
      | .ok us => us.map (fun u => (surfaceRange b2c c2b m2o u.bb u.be, origIdx c2b m2o u.cb, origIdx c2b m2o u.ce))
      | _ => []) = [(.ok (0, 2), .ok 0, .ok 2), (.ok (2, 6), .ok 2, .ok 6)] := by
  intro w cs c2b b2c m2o lex
  refine ⟨?_, by decide, by decide, origMono_of_sorted _ _ (by decide) (by decide), by decide, by decide, by decide⟩
  intro k hk
  have : k = 0 ∨ k = 1 ∨ k = 2 ∨ k = 3 := by simp [cs] at hk; omega
  rcases this with rfl | rfl | rfl | rfl <;> decide

/-! ## tokens made by the path-rewrite plugins, units of units, the other entry points -/

/-- **A token joined by a path-rewrite plugin declares no units** (`concat_nodes` of JoinNumericPlugin,
`concat_oov_nodes` of JoinKatakanaOovPlugin: `..Default::default()` for the split lists), whatever its
parts declare — in every mode; its key length is the sum of the parts' key lengths (a `u16`). -/
theorem joined_declares_no_units (k : JoinKind) (parts : List Node) (j : Node)
    (h : joinNodes k parts = .ok j) (m : Mode) :
    numSplits j m = 0 ∧ j.info.a = [] ∧ j.info.b = [] ∧
    j.info.hwl = (parts.map (·.info.hwl)).sum ∧ j.info.hwl < 65536 := by
  obtain ⟨first, rest, last, hw, _, _, hs, rfl⟩ := joinNodes_ok k parts j h
  obtain ⟨h1, h2⟩ := sumHwl_eq parts 0 hw hs (by decide)
  exact ⟨by cases m <;> rfl, rfl, rfl, by rw [h1, Nat.zero_add], h2⟩

/-- **First and third sentence for joined tokens (the statement the seeded change C09d of DESIGN.md §6 breaks), full strength:**
for every lexicon set, subset, table, iterator variant, mode and every run of parts — also when the HEAD of
the run is a compound numeral with declared units — the joined token stands unchanged in the A/B path
wherever it is in the path, `split_into` reports that nothing was split and appends nothing, and the
deprecated `Morpheme::split` returns the token itself. -/
theorem joined_token_unchanged (cx : Ctx) (m : Mode) (k : JoinKind) (parts : List Node) (j : Node)
    (h : joinNodes k parts = .ok j) :
    expand cx m j = .ok [j] ∧ splitInto cx m j = .ok (false, []) ∧ splitDeprecated cx m j = .ok [j] ∧
    (∀ p1 p2 out, splitPath cx m (p1 ++ j :: p2) = .ok out →
      ∃ o1 o2, out = o1 ++ j :: o2 ∧ splitPath cx m p1 = .ok o1 ∧ splitPath cx m p2 = .ok o2) := by
  have h0 : numSplits j m = 0 := (joined_declares_no_units k parts j h m).1
  have he : expand cx m j = .ok [j] := by rw [expand, if_pos (by omega)]
  have hi : splitInto cx m j = .ok (false, []) := ondemand_none cx m j h0
  refine ⟨he, hi, by rw [splitDeprecated, hi], ?_⟩
  intro p1 p2 out hout
  simp only [splitPath_eq_go] at hout ⊢
  obtain ⟨o1, us, o2, ho, h1, hus, h3⟩ := splitPathGo_decompose cx m p1 j p2 out hout
  rw [he] at hus
  cases hus
  exact ⟨o1, o2, by rw [ho, List.append_assoc]; rfl, h1, h3⟩

/-- **The joined token covers exactly the run it replaces**: first part's begin, last part's end, in
characters and in bytes — a linked chain of parts from `(c, b)` to `(c', b')` becomes the one-node chain
with the same ends (texts shorter than 65 536 characters: the `as u16` casts are the identity), so the
hypotheses of `chain_preserved` / `partition_chain` survive the path-rewrite plugins. -/
theorem joined_range (k : JoinKind) (parts : List Node) (j : Node) (h : joinNodes k parts = .ok j)
    (c b c' b' : Nat) (hl : Linked parts c b c' b') (hc : c < 65536) (hc' : c' < 65536) :
    Linked [j] c b c' b' := by
  obtain ⟨first, rest, last, hw, hp, hlast, _, rfl⟩ := joinNodes_ok k parts j h
  obtain ⟨e1, e2⟩ := linked_last parts c b c' b' last hl hlast
  subst hp
  obtain ⟨f1, f2, _⟩ := hl
  refine ⟨?_, f2, ?_, e2⟩
  · show asU16 first.cb = c
    rw [f1]; exact Nat.mod_eq_of_lt hc
  · show asU16 last.ce = c'
    rw [e1]; exact Nat.mod_eq_of_lt hc'

/-- **A joined token never carries the id of a dictionary word**: `WordId::INVALID` (dictionary 15) for
`concat_nodes`; for `concat_oov_nodes` the largest id of the run if that is an OOV id, else word number
`MAX_WORD` of its dictionary.  This is how the harness (and `Morpheme::is_oov`/`dictionary_id` users)
tell synthesised tokens from words. -/
theorem joined_wid_synthetic (k : JoinKind) (parts : List Node) (j : Node) (h : joinNodes k parts = .ok j) :
    isOov j.wid = true ∨ wordOf j.wid = WORD_MASK := by
  obtain ⟨first, rest, last, hw, _, _, _, rfl⟩ := joinNodes_ok k parts j h
  cases k
  · left
    show isOov INVALID_ID = true
    decide
  · show isOov (kataWid parts) = true ∨ wordOf (kataWid parts) = WORD_MASK
    unfold kataWid
    by_cases ho : isOov (parts.foldl (fun acc n => max acc n.wid) 0) = true
    · left; simp [ho]
    · right; simp only [ho]; exact wordOf_mkId _ _ (by decide)

/-- **A path that no plugin touched resolves as `resolve_best_path` does**: the grouped path of the case lines
degenerates to `resolvePath`, so every theorem about `resolvePath` applies to it. -/
theorem groups_plain_eq_resolvePath (lex : Lex) (s : Subset) (c2b : List Nat) (raws : List RawNode) :
    resolveGroups lex s c2b (plainGroups raws) = resolvePath lex s c2b raws := by
  induction raws with
  | nil => rfl
  | cons r rest ih =>
    simp only [plainGroups, List.map_cons] at ih ⊢
    simp only [resolveGroups, resolveG2, resolveG1s, resolveG1, resolvePath, ih]
    cases resolveNode lex s c2b r <;> simp [closeGroup]

/-- **Units of units are NOT split further by one call; a second call splits them.**  For a
node declaring two or more units the A/B path holds exactly one token per DECLARED unit (no more, even
when a unit declares units of its own in that mode), and splitting such a unit `u` on demand afterwards
is `NodeSplitIterator` run over `u`'s own list inside `u`'s range. -/
theorem one_level_only (cx : Ctx) (m : Mode) (n : Node) (us : List Node)
    (h2 : 2 ≤ numSplits n m) (h : expand cx m n = .ok us) :
    us.map (·.wid) = splitsOf n m ∧ us.length = numSplits n m ∧
    (∀ u ∈ us, ∀ us2, 1 ≤ numSplits u m →
      (splitInto cx m u = .ok (true, us2) ↔ splitGo cx (splitsOf u m) u.cb u.bb u.ce u.be = .ok us2)) := by
  rw [expand, if_neg (by omega)] at h
  have hw := units_ids cx m n us h
  refine ⟨hw, by rw [numSplits, ← hw, List.length_map], ?_⟩
  intro u _ us2 h1
  have hne : numSplits u m ≠ 0 := by omega
  rw [splitInto, if_neg hne, split_eq_splitGo cx hne]
  cases splitGo cx (splitsOf u m) u.cb u.bb u.ce u.be <;> simp

/-- kernel-checked witness of `one_level_only` being sharp — `split_path` is NOT idempotent: `二十万`
(word 5, B units `二十`/`万` = words 3/2; `二十` itself declares the B units `二`/`十` = words 0/1).  Mode B
gives `[二十, 万]`; the token `二十` still declares two B units and stays whole; a second `split_into` on it
gives `[二, 十]`. -/
theorem units_of_units_witness :
    let lex : Lex := [[⟨3, [], []⟩, ⟨3, [], []⟩, ⟨3, [], []⟩, ⟨6, [0, 1], [0, 1]⟩, ⟨6, [1, 2], []⟩, ⟨9, [0, 1, 2], [3, 2]⟩]]
    let cx : Ctx := ⟨.d6fix, lex, Subset.all, [0, 0, 0, 1, 1, 1, 2, 2, 2, 3], [0, 3, 6, 9]⟩
    let u : Node := ⟨0, 2, 0, 6, 3, ⟨6, [0, 1], [0, 1]⟩⟩
    splitPath cx .B [⟨0, 3, 0, 9, 5, ⟨9, [0, 1, 2], [3, 2]⟩⟩] = .ok [u, ⟨2, 3, 6, 9, 2, ⟨3, [], []⟩⟩] ∧
    numSplits u .B = 2 ∧
    splitPath cx .B [u, ⟨2, 3, 6, 9, 2, ⟨3, [], []⟩⟩] ≠ .ok [u, ⟨2, 3, 6, 9, 2, ⟨3, [], []⟩⟩] ∧
    splitInto cx .B u = .ok (true, [⟨0, 1, 0, 3, 0, ⟨3, [], []⟩⟩, ⟨1, 2, 3, 6, 1, ⟨3, [], []⟩⟩]) := by
  decide

/-- **The deprecated `Morpheme::split` / `MorphemeList::split`** is `split_path`'s loop body whenever the
node does not declare exactly one unit (units for two or more, the node itself for none); for ONE declared
unit it returns that unit while `split_path` keeps the parent (the case the property text leaves out). -/
theorem deprecated_split_eq_expand (cx : Ctx) (m : Mode) (n : Node) (h1 : numSplits n m ≠ 1) :
    splitDeprecated cx m n = expand cx m n := by
  by_cases h0 : numSplits n m = 0
  · rw [splitDeprecated, splitInto, if_pos h0, expand, if_pos (by omega)]
  · rw [splitDeprecated, splitInto_eq_expand cx (by omega)]
    cases expand cx m n <;> rfl

/-- non-vacuity of the `joined_*` theorems: `二十` (word 3, A and B units `二`/`十`) + `二` joined by
`concat_nodes` — the HEAD declares units, the joined token (`WordId::INVALID`, key length 9) declares
none, is unchanged in mode A and `split_into` reports nothing; the same run through `concat_oov_nodes`
gets word number `MAX_WORD` of dictionary 0. -/
example :
    let lex : Lex := [[⟨3, [], []⟩, ⟨3, [], []⟩, ⟨3, [], []⟩, ⟨6, [0, 1], [0, 1]⟩]]
    let cx : Ctx := ⟨.d6fix, lex, Subset.all, [0, 0, 0, 1, 1, 1, 2, 2, 2, 3], [0, 3, 6, 9]⟩
    let head : Node := ⟨0, 2, 0, 6, 3, ⟨6, [0, 1], [0, 1]⟩⟩
    let j : Node := ⟨0, 3, 0, 9, 4294967295, ⟨9, [], []⟩⟩
    numSplits head .A = 2 ∧
    joinNodes .num [head, ⟨2, 3, 6, 9, 0, ⟨3, [], []⟩⟩] = .ok j ∧
    splitPath cx .A [j] = .ok [j] ∧ splitInto cx .A j = .ok (false, []) ∧
    joinNodes .kata [head, ⟨2, 3, 6, 9, 0, ⟨3, [], []⟩⟩] = .ok ⟨0, 3, 0, 9, 268435455, ⟨9, [], []⟩⟩ ∧
    Linked [head, ⟨2, 3, 6, 9, 0, ⟨3, [], []⟩⟩] 0 0 3 9 ∧
    resolveGroups lex Subset.all [0, 3, 6, 9] [⟨none, [⟨some .num, [⟨0, 2, 3, false⟩, ⟨2, 3, 0, false⟩]⟩]⟩] = .ok [j] := by
  refine ⟨by decide, by decide, by decide, by decide, by decide, ?_, by decide⟩
  exact ⟨rfl, rfl, rfl, rfl, rfl, rfl⟩

end C09
