import Sudachi.Proofs.Rewrite
import Sudachi.Proofs.RewriteSplit
import Sudachi.Proofs.RewriteNumeral
import Sudachi.Proofs.RewriteKatakana
import Sudachi.Proofs.RewriteF3
import Sudachi.Proofs.RewriteLocal
import Sudachi.Proofs.RewriteLocalKatakana
import Sudachi.Proofs.RewriteSafe
import Sudachi.Proofs.RewriteNoErr
/-!
# C14 — Path-rewrite plugins only merge adjacent tokens and preserve the text

Model (`Sudachi/Model/Rewrite.lean`): `concatNodes`/`concatOovNodes` (`analysis/node.rs`),
`kloop`/`joinKatakana` (`join_katakana_oov::rewrite_gen`), `nloop`/`joinNumeric`
(`join_numeric::rewrite_gen`, `concat`), `rewriteAll` (the plugin loop of
`stateful_tokenizer.rs`).  The numeric parser `P` and the class masks `cat` are universally
quantified parameters: the theorems up to the section on locality hold for *every* parser behaviour, every class
table, every path, every setting, every amount of fuel and every intermediate loop state; the sections on locality,
index safety and `InvalidRange` name the hypotheses they add (`Resets`, `SepNotFirst P`, `Tiles`/`Safe`, `NInv2`, `NOne`;
`KWF` for idempotence of the katakana joiner).

The numeric loop exists in two code variants (`NVariant`): `cur`, the loop without the repair of finding F2, and
`fix`, the loop with it (a COMMA/POINT error restarts the run only if the corresponding flag was still set), which
is what /repo has (`join_numeric/mod.rs:107-113`, `&& comma_as_digit` / `&& period_as_digit`).  The harness tells the
driver which one the tree under test has.  Every theorem about
`nloop`/`joinNumeric`/`rewriteAll` is stated for an arbitrary variant `v`, except the two that
separate them: `numeric_rewrite_diverges_counterexample` (`cur`) and `numeric_rewrite_terminates`
with its corollaries (`fix`).

`Coarsens R p q` (Proofs/RewriteCoarsens.lean): `q` arises from `p` by replacing disjoint contiguous
non-empty blocks by one node that `Spans` the block (same begin as the first node, same end as the
last node, in characters and bytes; dictionary-side surface = concatenation) and satisfies the
plugin's relation `R` (`RN`: numeral POS = POS of the first node, no word id; `RK`: configured OOV
POS, normalised/dictionary form = surface; `RS`: POS among those the stack prescribes); all other
nodes are kept identically and in place.

The node carries the four id lists (A units, B units, word structure, synonym
groups), `merged_fields_*` are field-by-field, `NewWord` (no units, no structure, no synonyms, default
connection ids) is part of `RN`/`RK`/`RS`; `split_path` after the plugins is in the model
(`splitPath`, `analyse`; `NodeSplitIterator` is the parameter `U`) with `split_after_rewrite` and
`split_of_merged`; the katakana joiner's decision is characterised (`katakana_join_decision`,
`katakana_merged_block_classes`, `katakana_min_length_unchanged`); the stack runs in configured
order (`stack_applies_in_order`, `plugin_order_matters_counterexample`); idempotence is false for the
numeral joiner (`numeric_not_idempotent_counterexample`, finding F3).

The katakana joiner is IDEMPOTENT (`katakana_idempotent`, for every path whose nodes
are well-formed and ordered — `KWF`, implied by contiguity — with `katakana_idempotent_needs_order_counterexample`
showing that the hypothesis cannot be dropped in the model), by way of the full characterisation of one loop
iteration on a maximal katakana run (`katakana_step_on_run`, an equation for `kstep` that covers the join and
the no-join outcome); the numeral joiner's gate (`numeral_gate`, `merged_numeral_pos`, `no_numeral_no_join`,
and `any_gate_breaks_merged_pos_counterexample` for the gate of seeded change C14c); the mechanism of F3
(`merged_separator_token_not_numeric`: a joined token that contains a separator is not a candidate any more;
`numeric_run_before_opaque_token_is_joined_partial`: a sufficient condition for "this run of the plugin shortens
the path", with the second run of the F3 witness as an instance: `numeric_second_run_changes_witness`).

Locality (`katakana_cut_at_non_katakana`, `numeral_cut_at_resetting_node`: each loop can be cut at a node that is inert
for it) and the one instance of commutation that is proved (`plugins_commute_partial`); index safety on a path that
tiles the text (`rewrite_stack_never_panics`, `rewrite_keeps_tiling`, …) and, for a parser that rejects a leading
separator, no `InvalidRange` either (`rewrite_stack_always_ok`).

Two clauses of the property are **false**, proved on concrete witnesses (`…_counterexample`) and reproduced on
the implementation by the harness: for both variants a single numeral token is rebuilt (not "reported unchanged")
when `enableNormalize` is on; and the loop of the variant `cur` need not terminate (so no token list is reported at
all), while the variant `fix` always terminates, within the driver's fuel.
-/
namespace C14
open Rewrite

/-! ### the relation -/

/-- `Coarsens` is reflexive. -/
theorem coarsens_refl (R : List Node → Node → Prop) (p : List Node) : Coarsens R p p :=
  Coarsens.refl p

/-- `Coarsens` is transitive (for a relation `R` that survives refining a block, which `RN`, `RK`
and `RS` do: `rn_rk_rs_compositional`). -/
theorem coarsens_trans (R : List Node → Node → Prop) (hR : Compositional R) (p q r : List Node)
    (h1 : Coarsens R p q) (h2 : Coarsens R q r) : Coarsens R p r :=
  h2.trans hR h1

theorem rn_rk_rs_compositional (n : NCfg) (k : KCfg) (poses : List Nat) :
    Compositional (RN n) ∧ Compositional (RK k) ∧ Compositional (RS poses) :=
  ⟨RN_compositional n, RK_compositional k, RS_compositional poses⟩

/-- `Coarsens` is exactly "a partition of the input into consecutive blocks, one per output token,
each block being the token itself or a block the token spans". -/
theorem coarsens_iff_partition (R : List Node → Node → Prop) (p q : List Node) :
    Coarsens R p q ↔ ∃ bs : List (List Node), bs.flatten = p ∧ Aligned R bs q :=
  ⟨fun h => h.aligned, fun ⟨bs, e, h⟩ => e ▸ coarsens_of_aligned bs q h⟩

/-- `Coarsens` is preserved by `concat_nodes` (called by the numeral plugin only when the first
node of the range carries the numeral POS and, without `enableNormalize`, only for ranges of more
than one node — `nconcat`). -/
theorem coarsens_preserved_by_concat_nodes (cfg : NCfg) (p0 path q : List Node) (b e : Nat)
    (nf : Option (List Char)) (h0 : Coarsens (RN cfg) p0 path)
    (hpos : ∀ f, path[b]? = some f → f.pos = cfg.numPos)
    (hlen : cfg.enableNormalize = false → 1 < e - b)
    (h : concatNodes path b e nf = .ok q) : Coarsens (RN cfg) p0 q :=
  (concatNodes_coarsens cfg h hpos hlen).trans (RN_compositional cfg) h0

/-- `Coarsens` is preserved by `concat_oov_nodes` (called by the katakana plugin only when
`end - begin > 1`). -/
theorem coarsens_preserved_by_concat_oov_nodes (cfg : KCfg) (p0 path q : List Node) (b e : Nat)
    (h0 : Coarsens (RK cfg) p0 path) (hlen : 1 < e - b)
    (h : concatOovNodes path b e cfg.oovPos = .ok q) : Coarsens (RK cfg) p0 q :=
  (concatOovNodes_coarsens cfg h hlen).trans (RK_compositional cfg) h0

/-! ### merged fields (clauses "covers exactly the union of the merged ranges", "surface is the
concatenation", "carries the prescribed part of speech", "other tokens unchanged") -/

/-- `concat_nodes(path, b, e, nf)`, FIELD BY FIELD: the node at `b` is the merged node —
node side: begin (chars, bytes) of the first node, end (chars, bytes) of the last node, total cost of the
last node, no word id, left/right id `u16::MAX`, cost `i16::MAX`;
word-info side: surface / reading form / dictionary form = concatenation of the raw fields,
head_word_length = sum, POS of the first node, normalised form `nf` or the concatenation,
dictionary_form_word_id −1, NO A units, NO B units, no word structure, no synonym groups;
nodes before `b` are untouched, nodes from `e` on are untouched and shifted down.
(Seeded change C14b — copying the head's units — falsifies the `aSplit`/`bSplit` conjuncts.) -/
theorem merged_fields_concat_nodes (path q : List Node) (b e : Nat) (nf : Option (List Char))
    (h : concatNodes path b e nf = .ok q) :
    ∃ f l m, b < e ∧ e ≤ path.length ∧ path[b]? = some f ∧ path[e - 1]? = some l ∧ q[b]? = some m ∧
      (m.b, m.bb, m.e, m.eb) = (f.b, f.bb, l.e, l.eb) ∧
      m.tc = l.tc ∧ m.wid = WID_INVALID ∧ (m.left, m.right, m.cost) = (65535, 65535, 32767) ∧
      m.surface = catSurface (block path b e) ∧ m.hwl = sumHwl (block path b e) ∧ m.pos = f.pos ∧
      (∀ s, nf = some s → m.norm = s) ∧ (nf = none → m.norm = (block path b e).flatMap (·.norm)) ∧
      m.reading = (block path b e).flatMap (·.reading) ∧ m.dform = (block path b e).flatMap (·.dform) ∧
      m.dfw = -1 ∧ m.aSplit = [] ∧ m.bSplit = [] ∧ m.wStruct = [] ∧ m.syn = [] ∧
      (∀ k, k < b → q[k]? = path[k]?) ∧ (∀ k, q[b + 1 + k]? = path[e + k]?) ∧
      q.length + (e - b) = path.length + 1 := by
  obtain ⟨f, l, hbe, he, hf, hl, hm, h1, h2, h3⟩ := concatWith_shape (mk := (mergedNode · · · nf)) h
  exact ⟨f, l, _, hbe, he, hf, hl, hm, rfl, rfl, rfl, rfl, rfl, rfl, rfl,
    fun s hs => by subst hs; rfl, fun hn => by subst hn; rfl, rfl, rfl, rfl, rfl, rfl, rfl, rfl, h1, h2, h3⟩

/-- `concat_oov_nodes(path, b, e, pos)`, FIELD BY FIELD: ranges, total cost, connection ids and cost as
above; word id = OOV id if any part is OOV (the largest id), else `(dictionary of the largest id,
MAX_WORD)`; surface = concatenation, normalised and dictionary form = that surface, reading form
empty (reported as the surface), head_word_length = sum, the configured POS,
dictionary_form_word_id −1, no units, no word structure, no synonym groups.
(Seeded change C14a — end derived from the concatenated headwords — falsifies the range conjunct.) -/
theorem merged_fields_concat_oov_nodes (path q : List Node) (b e posId : Nat)
    (h : concatOovNodes path b e posId = .ok q) :
    ∃ f l m, b < e ∧ e ≤ path.length ∧ path[b]? = some f ∧ path[e - 1]? = some l ∧ q[b]? = some m ∧
      (m.b, m.bb, m.e, m.eb) = (f.b, f.bb, l.e, l.eb) ∧
      m.tc = l.tc ∧ (m.left, m.right, m.cost) = (65535, 65535, 32767) ∧
      m.wid = (if widIsOov (maxWid (block path b e)) then maxWid (block path b e)
               else (maxWid (block path b e) / 268435456) * 268435456 + MAX_WORD) ∧
      m.surface = catSurface (block path b e) ∧ m.hwl = sumHwl (block path b e) ∧ m.pos = posId ∧
      m.norm = m.surface ∧ m.dform = m.surface ∧ m.reading = [] ∧
      m.dfw = -1 ∧ m.aSplit = [] ∧ m.bSplit = [] ∧ m.wStruct = [] ∧ m.syn = [] ∧
      (∀ k, k < b → q[k]? = path[k]?) ∧ (∀ k, q[b + 1 + k]? = path[e + k]?) ∧
      q.length + (e - b) = path.length + 1 := by
  obtain ⟨f, l, hbe, he, hf, hl, hm, h1, h2, h3⟩ := concatWith_shape (mk := (mergedOovNode · · · posId)) h
  exact ⟨f, l, _, hbe, he, hf, hl, hm, rfl, rfl, rfl, rfl, rfl, rfl, rfl,
    rfl, rfl, rfl, rfl, rfl, rfl, rfl, rfl, h1, h2, h3⟩

/-! ### the loops: every run yields a coarsening -/

/-- Katakana joining, for every amount of fuel, every path and every start index of the scan: a
result is a coarsening of the path the loop was entered with. -/
theorem join_katakana_coarsens (cfg : KCfg) (cat : List Nat) (fuel : Nat) (path : List Node) (i : Nat)
    (q : List Node) (h : kloop cfg cat fuel path i = .ok q) : Coarsens (RK cfg) path q :=
  kloop_coarsens cfg cat fuel path i q h

/-- Numeral joining, for both code variants, every parser behaviour `P`, every amount of fuel and every loop state
(index, run start, both separator flags, accumulated characters — the index logic is irrelevant):
a result is a coarsening of the state's path. -/
theorem join_numeric_coarsens (v : NVariant) (cfg : NCfg) (cat : List Nat) (P : List Char → POut)
    (fuel : Nat) (st : NState) (q : List Node) (h : nloop v cfg cat P fuel st = .ok q) :
    Coarsens (RN cfg) st.path q :=
  nloop_coarsens v cfg cat P fuel st q h

/-- The configured stack, applied in order. -/
theorem rewrite_stack_coarsens (v : NVariant) (cat : List Nat) (P : List Char → POut)
    (pls : List Plugin) (path q : List Node) (h : rewriteAll v cat P pls path = .ok q) :
    Coarsens (RS (prescribed pls)) path q :=
  rewriteAll_coarsens v cat P pls path q h

/-! ### what a coarsening means for the observer -/

/-- Clause "token boundaries with the plugins are a subset of the boundaries without": every
begin (end) of a rewritten token, in characters and bytes, is the begin (end) of an input token. -/
theorem boundaries_subset (v : NVariant) (cat : List Nat) (P : List Char → POut) (pls : List Plugin)
    (path q : List Node) (h : rewriteAll v cat P pls path = .ok q) :
    ∀ m ∈ q, (∃ n ∈ path, n.b = m.b ∧ n.bb = m.bb) ∧ (∃ n ∈ path, n.e = m.e ∧ n.eb = m.eb) :=
  (rewriteAll_coarsens v cat P pls path q h).boundaries

/-- Clause "never moved, split or dropped / preserve the text": the concatenation of the
dictionary-side surfaces is unchanged, the path begins and ends where it did, and a path whose
tokens touch (each begins where the previous one ends) is rewritten to such a path. -/
theorem text_preserved (v : NVariant) (cat : List Nat) (P : List Char → POut) (pls : List Plugin)
    (path q : List Node) (h : rewriteAll v cat P pls path = .ok q) :
    catSurface q = catSurface path ∧ firstB q = firstB path ∧ lastE q = lastE path ∧
      (Contig path → Contig q) := by
  have hc := rewriteAll_coarsens v cat P pls path q h
  obtain ⟨h1, h2, h3⟩ := hc.summary
  exact ⟨h3.symm, h1.symm, h2.symm, hc.contig⟩

/-- Clauses "merged token covers the union / surface is the concatenation / prescribed POS /
other tokens unchanged", for the whole stack: the input path splits into consecutive blocks, one
per output token; a block is either the output token itself (identical in every field) or a block
which the output token spans, and then its POS is one the stack prescribes. -/
theorem tokens_kept_or_merged (v : NVariant) (cat : List Nat) (P : List Char → POut) (pls : List Plugin)
    (path q : List Node) (h : rewriteAll v cat P pls path = .ok q) :
    ∃ bs : List (List Node), bs.flatten = path ∧ Aligned (RS (prescribed pls)) bs q :=
  (rewriteAll_coarsens v cat P pls path q h).aligned

/-- Numeral plugin alone: a merged token carries the numeral POS, which is the POS of the first
token of its block, and has no word id. -/
theorem numeric_merged_pos (v : NVariant) (cfg : NCfg) (cat : List Nat) (P : List Char → POut)
    (path q : List Node) (h : joinNumeric v cfg cat P path = .ok q) :
    ∃ bs : List (List Node), bs.flatten = path ∧ Aligned (RN cfg) bs q :=
  (nloop_coarsens v cfg cat P _ _ q h).aligned

/-- Katakana plugin alone: a merged token carries the configured OOV POS; its normalised and
dictionary forms are its surface. -/
theorem katakana_merged_pos (cfg : KCfg) (cat : List Nat) (path q : List Node)
    (h : joinKatakana cfg cat path = .ok q) :
    ∃ bs : List (List Node), bs.flatten = path ∧ Aligned (RK cfg) bs q :=
  (kloop_coarsens cfg cat _ _ _ q h).aligned

/-! ### termination -/

/-- termination (the fuel bound) for the katakana loop: `path.length - i + 1` iterations always suffice;
in particular the driver's fuel `kFuel path` is never exhausted. -/
theorem katakana_terminates (cfg : KCfg) (cat : List Nat) (fuel : Nat) (path : List Node) (i : Nat)
    (hf : path.length - i < fuel) : kloop cfg cat fuel path i ≠ .fuel :=
  kloop_terminates cfg cat fuel path i hf

theorem join_katakana_total (cfg : KCfg) (cat : List Nat) (path : List Node) :
    joinKatakana cfg cat path ≠ .fuel :=
  kloop_terminates cfg cat _ path 0 (by simp [kFuel])

/-- termination (the fuel bound) for the numeral loop AFTER the repair of F2 (variant `fix`), for every
parser behaviour, class table, setting and every loop state that satisfies the loop invariant
`NInv` (`-1 ≤ i`, `begin_idx ≤ i`; it holds initially and is preserved): `nMeasure N st + 1`
iterations suffice, where `N` bounds the path length and
`nMeasure N st = (len − run start)·3(N+2) + (armed flags)·(N+2) + (len − i)` is quadratic in the
path length.  Each iteration decreases the measure: an accepted numeric node advances `i`; a
COMMA/POINT restart keeps the run start and clears a flag that was set; any other failing `append`
and every non-numeric node (which may re-arm the flags) moves the run start forward.
Not true for `cur`: `numeric_rewrite_diverges_counterexample`. -/
theorem numeric_rewrite_terminates (cfg : NCfg) (cat : List Nat) (P : List Char → POut) (N fuel : Nat)
    (st : NState) (hinv : NInv st) (hN : st.path.length ≤ N) (hf : nMeasure N st < fuel) :
    nloop .fix cfg cat P fuel st ≠ .fuel :=
  nloop_fix_terminates cfg cat P N fuel st hinv hN hf

/-- … in particular from the initial state, with any fuel from `nFuel path = 4(len+1)² + 8` on. -/
theorem numeric_rewrite_terminates_init (cfg : NCfg) (cat : List Nat) (P : List Char → POut)
    (path : List Node) (fuel : Nat) (hf : nFuel path ≤ fuel) :
    nloop .fix cfg cat P fuel (nInit path) ≠ .fuel :=
  nloop_fix_terminates cfg cat P path.length fuel _ (nInit_inv path) (Nat.le_refl _)
    (Nat.lt_of_lt_of_le (nMeasure_init path) hf)

/-- The driver's fuel is never exhausted for `fix`: the numeral plugin never answers `HANG`, … -/
theorem join_numeric_total (cfg : NCfg) (cat : List Nat) (P : List Char → POut) (path : List Node) :
    joinNumeric .fix cfg cat P path ≠ .fuel :=
  joinNumeric_fix_ne_fuel cfg cat P path

/-- … and neither does any configured stack of plugins. -/
theorem rewrite_stack_total (cat : List Nat) (P : List Char → POut) (pls : List Plugin)
    (path : List Node) : rewriteAll .fix cat P pls path ≠ .fuel :=
  rewriteAll_fix_ne_fuel cat P pls path

/-- The loop invariant assumed by `numeric_rewrite_terminates` holds initially and is preserved by
every iteration of the repaired loop, which also never lengthens the path. -/
theorem numeric_invariant (cfg : NCfg) (cat : List Nat) (P : List Char → POut) (path : List Node)
    (st st' : NState) :
    NInv (nInit path) ∧
      (NInv st → nstep .fix cfg cat P st = .ok st' → NInv st' ∧ st'.path.length ≤ st.path.length) :=
  ⟨nInit_inv path, fun hinv h => ⟨(nstep_fix_progress h hinv).1, (nstep_fix_progress h hinv).2.1⟩⟩

/-! ### the merged token is a new word; A/B splitting after the plugins (oracle clause `split-of-merged`) -/

/-- Every token that the configured stack puts in place of a block is a NEW word (`NewWord`): no A
units, no B units, no word structure, no synonym groups, no dictionary-form reference, connection ids
`u16::MAX`, cost `i16::MAX` — for every stack, path, parser, class table; and the blocks are as in
`tokens_kept_or_merged`. -/
theorem merged_token_is_new_word (v : NVariant) (cat : List Nat) (P : List Char → POut) (pls : List Plugin)
    (path q : List Node) (h : rewriteAll v cat P pls path = .ok q) :
    ∃ bs : List (List Node), bs.flatten = path ∧ Aligned (fun _ m => NewWord m) bs q :=
  ((rewriteAll_coarsens v cat P pls path q h).mono (fun _ _ hr => hr.2)).aligned

/-- `split_path` keeps a merged token whole in every mode, whatever `NodeSplitIterator` would yield. -/
theorem merged_token_kept_whole (U : Mode → Node → List Node) (md : Mode) (f l : Node) (blk : List Node)
    (nf : Option (List Char)) (posId : Nat) :
    splitNode U md (mergedNode f l blk nf) = [mergedNode f l blk nf] ∧
      splitNode U md (mergedOovNode f l blk posId) = [mergedOovNode f l blk posId] := by
  cases md <;> exact ⟨rfl, rfl⟩

/-- `do_tokenize` from the best path on (plugin loop, then `split_path`), for every mode: the result is
the rewritten path split block by block — a token the plugins KEPT (its block is the token itself) is
split exactly as `split_path` splits it in the un-rewritten path, a token the plugins MADE stays one
token. -/
theorem split_after_rewrite (v : NVariant) (cat : List Nat) (P : List Char → POut)
    (U : Mode → Node → List Node) (pls : List Plugin) (md : Mode) (path r : List Node)
    (h : analyse v cat P U pls md path = .ok r) :
    ∃ q bs, rewriteAll v cat P pls path = .ok q ∧ bs.flatten = path ∧
      Aligned (RS (prescribed pls)) bs q ∧ r = splitAligned U md bs q := by
  unfold analyse at h
  split at h
  · rename_i q hq
    cases h
    obtain ⟨bs, e, ha⟩ := (rewriteAll_coarsens v cat P pls path q hq).aligned
    exact ⟨q, bs, hq, e, ha, splitPath_of_aligned U md (RS_newWord _) bs q ha⟩
  all_goals cases h

/-- The oracle's clause `split-of-merged` as a theorem: every token of the mode-A/B result WITH the
plugins is a token of the mode-C result with the plugins, or a token of the mode-A/B result WITHOUT them
(namely a unit of a word that the plugins kept): a merged token is never cut and no token is invented. -/
theorem split_of_merged (v : NVariant) (cat : List Nat) (P : List Char → POut)
    (U : Mode → Node → List Node) (pls : List Plugin) (md : Mode) (path r : List Node)
    (h : analyse v cat P U pls md path = .ok r) :
    ∃ q, analyse v cat P U pls .C path = .ok q ∧
      ∀ t ∈ r, t ∈ q ∨ (t ∈ splitPath U md path ∧ ∃ n ∈ path, n ∈ q ∧ t ∈ splitNode U md n) := by
  unfold analyse at h ⊢
  split at h
  · rename_i q hq
    cases h
    refine ⟨q, rfl, ?_⟩
    exact splitPath_mem_of_coarsens U md (RS_newWord _) (rewriteAll_coarsens v cat P pls path q hq)
  all_goals cases h

/-! ### the katakana joiner: start-of-run rule, NOOOVBOW, `minLength` -/

/-- The decision of `JoinKatakanaOovPlugin::rewrite_gen` at index `i`: whenever it joins `[b, e)` the
path reads `pre ++ skipped ++ blk ++ post` with `blk = path[b..e)` and
* `skipped ++ blk` is the MAXIMAL run of katakana nodes (by `cat_of_range`) around `i`: the last node
  of `pre` and the first node of `post`, if any, are not katakana (start-of-run rule);
* `skipped` = the leading nodes of the run whose first character is NOOOVBOW; the joined block begins
  with the first node that may begin an OOV word;
* at least two nodes are joined;
* the node at `i` lies in the run and is OOV or shorter than `minLength` (the trigger). -/
theorem katakana_join_decision (cfg : KCfg) (cat : List Nat) (path : List Node) (i : Nat) (node : Node)
    (b e : Nat) (hn : path[i]? = some node) (h : kstep cfg cat path i node = .ok (.join b e)) :
    ∃ pre skipped blk post, path = pre ++ skipped ++ blk ++ post ∧
      b = pre.length + skipped.length ∧ e = b + blk.length ∧ 2 ≤ blk.length ∧ block path b e = blk ∧
      (∀ n ∈ skipped, isKatakana cat n = .ok true ∧ canOovBow cat n = .ok false) ∧
      (∀ n ∈ blk, isKatakana cat n = .ok true) ∧
      (∀ x, blk.head? = some x → canOovBow cat x = .ok true) ∧
      (∀ x, pre.getLast? = some x → isKatakana cat x = .ok false) ∧
      (∀ x, post.head? = some x → isKatakana cat x = .ok false) ∧
      pre.length ≤ i ∧ i < e ∧ (isOov node = true ∨ isShorter cfg node = .ok true) :=
  kstep_join_spec cfg cat path i node b e hn h

/-- … and through the whole loop (any fuel, any start index): in the partition of the input into blocks,
every merged block consists of at least two nodes that are ALL katakana, and the merged token begins
with a character that may begin an OOV word (never NOOOVBOW); it carries the configured POS, normalised
and dictionary form = surface, and is a new word (`RKc` = `RK` + the class facts). -/
theorem katakana_merged_block_classes (cfg : KCfg) (cat : List Nat) (fuel : Nat) (path : List Node)
    (i : Nat) (q : List Node) (h : kloop cfg cat fuel path i = .ok q) :
    ∃ bs : List (List Node), bs.flatten = path ∧ Aligned (RKc cfg cat) bs q :=
  (kloop_coarsens_cat cfg cat fuel path i q h).aligned

/-- `minLength`: a path without OOV nodes in which every node has at least `minLength` characters is
returned unchanged, whatever the classes are (dictionary words are joined only when they are shorter
than `minLength`; in particular `minLength = 0` joins OOV runs only). -/
theorem katakana_min_length_unchanged (cfg : KCfg) (cat : List Nat) (path : List Node)
    (h : ∀ n ∈ path, isOov n = false ∧ n.b ≤ n.e ∧ cfg.minLength ≤ n.e - n.b) :
    joinKatakana cfg cat path = .ok path :=
  joinKatakana_of_settled cfg cat path fun j node hn =>
    have ⟨h1, h2, h3⟩ := h node (List.mem_of_getElem? hn)
    kstep_not_candidate cfg cat path j node h1 h2 h3

/-! ### order of the plugins -/

/-- The plugins run in configured order: a stack `p1 ++ p2` is `p1` followed by `p2` on its result
(errors, panics and `HANG` of `p1` end the run). -/
theorem stack_applies_in_order (v : NVariant) (cat : List Nat) (P : List Char → POut)
    (p1 p2 : List Plugin) (path : List Node) :
    rewriteAll v cat P (p1 ++ p2) path = (rewriteAll v cat P p1 path).bind (rewriteAll v cat P p2) :=
  rewriteAll_append v cat P p1 p2 path

/-! ### counterexamples: clauses that fail (termination for `cur`; the others for both variants) -/

/-- lexicon row `7` (class NUMERIC) whose normalised form is `,` -/
def n7 : Node :=
  { b := 0, e := 1, bb := 0, eb := 1, wid := 5, tc := 10, left := 0, right := 0, cost := 10,
    pos := 1, hwl := 1, dfw := -1, aSplit := [], bSplit := [], wStruct := [], syn := [],
    surface := ['7'], norm := [','], reading := [], dform := [] }

/-- what the real parser reports for a string beginning with `,` (hook output `2c:0:2:0:`) -/
def pComma : List Char → POut := fun _ => { n := 0, err := E_COMMA, done := false, norm := [] }

def stuck : NState :=
  { path := [n7], i := -1, beginIdx := -1, comma := false, period := true, acc := [','] }

/-- termination is FALSE for the numeral loop without the repair of F2 (variant `cur`): on the
one-token path `7 ⇒ ","` the loop returns to the same state for ever (no amount of fuel suffices),
so no token list is produced.  The full statement that would be wanted —
`∀ path, ∃ fuel, nloop .cur … fuel (nInit path) ≠ .fuel` — is refuted by this witness.  Reproduced on
an implementation without the repair: directed cases 0–3 of the harness (`HANG`). -/
theorem numeric_rewrite_diverges_counterexample :
    ∀ fuel, nloop .cur { numPos := 1, enableNormalize := true } [NUMERIC] pComma fuel (nInit [n7]) = .fuel := by
  have step0 : nstep .cur { numPos := 1, enableNormalize := true } [NUMERIC] pComma (nInit [n7]) = .ok stuck := by
    decide
  have step1 : nstep .cur { numPos := 1, enableNormalize := true } [NUMERIC] pComma stuck = .ok stuck := by
    decide
  have loop1 : ∀ fuel, nloop .cur { numPos := 1, enableNormalize := true } [NUMERIC] pComma fuel stuck = .fuel := by
    intro fuel
    induction fuel with
    | zero => rfl
    | succ f ih =>
      unfold nloop
      rw [if_pos (by decide), step1]
      exact ih
  intro fuel
  cases fuel with
  | zero => rfl
  | succ f =>
    unfold nloop
    rw [if_pos (by decide), step0]
    exact loop1 f

/-- The same witness after the repair (variant `fix`): the second COMMA error finds the flag already
clear, the run is closed instead of restarted, and the path is returned as it is — the node `7 ⇒ ","`
is not a numeral the parser accepts, so nothing is joined. -/
theorem numeric_rewrite_witness_after_fix :
    joinNumeric .fix { numPos := 1, enableNormalize := true } [NUMERIC] pComma [n7] = .ok [n7] := by
  decide

/-! #### F3: the numeral joiner is not idempotent (text `1,234,5.5`, harness directed cases 17/18) -/

def f3o1 : Node :=
  { b := 0, e := 1, bb := 0, eb := 1, wid := 4026531841, tc := 3232, left := 3, right := 0, cost := 3183,
    pos := 1, hwl := 0, dfw := 0, aSplit := [], bSplit := [], wStruct := [], syn := [],
    surface := ['1'], norm := [], reading := [], dform := [] }
def f3c1 : Node :=
  { f3o1 with b := 1, e := 2, bb := 1, eb := 2, wid := 4026531843, tc := 7531, left := 2, right := 3,
              cost := 4269, pos := 3, surface := [','] }
def f3o234 : Node := { f3o1 with b := 2, e := 5, bb := 2, eb := 5, tc := 10730, surface := ['2', '3', '4'] }
def f3c2 : Node := { f3c1 with b := 5, e := 6, bb := 5, eb := 6, tc := 15029 }
def f3d5a : Node :=
  { f3o1 with b := 6, e := 7, bb := 6, eb := 7, wid := 7, tc := 16021, left := 2, right := 3, cost := 973,
              hwl := 1, dfw := -1, surface := ['5'] }
def f3pd : Node := { f3c1 with b := 7, e := 8, bb := 7, eb := 8, tc := 20309, surface := ['.'] }
def f3d5b : Node := { f3d5a with b := 8, e := 9, bb := 8, eb := 9, tc := 21301 }
def f3path : List Node := [f3o1, f3c1, f3o234, f3c2, f3d5a, f3pd, f3d5b]
def f3cat : List Nat := [16, 1, 16, 16, 16, 1, 16, 1, 16]
/-- the real parser's outcomes (hook `verif_parse`) for every string the two runs ask for -/
def f3P : List Char → POut := fun s =>
  if s = "1".toList then { n := 1, err := 0, done := true, norm := "1".toList }
  else if s = "1,".toList then { n := 2, err := 2, done := false, norm := "1".toList }
  else if s = "1,234".toList then { n := 5, err := 0, done := true, norm := "1234".toList }
  else if s = "1,234,".toList then { n := 6, err := 2, done := false, norm := "1234".toList }
  else if s = "1,234,5".toList then { n := 7, err := 2, done := false, norm := "12345".toList }
  else if s = "1,234,5.".toList then { n := 7, err := 2, done := false, norm := [] }
  else if s = "234".toList then { n := 3, err := 0, done := true, norm := "234".toList }
  else if s = "5".toList then { n := 1, err := 0, done := true, norm := "5".toList }
  else if s = "5.".toList then { n := 2, err := 1, done := false, norm := "5".toList }
  else if s = "5.5".toList then { n := 3, err := 0, done := true, norm := "5.5".toList }
  else missing
def f3m55 : Node := mergedNode f3d5a f3d5b [f3d5a, f3pd, f3d5b] (some "5.5".toList)
def f3m1234 : Node := mergedNode f3o1 f3o234 [f3o1, f3c1, f3o234] (some "1234".toList)

/-- Idempotence ("running a plugin on its own output changes nothing") is FALSE for the numeral joiner,
both variants, both `enableNormalize` values.  The full statement that would be wanted —
`joinNumeric v cfg cat P path = .ok q → joinNumeric v cfg cat P q = .ok q` — is refuted by the text
`1,234,5.5` (`1|,|234|,|5|.|5`): in the first run the `.` is rejected with a COMMA error (the group `5` has
one digit) while `comma_as_digit` is set, so the run restarts without separators and `1`, `234` stay
apart while `5.5` is joined: `1|,|234|,|5.5` (5 tokens).  In the second run `5.5` is one non-numeric
token (the class of `.` is not numeric), the run `1,234,` ends there with a pending COMMA error after a
trailing `,`, the trailing-separator rule applies and `1,234` is joined: `1,234|,|5.5` (3 tokens).
Reproduced on the implementation (oracle key `c14:not-idempotent:numeric`, known finding F3). -/
theorem numeric_not_idempotent_counterexample (v : NVariant) (en : Bool) :
    ∃ q q', joinNumeric v { numPos := 1, enableNormalize := en } f3cat f3P f3path = .ok q ∧
      joinNumeric v { numPos := 1, enableNormalize := en } f3cat f3P q = .ok q' ∧
      q.length = 5 ∧ q'.length = 3 := by
  cases en
  · exact ⟨[f3o1, f3c1, f3o234, f3c2, mergedNode f3d5a f3d5b [f3d5a, f3pd, f3d5b] none],
      [mergedNode f3o1 f3o234 [f3o1, f3c1, f3o234] none, f3c2,
        mergedNode f3d5a f3d5b [f3d5a, f3pd, f3d5b] none], by cases v <;> decide, by cases v <;> decide, rfl, rfl⟩
  · exact ⟨[f3o1, f3c1, f3o234, f3c2, f3m55], [f3m1234, f3c2, f3m55],
      by cases v <;> decide, by cases v <;> decide, rfl, rfl⟩

/-- token `一` (class KANJI|KANJINUMERIC, numeral POS 1, word id 16, normalised form = surface) -/
def nIchi : Node :=
  { b := 0, e := 1, bb := 0, eb := 3, wid := 16, tc := 1652, left := 1, right := 0, cost := 1384,
    pos := 1, hwl := 3, dfw := -1, aSplit := [], bSplit := [], wStruct := [], syn := [7, 9],
    surface := ['一'], norm := [], reading := ['イ', 'チ'], dform := [] }

/-- the real parser on `一`: accepted, `done()`, rendering `1` -/
def pIchi : List Char → POut := fun _ => { n := 1, err := 0, done := true, norm := ['1'] }

def mIchi : Node :=
  { nIchi with wid := WID_INVALID, left := 65535, right := 65535, cost := 32767, syn := [],
               surface := ['一'], norm := ['1'], reading := ['イ', 'チ'], dform := [] }

/-- Clause "tokens that are not part of a merge are reported unchanged" is FALSE with
`enableNormalize = true`: the single token `一`, merged with no neighbour, comes back with the same
range but another word id (invalid ⇒ reported as OOV), another normalised form and without its
synonym ids.  The repair of F2 does not touch this (it holds for both variants). -/
theorem single_numeral_rebuilt_counterexample (v : NVariant) :
    joinNumeric v { numPos := 1, enableNormalize := true } [260] pIchi [nIchi] = .ok [mIchi] ∧
      mIchi ≠ nIchi ∧ (mIchi.b, mIchi.e, mIchi.bb, mIchi.eb) = (nIchi.b, nIchi.e, nIchi.bb, nIchi.eb) ∧
      isOov mIchi = true ∧ isOov nIchi = false := by
  cases v <;> decide

/-- … and TRUE with `enableNormalize = false` (and always for the katakana plugin): every replaced
block has at least two tokens (`RN`, `RK` carry `2 ≤ blk.length`), so a token that is not merged
with a neighbour is kept identically.  Instance: a one-token path is returned as it is, for every
parser and every class table. -/
theorem single_token_unchanged_without_normalize (v : NVariant) (numPos : Nat) (cat : List Nat)
    (P : List Char → POut) (n : Node) (q : List Node)
    (h : joinNumeric v { numPos := numPos, enableNormalize := false } cat P [n] = .ok q) : q = [n] := by
  have hc := nloop_coarsens v _ cat P _ _ q h
  simp only [nInit] at hc
  generalize hp : [n] = p at hc
  cases hc with
  | nil => cases hp
  | keep n' h' =>
    cases hp
    rw [h'.nil_iff.mp rfl]
  | merge blk m hs hr h' =>
    exfalso
    have h2 := hr.2.2.2.1 rfl
    have := congrArg List.length hp
    simp only [List.length_append, List.length_cons, List.length_nil] at this
    omega

/-! ### non-vacuity -/

def dA : Node :=
  { b := 0, e := 1, bb := 0, eb := 1, wid := 3, tc := 5, left := 1, right := 1, cost := 5, pos := 1,
    hwl := 1, dfw := -1, aSplit := [], bSplit := [], wStruct := [], syn := [], surface := ['1'], norm := [],
    reading := [], dform := [] }
def dB : Node := { dA with b := 1, e := 2, bb := 1, eb := 2, wid := 4, tc := 9, surface := ['2'] }
def dX : Node := { dA with b := 2, e := 3, bb := 2, eb := 5, wid := 9, tc := 20, pos := 0, surface := ['あ'] }
/-- a parser that accepts everything and renders it unchanged -/
def pAll : List Char → POut := fun s => { n := s.length, err := 0, done := true, norm := s }

-- the hypotheses of `join_numeric_coarsens`, `boundaries_subset`, `text_preserved` are satisfiable
-- with a genuine merge: `1|2|あ` becomes `12|あ`, contiguous before and after.
def m12 : Node := mergedNode dA dB [dA, dB] none
example (v : NVariant) :
    joinNumeric v { numPos := 1, enableNormalize := false } [16, 16, 64] pAll [dA, dB, dX] = .ok [m12, dX] ∧
    m12.surface = ['1', '2'] ∧ (m12.b, m12.e) = (0, 2) ∧ m12.pos = 1 ∧ m12.e = dX.b := by
  cases v <;> decide

/-- the hypotheses of `numeric_rewrite_terminates` are satisfiable: the initial state of a
three-token path satisfies the invariant, and its measure is below the driver's fuel -/
example : NInv (nInit [dA, dB, dX]) ∧ (nInit [dA, dB, dX]).path.length ≤ 3 ∧
    nMeasure 3 (nInit [dA, dB, dX]) < nFuel [dA, dB, dX] :=
  ⟨nInit_inv _, Nat.le_refl _, nMeasure_init _⟩

/-- … and so is a state in the middle of a run with one flag already cleared (`1|2|あ`, run started
at node 0, index at node 1, `comma_as_digit` false) -/
example : NInv { path := [dA, dB, dX], i := 1, beginIdx := 0, comma := false, period := true, acc := ['1', '2'] } := by
  simp only [NInv]; omega

-- the restart that the repair keeps: on `1|0|,|,|2` (the second comma is rejected with COMMA while
-- `comma_as_digit` is still set) both variants go back to the start of the run with the flag cleared,
-- close the run `10` at the first comma and join it; the results are identical.
def dZ : Node := { dA with b := 1, e := 2, bb := 1, eb := 2, wid := 6, tc := 9, surface := ['0'] }
def cC1 : Node := { dA with b := 2, e := 3, bb := 2, eb := 3, wid := 7, tc := 12, pos := 3, surface := [','] }
def cC2 : Node := { cC1 with b := 3, e := 4, bb := 3, eb := 4, tc := 15 }
def dTwo : Node := { dA with b := 4, e := 5, bb := 4, eb := 5, wid := 4, tc := 19, surface := ['2'] }
/-- the real parser's outcomes on the strings this path makes the plugin ask for -/
def pTen : List Char → POut := fun s =>
  if s = ['1'] then { n := 1, err := 0, done := true, norm := ['1'] }
  else if s = ['1', '0'] then { n := 2, err := 0, done := true, norm := ['1', '0'] }
  else if s = ['1', '0', ','] then { n := 3, err := E_COMMA, done := false, norm := [] }
  else if s = ['1', '0', ',', ','] then { n := 3, err := E_COMMA, done := false, norm := [] }
  else if s = ['2'] then { n := 1, err := 0, done := true, norm := ['2'] }
  else missing
def sRestart : NState :=
  { path := [dA, dZ, cC1, cC2, dTwo], i := 2, beginIdx := 0, comma := true, period := true,
    acc := ['1', '0', ','] }
example (v : NVariant) :
    nstep v { numPos := 1, enableNormalize := false } [16, 16, 64, 64, 16] pTen sRestart =
      .ok { sRestart with i := -1, beginIdx := -1, comma := false, acc := ['1', '0', ',', ','] } ∧
    joinNumeric v { numPos := 1, enableNormalize := false } [16, 16, 64, 64, 16] pTen
      [dA, dZ, cC1, cC2, dTwo] = .ok [mergedNode dA dZ [dA, dZ] none, cC1, cC2, dTwo] := by
  cases v <;> decide

example : Contig [dA, dB, dX] ∧ Contig [m12, dX] := ⟨⟨rfl, rfl, rfl, rfl, trivial⟩, ⟨rfl, rfl, trivial⟩⟩

def kA : Node :=
  { b := 0, e := 1, bb := 0, eb := 3, wid := 4026531840, tc := 7, left := 1, right := 1, cost := 7,
    pos := 0, hwl := 0, dfw := 0, aSplit := [], bSplit := [], wStruct := [], syn := [], surface := ['ア'], norm := [],
    reading := [], dform := [] }
def kI : Node := { kA with b := 1, e := 2, bb := 3, eb := 6, tc := 14, surface := ['イ'] }
def kA2 : Node := { kA with b := 2, e := 3, bb := 2, eb := 5 }
def kI2 : Node := { kI with b := 3, e := 4, bb := 5, eb := 8 }
def mAI : Node := mergedOovNode kA kI [kA, kI] 5

/-- the hypotheses of `join_katakana_coarsens` / `katakana_terminates` are satisfiable with a genuine
merge: two one-character katakana OOV nodes become one token with the configured POS 5. -/
example : joinKatakana { oovPos := 5, minLength := 0 } [128, 128] [kA, kI] = .ok [mAI] ∧
    mAI.surface = ['ア', 'イ'] ∧ (mAI.b, mAI.e, mAI.bb, mAI.eb) = (0, 2, 0, 6) ∧ mAI.pos = 5 ∧
    [kA, kI].length - 0 < kFuel [kA, kI] := by decide

/-- a stack of both plugins on a mixed path: `1|2|ア|イ` becomes `12|アイ` -/
example (v : NVariant) : rewriteAll v [16, 16, 128, 128] pAll
      [.numeric { numPos := 1, enableNormalize := true }, .katakana { oovPos := 5, minLength := 0 }]
      [dA, dB, kA2, kI2] =
    .ok [mergedNode dA dB [dA, dB] (some ['1', '2']), mergedOovNode kA2 kI2 [kA2, kI2] 5] := by
  cases v <;> decide

/-! ### the order of the plugins matters; more instances (idempotence, split stage, katakana decisions) -/

/-- The order of the two plugins matters in general (so `stack_applies_in_order` is not vacuous): with a
character that is NUMERIC and KATAKANA at once (`0x0032 KATAKANA` in char.def, class mask 144) the path
`1|2|ア` becomes `1|2ア` under katakana-then-numeral and `12|ア` under numeral-then-katakana. -/
theorem plugin_order_matters_counterexample (v : NVariant) :
    rewriteAll v [16, 144, 128] pAll
        [.katakana { oovPos := 5, minLength := 0 }, .numeric { numPos := 1, enableNormalize := false }]
        [dA, dB, kA2] = .ok [dA, mergedOovNode dB kA2 [dB, kA2] 5] ∧
    rewriteAll v [16, 144, 128] pAll
        [.numeric { numPos := 1, enableNormalize := false }, .katakana { oovPos := 5, minLength := 0 }]
        [dA, dB, kA2] = .ok [m12, kA2] := by
  cases v <;> decide

-- Idempotence of the katakana joiner (`katakana_idempotent`, in the section on idempotence below; also checked by the oracle, key
-- `c14:not-idempotent:katakana`, stacks `KK` with equal settings), instances: a run with a leading NOOOVBOW
-- node (`ー|ア|イ` → `ー|アイ`, second run unchanged) and the plain run.
def kBar : Node := { kA with surface := ['ー'] }
def kA1 : Node := { kA with b := 1, e := 2, bb := 3, eb := 6 }
def kI1 : Node := { kI with b := 2, e := 3, bb := 6, eb := 9 }
example : joinKatakana { oovPos := 5, minLength := 0 } [1073741952, 128, 128] [kBar, kA1, kI1] =
      .ok [kBar, mergedOovNode kA1 kI1 [kA1, kI1] 5] ∧
    joinKatakana { oovPos := 5, minLength := 0 } [1073741952, 128, 128] [kBar, mergedOovNode kA1 kI1 [kA1, kI1] 5] =
      .ok [kBar, mergedOovNode kA1 kI1 [kA1, kI1] 5] ∧
    joinKatakana { oovPos := 5, minLength := 0 } [128, 128] [mAI] = .ok [mAI] := by decide

/-- the hypotheses of `katakana_join_decision` are satisfiable, with a skipped NOOOVBOW node: at index 0
of `ー|ア|イ` the joiner decides to join `[1, 3)` -/
example : [kBar, kA1, kI1][0]? = some kBar ∧
    kstep { oovPos := 5, minLength := 0 } [1073741952, 128, 128] [kBar, kA1, kI1] 0 kBar = .ok (.join 1 3) := by
  decide

-- the hypothesis of `katakana_min_length_unchanged` is satisfiable: two dictionary words `アイ`, `ウ`
-- (not OOV) with `minLength = 1` — and it is sharp: with `minLength = 2` the one-character word triggers
-- the join of the whole run
def wAI : Node := { kA with e := 2, eb := 6, wid := 21, surface := ['ア', 'イ'] }
def wU : Node := { kA with b := 2, e := 3, bb := 6, eb := 9, wid := 22, surface := ['ウ'] }
example : (∀ n ∈ [wAI, wU], isOov n = false ∧ n.b ≤ n.e ∧ 1 ≤ n.e - n.b) ∧
    joinKatakana { oovPos := 5, minLength := 1 } [128, 128, 128] [wAI, wU] = .ok [wAI, wU] ∧
    joinKatakana { oovPos := 5, minLength := 2 } [128, 128, 128] [wAI, wU] =
      .ok [mergedOovNode wAI wU [wAI, wU] 5] := by decide

-- the split stage: `二十|ア|イ` where `二十` has the A units `[1, 2]`; the un-rewritten path splits it in
-- mode A (into whatever `NodeSplitIterator` yields, here `uNi`, `uJu`), the katakana join `アイ` stays whole;
-- and a joined numeral `二十|三` → `二十三` is one token in mode A although its head `二十` has units
-- (what seeded change C14b breaks).  Hypotheses of `split_after_rewrite` / `split_of_merged`.
def nNiju : Node := { dA with e := 2, eb := 6, wid := 30, hwl := 6, aSplit := [1, 2], surface := ['二', '十'] }
def uNi : Node := { dA with eb := 3, wid := 1, tc := 2147483647, left := 65535, right := 65535, cost := 32767, surface := ['二'] }
def uJu : Node := { uNi with b := 1, e := 2, bb := 3, eb := 6, wid := 2, surface := ['十'] }
def nSan : Node := { dA with b := 2, e := 3, bb := 6, eb := 9, wid := 31, surface := ['三'] }
def kA3 : Node := { kA with b := 2, e := 3, bb := 6, eb := 9 }
def kI3 : Node := { kI with b := 3, e := 4, bb := 9, eb := 12 }
def uTab : Mode → Node → List Node := fun _ n => if n = nNiju then [uNi, uJu] else []
example (v : NVariant) :
    analyse v [256, 256, 128, 128] pAll uTab [.katakana { oovPos := 5, minLength := 0 }] .A [nNiju, kA3, kI3] =
      .ok [uNi, uJu, mergedOovNode kA3 kI3 [kA3, kI3] 5] ∧
    analyse v [256, 256, 256] pAll uTab [.numeric { numPos := 1, enableNormalize := false }] .A [nNiju, nSan] =
      .ok [mergedNode nNiju nSan [nNiju, nSan] none] ∧
    analyse v [256, 256, 256] pAll uTab [] .A [nNiju, nSan] = .ok [uNi, uJu, nSan] := by
  cases v <;> decide

-- Observation about `concat_nodes` (no clause of C14 is violated; reproduced on the implementation,
-- distribution key `observation:merged-form-drops-part`): normalised, reading and dictionary form of the
-- joined token are concatenations of the RAW `WordInfoData` fields, in which "same as the surface" is
-- stored as the empty string.  With `enableNormalize = false`, `一` (lexicon normalised form `1`) followed
-- by a `二` whose normalised form is its surface is joined into a token whose `normalized_form()` is `1`,
-- not `1二`: the part that is "same as the surface" is dropped.
def oIchi : Node := { nIchi with norm := ['1'], syn := [] }
def oNi : Node := { nIchi with b := 1, e := 2, bb := 3, eb := 6, wid := 17, tc := 3000, surface := ['二'], reading := [], syn := [] }
example (v : NVariant) :
    ∃ m, joinNumeric v { numPos := 1, enableNormalize := false } [260, 260] pAll [oIchi, oNi] = .ok [m] ∧
      normForm m = ['1'] ∧ normForm oIchi ++ normForm oNi = ['1', '二'] ∧ m.surface = ['一', '二'] :=
  ⟨mergedNode oIchi oNi [oIchi, oNi] none, by cases v <;> decide, by decide, by decide, by decide⟩


/-! ### three further subjects: the numeral joiner's gate, idempotence of the katakana joiner, the mechanism of F3 -/

/-! #### the gate -/

/-- `JoinNumericPlugin::concat`, the gate in front of every numeral merge: a run whose FIRST node does not carry
the numeral POS is left as it is (whatever the parser says, however long the run is); with the numeral POS at
the head a run of more than one node is `concat_nodes` on the whole run. -/
theorem numeral_gate (cfg : NCfg) (P : List Char → POut) (path : List Node) (b e : Nat) (acc : List Char)
    (f : Node) (hf : path[b]? = some f) :
    (f.pos ≠ cfg.numPos → nconcat cfg P path b e acc = .ok path) ∧
      (f.pos = cfg.numPos → 1 < e - b → nconcat cfg P path b e acc =
        concatNodes path b e (if cfg.enableNormalize then some (P acc).norm else none)) :=
  ⟨fun hpos => (nconcat_at hf).trans (if_pos hpos), nconcat_gate_open cfg P path b e acc f hf⟩

/-- EVERY token the numeral joiner makes has exactly the configured numeral POS id — for
every path, class table, parser behaviour, setting, both loop variants, every amount of fuel and every
intermediate loop state: a token of the result is a token of the input (kept identically), or it spans a
block of input tokens whose FIRST token carries the numeral POS (the gate), carries that POS itself
(`concat_nodes` copies the POS of the first token) and has no word id.
(Seeded change C14c — gate on ANY node of the run, POS still copied from the head — falsifies `m.pos = cfg.numPos`:
`any_gate_breaks_merged_pos_counterexample`.) -/
theorem merged_numeral_pos (v : NVariant) (cfg : NCfg) (cat : List Nat) (P : List Char → POut)
    (fuel : Nat) (st : NState) (q : List Node) (h : nloop v cfg cat P fuel st = .ok q) :
    ∀ m ∈ q, m ∈ st.path ∨ (m.pos = cfg.numPos ∧ m.wid = WID_INVALID ∧
      ∃ pre blk post f, st.path = pre ++ blk ++ post ∧ Spans blk m ∧ blk.head? = some f ∧ f.pos = cfg.numPos) := by
  intro m hm
  rcases (nloop_coarsens v cfg cat P fuel st q h).classify m hm with h1 | ⟨pre, blk, post, e, hs, hr⟩
  · exact .inl h1
  · obtain ⟨f, hf, hp⟩ := hr.2.1
    exact .inr ⟨hr.1, hr.2.2.1, pre, blk, post, f, e, hs, hf, hp⟩

/-- … in particular for the plugin as it is called (`joinNumeric` = the loop from the initial state). -/
theorem merged_numeral_pos_plugin (v : NVariant) (cfg : NCfg) (cat : List Nat) (P : List Char → POut)
    (path q : List Node) (h : joinNumeric v cfg cat P path = .ok q) :
    ∀ m ∈ q, m ∈ path ∨ (m.pos = cfg.numPos ∧ m.wid = WID_INVALID) := by
  intro m hm
  rcases merged_numeral_pos v cfg cat P _ _ q h m hm with h1 | ⟨h1, h2, _⟩
  · exact .inl h1
  · exact .inr ⟨h1, h2⟩

/-- The gate, for the whole loop: a path WITHOUT any token of the numeral POS is returned unchanged (every joined
block is headed by such a token), whatever its character classes are — digits that are proper nouns, OOV digits
with another POS, separators. -/
theorem no_numeral_no_join (v : NVariant) (cfg : NCfg) (cat : List Nat) (P : List Char → POut)
    (path q : List Node) (hno : ∀ n ∈ path, n.pos ≠ cfg.numPos)
    (h : joinNumeric v cfg cat P path = .ok q) : q = path :=
  (nloop_coarsens v cfg cat P _ _ q h).eq_of_no_witness (RN_head_witness cfg) hno

/-- `24` (a proper noun, POS 5, class NUMERIC) followed by the numeral `7` (POS 1) -/
def g24 : Node := { dA with e := 2, eb := 2, wid := 40, pos := 5, hwl := 2, surface := ['2', '4'] }
def g7 : Node := { dA with b := 2, e := 3, bb := 2, eb := 3, wid := 41, tc := 9, surface := ['7'] }

/-- The gate must test the node the POS is copied from.  With the gate of seeded change C14c (`nconcatAny`: ANY
node of the run is a numeral) the run `24|7` is joined and the joined token has the POS of `24` (5), not the
numeral POS (1): `merged_numeral_pos` fails for that variant; the code as it is leaves the run alone. -/
theorem any_gate_breaks_merged_pos_counterexample :
    ∃ m, nconcatAny { numPos := 1, enableNormalize := false } pAll [g24, g7] 0 2 ['2', '4', '7'] = .ok [m] ∧
      m.pos = 5 ∧ m.pos ≠ 1 ∧
      nconcat { numPos := 1, enableNormalize := false } pAll [g24, g7] 0 2 ['2', '4', '7'] = .ok [g24, g7] ∧
      (∀ v, joinNumeric v { numPos := 1, enableNormalize := false } [16, 16, 16] pAll [g24, g7] = .ok [g24, g7]) :=
  ⟨mergedNode g24 g7 [g24, g7] none, by decide, by decide, by decide, by decide, fun v => by cases v <;> decide⟩

/-- the hypothesis of `no_numeral_no_join` is satisfiable on a path of digits (and sharp: with a numeral at the
head the same digits are joined) -/
example : (∀ n ∈ [g24, { g7 with pos := 0 }], n.pos ≠ ({ numPos := 1, enableNormalize := false } : NCfg).numPos) ∧
    (∀ v, joinNumeric v { numPos := 1, enableNormalize := false } [16, 16, 16] pAll [{ g24 with pos := 1 }, g7] =
      .ok [mergedNode { g24 with pos := 1 } g7 [{ g24 with pos := 1 }, g7] none]) :=
  ⟨by decide, fun v => by cases v <;> decide⟩

/-- `set_up`: an absent `enableNormalize` means `true` (the driver's field `N::<pos>`) -/
example : enableNormalizeOf none = true ∧ enableNormalizeOf (some false) = false := ⟨rfl, rfl⟩

/-! #### idempotence of the katakana joiner -/

/-- One iteration of `JoinKatakanaOovPlugin::rewrite_gen` on a MAXIMAL katakana run, as an equation (it covers the
join and the no-join outcome, so it is the converse of `katakana_join_decision` as well): if the path reads
`pre ++ s ++ t ++ post` where the node before and the node after `s ++ t` are not katakana, `s ++ t` are all
katakana, `s` are the leading NOOOVBOW-initial nodes and `t` begins with a node that may begin an OOV word, then at
every index of the run the loop joins exactly `t` iff the node at the index is OOV or shorter than `minLength` and
`t` has more than one node; otherwise it moves on. -/
theorem katakana_step_on_run (cfg : KCfg) (cat : List Nat) (pre s t post : List Node) (k : Nat) (node : Node)
    (hpre : ∀ x, pre.getLast? = some x → isKatakana cat x = .ok false)
    (hs : ∀ n ∈ s, isKatakana cat n = .ok true ∧ canOovBow cat n = .ok false)
    (ht : ∀ n ∈ t, isKatakana cat n = .ok true)
    (hth : ∀ x, t.head? = some x → canOovBow cat x = .ok true)
    (hpost : ∀ x, post.head? = some x → isKatakana cat x = .ok false)
    (hk : (s ++ t)[k]? = some node) :
    kstep cfg cat (pre ++ s ++ t ++ post) (pre.length + k) node =
      (if isOov node then Outcome.ok true else isShorter cfg node).bind fun cand =>
        if !cand then .ok .next
        else if t.length > 1 then .ok (.join (pre.length + s.length) (pre.length + s.length + t.length))
        else .ok .next :=
  kstep_on_run cfg cat pre s t post k node hpre hs ht hth hpost hk

/-- IDEMPOTENCE of the katakana joiner: running it on its own output changes nothing — for every class table,
setting and every path whose nodes are well-formed and ordered (`KWF`: `n.b ≤ n.e` for every node and
`a.b ≤ c.e` for every node `c` after `a`; every contiguous path is, `katakana_idempotent_contig`).
Loop invariant: all indices left of the scan index are settled (`kstep = next`) in the CURRENT path; a join
re-establishes it (`Rewrite.join_settled`: left of the maximal run nothing changes — `kstep` is local —, the
skipped NOOOVBOW nodes and the joined token form a run whose joinable part has one node, the node after it is
not katakana). -/
theorem katakana_idempotent (cfg : KCfg) (cat : List Nat) (path q : List Node) (hwf : KWF path)
    (h : joinKatakana cfg cat path = .ok q) : joinKatakana cfg cat q = .ok q :=
  joinKatakana_of_settled cfg cat q
    (kloop_settles cfg cat (kFuel path) path 0 q h hwf (by intro j hj; omega))

/-- … at the level of the loop: from ANY state (fuel, scan index) whose left part is settled, the result is a
fixed point of the loop from every index. -/
theorem katakana_loop_idempotent (cfg : KCfg) (cat : List Nat) (fuel : Nat) (path : List Node) (i : Nat)
    (q : List Node) (hwf : KWF path) (hset : ∀ j < i, Settled cfg cat path j)
    (h : kloop cfg cat fuel path i = .ok q) :
    ∀ fuel' i', q.length - i' < fuel' → kloop cfg cat fuel' q i' = .ok q :=
  kloop_of_settled cfg cat q (kloop_settles cfg cat fuel path i q h hwf hset)

/-- … for the paths the tokenizer produces: tokens touch and none has a negative length. -/
theorem katakana_idempotent_contig (cfg : KCfg) (cat : List Nat) (path q : List Node) (hc : Contig path)
    (hb : ∀ n ∈ path, n.b ≤ n.e) (h : joinKatakana cfg cat path = .ok q) : joinKatakana cfg cat q = .ok q :=
  katakana_idempotent cfg cat path q (kwf_of_contig path hc hb) h

/-- two one-character katakana nodes in the wrong order: `[5,6)` before `[1,2)` -/
def kFar : Node := { kA with b := 5, e := 6, bb := 15, eb := 18, wid := 21 }
def kNear : Node := { kA with b := 1, e := 2, bb := 16, eb := 19, wid := 22 }

/-- The order hypothesis of `katakana_idempotent` cannot be dropped IN THE MODEL: the first run never evaluates
`num_codepts()` of the token it has just made (`i = begin + 1; i += 1`), the second run does.  On the ill-ordered
path `[5,6) [1,2)` (never produced by the tokenizer) the joined token has `begin = 5 > end = 2`; it is not OOV
(`minLength` triggered the join), so the second run computes `end - begin` in `usize`: a panic. -/
theorem katakana_idempotent_needs_order_counterexample :
    ∃ q, joinKatakana { oovPos := 5, minLength := 3 } [0, 128, 0, 0, 0, 128] [kFar, kNear] = .ok q ∧
      joinKatakana { oovPos := 5, minLength := 3 } [0, 128, 0, 0, 0, 128] q = .panic ∧
      ¬ KWF [kFar, kNear] := by
  refine ⟨[mergedOovNode kFar kNear [kFar, kNear] 5], by decide, by decide, ?_⟩
  intro h
  have := h.2
  simp [kFar, kNear, kA] at this

/-- the hypotheses of `katakana_idempotent` are satisfiable with a genuine merge and a skipped NOOOVBOW node -/
example : KWF [kBar, kA1, kI1] ∧ joinKatakana { oovPos := 5, minLength := 0 } [1073741952, 128, 128] [kBar, kA1, kI1] =
      .ok [kBar, mergedOovNode kA1 kI1 [kA1, kI1] 5] := by
  refine ⟨⟨by decide, ?_⟩, by decide⟩
  simp [kBar, kA1, kI1, kA, kI]

/-! #### the mechanism of F3 (numeral joiner not idempotent) -/

/-- First half of the mechanism: a token joined by `concat_nodes` whose range covers a node that is NOT numeric by
class (a separator `.` or `,` accepted by its normalised form) is itself not numeric by class
(`cat_of_range` = AND over all characters), for every class table: in a later run of the plugin it is no
candidate any more (unless its normalised form is a bare separator) — it ENDS the candidate run before it. -/
theorem merged_separator_token_not_numeric (cat : List Nat) (f l : Node) (blk : List Node)
    (nf : Option (List Char)) (n : Node) (c c' : Nat) (h1 : f.b ≤ n.b) (h2 : n.b < n.e) (h3 : n.e ≤ l.e)
    (hc : catOfRange cat (mergedNode f l blk nf).b (mergedNode f l blk nf).e = some c)
    (hc' : catOfRange cat n.b n.e = some c') (hn : isNumericCat c' = false) : isNumericCat c = false :=
  catOfRange_sub_not_numeric cat f.b l.e n.b n.e c c' h1 h2 h3 hc hc' hn

/-- Second half: WHEN a run of the plugin shortens the path.  Sufficient condition, for every parser behaviour,
class table, setting and both loop variants: the path begins with a candidate run `R` of at least two nodes headed by
a numeral, followed by a `,` that the parser accepts but after which it is not `done()` with a pending COMMA error,
followed by a node `m` that is NOT a candidate (not numeric by class, normalised form not an armed separator) —
then the trailing-separator rule joins `R` and the result is shorter than the input.
This is what happens in the SECOND run on the F3 witness (`numeric_second_run_changes_witness`): `m` is the
token `5.5` made by the first run (`merged_separator_token_not_numeric`), whereas in the FIRST run the same
position was held by the candidates `5|.|5`, the candidate run went on, the `.` was rejected with a COMMA error and
the whole run was re-scanned with the commas demoted.
PARTIAL: the full statement wanted is an equivalence — `joinNumeric v cfg cat P q = .ok q' → (q' ≠ q ↔ C q)` for a
condition `C` on the first run's output `q`; proved here is one direction for one shape of `C` (run at the head
of the path, COMMA; the closing `Rewrite.nclose_sep` behind `Rewrite.nloop_run_close` covers POINT as well).  The
converse cannot hold for an arbitrary parser `P`: with `enableNormalize` the second run feeds the parser the RENDERINGS made by the first
run, about which nothing is known for an arbitrary `P`; for the real parser it is C15's subject. -/
theorem numeric_run_before_opaque_token_is_joined_partial (v : NVariant) (cfg : NCfg) (cat : List Nat)
    (P : List Char → POut) (R : List Node) (c m : Node) (rest : List Node) (ct : Nat)
    (hR : 2 ≤ R.length) (hpos : ∀ f, R.head? = some f → f.pos = cfg.numPos)
    (hcand : ∀ n ∈ R ++ [c], ∃ ctn, catOfRange cat n.b n.e = some ctn ∧ isCand true true ctn (normForm n) = true)
    (hc : normForm c = [','])
    (hacc : ∀ k, k < (R ++ [c]).length →
      ¬ (P (accOf ((R ++ [c]).take (k + 1)))).n < (accOf ((R ++ [c]).take (k + 1))).length)
    (hdone : (P (accOf (R ++ [c]))).done = false) (herr : (P (accOf (R ++ [c]))).err = E_COMMA)
    (hm : catOfRange cat m.b m.e = some ct) (hmc : isCand true true ct (normForm m) = false)
    (q' : List Node) (h : joinNumeric v cfg cat P (R ++ c :: m :: rest) = .ok q') :
    q'.length < (R ++ c :: m :: rest).length :=
  joinNumeric_shrinks v cfg cat P R c m rest ct hR hpos hcand hc hacc hdone herr hm hmc q' h

/-- The F3 witness as an instance (also the non-vacuity of every hypothesis above: `Rewrite.f3_second_run_hyps`):
the output `1|,|234|,|5.5` of the first run satisfies the condition with `R = 1|,|234`, `m = 5.5`, so EVERY
successful second run returns fewer than 5 tokens — it is not the first run's output —, and `5.5` is not numeric by
class because it covers the `.`. -/
theorem numeric_second_run_changes_witness (v : NVariant) (q' : List Node)
    (h : joinNumeric v { numPos := 1, enableNormalize := true } wf3cat wf3P
      [wf3o1, wf3c1, wf3o234, wf3c2, wf3m55] = .ok q') :
    q'.length < 5 ∧ q' ≠ [wf3o1, wf3c1, wf3o234, wf3c2, wf3m55] ∧
      (∀ c, catOfRange wf3cat wf3m55.b wf3m55.e = some c → isNumericCat c = false) ∧
      [wf3o1, wf3c1, wf3o234, wf3c2, wf3m55] = [f3o1, f3c1, f3o234, f3c2, f3m55] :=
  ⟨f3_second_run_shrinks v q' h,
    fun he => by have := f3_second_run_shrinks v q' h; rw [he] at this; exact absurd this (by decide),
    fun c hc => catOfRange_sub_not_numeric wf3cat 6 9 7 8 c 1 (by decide) (by decide) (by decide) hc
      (by decide) (by decide), rfl⟩


-- Observation about `rewrite_gen` (no clause of C14 is violated; reproduced on the implementation by the directed
-- cases 25/26, distribution key `observation:closed-gate-rescan`): `i = begin_idx + 1` is executed also when `concat`
-- did nothing because the gate was closed.  The index then goes BACK to the node after the head, that node is skipped
-- and the rest of the run is scanned again as a run of its own: `24|7|5|3|あ` (`24` a proper noun) becomes `24|7|53|あ`
-- — `7` stays alone, `5|3` are joined —, while the same digits at the end of the text (tail case, no re-scan) stay
-- `24|7|5|3`.
def g5 : Node := { dA with b := 3, e := 4, bb := 3, eb := 4, wid := 42, tc := 12, surface := ['5'] }
def g3 : Node := { dA with b := 4, e := 5, bb := 4, eb := 5, wid := 43, tc := 15, surface := ['3'] }
def gX : Node := { dA with b := 5, e := 6, bb := 5, eb := 8, wid := 9, tc := 20, pos := 0, surface := ['あ'] }
example (v : NVariant) :
    joinNumeric v { numPos := 1, enableNormalize := false } [16, 16, 16, 16, 16, 64] pAll [g24, g7, g5, g3, gX] =
      .ok [g24, g7, mergedNode g5 g3 [g5, g3] none, gX] ∧
    joinNumeric v { numPos := 1, enableNormalize := false } [16, 16, 16, 16, 16] pAll [g24, g7, g5, g3] =
      .ok [g24, g7, g5, g3] := by
  cases v <;> decide


/-! ### towards commutation of the two plugins: each loop can be cut at a node that is inert for it

Full statement wanted (NOT proved): if no node of the path is both katakana and a numeral candidate (and joined
tokens inherit that: contiguous path, no joined katakana token whose surface is a bare separator), then
`rewriteAll v cat P [.numeric n, .katakana k] path = rewriteAll v cat P [.katakana k, .numeric n] path`.
Proved are the two LOCALITY theorems it reduces to (an induction over the alternating segments of the path and the
class facts of joined tokens — `merged_separator_token_not_numeric`, `katakana_merged_block_classes` — remain):
the katakana joiner works segment by segment between non-katakana nodes, the numeral joiner works segment by
segment between nodes that reset it, and what it does left of such a node does not depend on which node it is. -/

/-- The katakana joiner can be cut at any node that is not katakana: the result on `A ++ x :: B` is the result on
`A`, then `x`, then the result on `B` — errors and panics included (`Outcome.bind`), every class table and setting.
(`x.b ≤ x.e`: `num_codepts()` of `x` is evaluated.) -/
theorem katakana_cut_at_non_katakana (cfg : KCfg) (cat : List Nat) (A B : List Node) (x : Node)
    (hx : isKatakana cat x = .ok false) (hxe : x.b ≤ x.e) :
    joinKatakana cfg cat (A ++ x :: B) =
      (joinKatakana cfg cat A).bind fun a => (joinKatakana cfg cat B).bind fun b => .ok (a ++ x :: b) :=
  joinKatakana_split cfg cat A B x hx hxe

/-- The numeral joiner (repaired loop) can be cut at any node that RESETS it (`Resets`: not numeric by class, normalised
form neither `,` nor `.` — it closes the open run and re-arms both flags): the result on `A ++ x :: B` is the
result on `A ++ [x]` followed by the result on `B`, for every class table, setting and every parser that rejects a
separator as first character (`SepNotFirst`; the real parser does). -/
theorem numeral_cut_at_resetting_node (cfg : NCfg) (cat : List Nat) (P : List Char → POut) (hP : SepNotFirst P)
    (A B : List Node) (x : Node) (hx : Resets cat x) (a b : List Node)
    (ha : joinNumeric .fix cfg cat P (A ++ [x]) = .ok a) (hb : joinNumeric .fix cfg cat P B = .ok b) :
    joinNumeric .fix cfg cat P (A ++ x :: B) = .ok (a ++ b) :=
  joinNumeric_split cfg cat P hP A B x hx a b ha hb

/-- … for BOTH loop variants with explicit fuel (the loop itself, not the driver's fuel). -/
theorem numeral_loop_cut_at_resetting_node (v : NVariant) (cfg : NCfg) (cat : List Nat) (P : List Char → POut)
    (hP : SepNotFirst P) (A B : List Node) (x : Node) (hx : Resets cat x) (a b : List Node) (F1 F2 : Nat)
    (ha : nloop v cfg cat P F1 (nInit (A ++ [x])) = .ok a) (hb : nloop v cfg cat P F2 (nInit B) = .ok b) :
    nloop v cfg cat P (F1 + F2) (nInit (A ++ x :: B)) = .ok (a ++ b) :=
  nloop_split v cfg cat P hP A B x hx a b F1 F2 ha hb

/-- … and what the numeral joiner does LEFT of a resetting node does not depend on which resetting node follows
(a katakana token or the token the katakana joiner puts in its place). -/
theorem numeral_left_part_independent_of_reset (cfg : NCfg) (cat : List Nat) (P : List Char → POut)
    (hP : SepNotFirst P) (A : List Node) (x : Node) (hx : Resets cat x) (a : List Node)
    (ha : joinNumeric .fix cfg cat P (A ++ [x]) = .ok a) :
    ∃ a0, a = a0 ++ [x] ∧ ∀ x', Resets cat x' → joinNumeric .fix cfg cat P (A ++ [x']) = .ok (a0 ++ [x']) :=
  joinNumeric_reset_last cfg cat P hP A x hx a ha

/-- `SepNotFirst` cannot be dropped: with a parser that ACCEPTS a lone `,` (not `done()`, COMMA error) the run `,`
is closed at the resetting node `x` by the trailing-separator rule with an EMPTY range (`concat(begin, i - 1)`,
`i - 1 = begin`), nothing is joined, and `i = begin_idx + 2` puts the index one node PAST `x`: on `,|x|1|2` the `1`
is never examined and `1|2` stay apart (4 tokens), although `,|x` alone gives 2 tokens and `1|2` alone is joined
to 1.  (The real parser rejects a leading separator, so the implementation never gets there.) -/
theorem numeral_cut_needs_sep_not_first_counterexample :
    Resets cxCat (cxNode 1 ['x']) ∧
    cxLen (joinNumeric .fix cxCfg cxCat cxP ([cxNode 0 [',']] ++ [cxNode 1 ['x']])) = some 2 ∧
    cxLen (joinNumeric .fix cxCfg cxCat cxP [cxNode 2 ['1'], cxNode 3 ['2']]) = some 1 ∧
    cxLen (joinNumeric .fix cxCfg cxCat cxP
      ([cxNode 0 [',']] ++ cxNode 1 ['x'] :: [cxNode 2 ['1'], cxNode 3 ['2']])) = some 4 ∧ ¬ SepNotFirst cxP :=
  ⟨⟨0, by decide, by decide, by decide, by decide⟩, by decide, by decide, by decide, fun h => absurd h.1 (by decide)⟩

/-- the hypotheses are satisfiable: `あ` (class 64) resets the numeral loop and is not katakana, the witness parser
rejects a leading separator; `1|2|あ|1|2` is joined on both sides of `あ` -/
example : Resets [16, 16, 64] dX ∧ isKatakana [16, 16, 64] dX = .ok false ∧ dX.b ≤ dX.e ∧ SepNotFirst f3P :=
  ⟨⟨64, by decide, by decide, by decide, by decide⟩, by decide, by decide, by decide, by decide⟩

/-! ### index safety — the plugin stack never panics on a path that tiles the text

Every index operation of `JoinNumericPlugin::rewrite_gen` / `concat`, `JoinKatakanaOovPlugin::rewrite_gen`,
`concat_nodes`, `concat_oov_nodes` is an explicit outcome of the model: `path[i]`, `path[i as usize - 1]`,
`path[len - 1]`, `path[begin]`, `path[end - 1]` (`none => .panic`), `i as usize` for a negative `i`, `end - begin` in
`concat` (usize: `nconcat`'s branch `e < b`), `end_bytes - beg_bytes` (usize), the `u16` sum of the
head-word lengths, `mod_cat[range]` / `mod_cat[offset]` (`catOfRange`, `canOovBow`), `num_codepts() = end - begin`
(`isShorter`), `begin >= end => Err(InvalidRange)`; `path.drain(begin + 1..end)` is shown to be in range whenever it
is reached (`concat_drain_in_range`).  Not modelled as outcomes (identities on the reachable domain): the casts
`path.len() as i32`, `begin() as u16` (a path has at most 65535 nodes and the offsets come from `u16` fields).

`Tiles cat nb path` (Proofs/RewriteSafe.lean; C01's `PathOk` on the C14 node type): adjacent nodes touch in
characters and bytes, every node covers at least one character of the text (`cat` = its class table), byte ranges
are not reversed, the path begins at `(0, 0)` and ends at `(cat.length, nb)`, and the head-word lengths of the whole
path add up to less than 65536 (the sum of the lengths of the head words of the tokens of ONE text of at most 49149
bytes).  `Safe` is `Tiles` without the two end conditions. -/

/-- **The plugin stack never panics.**  For every path that tiles the text, every stack of the two plugins with any
settings, every parser behaviour and BOTH variants of the numeral loop: `rewriteAll` is not a panic — it is `ok`, the
documented `Err(InvalidRange)`, or (variant `cur` only, finding F2) out of fuel. -/
theorem rewrite_stack_never_panics (v : NVariant) (cat : List Nat) (P : List Char → POut) (pls : List Plugin)
    (nb : Nat) (path : List Node) (ht : Tiles cat nb path) : rewriteAll v cat P pls path ≠ .panic := by
  intro h
  rcases rewriteAll_safe v cat P pls path ht.safe with h' | ⟨h', -⟩ | ⟨q, hq, _⟩ <;> rw [h] at * <;> contradiction

/-- … and for the repaired loop (`fix`, the loop /repo has) the outcome is `ok` with a path that tiles the text
again, or `Err(InvalidRange)`: C03's hypothesis `hrew` and C01's `hrew`/`hkeep` for a rewrite built from this model. -/
theorem rewrite_stack_ok_or_invalid_range (cat : List Nat) (P : List Char → POut) (pls : List Plugin)
    (nb : Nat) (path : List Node) (ht : Tiles cat nb path) :
    (∃ q, rewriteAll .fix cat P pls path = .ok q ∧ Tiles cat nb q) ∨ rewriteAll .fix cat P pls path = .err := by
  rcases rewriteAll_safe .fix cat P pls path ht.safe with h | ⟨h, -⟩ | ⟨q, hq, _⟩
  · exact absurd h (rewriteAll_fix_ne_fuel cat P pls path)
  · exact .inr h
  · exact .inl ⟨q, hq, rewriteAll_tiles .fix cat P pls nb path q ht hq⟩

/-- A successful run of any stack (either variant) keeps the tiling: in particular every byte range of the result
lies inside the text and is not reversed, so slicing the text by a node's byte range cannot fail. -/
theorem rewrite_keeps_tiling (v : NVariant) (cat : List Nat) (P : List Char → POut) (pls : List Plugin) (nb : Nat)
    (path q : List Node) (ht : Tiles cat nb path) (h : rewriteAll v cat P pls path = .ok q) :
    Tiles cat nb q ∧ ∀ m ∈ q, m.b < m.e ∧ m.e ≤ cat.length ∧ m.bb ≤ m.eb ∧ m.eb ≤ nb := by
  have hq := rewriteAll_tiles v cat P pls nb path q ht h
  refine ⟨hq, fun m hm => ?_⟩
  obtain ⟨h1, h2, h3⟩ := hq.safe.rng m hm
  cases hy : lastE q with
  | none => rw [List.getLast?_eq_none_iff.mp (Option.map_eq_none_iff.mp hy)] at hm; cases hm
  | some y =>
    have := eb_le_last q y hq.safe.contig (fun n hn => (hq.safe.rng n hn).2.2) hy m hm
    rw [hq.last y hy] at this
    exact ⟨h1, h2, h3, this⟩

/-- The numeral loop from ANY loop state with the invariant `NInv2` (`-1 ≤ i`, `begin_idx ≤ i`, `i < len` while a run
is open) on a safe path, any fuel, any parser, both variants: never a panic; `ok` results are safe paths. -/
theorem numeric_loop_never_panics (v : NVariant) (cfg : NCfg) (cat : List Nat) (P : List Char → POut) (fuel : Nat)
    (st : NState) (hs : Safe cat st.path) (hinv : NInv2 st) :
    nloop v cfg cat P fuel st ≠ .panic ∧ ∀ q, nloop v cfg cat P fuel st = .ok q → Safe cat q := by
  rcases nloop_safe v cfg cat P fuel st hs hinv with h | ⟨h, -⟩ | ⟨q, hq, hsq⟩
  · rw [h]; exact ⟨by simp, by simp⟩
  · rw [h]; exact ⟨by simp, by simp⟩
  · rw [hq]; exact ⟨by simp, fun q' h' => by cases h'; exact hsq⟩

/-- `InvalidRange` comes only from the trailing-separator rule with an EMPTY range: `concat` on `[b, e)` with
`b ≤ e ≤ len` of a safe path is `ok` (safe, not longer) unless `b = e`. -/
theorem numeral_concat_never_panics (cfg : NCfg) (cat : List Nat) (P : List Char → POut) (path : List Node)
    (hs : Safe cat path) (b e : Nat) (hb : b < path.length) (hbe : b ≤ e) (he : e ≤ path.length) (acc : List Char) :
    (nconcat cfg P path b e acc = .err ∧ b = e) ∨
      ∃ q, nconcat cfg P path b e acc = .ok q ∧ Safe cat q ∧ q.length ≤ path.length :=
  nconcat_safe cfg P hs b e hb hbe he acc

/-- The katakana joiner on a safe path always returns `ok` — no panic, no `InvalidRange`, within the driver's fuel —
and the result is safe. -/
theorem join_katakana_never_fails (cfg : KCfg) (cat : List Nat) (path : List Node) (hs : Safe cat path) :
    ∃ q, joinKatakana cfg cat path = .ok q ∧ Safe cat q := by
  rcases kloop_safe cfg cat (kFuel path) path 0 hs with h | h
  · exact absurd h (kloop_terminates cfg cat _ path 0 (by unfold kFuel; omega))
  · exact h

/-- Both concatenation functions on a non-empty block `[b, e)` inside a safe path succeed: `path[end - 1]`,
`path[begin]`, `end_bytes - beg_bytes` and the `u16` sum of head-word lengths are all in range. -/
theorem concat_never_panics (cat : List Nat) (path : List Node) (hs : Safe cat path) (b e : Nat) (hbe : b < e)
    (he : e ≤ path.length) (nf : Option (List Char)) (posId : Nat) :
    (∃ q, concatNodes path b e nf = .ok q ∧ Safe cat q) ∧ (∃ q, concatOovNodes path b e posId = .ok q ∧ Safe cat q) :=
  ⟨concatWith_safe (merges_mergedNode nf) hs b e hbe he, concatWith_safe (merges_mergedOovNode posId) hs b e hbe he⟩

/-- `path.drain(begin + 1..end)` is in range whenever either concatenation function reaches it (`begin + 1 ≤ end ≤
len`), and the new length is `len - (end - (begin + 1))`: the model's `take b ++ m :: drop e` loses nothing. -/
theorem concat_drain_in_range (path q : List Node) (b e : Nat) (nf : Option (List Char)) (posId : Nat) :
    (concatNodes path b e nf = .ok q → b + 1 ≤ e ∧ e ≤ path.length ∧ q.length = path.length - (e - (b + 1))) ∧
    (concatOovNodes path b e posId = .ok q → b + 1 ≤ e ∧ e ≤ path.length ∧ q.length = path.length - (e - (b + 1))) :=
  ⟨drain_in_range (mk := (mergedNode · · · nf)), drain_in_range (mk := (mergedOovNode · · · posId))⟩

/-- The driver's per-run outcome classes (op `plug`) end in exactly `rewriteAll`. -/
theorem trace_is_rewrite_all (v : NVariant) (cat : List Nat) (P : List Char → POut) (pls : List Plugin)
    (path : List Node) : (rewriteTrace v cat P pls path).2 = rewriteAll v cat P pls path :=
  rewriteTrace_snd v cat P pls path

/-! #### the hypothesis cannot be dropped: each index operation does fail off the tiling (model = implementation,
directed cases of op `plug`) -/

def sA : Node := { dA with hwl := 1 }
def sB : Node := { dB with hwl := 1 }

/-- Without the tiling every panic outcome is reachable (the same inputs make the real code panic, op `plug`):
a node that ends beyond the text (`mod_cat[range]`), head-word lengths that add up to 65536 (`u16`), a reversed byte
range (`end_bytes - beg_bytes`), a reversed character range under the katakana joiner (`num_codepts()`), and the
`usize` subtraction in `concat` for `end < begin` (not reachable from `rewrite_gen`: `NInv2`). -/
theorem never_panics_needs_tiling_counterexample (v : NVariant) :
    joinNumeric v { numPos := 1, enableNormalize := false } [16, 16] pAll [sA, { sB with e := 3 }] = .panic ∧
    joinNumeric v { numPos := 1, enableNormalize := false } [16, 16] pAll
      [{ sA with hwl := 40000 }, { sB with hwl := 25536 }] = .panic ∧
    joinNumeric v { numPos := 1, enableNormalize := false } [16, 16] pAll [{ sA with bb := 7 }, sB] = .panic ∧
    joinKatakana { oovPos := 5, minLength := 1 } [128, 128] [{ kA with b := 2, e := 1, wid := 3 }] = .panic ∧
    nconcat { numPos := 1, enableNormalize := false } pAll [sA, sB] 1 0 [] = .panic := by
  cases v <;> decide

/-- non-vacuity: `Tiles` / `Safe` / `NInv2` are inhabited (the path `1|2|あ` over 3 characters / 5 bytes), and the
stack N,K on it is `ok` -/
example : Tiles [16, 16, 64] 5 [dA, dB, dX] ∧ NInv2 (nInit [dA, dB, dX]) := by
  refine ⟨⟨⟨⟨rfl, rfl, rfl, rfl, trivial⟩, ?_, by decide⟩, ?_, ?_, by simp⟩, nInit_inv2 _⟩
  · intro n hn
    simp only [List.mem_cons, List.not_mem_nil, or_false] at hn
    rcases hn with rfl | rfl | rfl <;> decide
  · intro x hx; simp only [firstB, List.head?_cons, Option.map_some, Option.some.injEq] at hx; rw [← hx]; rfl
  · intro x hx; rw [← Option.some.inj hx]; rfl

/-- The `u16` hypothesis of `Tiles` from per-node facts: if every node's head-word length is at most its byte length
(`head_word_length` IS the byte length of the trie key of a dictionary word resp. of the surface of an OOV node; the
harness checks `hwl ≤ eb - bb` on every node of every analysed path, key `c14:assumption:hwl-le-bytes`) and the
lookup text has fewer than 65536 bytes (`resolve_edits`' guard, C07), then a contiguous path over the text tiles it. -/
theorem tiles_from_node_bounds (cat : List Nat) (nb : Nat) (path : List Node) (hc : Contig path)
    (hr : ∀ n ∈ path, n.b < n.e ∧ n.e ≤ cat.length ∧ n.bb ≤ n.eb ∧ n.hwl ≤ n.eb - n.bb)
    (hf : ∀ x, firstB path = some x → x = (0, 0)) (hl : ∀ x, lastE path = some x → x = (cat.length, nb))
    (he : path = [] → cat = [] ∧ nb = 0) (hnb : nb < 65536) : Tiles cat nb path := by
  refine ⟨⟨hc, fun n hn => ⟨(hr n hn).1, (hr n hn).2.1, (hr n hn).2.2.1⟩, ?_⟩, hf, hl, he⟩
  cases path with
  | nil => simp [sumHwl]
  | cons a rest =>
    cases hy : lastE (a :: rest) with
    | none => simp [lastE] at hy
    | some y =>
      have := sumHwl_le_bytes (a :: rest) (a.b, a.bb) y hc
        (fun n hn => ⟨(hr n hn).2.2.1, (hr n hn).2.2.2⟩) (by simp [firstB]) hy
      have e := hl y hy
      rw [e] at this
      simp only at this
      omega

/-! #### `Err(InvalidRange)` is unreachable for the real parser -/

/-- **The plugin stack always succeeds** on a path that tiles the text when the parser rejects `,` and `.` as the first
character of a number (`SepNotFirst`, true of the real `NumericParser`: the harness ships its answers for `,` and `.`
whenever a separator node exists): repaired loop — `ok` with a path that tiles the text again, no panic, no
`InvalidRange`, within the driver's fuel.  With this the plugin stage of `do_tokenize` cannot fail at all (C03). -/
theorem rewrite_stack_always_ok (cat : List Nat) (P : List Char → POut) (hP : SepNotFirst P) (pls : List Plugin)
    (nb : Nat) (path : List Node) (ht : Tiles cat nb path) :
    ∃ q, rewriteAll .fix cat P pls path = .ok q ∧ Tiles cat nb q := by
  rcases rewriteAll_ok .fix cat P hP pls path ht.safe with h | ⟨q, hq, _⟩
  · exact absurd h (rewriteAll_fix_ne_fuel cat P pls path)
  · exact ⟨q, hq, rewriteAll_tiles .fix cat P pls nb path q ht hq⟩

/-- … for both variants and loop level: from any loop state with the invariants (`NInv2`, and `NOne`: while the open run
is ONE node the parser has accepted exactly that node's normalised form) the numeral loop is out of fuel (variant `cur`,
F2) or `ok`. -/
theorem numeric_loop_never_invalid_range (v : NVariant) (cfg : NCfg) (cat : List Nat) (P : List Char → POut)
    (hP : SepNotFirst P) (fuel : Nat) (st : NState) (hs : Safe cat st.path) (hinv : NInv2 st) (hone : NOne P st) :
    nloop v cfg cat P fuel st = .fuel ∨ ∃ q, nloop v cfg cat P fuel st = .ok q ∧ Safe cat q :=
  nloop_ok v cfg cat P hP fuel st hs hinv hone

/-- `SepNotFirst` cannot be dropped: with a parser that ACCEPTS a lone `,` (pending COMMA error) and `enableNormalize`,
the path `,|x` (it tiles a 2-character text; the `,` carries the numeral part of speech) makes the trailing-separator
rule call `concat_nodes(path, 0, 0, ..)`: `Err(InvalidRange)`, both variants. -/
theorem invalid_range_needs_accepting_parser_counterexample (v : NVariant) :
    joinNumeric v { cxCfg with enableNormalize := true } cxCat cxP [cxNode 0 [','], cxNode 1 ['x']] = .err ∧
      ¬ SepNotFirst cxP := by
  refine ⟨by cases v <;> decide, fun h => absurd h.1 (by decide)⟩

/-- non-vacuity of `NOne` and `SepNotFirst` -/
example : NOne f3P (nInit f3path) ∧ SepNotFirst f3P := ⟨nInit_one f3P f3path, by decide, by decide⟩

/-! #### commutation of the two plugins -/

/-- **Commutation, PARTIAL.**  Full statement wanted: `rewriteAll v cat P [N, K] path = rewriteAll v cat P [K, N] path`
whenever no node of `path` is both katakana by class and a numeral candidate (numeric by class, or an armed separator).
Proved: the instance in which the numeral joiner has nothing to join — no token of the path carries the numeral part of
speech and the katakana joiner's `oovPOS` is not the numeral one: when both orders succeed they return the same path,
namely the katakana joiner's result (the numeral joiner is the identity before it, `no_numeral_no_join`, and after it,
because every token the katakana joiner makes carries `oovPOS`).
MISSING for the full statement, on top of the locality theorems `katakana_cut_at_non_katakana` and
`numeral_cut_at_resetting_node`: (a) `joinKatakana` is the identity on a list without katakana nodes and `joinNumeric` on
a list of resetting nodes, as EQUATIONS of outcomes (here only for `ok` results); (b) the numeral joiner maps katakana-free
lists to katakana-free lists (`cat_of_range` is an AND over the joined range, as in `merged_separator_token_not_numeric`)
and the katakana joiner maps resetting nodes to resetting nodes; (c) the induction over the alternating segments.
When the side condition fails the statement is false: `plugin_order_matters_counterexample`. -/
theorem plugins_commute_partial (v : NVariant) (cat : List Nat) (P : List Char → POut) (n : NCfg) (k : KCfg)
    (path r r' : List Node) (hno : ∀ x ∈ path, x.pos ≠ n.numPos) (hpos : k.oovPos ≠ n.numPos)
    (h1 : rewriteAll v cat P [.numeric n, .katakana k] path = .ok r)
    (h2 : rewriteAll v cat P [.katakana k, .numeric n] path = .ok r') :
    r = r' ∧ joinKatakana k cat path = .ok r := by
  obtain ⟨p1, hn1, hk1⟩ := rewriteAll_two_ok h1
  obtain ⟨p2, hk2, hn2⟩ := rewriteAll_two_ok h2
  simp only [applyPlugin] at hn1 hk1 hk2 hn2
  have e1 : p1 = path := (nloop_coarsens v n cat P _ _ p1 hn1).eq_of_no_witness (RN_head_witness n) hno
  subst e1
  rw [hk1] at hk2
  cases hk2
  have hc := kloop_coarsens k cat _ _ _ _ hk1
  have hno' : ∀ x ∈ r, x.pos ≠ n.numPos := by
    intro x hx
    rcases hc.classify x hx with h | ⟨pre, blk, post, _, _, hr⟩
    · exact hno x h
    · rw [hr.1]; exact hpos
  have e2 : r' = r := (nloop_coarsens v n cat P _ _ r' hn2).eq_of_no_witness (RN_head_witness n) hno'
  exact ⟨e2.symm, hk1⟩

/-- the hypotheses are satisfiable with a real join: `ア|イ` (POS 0, numeral POS 1, `oovPOS` 5) is joined to `アイ` in
both orders -/
example (v : NVariant) :
    (∀ x ∈ [kA, kI], x.pos ≠ ({ numPos := 1, enableNormalize := false } : NCfg).numPos) ∧
    rewriteAll v [128, 128] pAll [.numeric { numPos := 1, enableNormalize := false },
      .katakana { oovPos := 5, minLength := 0 }] [kA, kI] = .ok [mAI] ∧
    rewriteAll v [128, 128] pAll [.katakana { oovPos := 5, minLength := 0 },
      .numeric { numPos := 1, enableNormalize := false }] [kA, kI] = .ok [mAI] := by
  cases v <;> decide

end C14
