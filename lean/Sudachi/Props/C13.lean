import Sudachi.Proofs.OovLattice
import Sudachi.Proofs.OovIter
import Sudachi.Proofs.OovRead
import Sudachi.Proofs.OovTables
/-!
# C13 — Unknown-word candidates follow the character-class definition

Model: `Sudachi/Model/Oov.lean`, the definition-file readers in `Model/OovIO.lean`, the byte tables of a recycled buffer in
`Model/OovTables.lean`; lemmas in `Proofs/Oov.lean` (runs, mask, providers, built buffers), `Proofs/OovLattice.lean` (builder,
failing runs), `Proofs/OovIter.lean` (class iteration), `Proofs/OovRead.lean` (readers), `Proofs/OovTables.lean`.  Character
classes are those of the C17 table (`CharCat.compile`, `CharCat.lookup`); the driver reads char.def with `CharCat.parseLines` on
byte strings, not with `CharCat.readDef`.  Quantifiers: every list of per-character class sets (`cats`), every provider configuration,
every offset / created mask.
-/
namespace C13
open Oov

/-! ## clause "the class run (the maximal stretch, determined left to right from the start of the text,
over which consecutive characters keep a class in common)" -/

/-- Full statement for the forward pass (`variant=fwd`: `fill_cat_continuity` of the tree since the repair of D11,
`881b375`): for every text the run table equals the declarative left-to-right runs. -/
theorem continuity_eq_spec (cats : List Nat) : fillCatContinuityForward cats = runsSpec cats :=
  forward_eq_spec cats

/-- `continuity_eq_spec` is **false for the backward pass** (`variant=bwd`, the pinned `fill_cat_continuity`: finding
D11).  Witness: `👍🏻漢` under the shipped char.def — DEFAULT, ALL|NOOOVBOW, KANJI.  The backward pass narrows `ALL ∩ KANJI` first and then finds
nothing in common with DEFAULT: `[1,2,1]`, i.e. the emoji is cut from its modifier; the left-to-right
runs are `[2,1,1]`. -/
theorem continuity_eq_spec_counterexample :
    fillCatContinuityBackward [1, 2147483647, 4] = [1, 2, 1] ∧ runsSpec [1, 2147483647, 4] = [2, 1, 1] ∧
    ¬ (∀ cats, fillCatContinuityBackward cats = runsSpec cats) := by
  have hs : runsSpec [1, 2147483647, 4] = [2, 1, 1] := by
    simp [runsSpec, runLen, largestCommon, hasCommon, countdown]
  refine ⟨by decide, hs, fun h => ?_⟩
  have := h [1, 2147483647, 4]
  rw [hs] at this
  revert this; decide

/-- … while the same two characters alone form one run under the backward pass: what follows the
modifier decides whether the emoji keeps it. -/
theorem context_dependence_counterexample :
    fillCatContinuityBackward [1, 2147483647] = [2, 1] ∧
    (fillCatContinuityBackward ([1, 2147483647] ++ [4])).take 2 ≠ fillCatContinuityBackward [1, 2147483647] := by
  decide +kernel

/-- Clause "a base character is never separated from following combining marks or modifiers merely
because of what follows them" — full statement for the forward pass: whether a run ends after character
`i` (`[i] = 1`) is the same in a text `xs` and in `xs` followed by anything, for every `i` that is not the
last character of `xs` (appending text can only extend the last run).  False for the backward pass:
`context_dependence_counterexample`. -/
theorem no_split_by_context (xs ys : List Nat) (i : Nat) (hi : i + 1 < xs.length) :
    (fillCatContinuityForward xs)[i]? = some 1 ↔ (fillCatContinuityForward (xs ++ ys))[i]? = some 1 :=
  forward_boundary_stable xs ys i hi

/-- the word-start table of the pinned `InputBuffer::build` (`bowTable`) deviates from the documented meaning of NOOOVBOW2
("this and next characters cannot be the beginning of an OOV word") after two consecutive NOOOVBOW2
characters: KATAKANA, ALL|NOOOVBOW2, KATAKANA|NOOOVBOW2, KANJI — the last character may start a word. -/
theorem word_start_after_consecutive_noovbow2_counterexample :
    bowTable [128, 3221225471, 2147483776, 4] = [true, false, false, true] ∧ 2147483776 &&& NOOOVBOW2 ≠ 0 := by
  decide +kernel

/-- the repaired word-start table (`InputBuffer::build` after the fix): under `bowTableFix` the last
character of the example above cannot start a word -/
theorem word_start_after_consecutive_noovbow2_fixed :
    bowTableFix [128, 3221225471, 2147483776, 4] = [true, false, false, false] := by
  decide +kernel

/-- **NOOOVBOW2 means "this and the next character cannot start a word"** — for the repaired code, for
every text: a NOOOVBOW2 character is never a word start, and neither is the character after it. -/
theorem noovbow2_bans_this_and_next (cats : List Nat) (i : Nat) (c : Nat)
    (hc : cats[i]? = some c) (h2 : c &&& NOOOVBOW2 ≠ 0) :
    (bowTableFix cats)[i]? = some false ∧ (i + 1 < cats.length → (bowTableFix cats)[i + 1]? = some false) :=
  bowGoV_noovbow2 cats true 0 i c hc h2

/-- What `runsSpec` denotes, part 1: the run that starts a text is at least one character, lies inside
the text, keeps a class in common (whenever the first character has a class at all — always the case for
a compiled table: `C17.lookup_total`), and is maximal: no longer prefix keeps a class in common. -/
theorem runLen_is_maximal_common_prefix (c : Nat) (rest : List Nat) (hc : c ≠ 0) :
    1 ≤ runLen (c :: rest) ∧ runLen (c :: rest) ≤ (c :: rest).length ∧
    hasCommon ((c :: rest).take (runLen (c :: rest))) = true ∧
    ∀ j, runLen (c :: rest) < j → j ≤ (c :: rest).length → hasCommon ((c :: rest).take j) = false := by
  obtain ⟨hle, hcommon, hmax, _⟩ := largestCommon_spec (c :: rest) (c :: rest).length
  refine ⟨largestCommon_pos _ _, ?_, hcommon ⟨1, Nat.le_refl 1, by simp, by simpa [hasCommon] using hc⟩, hmax⟩
  simp only [runLen, List.length_cons] at *; omega

/-- part 2: runs are laid out left to right from the start of the text, each position holding the
distance to the end of its run. -/
theorem runsSpec_unfold (c : Nat) (rest : List Nat) :
    runsSpec (c :: rest) = countdown (runLen (c :: rest)) ++ runsSpec ((c :: rest).drop (runLen (c :: rest))) := by
  rw [runsSpec, runLen_cons]; rfl

/-- non-vacuity of `hc` and a run longer than one character: あ(HIRAGANA) ́(ALL|NOOOVBOW) ア(KATAKANA) -/
example : (64 : Nat) ≠ 0 ∧ runsSpec [64, 2147483647, 128] = [2, 1, 1] ∧
    fillCatContinuityForward [64, 2147483647, 128] = [2, 1, 1] := by
  refine ⟨by decide, ?_, ?_⟩
  · simp [runsSpec, runLen, largestCommon, hasCommon, countdown]
  · simp [fillCatContinuityForward, scan, countdown]

/-! ## clause "for each class of the character that is always invoked, or invoked because no candidate
exists yet at that position, a grouped candidate spanning the class run and candidates of 1..n characters
within the run, each with the ids, cost and part of speech of the unknown-word definition" -/

/-- Full statement (set equality with the definition).  Whenever the MeCab provider answers at `offset`,
a node is returned **iff** it is prescribed (`Oov.MecabSpec`) for one of the classes of the character
(`flagsIter` = the classes in the order `CategoryType::iter` visits them): behaviour line `ci` of the
class, always invoked or nothing created yet, an unknown-word line `d` of the class, and either the grouped
candidate `[offset, offset+run)` or a candidate of `i ∈ 1..length` characters clipped to the text and not
longer than the run (one less when grouping); ids, cost, POS are those of `d`.  `charLen` is the run length
the buffer reports (`continuity_eq_spec` says which runs those are). -/
theorem mecab_candidates_spec (cfg : MecabCfg) (buf : Buf) (offset created : Nat) (nodes : List Node)
    (h : mecabProvide cfg buf offset created = .ok nodes) :
    ∃ charLen cat, buf.cont[offset]? = some charLen ∧ buf.cats[offset]? = some cat ∧
      ∀ x, x ∈ nodes ↔
        (charLen ≠ 0 ∧ ∃ ct ∈ flagsIter cat, MecabSpec cfg buf.chars.length offset charLen created ct x) :=
  mecabProvide_spec cfg buf offset created nodes h

/-- every MeCab candidate carries the ids, cost and POS of a definition line and is marked OOV -/
theorem mecab_candidate_fields (cfg : MecabCfg) (n offset charLen created ct : Nat) (x : Node)
    (h : MecabSpec cfg n offset charLen created ct x) :
    ∃ ci oovs d, findKey ct cfg.cats = some ci ∧ findKey ci.ctype cfg.oovs = some oovs ∧ d ∈ oovs ∧
      x.b = offset ∧ x.l = d.l ∧ x.r = d.r ∧ x.c = d.c ∧ x.pos = d.pos ∧ x.oov = true := by
  obtain ⟨ci, oovs, d, h1, _, h3, h4, h5⟩ := h
  refine ⟨ci, oovs, d, h1, h3, h4, ?_⟩
  rcases h5 with ⟨_, rfl⟩ | ⟨i, _, _, _, rfl⟩ <;> simp [mkNode]

/-- non-vacuity: ALPHA `1 1 2` with one line, text `ab` + hiragana: at offset 0 (run 2) the grouped
candidate and the one-character candidate (the budget shrinks by one because of grouping). -/
example :
    mecabProvide ⟨[(32, ⟨32, true, true, 2⟩)], [(32, [⟨1, 2, 100, 0⟩])], false⟩ ⟨[97, 98, 12354], [32, 32, 64], [2, 1, 1], [true, false, true]⟩ 0 0
      = .ok [⟨0, 2, 1, 2, 100, true, 0⟩, ⟨0, 1, 1, 2, 100, true, 0⟩] := by
  decide +kernel

/-! ## clause "the fallback provider adds one candidate reaching to the next permissible word start
exactly when nothing else was produced" -/

/-- Full statement.  Inside the text the Simple provider returns nothing when something was created, and
exactly one node `[offset, offset+k)` when nothing was, where `k` is characterised by `NextStart`: at least
one character, no character strictly inside may start a word, and the node ends at the end of the text or at
a character that may start a word. -/
theorem simple_iff_empty (cfg : SimpleCfg) (buf : Buf) (offset created : Nat) (ho : offset < buf.bow.length) :
    (created ≠ 0 → simpleProvide cfg buf offset created = .ok []) ∧
    (created = 0 → ∃ k, NextStart buf.bow offset k ∧
      simpleProvide cfg buf offset created = .ok [⟨offset, offset + k, cfg.l, cfg.r, cfg.c, true, cfg.pos⟩]) :=
  simpleProvide_spec cfg buf offset created ho

example : simpleProvide ⟨1, 2, 3, 4⟩ ⟨[97, 769, 98], [32, 2147483647, 32], [3, 2, 1], [true, false, true]⟩ 0 0
    = .ok [⟨0, 2, 1, 2, 3, true, 4⟩] := by decide +kernel

/-! ## clause "created-length bitset lets providers see what exists (exact below 64, conservative above)" -/

/-- Full statement.  With the mask the builder maintains (`addAll 0 nodes` = one bit per node length,
saturating at 64): `No` is sound for every length; below 64 the three answers are exact; `Maybe` is only
given for lengths ≥ 64 and only if a node of length ≥ 64 exists. -/
theorem created_sound (nodes : List Node) (len : Nat) :
    (hasWord (addAll 0 nodes) len = .no → ∀ x ∈ nodes, x.e - x.b ≠ len) ∧
    (1 ≤ len → len < 64 → (∀ x ∈ nodes, 1 ≤ x.e - x.b) →
      ((hasWord (addAll 0 nodes) len = .yes ↔ ∃ x ∈ nodes, x.e - x.b = len) ∧
       (hasWord (addAll 0 nodes) len = .no ↔ ∀ x ∈ nodes, x.e - x.b ≠ len) ∧
       hasWord (addAll 0 nodes) len ≠ .maybe)) ∧
    (hasWord (addAll 0 nodes) len = .maybe → 64 ≤ len ∧ ∃ x ∈ nodes, 64 ≤ x.e - x.b) :=
  ⟨hasWord_no_sound nodes len, fun h1 h2 h3 => hasWord_exact_below_64 nodes len h1 h2 h3, hasWord_maybe nodes len⟩

/-- … and the regex provider, which falls back to a scan of the buffer for `Maybe`, never adds a node that
ends where an existing node of the position ends — for any length, saturated or not. -/
theorem regex_never_duplicates (cfg : RegexCfg) (buf : Buf) (offset : Nat) (existing new : List Node)
    (hb : ∀ x ∈ existing, x.b = offset ∧ x.b < x.e)
    (h : regexProvide cfg buf offset (addAll 0 existing) existing = .ok new) :
    ∀ y ∈ new, ∀ x ∈ existing, x.e ≠ y.e :=
  regexProvide_no_duplicate cfg buf offset existing new hb h

/-- non-vacuity of the saturated case: a word of 70 characters exists, a match of 64 is `Maybe` -/
example : hasWord (addAll 0 [⟨0, 70, 0, 0, 0, false, 0⟩]) 64 = .maybe ∧
    hasWord (addAll 0 [⟨0, 70, 0, 0, 0, false, 0⟩]) 63 = .no ∧
    (∀ x ∈ [(⟨0, 70, 0, 0, 0, false, 0⟩ : Node)], x.b = 0 ∧ x.b < x.e) := by decide +kernel

/-! ## clause "every reachable position has a candidate" -/

/-- Full statement for one position of the builder loop (`stepAt` is run exactly at the positions with a
previous node): whenever the step succeeds it has inserted at least one node, and with the fallback
(Simple) provider configured last it never returns `EosBosDisconnect` — whatever the other providers,
the dictionary words and the character classes (NOOOVBOW/NOOOVBOW2 included) are. -/
theorem every_position_has_candidate (ps : List Provider) (lex : List Word) (buf : Buf) (offset : Nat) :
    (∀ nodes, stepAt ps lex buf offset = .ok nodes → nodes ≠ []) ∧
    (∀ cfg, ps.getLast? = some (.simple cfg) → ∀ k, stepAt ps lex buf offset ≠ .err k) :=
  ⟨fun nodes h => stepAt_nonempty ps lex buf offset nodes h,
   fun cfg hl k => stepAt_no_disconnect ps cfg lex buf offset hl k⟩

/-- non-vacuity: MeCab first, Simple last, on the D11 witness; and without a fallback the loop can fail. -/
example : ([Provider.mecab ⟨[], [], false⟩, Provider.simple ⟨0, 0, 0, 3⟩]).getLast? = some (.simple ⟨0, 0, 0, 3⟩) ∧
    stepAt [Provider.mecab ⟨[], [], false⟩, Provider.simple ⟨0, 0, 0, 3⟩] [] ⟨[128077, 127995, 28450], [1, 2147483647, 4], [1, 2, 1], [true, false, true]⟩ 1
      = .ok [⟨1, 2, 0, 0, 0, true, 3⟩] ∧
    stepAt [Provider.mecab ⟨[], [], false⟩] [] ⟨[128077, 127995, 28450], [1, 2147483647, 4], [1, 2, 1], [true, false, true]⟩ 1
      = .err "Disconnect" := by decide +kernel

/-! ## clause "OOV morphemes report is_oov, dictionary -1, the configured part of speech and the normalised
text as their forms" -/

/-- Full statement.  A morpheme built from an OOV node `[b,e)` whose word id is `WordId::oov(pos)` reports
is_oov, dictionary −1, POS id `pos`, and surface (of the word info) = normalized form = dictionary form =
reading form = the slice `[b,e)` of the *normalised* text. -/
theorem oov_fields (chars : List Nat) (b e pos : Nat) (hpos : pos < 65536) :
    oovInfo chars b e (wordIdOov pos) =
      { isOov := true, dictionaryId := -1, posId := pos, surface := (chars.take e).drop b,
        normalizedForm := (chars.take e).drop b, dictionaryForm := (chars.take e).drop b,
        readingForm := (chars.take e).drop b } := by
  obtain ⟨h1, _, h3⟩ := wid_oov pos hpos
  simp [oovInfo, h1, h3]

/-- the providers mark every node OOV with their configured POS, so `oov_fields` applies to all of them -/
theorem provider_nodes_are_oov (cfg : SimpleCfg) (rcfg : RegexCfg) (buf : Buf) (o c : Nat) (ex nodes : List Node) :
    (simpleProvide cfg buf o c = .ok nodes → ∀ x ∈ nodes, x.oov = true ∧ x.pos = cfg.pos) ∧
    (regexProvide rcfg buf o c ex = .ok nodes → ∀ x ∈ nodes, x.oov = true ∧ x.pos = rcfg.pos) := by
  refine ⟨fun h x hx => ?_, fun h x hx => ?_⟩
  · obtain ⟨d, hd, k, rfl, _⟩ := provide_shape (.simple cfg) buf o c ex nodes h x hx
    obtain rfl := List.mem_singleton.mp hd; exact ⟨rfl, rfl⟩
  · obtain ⟨d, hd, k, rfl, _⟩ := provide_shape (.regex rcfg) buf o c ex nodes h x hx
    obtain rfl := List.mem_singleton.mp hd; exact ⟨rfl, rfl⟩

example : oovInfo [65, 98, 12354] 0 2 (wordIdOov 5) =
    { isOov := true, dictionaryId := -1, posId := 5, surface := [65, 98], normalizedForm := [65, 98],
      dictionaryForm := [65, 98], readingForm := [65, 98] } := by decide +kernel

/-! ## clause "every reachable position has a candidate" — the lattice as a whole -/

/-- Every buffer the model builds — whichever run computation (backward, forward, declarative) and word-start
variant — is well formed: one class set, run length and word-start flag per character, every run length at
least 1 and inside the text.  This discharges the hypothesis `buf.WF` of the theorems below for every case the
driver answers. -/
theorem built_buffer_well_formed (v : Variant) (bowFix : Bool) (tab : List (Nat × Nat)) (chars : List Nat) (buf : Buf)
    (h : mkBufV v bowFix tab chars = some buf) : buf.WF :=
  mkBufV_wf v bowFix tab chars buf h

/-- **Full statement**: with the fallback (Simple) provider configured
last, `build_lattice` never returns `EosBosDisconnect` (nor any other `Err`) — neither from the position loop
nor from `connect_eos` —, whatever the other providers, the dictionary and the classes are. -/
theorem lattice_never_disconnects (ps : List Provider) (cfg : SimpleCfg) (lex : List Word) (buf : Buf) (hwf : buf.WF)
    (hlast : ps.getLast? = some (.simple cfg)) (k : String) : buildLattice ps lex buf ≠ .err k :=
  buildLattice_ne_err ps cfg lex buf hwf hlast k

/-- the loop alone, for ANY buffer (well formed or not): no `Err` with the fallback last -/
theorem position_loop_never_disconnects (ps : List Provider) (cfg : SimpleCfg) (lex : List Word) (buf : Buf)
    (hlast : ps.getLast? = some (.simple cfg)) (k : String) :
    buildFrom ps lex buf (List.range buf.chars.length) [] ≠ .err k :=
  buildFrom_no_disconnect ps cfg lex buf hlast _ [] k

/-- **Full statement over the finished lattice**, for every provider list (fallback or not): whenever
`build_lattice` succeeds, (1) every node is non-empty, ends inside the text and begins at a position with a
previous node (`has_previous_node`: position 0 or the end of a node), (2) every position before the end of the
text that has a previous node has at least one candidate, (3) the end of the text has a previous node. -/
theorem every_reachable_position_has_candidate (ps : List Provider) (lex : List Word) (buf : Buf) (hwf : buf.WF)
    (nodes : List Node) (h : buildLattice ps lex buf = .ok nodes) :
    (∀ x ∈ nodes, x.b < x.e ∧ x.e ≤ buf.chars.length ∧ reachable nodes x.b = true) ∧
    (∀ p, p < buf.chars.length → reachable nodes p = true → ∃ x ∈ nodes, x.b = p) ∧
    reachable nodes buf.chars.length = true := by
  obtain ⟨hb, hr⟩ := buildLattice_ok h
  obtain ⟨h1, h2, _⟩ := buildFrom_latInv hwf hb
  exact ⟨fun x hx => (h1 x hx).2, h2, hr⟩

/-- non-vacuity: the D11 witness buffer is well formed, MeCab + Simple build its lattice -/
example : (⟨[128077, 127995, 28450], [1, 2147483647, 4], [2, 1, 1], [true, false, true]⟩ : Buf).WF :=
  ⟨rfl, rfl, rfl, by
    intro i c h
    match i, h with
    | 0, h => cases h; decide
    | 1, h => cases h; decide
    | 2, h => cases h; decide
    | n + 3, h => simp at h⟩

example : buildLattice [Provider.mecab ⟨[], [], false⟩, Provider.simple ⟨0, 0, 0, 3⟩] []
    ⟨[128077, 127995, 28450], [1, 2147483647, 4], [2, 1, 1], [true, false, true]⟩
      = .ok [⟨0, 2, 0, 0, 0, true, 3⟩, ⟨2, 3, 0, 0, 0, true, 3⟩] := by decide +kernel

/-! ## clause "providers skipped at no-word-start characters; last provider re-invoked if nothing exists":
WHICH positions call the providers, in which order, with what -/

/-- The recorded builder (its `provide_oov` calls are what the harness observes on the real `build_lattice` through wrapped
providers; the driver prints those of `buildLatticeP`, the same on success: `failing_run_trace_is_builder`) is the builder
of the theorems: forgetting the calls gives
`stepAt` / `buildLattice`. -/
theorem recorded_builder_is_builder (ps : List Provider) (lex : List Word) (buf : Buf) :
    (∀ o, (stepAtT ps lex buf o).mapO (·.nodes) = stepAt ps lex buf o) ∧
    (buildLatticeT ps lex buf).mapO Prod.fst = buildLattice ps lex buf :=
  ⟨stepAtT_nodes ps lex buf, buildLatticeT_nodes ps lex buf⟩

/-- **Full statement**: what a successful step at position `o` inserts.  The decision whether the provider list is
run is taken on the CLASS of the character at `o` (`asksProviders cat` = `cat ∩ {NOOOVBOW, NOOOVBOW2} = ∅`) — not
on `can_bow(o)`.
* class allows: dictionary words, then the outputs of the provider list in order (`provider_stack_order` says with
  which arguments); no extra call is made and something was produced;
* class forbids and a dictionary word exists: exactly the dictionary words, no provider is called;
* class forbids and no dictionary word: exactly what the LAST provider returns for an empty mask and an empty buffer
  (non-empty, otherwise the step fails) — whichever provider that is. -/
theorem position_candidates_spec (ps : List Provider) (lex : List Word) (buf : Buf) (o : Nat) (t : PosTrace)
    (h : stepAtT ps lex buf o = .ok t) :
    ∃ cat, buf.cats[o]? = some cat ∧ t.asked = asksProviders cat ∧ t.lexN = lexNodes lex buf o ∧ t.nodes ≠ [] ∧
      (asksProviders cat = true →
        (∃ st', provideAllT ps 0 buf o (addAll 0 t.lexN, t.lexN) = .ok (st', t.calls)) ∧
        t.fb = none ∧ t.nodes = t.lexN ++ outsOf t.calls) ∧
      (asksProviders cat = false → t.lexN ≠ [] → t.calls = [] ∧ t.fb = none ∧ t.nodes = t.lexN) ∧
      (asksProviders cat = false → t.lexN = [] → t.calls = [] ∧
        ∃ p c, ps.getLast? = some p ∧ t.fb = some c ∧ c.idx = ps.length - 1 ∧ c.offset = o ∧ c.created = 0 ∧ c.pre = 0 ∧
          provide p buf o 0 [] = .ok t.nodes ∧ c.out = t.nodes) := by
  obtain ⟨cs, hd⟩ := stepAtT_ok h
  cases hd with
  | @found cat _ _ hc hloop hne =>
    obtain ⟨rfl, hasked, hnot⟩ := stepLoop_ok hloop
    exact ⟨cat, hc, rfl, rfl, hne, fun ha => ⟨⟨_, hasked ha⟩, rfl, rfl⟩,
      fun ha _ => ⟨hnot ha, rfl, by rw [hnot ha]; exact List.append_nil _⟩,
      fun ha hl => absurd (by rw [hnot ha]; exact (List.append_nil _).trans hl) hne⟩
  | @extra cat calls p out hc hloop hl hp hout =>
    have hnot := (stepLoop_ok hloop).2.2
    obtain ⟨hlex, _⟩ := List.append_eq_nil_iff.mp (congrArg Prod.snd (stepLoop_ok hloop).1).symm
    exact ⟨cat, hc, rfl, rfl, hout,
      fun ha => absurd (fallback_redundant_when_asked ps lex buf o _ h ha).1 nofun,
      fun _ hne => absurd hlex hne,
      fun ha _ => ⟨hnot ha, p, _, hl, rfl, rfl, rfl, rfl, rfl, hp, rfl⟩⟩

/-- **Full statement over the provider list** (order of the providers): when the provider list is run at a position
with dictionary words `lexN`, every configured provider is called exactly once, in the configured order; the call of
a provider sees as `other_words` the mask of the lengths of the dictionary words and of everything the EARLIER
providers pushed, and as `result` exactly those nodes; the final mask/buffer are those of all nodes together. -/
theorem provider_stack_order (ps : List Provider) (buf : Buf) (o : Nat) (lexN : List Node) (st' : Nat × List Node)
    (calls : List Call) (h : provideAllT ps 0 buf o (addAll 0 lexN, lexN) = .ok (st', calls)) :
    calls.map (·.idx) = List.range ps.length ∧
    st' = (addAll 0 (lexN ++ outsOf calls), lexN ++ outsOf calls) ∧
    ∀ before c after, calls = before ++ c :: after →
      c.idx = before.length ∧ c.offset = o ∧
      c.created = addAll 0 (lexN ++ outsOf before) ∧ c.pre = (lexN ++ outsOf before).length ∧
      ∃ p, ps[c.idx]? = some p ∧ provide p buf o (addAll 0 (lexN ++ outsOf before)) (lexN ++ outsOf before) = .ok c.out := by
  obtain ⟨_, hst, hsplit⟩ := provideAllT_spec h
  refine ⟨by rw [provideAllT_idx h, List.range_eq_range'], hst, fun before c after hc => ?_⟩
  obtain ⟨p, hp, hidx, hoff, hcr, hpre, hprov⟩ := hsplit before c after hc
  rw [Nat.zero_add] at hidx
  exact ⟨hidx, hoff, hcr, hpre, p, hidx ▸ hp, hprov⟩

/-- **Full statement** ("invoked because no candidate exists yet at that position", across providers): for the call `c`
of a provider in the list, with `prior` = the dictionary words and everything earlier providers pushed,
* Simple: returns nothing if `prior` is non-empty; if `prior` is empty, exactly one node reaching to the next
  permissible word start;
* MeCab: exactly the nodes prescribed for the classes of the character, where a class that is not "always invoked"
  contributes only if `prior` is empty (`MecabSpec` with `prior.length` in the place of the mask);
* Regex: never a node that ends where a node of `prior` ends. -/
theorem invoke_only_when_nothing_created (ps : List Provider) (buf : Buf) (o : Nat) (lexN : List Node) (st' : Nat × List Node)
    (calls before after : List Call) (c : Call) (h : provideAllT ps 0 buf o (addAll 0 lexN, lexN) = .ok (st', calls))
    (hc : calls = before ++ c :: after) :
    (∀ cfg, ps[c.idx]? = some (.simple cfg) →
      (lexN ++ outsOf before ≠ [] → c.out = []) ∧
      (lexN ++ outsOf before = [] → o < buf.bow.length →
        ∃ k, NextStart buf.bow o k ∧ c.out = [⟨o, o + k, cfg.l, cfg.r, cfg.c, true, cfg.pos⟩])) ∧
    (∀ cfg, ps[c.idx]? = some (.mecab cfg) →
      ∃ charLen cat, buf.cont[o]? = some charLen ∧ buf.cats[o]? = some cat ∧
        ∀ x, x ∈ c.out ↔ (charLen ≠ 0 ∧ ∃ ct ∈ flagsIter cat,
          MecabSpec cfg buf.chars.length o charLen (lexN ++ outsOf before).length ct x)) ∧
    (∀ cfg, ps[c.idx]? = some (.regex cfg) → (∀ x ∈ lexN ++ outsOf before, x.b = o ∧ x.b < x.e) →
      ∀ y ∈ c.out, ∀ x ∈ lexN ++ outsOf before, x.e ≠ y.e) := by
  obtain ⟨_, _, hsplit⟩ := provider_stack_order ps buf o lexN st' calls h
  obtain ⟨_, _, _, _, p, hp, hprov⟩ := hsplit before c after hc
  have hz : addAll 0 (lexN ++ outsOf before) = 0 ↔ (lexN ++ outsOf before).length = 0 := by
    rw [addAll_zero_iff]; exact List.length_eq_zero_iff.symm
  refine ⟨?_, ?_, ?_⟩
  · intro cfg hcfg
    rw [hcfg] at hp; cases hp
    constructor
    · intro hne
      have : addAll 0 (lexN ++ outsOf before) ≠ 0 := fun h0 => hne ((addAll_zero_iff _).mp h0)
      have h1 : simpleProvide cfg buf o (addAll 0 (lexN ++ outsOf before)) = .ok [] := by simp [simpleProvide, this]
      simp only [provide] at hprov
      rw [h1] at hprov; exact (Outcome.ok.inj hprov).symm
    · intro hnil ho
      obtain ⟨k, hk, hs⟩ := (simpleProvide_spec cfg buf o 0 ho).2 rfl
      rw [hnil] at hprov
      simp only [provide, addAll, List.foldl_nil] at hprov
      rw [hs] at hprov
      exact ⟨k, hk, (Outcome.ok.inj hprov).symm⟩
  · intro cfg hcfg
    rw [hcfg] at hp; cases hp
    simp only [provide] at hprov
    obtain ⟨charLen, cat, h1, h2, h3⟩ := mecabProvide_spec cfg buf o _ c.out hprov
    exact ⟨charLen, cat, h1, h2, fun x => (h3 x).trans (and_congr_right fun _ => exists_congr fun ct =>
      and_congr_right fun _ => MecabSpec_created_congr cfg _ o charLen _ _ ct x hz)⟩
  · intro cfg hcfg hb
    rw [hcfg] at hp; cases hp
    simp only [provide] at hprov
    exact regexProvide_no_duplicate cfg buf o _ c.out hb hprov

/-- **The extra call of the last provider matters only where the loop was skipped**: at a position whose character's
class lets the provider list run, a successful step never contains the extra call (it would repeat a call that has
just returned nothing, and the step would fail). -/
theorem fallback_call_only_when_loop_skipped (ps : List Provider) (lex : List Word) (buf : Buf) (o : Nat) (t : PosTrace)
    (h : stepAtT ps lex buf o = .ok t) (hfb : t.fb ≠ none) : t.asked = false ∧ t.calls = [] ∧ t.lexN = [] := by
  obtain ⟨cat, _, hasked, _, _, h1, h2, h3⟩ := position_candidates_spec ps lex buf o t h
  cases ha : asksProviders cat with
  | true => exact absurd (h1 ha).2.1 hfb
  | false =>
    by_cases hl : t.lexN = []
    · exact ⟨by rw [hasked, ha], (h3 ha hl).1, hl⟩
    · exact absurd (h2 ha hl).2.1 hfb

/-! ## "positions that may not start a word are never reached" — what is true and what is not -/

/-- **True without class-driven providers**: when only dictionary words and the fallback (Simple) provider make
candidates, every node ends at the end of the text or at a character that may start a word — so a position where
`can_bow` is false never has a previous node (dictionary words are filtered by `can_bow(e.end)`, the fallback
reaches to the next permissible word start). -/
theorem only_word_starts_reached_by_words_and_fallback (ps : List Provider) (lex : List Word) (buf : Buf) (hwf : buf.WF)
    (hall : ∀ p ∈ ps, ∃ cfg, p = Provider.simple cfg) (nodes : List Node) (h : buildLattice ps lex buf = .ok nodes) :
    ∀ x ∈ nodes, x.e = buf.chars.length ∨ buf.bow[x.e]? = some true := by
  refine buildFrom_forall _ ps lex buf _ nodes (fun p new hs => ?_) (buildLattice_ok h).1
  have hp : p < buf.chars.length := by rw [← hwf.cats_len]; exact stepAt_index ps lex buf p new hs
  refine stepAt_forall _ ps lex buf p new (fun x hx => (lexNodes_spec hx).2 hwf.bow_len) ?_ hs
  intro q hq c ex out hprov x hx
  obtain ⟨cfg, rfl⟩ := hall q hq
  exact (simpleProvide_ok cfg buf p c out hwf.bow_len hp hprov x hx).2

/-- **False as soon as a class-driven provider is configured** — and the provider list IS run at such a position,
because the builder tests the class of the character, not `can_bow`.  Witness with the behaviour lines of the shipped
char.def (`ALPHA 1 1 0`, `GREEK 1 1 0`), text `a` U+200D `Ω` (ALPHA, ALL|NOOOVBOW2, GREEK): the grouped ALPHA candidate
covers `a` + joiner (class ALL keeps ALPHA in common), so position 2 has a previous node although `can_bow` is false
there (it follows a NOOOVBOW2 character); its class is GREEK, the providers are asked, MeCab answers: an OOV word begins
right after the joiner.  (Had the builder tested `can_bow`, the loop would have been skipped and the fallback node
`Ω` inserted instead — the mutation the harness is required to catch.) -/
theorem providers_asked_where_can_bow_is_false_counterexample :
    let buf : Buf := ⟨[97, 8205, 937], [32, 3221225471, 512], [2, 1, 1], [true, false, false]⟩
    let mecab : MecabCfg := ⟨[(32, ⟨32, true, true, 0⟩), (512, ⟨512, true, true, 0⟩)], [(32, [⟨1, 1, 100, 0⟩]), (512, [⟨2, 2, 200, 1⟩])], false⟩
    let ps := [Provider.mecab mecab, Provider.simple ⟨5, 5, 7000, 3⟩]
    bowTableFix buf.cats = buf.bow ∧ bowTable buf.cats = buf.bow ∧
    buf.bow[2]? = some false ∧
    stepAtT ps [] buf 2 = .ok ⟨2, true, [],
      [⟨0, 2, 0, 0, [⟨2, 3, 2, 2, 200, true, 1⟩]⟩, ⟨1, 2, 1, 1, []⟩], none, [⟨2, 3, 2, 2, 200, true, 1⟩]⟩ ∧
    buildLattice ps [] buf = .ok [⟨0, 2, 1, 1, 100, true, 0⟩, ⟨2, 3, 2, 2, 200, true, 1⟩] ∧
    ¬ (∀ x ∈ [(⟨0, 2, 1, 1, 100, true, 0⟩ : Node), ⟨2, 3, 2, 2, 200, true, 1⟩], x.e = 3 ∨ buf.bow[x.e]? = some true) := by
  decide +kernel

/-- the run table of the witness is the one the (forward) run computation gives -/
example : fillCatContinuityForward [32, 3221225471, 512] = [2, 1, 1] := by
  simp [fillCatContinuityForward, scan, countdown]

/-- the same for a letter that continues a word (`can_bow` false inside an ALPHA stretch): with one-character ALPHA
candidates (`ALPHA 1 0 1`) position 1 of `ab` is reached and the providers are asked there; and at a NOOOVBOW2
character that is reached (`a` U+200D with `ALPHA 1 0 1`) the loop is skipped and the LAST provider is called once with
an empty mask — here the fallback, which reaches to the end of the text. -/
theorem letter_continuation_and_joiner_example :
    let mecab : MecabCfg := ⟨[(32, ⟨32, true, false, 1⟩)], [(32, [⟨1, 1, 100, 0⟩])], false⟩
    let ps := [Provider.mecab mecab, Provider.simple ⟨5, 5, 7000, 3⟩]
    stepAtT ps [] ⟨[97, 98], [32, 32], [2, 1], [true, false]⟩ 1 =
      .ok ⟨1, true, [], [⟨0, 1, 0, 0, [⟨1, 2, 1, 1, 100, true, 0⟩]⟩, ⟨1, 1, 1, 1, []⟩], none, [⟨1, 2, 1, 1, 100, true, 0⟩]⟩ ∧
    stepAtT ps [] ⟨[97, 8205], [32, 3221225471], [2, 1], [true, false]⟩ 1 =
      .ok ⟨1, false, [], [], some ⟨1, 1, 0, 0, [⟨1, 2, 5, 5, 7000, true, 3⟩]⟩, [⟨1, 2, 5, 5, 7000, true, 3⟩]⟩ := by
  decide +kernel

/-! ## "for each class of the character": which classes `CategoryType::iter` visits -/

/-- **Full statement for the named single classes**: the iteration over the classes of a character
(`flagsIter`, the transcription of bitflags 2.5 `Flags::iter`, whose elements are the `ct` of `mecab_candidates_spec`)
visits DEFAULT … USER4 (bits 0–14), NOOOVBOW (bit 30) and NOOOVBOW2 (bit 31) exactly when the character has that
class — for every class set.  (Order of the visit, the composite key `ALL` and the left-over value: `class_iteration_order`
below.) -/
theorem class_iteration_visits_named_classes (cat i : Nat) (hi : i < 15 ∨ i = 30 ∨ i = 31) :
    2 ^ i ∈ flagsIter cat ↔ cat.testBit i = true :=
  flagsIter_named_bit cat i hi

/-- non-vacuity: KANJI|HIRAGANA visits KANJI (bit 2) and HIRAGANA (bit 6) in declaration order; a class-ALL
NOOOVBOW2 character (the joiner) visits the fifteen classes, NOOOVBOW2 and then `ALL` -/
example : flagsIter 68 = [4, 64] ∧
    flagsIter 3221225471 = [1, 2, 4, 8, 16, 32, 64, 128, 256, 512, 1024, 2048, 4096, 8192, 16384, 2147483648, 1073741823] := by
  decide +kernel

/-! ## the MeCab provider further: the class iteration completely, the per-class length limit, the end of the text; then the
readers and failing runs -/

/-- **`CategoryType::iter` in closed form — order, composite key, left-over value**.
For every 32-bit class set the iteration yields: the named single classes the set contains in ASCENDING BIT INDEX
(DEFAULT = bit 0 … USER4 = bit 14, NOOOVBOW = 30, NOOOVBOW2 = 31); then the composite key `ALL` iff the set contains all
thirty bits of `ALL`; and if it does not, the bits 15..29 that are set — they belong to no named single class and can
only come from a hex literal in char.def — as ONE final value.  This is the list of `ct` the MeCab provider visits, in
the order it visits them (`mecab_candidates_in_class_order`). -/
theorem class_iteration_order (cat : Nat) (h32 : cat < 2 ^ 32) :
    flagsIter cat =
      ((List.range 32).filter (fun i => cat.testBit i && (i < 15 || i == 30 || i == 31))).map (2 ^ ·) ++
      (if cat &&& ALL = ALL then [ALL] else if cat &&& unnamedMask = 0 then [] else [cat &&& unnamedMask]) := by
  rw [flagsIter_eq cat h32, namedBits_ascending, List.filter_filter]

/-- non-vacuity: a two-class set, a class-ALL mark, a set with an unnamed bit (KANJI|0x8000), only unnamed bits -/
example : (68 : Nat) < 2 ^ 32 ∧ flagsIter 68 = [4, 64] ∧ flagsIter (4 ||| 32768) = [4, 32768] ∧ flagsIter 98304 = [98304] ∧
    flagsIter 2147483647 = [1, 2, 4, 8, 16, 32, 64, 128, 256, 512, 1024, 2048, 4096, 8192, 16384, 1073741824, 1073741823] := by
  decide +kernel

/-- **The candidates come class by class, in that order**: inside the text the MeCab provider returns exactly the
concatenation, over the classes of the character in iteration order, of the candidates of each class. -/
theorem mecab_candidates_in_class_order (cfg : MecabCfg) (buf : Buf) (o created charLen cat : Nat)
    (h1 : buf.cont[o]? = some charLen) (h2 : buf.cats[o]? = some cat) (h0 : charLen ≠ 0) :
    mecabProvide cfg buf o created = .ok ((flagsIter cat).flatMap (mecabClass cfg buf.chars.length o charLen created)) := by
  rw [mecabProvide_eq cfg buf o created charLen cat h1 h2, if_neg h0]

/-- **Classes without a behaviour line: no candidates, no panic** (`None => continue`).  (1) Inside the text the provider
always answers `Ok` — for every class set, named or not; (2) a visited class without a `CLASS i g n` line contributes
nothing — in particular the left-over value of `class_iteration_order`, for which no line can be written by name;
(3) if no visited class has a line the answer is `Ok` without nodes. -/
theorem classes_without_behaviour_line (cfg : MecabCfg) (buf : Buf) (o created : Nat) :
    (o < buf.cont.length → o < buf.cats.length → ∃ nodes, mecabProvide cfg buf o created = .ok nodes) ∧
    (∀ n cl ct, findKey ct cfg.cats = none → mecabClass cfg n o cl created ct = []) ∧
    (∀ charLen cat, buf.cont[o]? = some charLen → buf.cats[o]? = some cat →
      (∀ ct ∈ flagsIter cat, findKey ct cfg.cats = none) → mecabProvide cfg buf o created = .ok []) :=
  ⟨fun h1 h2 => mecabProvide_total cfg buf o created h1 h2,
   fun n cl ct h => mecabClass_no_line cfg n o cl created ct h,
   fun charLen cat h1 h2 hno => mecabProvide_no_lines cfg buf o created charLen cat h1 h2 hno⟩

/-- non-vacuity: KANJI|0x8000 with a line for HIRAGANA only — the provider is asked inside the text and returns nothing -/
example : mecabProvide ⟨[(64, ⟨64, true, true, 2⟩)], [(64, [⟨1, 1, 5, 0⟩])], false⟩ ⟨[28450], [32772], [1], [true]⟩ 0 0 = .ok [] ∧
    (∀ ct ∈ flagsIter 32772, findKey ct [(64, (⟨64, true, true, 2⟩ : CatInfo))] = none) := by decide +kernel

/-- **The 1..n length limit is per class** (seeded change C13c moves it out of the per-class loop).
(a) The candidates of a class are a function of that class's OWN behaviour line and unknown-word lines: two
configurations that agree on them give the same candidates for the class, whatever they say about the other classes of
the character (GROUP of a lower-bit class included).  (b) A class that does NOT group and is invoked gets, for every
unknown-word line, the candidate spanning the whole run when LENGTH ≥ run and the run stays inside the text.  (c) A class
that groups gets the run-length candidate once (the grouped one); its 1..n candidates are strictly shorter. -/
theorem mecab_length_limit_is_per_class (cfg : MecabCfg) (n o cl created ct : Nat) :
    (∀ cfg' : MecabCfg, findKey ct cfg.cats = findKey ct cfg'.cats →
      (∀ ci, findKey ct cfg.cats = some ci → findKey ci.ctype cfg.oovs = findKey ci.ctype cfg'.oovs) →
      cfg.stopAtEnd = cfg'.stopAtEnd →
      mecabClass cfg n o cl created ct = mecabClass cfg' n o cl created ct) ∧
    (∀ ci oovs d, findKey ct cfg.cats = some ci → (ci.invoke = true ∨ created = 0) → ci.group = false →
      findKey ci.ctype cfg.oovs = some oovs → d ∈ oovs → 1 ≤ cl → cl ≤ ci.length → o + cl ≤ n →
      mkNode o (o + cl) d ∈ mecabClass cfg n o cl created ct) ∧
    (∀ ci x, findKey ct cfg.cats = some ci → ci.group = true → 1 ≤ cl → x ∈ mecabClass cfg n o cl created ct →
      x.b = o ∧ (x.e = o + cl ∨ x.e < o + cl)) :=
  ⟨fun cfg' h1 h2 h3 => mecabClass_congr cfg cfg' n o cl created ct h1 h2 h3,
   fun ci oovs d h1 h2 h3 h4 h5 h6 h7 h8 => mem_mecabClass_full_run cfg n o cl created ct ci oovs d h1 h2 h3 h4 h5 h6 h7 h8,
   fun ci x h1 h2 h3 h4 => mecabClass_grouped_lengths cfg n o cl created ct ci x h1 h2 h3 h4⟩

/-- the witness of the seeded change, kernel-checked: `HIRAGANA 0 1 2`, `KATAKANA 1 0 2`, U+30FC = HIRAGANA|KATAKANA, text
`ーー京`.  At offset 0 (run 2) the four prescribed candidates — HIRAGANA grouped `[0,2)` and `[0,1)` (its budget is run-1),
KATAKANA `[0,1)` AND `[0,2)` (its own budget is the run) —, at offset 1 (run 1) HIRAGANA grouped and KATAKANA `[1,2)`. -/
theorem mecab_mixed_group_example :
    let cfg : MecabCfg := ⟨[(64, ⟨64, false, true, 2⟩), (128, ⟨128, true, false, 2⟩), (4, ⟨4, false, false, 1⟩)],
      [(64, [⟨1, 1, 20000, 0⟩]), (128, [⟨2, 3, 100, 5⟩]), (4, [⟨4, 4, 300, 0⟩])], false⟩
    let buf : Buf := ⟨[12540, 12540, 20140], [192, 192, 4], [2, 1, 1], [true, true, true]⟩
    mecabProvide cfg buf 0 0 = .ok [⟨0, 2, 1, 1, 20000, true, 0⟩, ⟨0, 1, 1, 1, 20000, true, 0⟩,
                                    ⟨0, 1, 2, 3, 100, true, 5⟩, ⟨0, 2, 2, 3, 100, true, 5⟩] ∧
    mecabProvide cfg buf 1 0 = .ok [⟨1, 2, 1, 1, 20000, true, 0⟩, ⟨1, 2, 2, 3, 100, true, 5⟩] ∧
    fillCatContinuityForward buf.cats = buf.cont := by
  refine ⟨by decide +kernel, by decide +kernel, ?_⟩
  simp [fillCatContinuityForward, scan, countdown]

/-! ### the end of the text: candidates pushed more than once (finding) and the repair -/

/-- **Finding (pinned code)**: at the end of the text `char_distance` saturates, so `for i in 1..=LENGTH` keeps meeting the
test `sublength > llength` with the SAME `sublength` and pushes the last candidate again for every further `i`.  Witness
with the shipped line `KANJI 0 0 2` on a text that ends in a kanji (here the text `京`): the one-character candidate is
returned twice (with LENGTH = n, n times; with a large LENGTH the call does not return in reasonable time).  The repaired
loop (`stopAtEnd`, test `sublength > llength || sublength < i`) returns it once. -/
theorem mecab_text_end_duplicates_counterexample :
    mecabProvide ⟨[(4, ⟨4, false, false, 2⟩)], [(4, [⟨2, 2, 14657, 0⟩])], false⟩ ⟨[20140], [4], [1], [true]⟩ 0 0 =
      .ok [⟨0, 1, 2, 2, 14657, true, 0⟩, ⟨0, 1, 2, 2, 14657, true, 0⟩] ∧
    mecabProvide ⟨[(4, ⟨4, false, false, 2⟩)], [(4, [⟨2, 2, 14657, 0⟩])], true⟩ ⟨[20140], [4], [1], [true]⟩ 0 0 =
      .ok [⟨0, 1, 2, 2, 14657, true, 0⟩] := by
  decide +kernel

/-- **Full statement for the repaired loop**: the candidates of 1..n characters are, for every text, offset, budget and
LENGTH, exactly one candidate per unknown-word line for each length `i = 1 … min(LENGTH, budget, characters left)`, in
increasing order — "candidates of 1..n characters within the run", each once.  (The SET of candidates is the same for
both variants: `mecab_candidates_spec`, whose side condition for the repaired loop only excludes lengths the text does
not have, i.e. candidates that repeat a shorter one.) -/
theorem mecab_fix_each_length_once (oovs : List OovDef) (o n budget length : Nat) :
    lenLoop true oovs o n budget length 1 =
      (List.range' 1 (min length (min budget (n - o)))).flatMap (fun i => oovs.map (mkNode o (o + i))) := by
  have := lenLoop_stop_eq oovs o n budget length 1 (Nat.le_refl 1)
  simpa using this

/-! ### the definition-file readers -/

/-- **`read_character_property` is total and equals the declarative description of char.def's behaviour lines.**
Every line is, on its own (`classifyProp`): skipped (blank, `#…`, a `0x…` range line), malformed (fewer than four
white-space separated columns, a class expression that is not names / hex literals joined by `|`, a LENGTH that is not
a `u32`), or one entry `CLASS INVOKE GROUP LENGTH` (flags set iff the column is exactly `1`, further columns ignored).
The reader returns a table **iff** no line is malformed and no class key is defined twice, and the table is then exactly
the entries in file order; otherwise it returns `Err` (nothing else can happen: the function is total).  `ws` is what
`str::trim` / `split_whitespace` treat as white space: the statement holds for every such predicate; the driver runs the
reader on the DECODED file (`linesU`: a line that is not UTF-8 is `Err`) with Unicode `White_Space` (`isWsU`). -/
theorem read_character_property_spec (ws : Char → Bool) (lines : List (List Char)) (T : List (Nat × CatInfo)) :
    readCharPropW ws lines [] = some T ↔
      (∀ l ∈ lines, classifyProp ws l ≠ .bad) ∧ T = lines.filterMap (entryOfProp ws) ∧ (T.map (·.1)).Nodup := by
  have := readCharPropW_iff ws lines [] T (by simp)
  simpa using this

/-- **`read_oov` is total and equals the declarative description of unk.def.**  Every line is, on its own
(`classifyUnk`): skipped (blank, `#…`), malformed, or one entry `CLASS,LEFT,RIGHT,COST,POS×6[,…]`.  (1) The reader returns
a table iff no line is malformed, and then the table is the entries pushed in file order; (2) in that table the class keys
are pairwise different and every key holds the definitions of exactly the lines of that key, in file order (a key without
line is absent) — the `oovs` of `mecab_candidates_spec`; (3) an accepted line names a class that has a behaviour line, a
part of speech of the dictionary, and connection ids inside the matrix (strictly inside after the repair of D15b). -/
theorem read_oov_spec (ws : Char → Bool) (ge : Bool) (cats : List (Nat × CatInfo)) (pos : List (List (List Char))) (nl nr : Nat)
    (lines : List (List Char)) (T : List (Nat × List OovDef)) :
    (readOov ws ge cats pos nl nr lines [] = some T ↔
      (∀ l ∈ lines, classifyUnk ws ge cats pos nl nr l ≠ .bad) ∧
      T = pushAll (lines.filterMap (entryOfUnk ws ge cats pos nl nr)) []) ∧
    (readOov ws ge cats pos nl nr lines [] = some T →
      (T.map (·.1)).Nodup ∧
      ∀ k, findKey k T =
        (if (lines.filterMap (entryOfUnk ws ge cats pos nl nr)).filter (fun e => e.1 == k) = [] then none
         else some (((lines.filterMap (entryOfUnk ws ge cats pos nl nr)).filter (fun e => e.1 == k)).map (·.2)))) ∧
    (∀ l k d, classifyUnk ws ge cats pos nl nr l = .entry k d →
      (findKey k cats).isSome = true ∧ d.l ≤ nl ∧ d.r ≤ nr ∧ (ge = true → d.l < nl ∧ d.r < nr) ∧ d.pos < pos.length) := by
  refine ⟨readOov_iff ws ge cats pos nl nr lines [] T, ?_, fun l => (classifyUnk_cases ws ge cats pos nl nr l).2⟩
  intro h
  obtain ⟨_, hT⟩ := (readOov_iff ws ge cats pos nl nr lines [] T).mp h
  subst hT
  refine ⟨nodup_keys_pushAll _ [] (by simp), fun k => ?_⟩
  rw [findKey_pushAll]
  simp [findKey]

/-- the column splitters of the two readers: `split_whitespace` yields non-empty white-space-free columns whose
concatenation is the line without its white space; `split(',')` yields at least one piece, no piece contains a comma, and
the pieces joined by commas are the line -/
theorem definition_columns_spec (ws : Char → Bool) (line : List Char) :
    ((∀ w ∈ wordsW ws line, w ≠ [] ∧ ∀ c ∈ w, ws c = false) ∧
      (wordsW ws line).flatten = line.filter (fun c => !ws c)) ∧
    (Wire.splitOn ',' line ≠ [] ∧ (∀ w ∈ Wire.splitOn ',' line, ',' ∉ w) ∧ joinSep ',' (Wire.splitOn ',' line) = line) :=
  ⟨words_spec ws line, splitOn_spec ',' line⟩

/-- non-vacuity of the reader specifications on concrete files, decoded as the driver does and read with Unicode white
space: a behaviour line with a hex-literal key, `+` sign, tab, U+3000 as a column separator, a comment and a range line;
a duplicate key is rejected; an unk.def with two lines of one class, CRLF, a hex key and an id equal to the matrix size
(accepted by the pinned `>`, rejected by the repaired `>=`); a line that is not UTF-8 makes the file unreadable -/
example :
    readCharPropW isWsU (lines "KANJI|0x4\t1 x +2 # c\n0x41 ALPHA\n\n  # c\nALL\u3000 0 1 0".toList) [] =
      some [(4, ⟨4, true, false, 2⟩), (1073741823, ⟨1073741823, false, true, 0⟩)] ∧
    readCharPropW isWsU (lines "KANJI 1 0 2\nKANJI|KANJI 0 0 0\n".toList) [] = none ∧
    readCharPropW isWsU (lines "KANJI 1 0 4294967296\n".toList) [] = none ∧
    readCharPropW Wire.isWs (lines "ALL\u3000 0 1 0".toList) [] = none := by
  -- puts the character lists in the place of the literals, which the kernel would otherwise decode byte by byte
  repeat rw [String.toList_ofList]
  decide +kernel

example :
    let cats : List (Nat × CatInfo) := [(4, ⟨4, true, false, 2⟩), (32, ⟨32, true, true, 0⟩)]
    let pos := [["N".toList, "a".toList, "*".toList, "*".toList, "*".toList, "*".toList]]
    readOov isWsU true cats pos 3 3 (lines "KANJI,1,2,-5,N,a,*,*,*,*\r\nALPHA,0,0,7,N,a,*,*,*,*,extra\n 0x4 ,+2,0,0,N,a,*,*,*,*\n".toList) [] =
      some [(4, [⟨1, 2, -5, 0⟩, ⟨2, 0, 0, 0⟩]), (32, [⟨0, 0, 7, 0⟩])] ∧
    readOov isWsU true cats pos 3 3 (lines "KANJI,3,0,0,N,a,*,*,*,*\n".toList) [] = none ∧
    (readOov isWsU false cats pos 3 3 (lines "KANJI,3,0,0,N,a,*,*,*,*\n".toList) []).isSome = true ∧
    linesU (bytesToChars [35, 32, 255, 10]) = none ∧ linesU (bytesToChars [35, 237, 160, 128]) = none ∧
    linesU (bytesToChars [35, 192, 128]) = none ∧ linesU (bytesToChars [35, 227, 129]) = none ∧
    linesU (bytesToChars [227, 128, 128, 13, 10, 240, 159, 145, 141]) = some [[Char.ofNat 12288], [Char.ofNat 128077]] := by
  repeat rw [String.toList_ofList]
  decide +kernel

/-! ### runs that fail: the calls made before the failure are part of the answer -/

/-- **The builder whose answer includes the calls of a failing run is the builder of the theorems**: its outcome is
`buildLattice`'s for every input, and on success its calls are exactly those of the recorded builder `buildLatticeT`
(`recorded_builder_is_builder`).  The driver prints `buildLatticeP`. -/
theorem failing_run_trace_is_builder (ps : List Provider) (lex : List Word) (buf : Buf) :
    (buildLatticeP ps lex buf).2 = buildLattice ps lex buf ∧
    ∀ nodes tr, buildLatticeT ps lex buf = .ok (nodes, tr) → buildLatticeP ps lex buf = (allCalls tr, .ok nodes) :=
  ⟨buildLatticeP_outcome ps lex buf, fun nodes tr h => buildLatticeP_calls ps lex buf nodes tr h⟩

/-- **Full statement: what the trace of a failing run is.**  For a well-formed buffer `build_lattice` can only fail with
`EosBosDisconnect`; it fails inside the position loop, never in `connect_eos`, at a position `p` inside the text that has
no dictionary word; the calls reported are those of the earlier positions followed by the calls at `p`: the complete
provider list in configured order iff the class of the character let it run, each provider with an empty mask and an
empty buffer and without result, and finally the extra call of the last provider — again empty mask, empty buffer, no
result. -/
theorem failing_run_trace_spec (ps : List Provider) (lex : List Word) (buf : Buf) (hwf : buf.WF) (cs : List Call) (k : String)
    (h : buildLatticeP ps lex buf = (cs, .err k)) :
    k = "Disconnect" ∧
    ∃ p, p < buf.chars.length ∧ lexNodes lex buf p = [] ∧
      ∃ pre cat loop c, cs = pre ++ (loop ++ [c]) ∧ buf.cats[p]? = some cat ∧ c.idx = ps.length - 1 ∧
        loop.map (·.idx) = (if asksProviders cat then List.range ps.length else []) ∧
        ∀ x ∈ loop ++ [c], x.out = [] ∧ x.offset = p ∧ x.created = 0 ∧ x.pre = 0 := by
  obtain ⟨p, hp, pre, last, hcs, hstep⟩ := buildLatticeP_err ps lex buf hwf cs k h
  obtain ⟨cat, loop, c, _, s⟩ := stepAtP_err ps lex buf p last k hstep
  exact ⟨s.kind, p, hp, s.no_lex, pre, cat, loop, c, s.calls ▸ hcs, s.cat_eq, s.extra_idx, s.loop_idx, s.calls ▸ s.fruitless⟩

/-- non-vacuity of `hwf` for the buffer of the next example -/
example : (⟨[97, 12354, 28450], [32, 64, 4], [1, 1, 1], [true, true, true]⟩ : Buf).WF :=
  ⟨rfl, rfl, rfl, by
    intro i c h
    match i, h with
    | 0, h => cases h; decide
    | 1, h => cases h; decide
    | 2, h => cases h; decide
    | n + 3, h => simp at h⟩

/-- non-vacuity: MeCab as the only provider on `a` `あ` `漢` with lines for ALPHA and HIRAGANA only — the run fails at
position 2 after one fruitful call at 0, one at 1 and two fruitless calls at 2 -/
example :
    let cfg : MecabCfg := ⟨[(32, ⟨32, true, true, 0⟩), (64, ⟨64, false, false, 1⟩)], [(32, [⟨1, 1, 1, 0⟩]), (64, [⟨2, 2, 2, 0⟩])], false⟩
    let buf : Buf := ⟨[97, 12354, 28450], [32, 64, 4], [1, 1, 1], [true, true, true]⟩
    buildLatticeP [Provider.mecab cfg] [] buf =
      ([⟨0, 0, 0, 0, [⟨0, 1, 1, 1, 1, true, 0⟩]⟩, ⟨0, 1, 0, 0, [⟨1, 2, 2, 2, 2, true, 0⟩]⟩, ⟨0, 2, 0, 0, []⟩, ⟨0, 2, 0, 0, []⟩],
       .err "Disconnect") := by
  decide +kernel

/-! ## the fallback length on the byte tables of a LONG-LIVED buffer (`Model/OovTables.lean`)

The theorems above speak about one built buffer with one value per character (`Buf`).  The Rust object is recycled and its
word-start table has one entry per byte; `get_word_candidate_length` looks it up through `mod_c2b`. -/

/-- Clause "reaching to the next permissible word start", for `get_word_candidate_length` as written (loop over the following
CHARACTERS, `can_bow(mod_c2b[i])`), on ANY contents of the tables - in particular whatever the bytes inside multi-byte characters
hold: if the look-up is defined at every character of the text (`built_tables_lookups_defined` for built tables), the function
returns `k ≥ 1` inside the text such that no character strictly between may start a word and character `idx + k` may, or is the
end of the text. -/
theorem word_candidate_length_spec (t : Tables) (idx : Nat) (h : idx < t.chars.length)
    (hdef : ∀ j, j < t.chars.length → ∃ b, t.canBowChar j = some b) :
    ∃ k, t.wordCandidateLength idx = some k ∧ 1 ≤ k ∧ idx + k ≤ t.chars.length ∧
      (∀ j, idx < j → j < idx + k → t.canBowChar j = some false) ∧
      (idx + k = t.chars.length ∨ t.canBowChar (idx + k) = some true) :=
  Tables.wordCandidateLength_spec t idx h hdef

/-- non-vacuity, with STALE `true` bytes inside the characters (U+3091 U+30A1 U+3091: three bytes each, the small kana may not
start a word): the hypothesis holds and the answer is 2, the stale bytes are never read -/
example :
    let t : Tables := ⟨[12433, 12449, 12433], [0, 3, 6, 9], [0, 0, 0, 1, 1, 1, 2, 2, 2, 3],
      [true, true, true, false, true, true, true, true, true], [1, 1073741952, 1], [1, 1, 1]⟩
    (∀ j, j < t.chars.length → ∃ b, t.canBowChar j = some b) ∧ t.wordCandidateLength 0 = some 2 := by
  refine ⟨?_, by decide +kernel⟩
  intro j hj
  have : j = 0 ∨ j = 1 ∨ j = 2 := by simp at hj; omega
  rcases this with h | h | h <;> subst h <;> simp [Tables.canBowChar, Tables.canBow]

/-- The reset/build discipline (`reset`: every table `clear()`ed; `build`: `mod_bow.resize(len, false)` + one write per character
start, `mod_cat.push`, `mod_cat_continuity.resize(len, 1)` + every index written): one analysis on an object that holds ANY previous
table contents leaves exactly the tables a new object gets. -/
theorem build_ignores_previous_tables (v : Variant) (bowFix : Bool) (t : Tables) (chars cats : List Nat) :
    t.next v bowFix chars cats = Tables.empty.next v bowFix chars cats := rfl

/-- … and those tables are the per-character buffer of the theorems above spread over the bytes: `mod_cat`, `mod_cat_continuity` are
`buf.cats`, `buf.cont`; `mod_bow` is `buf.bow` at the character starts and `false` inside the characters (`bowBytes`, what the driver
prints as `bow=`). `build` does not panic (no write out of range). -/
theorem recycled_build_is_fresh_buffer (v : Variant) (bowFix : Bool) (tab : List (Nat × Nat)) (chars : List Nat) (buf : Buf)
    (hb : mkBufV v bowFix tab chars = some buf) (t : Tables) :
    t.next v bowFix chars buf.cats = some
      { chars := buf.chars, c2b := c2bFrom 0 chars, b2c := b2cFrom 0 chars ++ [(chars.length - 1) + 1],
        bow := bowBytes buf.chars buf.bow, cat := buf.cats, cont := buf.cont } := by
  unfold mkBufV at hb
  cases hc : Wire.allSome (chars.map (CharCat.lookup tab)) with
  | none => simp [hc] at hb
  | some cats =>
    simp only [hc, Option.some.injEq] at hb
    subst hb
    have hl : cats.length = chars.length := by have := Wire.allSome_length _ _ hc; simpa using this
    exact Tables.next_eq v bowFix t chars cats hl

example : (⟨[97], [0, 1], [0, 1], [true], [32], [1]⟩ : Tables).next .forward true [12433, 12449, 12433] [1, 1073741952, 1]
    = Tables.empty.next .forward true [12433, 12449, 12433] [1, 1073741952, 1] := rfl

/-- the look-ups of `word_candidate_length_spec` are defined on the tables of every built text, and they are the word-start flags
`build` computed for the characters -/
theorem built_tables_lookups_defined (v : Variant) (bowFix : Bool) (t t' : Tables) (chars cats : List Nat)
    (h : cats.length = chars.length) (ht : t.next v bowFix chars cats = some t') :
    t'.chars = chars ∧ ∀ j, j < chars.length →
      t'.canBowChar j = (if bowFix then bowTableFix cats else bowTable cats)[j]? ∧ ∃ b, t'.canBowChar j = some b := by
  have hfl := (bowFlags_length bowFix cats).trans h
  obtain ⟨t'', h1, h2, h3⟩ := Tables.build_canBowChar v bowFix t.reset rfl chars cats h
  obtain rfl : t'' = t' := Option.some.inj (h1.symm.trans ht)
  exact ⟨h2, fun j hj => ⟨h3 j hj, _, by rw [h3 j hj, List.getElem?_eq_getElem (by omega)]⟩⟩

/-- Clause "the fallback provider adds one candidate reaching to the next permissible word start exactly when nothing else was
produced", on a RECYCLED object: whatever the tables held before (`t` arbitrary), after `reset` + `build` of a text the Simple provider
asked inside the text returns nothing when something was created and otherwise exactly one node `[offset, offset + k)` with `k`
characterised by `NextStart` on the word-start flags of THIS text. -/
theorem simple_candidate_reaches_next_word_start (cfg : SimpleCfg) (v : Variant) (bowFix : Bool) (t : Tables) (chars cats : List Nat)
    (h : cats.length = chars.length) (offset : Nat) (ho : offset < chars.length) :
    ∃ t', t.next v bowFix chars cats = some t' ∧
      (∀ created, created ≠ 0 → simpleProvideT cfg t' offset created = .ok []) ∧
      ∃ k, NextStart (if bowFix then bowTableFix cats else bowTable cats) offset k ∧
        simpleProvideT cfg t' offset 0 = .ok [⟨offset, offset + k, cfg.l, cfg.r, cfg.c, true, cfg.pos⟩] := by
  obtain ⟨t', ht, rfl, hlook⟩ := Tables.build_canBowChar v bowFix t.reset rfl chars cats h
  obtain ⟨k, h1, hk⟩ := Tables.wordCandidateLength_nextStart t' _ ((bowFlags_length bowFix cats).trans h) hlook offset ho
  exact ⟨t', ht, fun created hc => by simp [simpleProvideT, hc], k, hk, by simp [simpleProvideT, h1]⟩

/-- non-vacuity: after the ten one-byte characters of `1234567890` the object analyses U+3091 U+30A1 U+3091 (classes DEFAULT,
KATAKANA|NOOOVBOW, DEFAULT): the fallback candidate at 0 spans the small kana -/
example :
    (Tables.empty.next .forward true [49, 50, 51, 52, 53, 54, 55, 56, 57, 48] [1, 1, 1, 1, 1, 1, 1, 1, 1, 1]).bind
      (fun t => (t.next .forward true [12433, 12449, 12433] [1, 1073741952, 1]).map
        (fun t' => (t'.bow, simpleProvideT ⟨1, 2, 3, 4⟩ t' 0 0)))
    = some ([true, false, false, false, false, false, true, false, false], .ok [⟨0, 2, 1, 2, 3, true, 4⟩]) := by
  decide +kernel

/-- Why the discipline matters (seeded change C13e, two edits that are each behaviour preserving): with a `reset` that keeps
`mod_bow`, `build` leaves the bytes INSIDE the multi-byte characters as the earlier text wrote them - here `true` at bytes 1, 2, 4, 5,
7, 8 after `1234567890`.  The function as written does not read them (answer 2, as `word_candidate_length_spec` says for any
contents); a byte-wise scan of the table (`iter().position`, mapped back with `mod_b2c`) is right on the tables of a cleared object
(2) and wrong on the stale ones: it answers 1, the base character is cut from the small kana. -/
theorem stale_word_start_bytes_counterexample :
    let first := Tables.empty.next .forward true [49, 50, 51, 52, 53, 54, 55, 56, 57, 48] [1, 1, 1, 1, 1, 1, 1, 1, 1, 1]
    let view := fun (t' : Tables) => (t'.bow, t'.wordCandidateLength 0, t'.wordCandidateLengthByteScan 0)
    (first.bind (fun t => (t.next .forward true [12433, 12449, 12433] [1, 1073741952, 1]).map view)
      = some ([true, false, false, false, false, false, true, false, false], some 2, some 2)) ∧
    (first.bind (fun t => (t.nextKeepBow .forward true [12433, 12449, 12433] [1, 1073741952, 1]).map view)
      = some ([true, true, true, false, true, true, true, true, true], some 2, some 1)) := by
  decide +kernel

/-- The first edit of C13e ALONE is harmless for the function as written - for every text and every previous contents: after a
`reset` that keeps `mod_bow`, `build` succeeds and `get_word_candidate_length` (character-wise look-up) still returns the distance to
the next permissible word start of THIS text.  Together with `stale_word_start_bytes_counterexample` (the byte-wise scan on the same
tables answers 1 instead of 2): each edit preserves the behaviour, the two together do not. -/
theorem fallback_length_immune_to_stale_bytes (v : Variant) (bowFix : Bool) (t : Tables) (chars cats : List Nat)
    (h : cats.length = chars.length) (idx : Nat) (hi : idx < chars.length) :
    ∃ t', t.nextKeepBow v bowFix chars cats = some t' ∧
      ∃ k, t'.wordCandidateLength idx = some k ∧ NextStart (if bowFix then bowTableFix cats else bowTable cats) idx k := by
  obtain ⟨t', ht, rfl, hlook⟩ := Tables.build_canBowChar v bowFix t.resetKeepBow rfl chars cats h
  exact ⟨t', ht, Tables.wordCandidateLength_nextStart t' _ ((bowFlags_length bowFix cats).trans h) hlook idx hi⟩

example :
    (Tables.empty.next .forward true [49, 50, 51, 52, 53, 54, 55, 56, 57, 48] [1, 1, 1, 1, 1, 1, 1, 1, 1, 1]).bind
      (fun t => (t.nextKeepBow .forward true [12433, 12449, 12433] [1, 1073741952, 1]).map (fun t' => t'.wordCandidateLength 0))
    = some (some 2) := by decide +kernel

end C13
