import Sudachi.Proofs.Params
import Sudachi.Proofs.ParamsCfg
import Sudachi.Proofs.ParamsPos
import Sudachi.Proofs.ParamsGrammar
import Sudachi.Proofs.BuildShape
/-!
# C20 — Out-of-range plugin parameters are rejected when the dictionary is loaded

Model: `Model/Params.lean` (check_params.rs, user_pos.rs, grammar.rs, connect.rs, the three OOV
providers' `set_up`, inhibit_connection.rs, `from_cfg_storage`, the matrix reads of lattice.rs) on
typed settings; `Model/ParamsCfg.lean` puts the settings as `serde_json` delivers them, the other
bundled plugins and the user dictionaries in front of it (`loadR`), `Model/ParamsGrammar.lean` the
reader of the grammar section that produces the matrix (`grammarParse`).
The code variants are selected by the flags of `Params.Variant`: `jsonGe` = `>=` instead of `>` in
check_params (repair of D15a), `unkGe` = the same in `read_oov` (D15b), `inhChecked` = the range check in
the inhibit plugin's `set_up` (D16); `Params.cur` has none of the three, `Params.repaired` all of them.  The matrix dimensions are
at most 32767 in every dictionary (the header stores them as `i16`, `matrix_dims_bounded`); only
`≤ 65535` is assumed.
-/
namespace C20
open Params Params.Outcome

/-! ## clause 1: every accepted connection id indexes the matrix -/

/-- Full statement (`accepted_in_range`), true for the repaired comparison `>=`: a JSON `leftId` /
`rightId` is accepted only if it indexes the dimension it is checked against, and the stored `u16`
is the given value. -/
theorem accepted_in_range (v : Variant) (hv : v.jsonGe = true) (m : Matrix)
    (hnl : m.nl ≤ 65535) (hnr : m.nr ≤ 65535) (x : Int) (w : Nat) :
    (checkLeftId v m x = ok w → (w : Int) = x ∧ 0 ≤ x ∧ x < m.nl) ∧
    (checkRightId v m x = ok w → (w : Int) = x ∧ 0 ≤ x ∧ x < m.nr) := by
  have key : ∀ n, n ≤ 65535 → checkId v.jsonGe n x = ok w → (w : Int) = x ∧ 0 ≤ x ∧ x < n := fun n hn h => by
    obtain ⟨a, e⟩ := checkId_IdOk h hn
    have := (hv ▸ a).lt
    omega
  exact ⟨key _ hnl, key _ hnr⟩

/-- What holds for every variant, `jsonGe = false` (the comparison `>`) included: the accepted value is stored unchanged and
is at most the dimension — `x = n` is not excluded (D15a). -/
theorem accepted_in_range_partial (v : Variant) (m : Matrix)
    (hnl : m.nl ≤ 65535) (hnr : m.nr ≤ 65535) (x : Int) (w : Nat) :
    (checkLeftId v m x = ok w → (w : Int) = x ∧ 0 ≤ x ∧ x ≤ m.nl) ∧
    (checkRightId v m x = ok w → (w : Int) = x ∧ 0 ≤ x ∧ x ≤ m.nr) := by
  have key : ∀ n, n ≤ 65535 → checkId v.jsonGe n x = ok w → (w : Int) = x ∧ 0 ≤ x ∧ x ≤ n := fun n hn h => by
    obtain ⟨a, e⟩ := checkId_IdOk h hn
    have := a.le
    omega
  exact ⟨key _ hnl, key _ hnr⟩

/-- D15a: with the comparison `>` (`jsonGe = false`), for EVERY square matrix the first invalid value — the
dimension itself — is accepted as left id and as right id, although it indexes no row or column. -/
theorem accepted_in_range_counterexample (v : Variant) (hv : v.jsonGe = false) (n : Nat) (hn : n ≤ 65535)
    (cells : List Int) :
    checkLeftId v ⟨n, n, cells⟩ n = ok n ∧ checkRightId v ⟨n, n, cells⟩ n = ok n ∧ ¬ (n < n) := by
  have h : checkId false n n = ok n :=
    checkId_eq_ok.mpr ⟨by omega, Nat.le_of_eq (Int.toNat_natCast n), by rw [asU16_toNat (by omega) (by omega)]; rfl⟩
  rw [← hv] at h
  exact ⟨h, h, Nat.lt_irrefl n⟩

/-- `unk.def` ids, full statement, true after the `>=` repair of D15b: every record the MeCab
provider stores has `0 ≤ left < num_left`, `0 ≤ right < num_right` (and an `i16` cost). -/
theorem unk_accepted_in_range (v : Variant) (hv : v.unkGe = true) (cats : List (Nat × Oov.CatInfo))
    (conn : Matrix) (hnl : conn.nl ≤ 65535) (hnr : conn.nr ≤ 65535) (mode : Mode)
    (lines : List (List Char)) (pl pl' : List Pos) (acc : List (Nat × List RawOov))
    (h : readOov v cats conn mode lines pl [] = ok (pl', acc)) :
    ∀ kv ∈ acc, ∀ d ∈ kv.2, 0 ≤ d.l ∧ d.l < conn.nl ∧ 0 ≤ d.r ∧ d.r < conn.nr ∧ -32768 ≤ d.c ∧ d.c ≤ 32767 :=
  fun kv hkv d hd => RawOk.lt (hv ▸ ((readOov_post lines (ReadFacts.init pl)).post _ h).raw hnl hnr kv hkv d hd)

/-- `unk.def` ids on any variant: `≤` instead of `<` (D15b is the case `unkGe = false`). -/
theorem unk_accepted_in_range_partial (v : Variant) (cats : List (Nat × Oov.CatInfo))
    (conn : Matrix) (hnl : conn.nl ≤ 65535) (hnr : conn.nr ≤ 65535) (mode : Mode)
    (lines : List (List Char)) (pl pl' : List Pos) (acc : List (Nat × List RawOov))
    (h : readOov v cats conn mode lines pl [] = ok (pl', acc)) :
    ∀ kv ∈ acc, ∀ d ∈ kv.2, 0 ≤ d.l ∧ d.l ≤ conn.nl ∧ 0 ≤ d.r ∧ d.r ≤ conn.nr ∧ -32768 ≤ d.c ∧ d.c ≤ 32767 :=
  fun kv hkv d hd => (((readOov_post lines (ReadFacts.init pl)).post _ h).raw hnl hnr kv hkv d hd).le

/-- D15b: the range test with `>` (`unkGe = false`) lets the dimension itself through, for every
dimension. -/
theorem unk_accepted_in_range_counterexample (n : Nat) (hn : n < 9223372036854775808) :
    unkIdBad false n (n : Int) = false ∧ unkIdBad true n (n : Int) = true := by
  have e : asUsize (n : Int) = n := by rw [asUsize_toNat (by omega) (by omega)]; simp
  simp [unkIdBad, e]

/-! ## clause 2: every cost fits the dictionary's cost type -/

/-- `cost_fits`: a JSON cost is accepted only inside `i16`, and is stored unchanged. -/
theorem cost_fits (x c : Int) (h : checkCost x = ok c) : c = x ∧ -32768 ≤ x ∧ x ≤ 32767 :=
  checkCost_eq_ok.mp h

/-- and conversely every `i16` value is accepted (the check rejects nothing it should not) -/
theorem cost_fits_complete (x : Int) (h1 : -32768 ≤ x) (h2 : x ≤ 32767) : checkCost x = ok x :=
  checkCost_eq_ok.mpr ⟨rfl, h1, h2⟩

/-! ## clause 3: every POS exists or user-defined POS are allowed -/

/-- `pos_handled`, existing POS: the id that `get_part_of_speech_id` finds is returned, the entry at
that id equals the POS, and the list is unchanged. -/
theorem pos_handled_exists (pl : List Pos) (p : Pos) (mode : Mode) (id : Nat)
    (hsz : pl.length ≤ 65536) (hwf : ∀ q ∈ pl, q.length = 6) (h : getPosId pl p = some id) :
    handleUserPos pl p mode = ok (pl, id) ∧ ∃ (hlt : id < pl.length), pl[id] = p := by
  obtain ⟨hlt, e⟩ := List.getElem?_eq_some_iff.mp (getPosId_getElem hwf hsz h)
  exact ⟨by rw [handleUserPos_eq, h], hlt, e⟩

/-- `pos_handled`, absent POS with `userPOS: allow`: appended at the end, its id is the old length. -/
theorem pos_handled_allow (pl : List Pos) (p : Pos) (hlen : p.length = 6) (hsz : pl.length ≤ 65535)
    (h : getPosId pl p = none) :
    handleUserPos pl p .allow = ok (pl ++ [p], pl.length) := by
  rw [handleUserPos_eq, h]
  exact if_pos ⟨rfl, hlen, hsz⟩

/-- `pos_handled`, absent POS with `userPOS: forbid` (or no `userPOS`): an error value. -/
theorem pos_handled_forbid (pl : List Pos) (p : Pos) (h : getPosId pl p = none) :
    handleUserPos pl p .forbid = err .pos := by
  rw [handleUserPos_eq, h]
  exact if_neg fun hc => nomatch hc.1

/-- "absent" means what it says: no entry of the list equals the POS (for 6-component lists) -/
theorem pos_absent_iff (pl : List Pos) (p : Pos) (hlen : p.length = 6) (hwf : ∀ q ∈ pl, q.length = 6)
    (hsz : pl.length ≤ 65536) : getPosId pl p = none ↔ p ∉ pl :=
  (getPosId_eq_none_iff hwf hsz).trans ⟨fun h hm => h ⟨hlen, hm⟩, fun h hm => h hm.2⟩

/-! ## clause 4: inhibited pairs -/

/-- `inhibit_checked`, full statement, true for the repaired `set_up` (D16): a load that succeeds
has every pair inside the matrix, and the matrix afterwards differs from the dictionary's exactly in
the cells `(l, r)` of the pairs, which hold `i16::MAX`; dimensions are unchanged. -/
theorem inhibit_checked (v : Variant) (hv : v.inhChecked = true) (cdef : List (List Char)) (g : Grammar)
    (cfg : Cfg) (ld : Loaded) (hnl : g.conn.nl ≤ 65535) (hnr : g.conn.nr ≤ 65535) (hwf : g.conn.WF)
    (h : load v cdef g cfg = ok ld) :
    (∀ ps ∈ cfg.inh, ∀ p ∈ ps, 0 ≤ p.1 ∧ p.1 < g.conn.nl ∧ 0 ≤ p.2 ∧ p.2 < g.conn.nr) ∧
    ld.g.conn.nl = g.conn.nl ∧ ld.g.conn.nr = g.conn.nr ∧
    ∀ l r, l < g.conn.nl → r < g.conn.nr →
      ld.g.conn.cell l r = if ((l : Int), (r : Int)) ∈ cfg.inh.flatten then some INHIBITED else g.conn.cell l r := by
  have f := load_facts hnl hnr h
  obtain ⟨hp, hc⟩ := f.checked hv hwf
  refine ⟨hp, f.nl_eq, f.nr_eq, fun l r hl hr => ?_⟩
  unfold Matrix.cell
  rw [hc, f.nl_eq]
  exact inhSpec_cell (nr := g.conn.nr) _ _ hwf (List.forall_mem_flatten.mpr hp) hl hr

/-- D16, `inhChecked = false`: `set_up` accepts every pair of `i16`s … -/
theorem inhibit_checked_counterexample_accepts (v : Variant) (hv : v.inhChecked = false) (g : Grammar)
    (pairs : List (Int × Int)) (hfit : ∀ p ∈ pairs, fitsI16 p.1 = true ∧ fitsI16 p.2 = true) :
    inhSetUp v g pairs = ok pairs := by
  have : pairs.all (fun p => fitsI16 p.1 && fitsI16 p.2) = true := by
    rw [List.all_eq_true]; intro p hp; simp [hfit p hp]
  simp [inhSetUp, this, hv]

/-- … and for every `n × n` matrix the pair `[n, 0]` then panics while the dictionary is loaded in a
debug build, and in a release build silently overwrites cell `(0, 1)` instead (`n ≥ 2`). -/
theorem inhibit_checked_counterexample (n : Nat) (hn : 2 ≤ n) (hn2 : n ≤ 65535) (cells : List Int)
    (hlen : cells.length = n * n) :
    inhEdit true ⟨n, n, cells⟩ [((n : Int), 0)] = crash ∧
    inhEdit false ⟨n, n, cells⟩ [((n : Int), 0)] = ok ⟨n, n, cells.set (1 * n + 0) INHIBITED⟩ := by
  have e : asU16 (n : Int) = n := by rw [asU16_toNat (by omega) (by omega)]; simp
  have e0 : asU16 0 = 0 := by decide
  have hlt : n < cells.length := by
    have : n * 2 ≤ n * n := Nat.mul_le_mul_left n hn
    omega
  constructor
  · simp [inhEdit, setConnectCost, Matrix.update, Matrix.index, e]
  · simp [inhEdit, setConnectCost, Matrix.update, Matrix.index, e, e0, hlt]

/-! ## "otherwise loading returns an error value - it neither panics nor silently edits" -/

/-- Full statement, true with the repaired `set_up` of the inhibit plugin (D16): for every
configuration and every dictionary the load returns a dictionary or an error value — never a panic,
never undefined behaviour. -/
theorem load_never_panics (v : Variant) (hv : v.inhChecked = true) (cdef : List (List Char)) (g : Grammar)
    (cfg : Cfg) (hnl : g.conn.nl ≤ 65535) (hnr : g.conn.nr ≤ 65535) (hwf : g.conn.WF) :
    (∃ ld, load v cdef g cfg = ok ld) ∨ (∃ k, load v cdef g cfg = err k) :=
  isSafe_iff.mp (load_safe hv cdef g cfg hnl hnr hwf)

/-- D16 at the level of the whole load, variant `cur` (`inhChecked = false`), debug build: a 2 × 2 dictionary, a valid
Simple provider and `inhibitPair: [[2, 0]]` — `from_cfg_storage` panics. -/
theorem load_never_panics_counterexample :
    load (cur true) [] ⟨[[['a'], ['b'], ['c'], ['d'], ['e'], ['f']]], ⟨2, 2, [1, 2, 3, 4]⟩⟩
      ⟨[[(2, 0)]], [.simple [['a'], ['b'], ['c'], ['d'], ['e'], ['f']] 1 1 0 .forbid], []⟩ = crash := by
  rfl

/-- All requirements on connection ids and costs at once, for a whole configuration (square
matrix, all three repairs): a successful load implies that every id a provider can attach to a node
indexes the matrix, every such cost fits `i16`, and every inhibited pair lies inside the matrix. -/
theorem load_succeeds_only_if (v : Variant) (hv1 : v.jsonGe = true) (hv2 : v.unkGe = true)
    (hv3 : v.inhChecked = true) (cdef : List (List Char)) (g : Grammar) (cfg : Cfg) (ld : Loaded) (n : Nat)
    (hnl : g.conn.nl = n) (hnr : g.conn.nr = n) (hn2 : n ≤ 65535) (hwf : g.conn.WF)
    (h : load v cdef g cfg = ok ld) :
    ld.provs ≠ [] ∧
    (∀ p ∈ ld.provs, ∀ e ∈ provNodes p, e.l < n ∧ e.r < n ∧ -32768 ≤ e.c ∧ e.c ≤ 32767) ∧
    (∀ ps ∈ cfg.inh, ∀ p ∈ ps, 0 ≤ p.1 ∧ p.1 < n ∧ 0 ≤ p.2 ∧ p.2 < n) := by
  subst hnl
  have f := load_facts hn2 (hnr ▸ hn2) h
  refine ⟨f.provs_ne, fun p hp e he => ?_, fun ps hps p hp => ?_⟩
  · have := f.node_lt hv1 hv2 hp he
    exact ⟨this.1, hnr ▸ this.2.1, this.2.2⟩
  · have := (f.checked hv3 hwf).1 ps hps p hp
    exact ⟨this.1, this.2.1, this.2.2.1, hnr ▸ this.2.2.2⟩

/-- Per provider, any matrix shape, repaired comparisons: every id a loaded provider attaches to a
node is `<` the dimension it was CHECKED against (left id: `num_left`, right id: `num_right`), and the
cost fits `i16`. -/
theorem provider_ids_in_range (v : Variant) (hv1 : v.jsonGe = true) (hv2 : v.unkGe = true)
    (cdef : List (List Char)) (g : Grammar) (cfg : Cfg) (ld : Loaded)
    (hnl : g.conn.nl ≤ 65535) (hnr : g.conn.nr ≤ 65535) (h : load v cdef g cfg = ok ld) :
    ∀ p ∈ ld.provs, ∀ e ∈ provNodes p, e.l < g.conn.nl ∧ e.r < g.conn.nr ∧ -32768 ≤ e.c ∧ e.c ≤ 32767 :=
  fun _ hp _ he => (load_facts hnl hnr h).node_lt hv1 hv2 hp he

/-! ## consequence: analysis never indexes outside the matrix -/

/-- The consequence clause for every variant (`jsonGe`, `unkGe` false included), with the extra hypothesis the property text makes
("plugin ids strictly below the dimension"): no provider id equals the dimension. -/
theorem no_oob_in_analysis_partial (v : Variant)
    (cdef : List (List Char)) (g : Grammar) (cfg : Cfg) (ld : Loaded) (n : Nat)
    (hnl : g.conn.nl = n) (hnr : g.conn.nr = n) (hn : 0 < n) (hn2 : n ≤ 65535) (hwf : g.conn.WF)
    (h : load v cdef g cfg = ok ld)
    (hne : ∀ p ∈ ld.provs, ∀ e ∈ provNodes p, e.l ≠ n ∧ e.r ≠ n)
    (len : Nat) (nodes : List LNode)
    (hnodes : ∀ nd ∈ nodes, nd.b ≤ len ∧ nd.e ≤ len ∧
      ((nd.left < n ∧ nd.right < n) ∨ ∃ p ∈ ld.provs, ∃ e ∈ provNodes p, nd.left = e.l ∧ nd.right = e.r))
    (dbg : Bool) :
    ∃ c, buildLattice dbg ld.g.conn len nodes (bosEnds len) = ok c := by
  subst hnl
  have f := load_facts hn2 (hnr ▸ hn2) h
  refine f.square_lattice_ok hwf rfl hnr hn len nodes (fun nd hnd => ?_) dbg
  obtain ⟨h1, h2, h3 | ⟨p, hp, e, he, hl, hr⟩⟩ := hnodes nd hnd
  · exact ⟨h1, h2, h3⟩
  · have := f.node_le hp he
    have hx := hne p hp e he
    exact ⟨h1, h2, hl ▸ Nat.lt_of_le_of_ne this.1 hx.1, hr ▸ Nat.lt_of_le_of_ne (hnr ▸ this.2.1) hx.2⟩

/-- `no_oob_in_analysis`, full statement for square matrices, true with the repairs of D15a and
D15b: after a successful load, building the lattice over ANY candidates whose connection ids come
from validated lexicon entries (`< n`, C06) or from the loaded providers never trips a bounds
assertion and never reads outside the matrix (`ok`, not `crash`/`ub`), in debug and release builds. -/
theorem no_oob_in_analysis (v : Variant) (hv1 : v.jsonGe = true) (hv2 : v.unkGe = true)
    (cdef : List (List Char)) (g : Grammar) (cfg : Cfg) (ld : Loaded) (n : Nat)
    (hnl : g.conn.nl = n) (hnr : g.conn.nr = n) (hn : 0 < n) (hn2 : n ≤ 65535) (hwf : g.conn.WF)
    (h : load v cdef g cfg = ok ld) (len : Nat) (nodes : List LNode)
    (hnodes : ∀ nd ∈ nodes, nd.b ≤ len ∧ nd.e ≤ len ∧
      ((nd.left < n ∧ nd.right < n) ∨ ∃ p ∈ ld.provs, ∃ e ∈ provNodes p, nd.left = e.l ∧ nd.right = e.r))
    (dbg : Bool) :
    ∃ c, buildLattice dbg ld.g.conn len nodes (bosEnds len) = ok c := by
  refine no_oob_in_analysis_partial v cdef g cfg ld n hnl hnr hn hn2 hwf h (fun p hp e he => ?_) len nodes hnodes dbg
  have := (load_facts (hnl ▸ hn2) (hnr ▸ hn2) h).node_lt hv1 hv2 hp he
  exact ⟨Nat.ne_of_lt (hnl ▸ this.1), Nat.ne_of_lt (hnr ▸ this.2.1)⟩

/-- D15a consequence: with `jsonGe = false` (variant `cur`) a Simple provider with `leftId = 3` on a 3 × 3 matrix is
accepted, and the first node it contributes makes the lattice trip the bounds assertion (debug) /
read outside the matrix (release). -/
theorem no_oob_in_analysis_counterexample :
    checkLeftId (cur true) ⟨3, 3, List.replicate 9 0⟩ 3 = ok 3 ∧
    buildLattice true ⟨3, 3, List.replicate 9 0⟩ 1 [⟨0, 1, 3, 0⟩] (bosEnds 1) = crash ∧
    buildLattice false ⟨3, 3, List.replicate 9 0⟩ 1 [⟨0, 1, 3, 0⟩] (bosEnds 1) = ub := by
  refine ⟨by decide, by decide, by decide⟩

/-! ## signedness (ids are `i64` in JSON, `i16` in unk.def / inhibit pairs / lexicon, `u16`/`usize` at the matrix) -/

/-- A negative id is rejected by every check, for every variant and every matrix: the JSON check tests
`x < 0` first, the unk.def test casts the `i16` through `as usize` (a negative value becomes ≥ 2^64 − 32768,
far above any dimension), the inhibit test has an explicit `< 0`. -/
theorem negative_ids_rejected (ge : Bool) (n : Nat) (hn : n < 9223372036854775808) (x : Int) (hx : x < 0) :
    checkId ge n x = err .dataFormat ∧
    (-32768 ≤ x → unkIdBad ge n x = true) ∧
    (∀ (m : Matrix) (y : Int), pairInRange m (x, y) = false ∧ pairInRange m (y, x) = false) := by
  refine ⟨by simp [checkId, hx], fun h => ?_, fun m y => by simp [pairInRange, hx]⟩
  exact eq_true_of_ne_false fun hf => Int.not_le.mpr hx (unkIdBad_false hf h (by omega) hn).1

/-- The signed comparison `oov.left_id >= num_left as i16` (the change /verif/seeded/C20b makes to show that the checks fire) accepts EVERY negative
id for every dimension up to `i16::MAX`, and the node then carries `x as u16 ≥ 32768`; the `as usize` comparison
of `read_oov` (`unkIdBad`) rejects it. -/
theorem unk_signed_compare_counterexample (n : Nat) (hn : n ≤ 32767) (x : Int) (hx : x < 0) (hx' : -32768 ≤ x) :
    unkIdBadSigned n x = false ∧ 32768 ≤ asU16 x ∧ unkIdBad true n x = true := by
  have e : asI16 (n : Int) = n := asI16_of_fits (by omega) (by omega)
  refine ⟨?_, ?_, ?_⟩
  · simp [unkIdBadSigned, e]; omega
  · unfold asU16; omega
  · exact (negative_ids_rejected true n (by omega) x hx).2.1 hx'

/-! ## non-square matrices (D17): which dimension bounds which id -/

/-- `ConnectionMatrix::cost(left, right)`: in a debug build the call returns iff `left < num_left` and
`right < num_right`; in a release build the read is inside the buffer iff `right * num_left + left <
num_left * num_right` (so a wrong `left` can silently alias another cell). -/
theorem matrix_cost_bounds (m : Matrix) (hwf : m.WF) (a b : Nat) :
    ((∃ c, m.cost true a b = ok c) ↔ a < m.nl ∧ b < m.nr) ∧
    (m.cost false a b = ub ↔ ¬ (b * m.nl + a < m.nl * m.nr)) := by
  unfold Matrix.WF at hwf
  constructor
  · constructor
    · intro ⟨c, h⟩
      -- a call that returned got past the first two `debug_assert!`s
      unfold Matrix.cost Matrix.index at h
      by_cases h1 : a < m.nl <;> by_cases h2 : b < m.nr <;> simp [h1, h2] at h ⊢
    · intro ⟨h1, h2⟩
      exact (Matrix.cost_ok true hwf h1 h2).imp fun _ h => h.2
  · unfold Matrix.cost Matrix.index
    simp only [Bool.false_and, Bool.false_eq_true, if_false]
    -- without assertions the only test is the read itself: `get` is `none` exactly past the end
    by_cases h : b * m.nl + a < m.cells.length
    · rw [List.getElem?_eq_getElem h]; simp; omega
    · rw [List.getElem?_eq_none (by omega)]; simp; omega

/-- The lattice calls `cost(l_node.right_id, r_node.left_id)`: a node's LEFT id is bounded by
`num_right` and its RIGHT id by `num_left`.  For ANY matrix shape, candidates that satisfy these
bounds never trip an assertion and never read outside the matrix. -/
theorem no_oob_in_analysis_nonsquare (m : Matrix) (hwf : m.WF) (hnl : 0 < m.nl) (hnr : 0 < m.nr)
    (len : Nat) (nodes : List LNode)
    (hnodes : ∀ nd ∈ nodes, nd.b ≤ len ∧ nd.e ≤ len ∧ nd.left < m.nr ∧ nd.right < m.nl) (dbg : Bool) :
    ∃ c, buildLattice dbg m len nodes (bosEnds len) = ok c := by
  refine lattice_ok dbg hwf len hnl hnr nodes fun nd hnd => ?_
  obtain ⟨h1, h2, h3, h4⟩ := hnodes nd hnd
  exact ⟨h3, h4, h1, h2⟩

/-- D17: on a non-square matrix even the repaired checks validate a left id against the wrong
dimension: `leftId = 3` passes on a 4 × 2 matrix (`3 < num_left = 4`) but a node's left id is the
`right` argument of `ConnectionMatrix::cost`, bounded by `num_right = 2`. -/
theorem nonsquare_counterexample :
    checkLeftId (repaired true) ⟨4, 2, List.replicate 8 0⟩ 3 = ok 3 ∧
    buildLattice true ⟨4, 2, List.replicate 8 0⟩ 1 [⟨0, 1, 3, 0⟩] (bosEnds 1) = crash := by
  refine ⟨by decide, by decide⟩

/-- D17 for every shape with fewer columns than rows: `leftId = num_right` passes even the repaired
check (it is compared with `num_left`), and the first node that carries it trips the assertion. -/
theorem nonsquare_counterexample_general (nl nr : Nat) (h : nr < nl) (hnl : nl ≤ 65535) (hnr : 0 < nr) (cells : List Int)
    (hlen : cells.length = nl * nr) :
    checkLeftId (repaired true) ⟨nl, nr, cells⟩ nr = ok nr ∧
    buildLattice true ⟨nl, nr, cells⟩ 1 [⟨0, 1, nr, 0⟩] (bosEnds 1) = crash := by
  constructor
  · exact checkId_eq_ok.mpr ⟨by omega, (Int.toNat_natCast nr).symm ▸ h,
      by rw [asU16_toNat (by omega) (by omega)]; rfl⟩
  · have hnl0 : 0 < nl := by omega
    -- the node's left id `nr` is the second argument of `cost`: the assertion `right < num_right` fails, no cell is read
    simp [buildLattice, bosEnds, connectNode, Matrix.cost, Matrix.index, hnl0]

/-- A repair of D17: compare `leftId` with `num_right` and `rightId` with `num_left`
(the dimensions the ids are USED on).  An id pair that passes the swapped checks is a `NodeOk` node, which
is the hypothesis of `no_oob_in_analysis_nonsquare`: the consequence clause then holds for every shape.  The
same swap would be needed in `read_oov`, in the builder's `validate_entries` and in the matrix header
semantics, which is why D17 is a finding and not a repair. -/
theorem swapped_checks_sound (m : Matrix) (hnl : m.nl ≤ 65535) (hnr : m.nr ≤ 65535) (l r : Int) (l' r' : Nat)
    (hl : checkId true m.nr l = ok l') (hr : checkId true m.nl r = ok r') (b e len : Nat) (hb : b ≤ len) (he : e ≤ len) :
    NodeOk m len ⟨b, e, l', r'⟩ :=
  ⟨(checkId_IdOk hl hnr).1.lt, (checkId_IdOk hr hnl).1.lt, hb, he⟩

/-! ## the settings as `serde_json` delivers them: ill-typed or out-of-range values are load errors -/

/-- Every successful load of a raw configuration went through a successful load of the TYPED
configuration obtained by deserialising every provider's settings (so all theorems above apply to
it), and — in particular — no provider had an ill-typed field: `leftId`/`rightId`/`cost` are JSON integers inside `i64`, `oovPOS` a list of strings,
`userPOS` ∈ {allow, forbid} or absent, `maxLength` an integer in `0 … 2^64−1` or absent,
`boundaries` ∈ {strict, relaxed} or absent; and every `inhibitPair` is an array of two-element arrays of
integers in `i16` (`deInhAll`; shape: `inhibit_pairs_well_typed`). -/
theorem raw_load_is_typed_load (v : Variant) (v2 : Variant2) (cdef : List (List Char)) (np : Pos)
    (g : Grammar) (cfg : RCfg) (ld : LoadedR) (h : loadR v v2 cdef np g cfg = ok ld) :
    (∀ r ∈ cfg.oov, ∃ c, deserOov r = some c) ∧
    ∃ ti cx, deInhAll cfg.inh = some ti ∧ deserAll cfg.oov = some cx ∧
      load v cdef g ⟨ti, cx.map (·.1), cfg.users.map (·.pos)⟩ = ok ⟨ld.g, ld.provs.map (·.1)⟩ := by
  obtain ⟨ti, cx, f⟩ := loadR_typed h
  exact ⟨deserAll_mem f.oov, ti, cx, f.inh, f.oov, f.load⟩

/-- Ill-typed values of the numeric parameters are rejected: a provider whose `leftId` (or any other
integer field) is a float, a string, `null`, a boolean, an array, missing, or an integer outside `i64`
never loads. -/
theorem ill_typed_rejected (pos l r c mode : JF) (hl : ∀ x : Int, l = .int x → ¬ (I64MIN ≤ x ∧ x ≤ I64MAX)) :
    deserOov (.simple pos l r c mode) = none ∧ deserOov (.simple pos r l c mode) = none ∧
    deserOov (.simple pos r c l mode) = none ∧
    ∀ ml b rx d ok, deserOov (.regex pos l r c mode ml b rx d ok) = none := by
  have e : deI64 l = none := by
    cases hx : deI64 l with
    | none => rfl
    | some x => exact absurd (deI64_some hx).2 (hl x (deI64_some hx).1)
  -- the tuple match looks at the fields in order: POS, then the three numbers
  refine ⟨?_, ?_, ?_, fun ml b rx d ok => ?_⟩
  · rw [deserOov, e]; cases deStrs pos <;> rfl
  · rw [deserOov, e]; cases deStrs pos <;> cases deI64 r <;> rfl
  · rw [deserOov, e]; cases deStrs pos <;> cases deI64 r <;> cases deI64 c <;> rfl
  · rw [deserOov, e]
    split
    · cases deStrs pos <;> rfl
    · rfl

/-- With the repaired inhibit `set_up` the raw load — all four plugin kinds and the user
dictionaries — returns a dictionary or an error value for EVERY configuration, whatever the shapes
of its values: never a panic, never undefined behaviour. -/
theorem raw_load_never_panics (v : Variant) (hv : v.inhChecked = true) (v2 : Variant2)
    (cdef : List (List Char)) (np : Pos) (g : Grammar) (cfg : RCfg)
    (hnl : g.conn.nl ≤ 65535) (hnr : g.conn.nr ≤ 65535) (hwf : g.conn.WF) :
    (∃ ld, loadR v v2 cdef np g cfg = ok ld) ∨ (∃ k, loadR v v2 cdef np g cfg = err k) :=
  isSafe_iff.mp (loadR_safe hv v2 cdef np g cfg hnl hnr hwf)

/-- `inhibitPair` as `serde_json` delivers it: if a raw configuration loads, every connection-cost plugin's
`inhibitPair` is present, is an array, and every member of it is an array of EXACTLY two integers inside `i16` — a
missing key, `null`, a number, a member with one or three elements, a float, a string or an integer outside `i16`
is `SerdeError` (before any range check, and before the plugins that follow are looked at). -/
theorem inhibit_pairs_well_typed (v : Variant) (v2 : Variant2) (cdef : List (List Char)) (np : Pos)
    (g : Grammar) (cfg : RCfg) (ld : LoadedR) (h : loadR v v2 cdef np g cfg = ok ld) :
    ∀ r ∈ cfg.inh, ∃ ms, r = .pairs ms ∧
      ∀ m ∈ ms, ∃ x y : Int, m = [.int x, .int y] ∧ -32768 ≤ x ∧ x ≤ 32767 ∧ -32768 ≤ y ∧ y ≤ 32767 := by
  obtain ⟨_, _, f⟩ := loadR_typed h
  intro r hr
  obtain ⟨ps, hps⟩ := deInhAll_mem f.inh r hr
  cases r with
  | absent => cases hps
  | other => cases hps
  | pairs ms => exact ⟨ms, rfl, dePairs_shape hps⟩

/-- The `regex` and `debug` settings of RegexOovProvider: if a raw configuration loads, every regex provider's
`regex` is a string whose pattern the regex crate compiled (`rxOk`, the crate's verdict, is a parameter of the
model that the harness obtains from the crate), and `debug` is a boolean or absent.  An invalid pattern is
`ConfigError` — reported LAST in `set_up`, after the ids, the cost and the POS were accepted (and a new POS was
registered in the grammar that the failed load then drops). -/
theorem regex_setting_checked (v : Variant) (v2 : Variant2) (cdef : List (List Char)) (np : Pos)
    (g : Grammar) (cfg : RCfg) (ld : LoadedR) (h : loadR v v2 cdef np g cfg = ok ld) :
    (∀ px ∈ ld.provs, px.2.rxOk = true) ∧
    (∀ pos l r c mode ml b rx d ok, ROov.regex pos l r c mode ml b rx d ok ∈ cfg.oov →
      (∃ s, rx = .str s) ∧ (d = .absent ∨ d = .bool)) := by
  obtain ⟨_, _, f⟩ := loadR_typed h
  refine ⟨f.rx, fun pos l r c mode ml b rx d ok hm => ?_⟩
  obtain ⟨c', hc'⟩ := deserAll_mem f.oov _ hm
  simp only [deserOov] at hc'
  split at hc'
  · rename_i hg
    simp only [Bool.and_eq_true] at hg
    constructor
    · cases rx <;> simp [deStr] at hg
      exact ⟨_, rfl⟩
    · cases d <;> simp [deBoolD] at hg <;> simp
  · cases hc'

/-! ## `maxLength` of the regex provider: accepted, then added to an offset -/

/-- Full statement, true for the repair `offset.saturating_add(self.max_length)`: for EVERY accepted
`maxLength` (any `usize`), every text and every offset inside it, `provide_oov` computes a slice
`offset..e` with `offset ≤ e ≤ len` — no overflow, no inverted slice, debug and release. -/
theorem regex_max_length_no_panic (dbg : Bool) (ml : JF) (n : Nat) (h : deUsizeD 32 ml = some n)
    (offset len : Nat) (ho : offset ≤ len) (hl : len < TWO64) :
    ∃ e, regexEnd true dbg n offset len = ok e ∧ offset ≤ e ∧ e ≤ len :=
  regexEnd_ok true dbg ho (Or.inr ⟨rfl, hl⟩)

/-- What holds for the plain addition (`sat = false`) as well: no panic as long as `offset + maxLength` fits `usize`. -/
theorem regex_max_length_no_panic_partial (sat dbg : Bool) (n offset len : Nat) (ho : offset ≤ len)
    (hs : offset + n < TWO64) : ∃ e, regexEnd sat dbg n offset len = ok e ∧ offset ≤ e ∧ e ≤ len :=
  regexEnd_ok sat dbg ho (Or.inl hs)

/-- F-MAXLEN: `maxLength = 2^64 − 1` is a well-typed `usize` and is accepted, and then `provide_oov`
panics at EVERY offset ≥ 1 of every text — in a debug build at the addition, in a release build at the
slice `offset..offset−1`. -/
theorem regex_max_length_counterexample (offset len : Nat) (h1 : 1 ≤ offset) (ho : offset ≤ len) (hl : len < TWO64) :
    deUsizeD 32 (.int 18446744073709551615) = some 18446744073709551615 ∧
    regexEnd false true 18446744073709551615 offset len = crash ∧
    regexEnd false false 18446744073709551615 offset len = crash := by
  refine ⟨by decide, ?_, ?_⟩
  · exact regexEnd_overflow true (by decide) (by unfold TWO64; omega)
  · exact regexEnd_overflow false (by decide) (by unfold TWO64; omega)

/-! ## `maxYomiganaLength`, brackets, prolonged sound marks, `minLength`, `oovPOS` of path-rewrite plugins -/

/-- IgnoreYomigana: accepted ⇒ both bracket lists are non-empty lists of single characters and
`1 ≤ maxYomiganaLength ≤ ym`, where `ym` is the size limit of the regex compiler for THIS pattern (a
parameter of the model, measured by the harness on the `regex` crate itself — see `RInput`; the
statement holds for every value of it); `0`, negative, fractional, string values and empty bracket
lists are errors (`{1,0}` / an unclosed class are rejected by the regex crate). -/
theorem yomigana_params_checked (ym : Nat) (lb rb ml : JF) (h : setUpInput (.yomigana lb rb ml ym) = ok ()) :
    ∃ (l r : List (List Char)) (n : Nat), lb = .strs l ∧ rb = .strs r ∧ ml = .int n ∧
      l ≠ [] ∧ r ≠ [] ∧ (∀ s ∈ l, charCount s = 1) ∧ (∀ s ∈ r, charCount s = 1) ∧ 1 ≤ n ∧ n ≤ ym := by
  rw [setUpInput] at h
  split at h
  · rename_i l r n hl hr hn
    split at h
    · cases h
    · rename_i hc
      obtain ⟨e1, c1⟩ := deChars_some hl
      obtain ⟨e2, c2⟩ := deChars_some hr
      obtain ⟨x, e3, x0, _, xn⟩ := deUsize_some hn
      simp only [Bool.or_eq_true, List.isEmpty_iff, beq_iff_eq, decide_eq_true_eq, not_or] at hc
      obtain ⟨⟨⟨hl0, hr0⟩, hn0⟩, hn1⟩ := hc
      refine ⟨l, r, n, e1, e2, ?_, hl0, hr0, c1, c2, by omega, by omega⟩
      rw [e3, xn, Int.toNat_of_nonneg x0]
  · cases h

/-- ProlongedSoundMark: accepted ⇒ a non-empty list of single characters and an absent / null / string
replacement. -/
theorem prolonged_params_checked (marks repl : JF) (h : setUpInput (.prolonged marks repl) = ok ()) :
    ∃ ms : List (List Char), marks = .strs ms ∧ ms ≠ [] ∧ (∀ s ∈ ms, charCount s = 1) ∧ deOptStr repl = true := by
  rw [setUpInput] at h
  split at h
  · rename_i ms hm hr
    split at h
    · cases h
    · rename_i hc
      exact ⟨ms, (deChars_some hm).1, by simpa using hc, (deChars_some hm).2, hr⟩
  · cases h

/-- JoinKatakanaOov: accepted ⇒ `oovPOS` is a list of strings naming an EXISTING part of speech (it is
looked up, never registered: `userPOS` does not apply), the id kept is the one
`get_part_of_speech_id` finds, and `minLength` is a non-negative integer that fits `usize` (it is only compared, never added). -/
theorem katakana_params_checked (np : Pos) (pl : List Pos) (pos ml : JF) (id n : Nat)
    (h : setUpPath np pl (.katakana pos ml) = ok (id, n)) :
    ∃ p : Pos, pos = .strs p ∧ getPosId pl p = some id ∧ n < TWO64 ∧ ∃ x : Int, ml = .int x ∧ 0 ≤ x ∧ n = x.toNat := by
  rw [setUpPath] at h
  split at h
  · rename_i p n' hp hn
    cases hid : getPosId pl p <;> rw [hid] at h <;> cases h
    obtain ⟨x, e3, x0, x1, xn⟩ := deUsize_some hn
    exact ⟨p, deStrs_some hp, hid, by unfold U64MAX at x1; unfold TWO64; omega, x, e3, x0, xn⟩
  · cases h

/-- a POS list of the wrong arity is an error for every plugin that takes one (never a panic) -/
theorem wrong_arity_rejected (pl : List Pos) (p : Pos) (hp : p.length ≠ 6) (mode : Mode) (np : Pos) (ml : JF) (n : Nat)
    (hn : deUsize ml = some n) :
    handleUserPos pl p mode = err .pos ∧ setUpPath np pl (.katakana (.strs p) ml) = err .pos :=
  ⟨handleUserPos_of_length_ne pl hp mode, setUpPath_katakana_unknown hn (getPosId_none_of_len hp)⟩

/-! ## user dictionaries: are the ids of their words checked when the dictionary is LOADED? -/

/-- Full statement, true for the repaired `merge_user_dictionary` (variant `udic`): after a successful
load every indexed word of every user dictionary has `left_id < num_left` and `right_id < num_right` of
the SYSTEM matrix it is loaded with (whatever dictionary it was compiled against). -/
theorem user_dict_ids_checked (v : Variant) (v2 : Variant2) (hu : v2.udic = true) (cdef : List (List Char))
    (np : Pos) (g : Grammar) (cfg : RCfg) (ld : LoadedR) (h : loadR v v2 cdef np g cfg = ok ld)
    (hi16 : ∀ u ∈ cfg.users, ∀ w ∈ u.words, -32768 ≤ w.1 ∧ w.1 ≤ 32767 ∧ -32768 ≤ w.2 ∧ w.2 ≤ 32767) :
    ∀ lr ∈ userNodes cfg.users, lr.1 < ld.g.conn.nl ∧ lr.2 < ld.g.conn.nr := by
  obtain ⟨_, _, f⟩ := loadR_typed h
  intro lr hlr
  simp only [userNodes, List.mem_map, List.mem_filter, List.mem_flatten] at hlr
  obtain ⟨w, ⟨⟨ws, ⟨u, hu', hws⟩, hw⟩, hw0⟩, hlr⟩ := hlr
  subst hws hlr
  obtain ⟨_, b, _, d⟩ := hi16 u hu' w hw
  exact udicBad_false (f.udic hu u hu' w hw) (by simpa using hw0) b d

/-- F-UDIC, `udic = false` (`merge_user_dictionary` does not look at the words' ids): a user dictionary whose word has ids `(5, 5)` — valid for the 6 × 6
dictionary it was compiled against — loads next to a 3 × 3 system dictionary, and the node of that word
makes the lattice trip the bounds assertion (debug) / read outside the matrix (release); the repaired
load rejects it. -/
theorem user_dict_ids_counterexample :
    let pos : Pos := [['a'], ['b'], ['c'], ['d'], ['e'], ['f']]
    let g : Grammar := ⟨[pos], ⟨3, 3, List.replicate 9 0⟩⟩
    let cfg : RCfg := ⟨[], [], [.simple (.strs pos) (.int 0) (.int 0) (.int 0) .absent], [], [⟨[], [(5, 5)]⟩]⟩
    (∃ ld, loadR (repaired true) ⟨true, false⟩ [] pos g cfg = ok ld) ∧
    loadR (repaired true) ⟨true, true⟩ [] pos g cfg = err .dataFormat ∧
    userNodes cfg.users = [(5, 5)] ∧
    buildLattice true g.conn 1 [⟨0, 1, 5, 5⟩] (bosEnds 1) = crash ∧
    buildLattice false g.conn 1 [⟨0, 1, 5, 5⟩] (bosEnds 1) = ub := by
  refine ⟨⟨_, rfl⟩, rfl, by decide, by decide, by decide⟩

/-- The consequence clause with user dictionaries in it (all repairs, square matrix): after a
successful raw load, the lattice over ANY candidates that come from validated system-lexicon entries,
from the loaded providers or from the indexed words of the loaded user dictionaries never indexes
outside the matrix. -/
theorem no_oob_in_analysis_with_user_words (v : Variant) (hv1 : v.jsonGe = true) (hv2 : v.unkGe = true)
    (v2 : Variant2) (hu : v2.udic = true) (cdef : List (List Char)) (np : Pos) (g : Grammar)
    (cfg : RCfg) (ld : LoadedR) (n : Nat) (hnl : g.conn.nl = n) (hnr : g.conn.nr = n) (hn : 0 < n) (hn2 : n ≤ 65535)
    (hwf : g.conn.WF) (h : loadR v v2 cdef np g cfg = ok ld)
    (hi16 : ∀ u ∈ cfg.users, ∀ w ∈ u.words, -32768 ≤ w.1 ∧ w.1 ≤ 32767 ∧ -32768 ≤ w.2 ∧ w.2 ≤ 32767)
    (len : Nat) (nodes : List LNode)
    (hnodes : ∀ nd ∈ nodes, nd.b ≤ len ∧ nd.e ≤ len ∧
      ((nd.left < n ∧ nd.right < n) ∨ (∃ p ∈ ld.provs, ∃ e ∈ provNodes p.1, nd.left = e.l ∧ nd.right = e.r) ∨
       (nd.left, nd.right) ∈ userNodes cfg.users))
    (dbg : Bool) :
    ∃ c, buildLattice dbg ld.g.conn len nodes (bosEnds len) = ok c := by
  subst hnl
  obtain ⟨_, _, fr⟩ := loadR_typed h
  have f := load_facts hn2 (hnr ▸ hn2) fr.load
  refine f.square_lattice_ok hwf rfl hnr hn len nodes (fun nd hnd => ?_) dbg
  obtain ⟨h1, h2, h3 | ⟨p, hp, e, he, hl, hr⟩ | h3⟩ := hnodes nd hnd
  · exact ⟨h1, h2, h3⟩
  · have := f.node_lt hv1 hv2 (List.mem_map_of_mem hp) he
    exact ⟨h1, h2, hl ▸ this.1, hr ▸ hnr ▸ this.2.1⟩
  · have := user_dict_ids_checked v v2 hu cdef np g cfg ld h hi16 _ h3
    exact ⟨h1, h2, Nat.lt_of_lt_of_eq this.1 f.nl_eq, Nat.lt_of_lt_of_eq this.2 (f.nr_eq.trans hnr)⟩

/-! ## clause 3 once more: which POS are rejected (per call, exactly) -/

/-- `unknown_pos_rejected`: a configured POS that is not a six-component entry of the grammar is an
error under `userPOS: forbid` (the default) — for the OOV providers and for JoinKatakanaOov, which
never registers —, and a POS that does not have six components is an error under `allow` as well. -/
theorem unknown_pos_rejected (pl : List Pos) (p : Pos) (hwf : PosWF pl) (hsz : pl.length ≤ 65536) :
    (¬ (p.length = 6 ∧ p ∈ pl) → handleUserPos pl p .forbid = err .pos) ∧
    (p.length ≠ 6 → handleUserPos pl p .allow = err .pos) ∧
    (¬ (p.length = 6 ∧ p ∈ pl) → ∀ (np : Pos) (ml : JF) (n : Nat), deUsize ml = some n →
      setUpPath np pl (.katakana (.strs p) ml) = err .pos) := by
  have key := (getPosId_eq_none_iff (p := p) hwf hsz).mpr
  exact ⟨fun h => pos_handled_forbid pl p (key h), fun h => handleUserPos_of_length_ne pl h .allow,
    fun h np ml n hn => setUpPath_katakana_unknown hn (key h)⟩

/-- … and nothing else is rejected: `handle_user_pos` succeeds under `forbid` exactly for the
six-component entries of the list, under `allow` exactly for six-component lists (as long as a `u16`
id is left for a new one). -/
theorem pos_accepted_iff (pl : List Pos) (p : Pos) (hwf : PosWF pl) (hsz : pl.length ≤ 65536) :
    ((∃ r, handleUserPos pl p .forbid = ok r) ↔ (p.length = 6 ∧ p ∈ pl)) ∧
    ((∃ r, handleUserPos pl p .allow = ok r) ↔ (p.length = 6 ∧ (p ∈ pl ∨ pl.length ≤ 65535))) :=
  ⟨(handleUserPos_isOk hwf hsz).trans (by simp), (handleUserPos_isOk hwf hsz).trans (by simp)⟩

/-- The lookup WITHOUT the arity guard (`position(.. zip .. all ..)`, the change /verif/seeded/C20c makes) accepts, under
`forbid`, every proper prefix of every entry of the grammar — the empty list matches entry 0 —, while the
guarded lookup `getPosId` rejects each of them: the guard is not redundant with `register_pos`' own test. -/
theorem unguarded_lookup_counterexample (pl : List Pos) (q p : Pos) (hq : q ∈ pl) (hp : p <+: q) (hne : p.length ≠ 6) :
    (∃ id, getPosIdU pl p = some id) ∧ getPosId pl p = none ∧ handleUserPos pl p .forbid = err .pos :=
  ⟨getPosIdU_of_prefix hq hp, getPosId_none_of_len hne, pos_handled_forbid pl p (getPosId_none_of_len hne)⟩

/-! ## the POS list after the whole load: the dictionary's own ids never shift -/

/-- `dict_pos_ids_stable`.  After a successful load the POS list is the dictionary's own list, FOLLOWED BY what the providers
registered, FOLLOWED BY the POS of the user dictionaries in order: `handle_user_pos`/`register_pos` only
push at the end, `read_oov` and `Plugins::load` thread the list, `Grammar::merge` extends it.  So every id
of the dictionary denotes the same POS before and after (the lexicon's `pos_id`s stay valid), the
registered part consists of six-component POS, and the plugin part still fits `u16`. -/
theorem dict_pos_ids_stable (v : Variant) (cdef : List (List Char)) (g : Grammar) (cfg : Cfg) (ld : Loaded)
    (h : load v cdef g cfg = ok ld) :
    ∃ reg, ld.g.pos = g.pos ++ reg ++ cfg.userPos.flatten ∧
      (∀ i (hi : i < g.pos.length), ld.g.pos[i]? = some g.pos[i]) ∧
      (∀ q ∈ reg, q.length = 6) ∧
      (g.pos.length ≤ 65536 → (g.pos ++ reg).length ≤ 65536) := by
  obtain ⟨reg, e, hw, s, _, _⟩ := load_pos h
  refine ⟨reg, e, fun i hi => ?_, hw, s.sz⟩
  rw [e, List.append_assoc, List.getElem?_append_left hi, List.getElem?_eq_getElem hi]

/-- the same for the raw load (all four plugin kinds, user dictionaries with their words) -/
theorem raw_dict_pos_ids_stable (v : Variant) (v2 : Variant2) (cdef : List (List Char)) (np : Pos)
    (g : Grammar) (cfg : RCfg) (ld : LoadedR) (h : loadR v v2 cdef np g cfg = ok ld) :
    ∃ reg, ld.g.pos = g.pos ++ reg ++ (cfg.users.map (·.pos)).flatten ∧
      (∀ i (hi : i < g.pos.length), ld.g.pos[i]? = some g.pos[i]) ∧ (∀ q ∈ reg, q.length = 6) := by
  obtain ⟨_, _, f⟩ := loadR_typed h
  obtain ⟨reg, e, hs, hw, _⟩ := dict_pos_ids_stable v cdef g _ _ f.load
  exact ⟨reg, e, hs, hw⟩

/-- The ids the providers keep stay right: after a successful load (dictionary POS list well formed,
as `Grammar::parse` delivers it — `matrix_dims_bounded`), every POS id a loaded provider attaches to
its nodes indexes the FINAL list, and for Simple/Regex providers the entry there is exactly the
configured POS — also when later providers registered further POS and user dictionaries were merged
behind them.  (`cfg.oov.zip ld.provs` pairs every configured provider with the loaded one: the lists
have the same length.) -/
theorem provider_pos_resolved (v : Variant) (cdef : List (List Char)) (g : Grammar) (cfg : Cfg) (ld : Loaded)
    (hwf : PosWF g.pos) (hsz : g.pos.length ≤ 65536) (h : load v cdef g cfg = ok ld) :
    ld.provs.length = cfg.oov.length ∧ ∀ cp ∈ cfg.oov.zip ld.provs, ProvPos ld.g.pos cp.1 cp.2 := by
  obtain ⟨reg, e, _, _, l, r⟩ := load_pos h
  refine ⟨l, fun cp hcp => ?_⟩
  rw [e]
  exact (r hwf hsz cp hcp).mono (List.prefix_append _ _)

/-- Clause 3 for the whole load: if the load succeeds, every POS configured for a Simple/Regex provider
has six components and is an entry of the loaded grammar; and when no provider says `userPOS: allow`
nothing was registered — the list is the dictionary's followed by the user dictionaries', and every
configured POS is one of the DICTIONARY's. -/
theorem load_pos_requirement (v : Variant) (cdef : List (List Char)) (g : Grammar) (cfg : Cfg) (ld : Loaded)
    (hwf : PosWF g.pos) (hsz : g.pos.length ≤ 65536) (h : load v cdef g cfg = ok ld) :
    (∀ c ∈ cfg.oov, ∀ pos, (∃ l r k m, c = .simple pos l r k m ∨ c = .regex pos l r k m) →
      pos.length = 6 ∧ pos ∈ ld.g.pos) ∧
    (cfg.oov.any ProvCfg.allows = false →
      ld.g.pos = g.pos ++ cfg.userPos.flatten ∧
      ∀ c ∈ cfg.oov, ∀ pos, (∃ l r k m, c = .simple pos l r k m ∨ c = .regex pos l r k m) → pos ∈ g.pos) := by
  obtain ⟨reg, e, hw, s, l, r⟩ := load_pos h
  have hfin : PosWF (g.pos ++ reg) := s.wf hwf
  have mem : ∀ c ∈ cfg.oov, ∀ pos, (∃ l r k m, c = .simple pos l r k m ∨ c = .regex pos l r k m) →
      pos ∈ g.pos ++ reg := by
    intro c hc pos ⟨_, _, _, _, hp⟩
    obtain ⟨i, hi, rfl⟩ := List.getElem_of_mem hc
    have hz : (cfg.oov[i], ld.provs[i]'(l ▸ hi)) ∈ cfg.oov.zip ld.provs :=
      List.mem_of_getElem? (List.getElem?_zip_eq_some.mpr ⟨List.getElem?_eq_getElem hi, List.getElem?_eq_getElem _⟩)
    exact (r hwf hsz _ hz).mem hp
  refine ⟨fun c hc pos hp => ?_, fun hf => ?_⟩
  · have hm := mem c hc pos hp
    refine ⟨hfin pos hm, ?_⟩
    rw [e]; exact List.mem_append_left _ hm
  · have hreg : g.pos ++ reg = g.pos := s.forbid hf
    refine ⟨by rw [e, hreg], fun c hc pos hp => ?_⟩
    have := mem c hc pos hp
    rwa [hreg] at this

/-- With `userPOS: forbid` (or no `userPOS`) everywhere the load registers nothing. -/
theorem forbid_registers_nothing (v : Variant) (cdef : List (List Char)) (g : Grammar) (cfg : Cfg) (ld : Loaded)
    (hf : cfg.oov.any ProvCfg.allows = false) (h : load v cdef g cfg = ok ld) :
    ld.g.pos = g.pos ++ cfg.userPos.flatten := by
  obtain ⟨reg, e, _, s, _, _⟩ := load_pos h
  have hreg : g.pos ++ reg = g.pos := s.forbid hf
  rw [e, hreg]

/-! ## configuration shape: the number of user dictionaries -/

/-- `LexiconSet::append` refuses a 15th user dictionary (`MAX_DICTIONARIES = 15` with the system
dictionary): a load with more than 14 user dictionaries is an error value, and a load that succeeds
with user dictionaries kept the merged POS list within `u16` ids (65 536 entries). -/
theorem too_many_user_dictionaries_rejected (v : Variant) (v2 : Variant2) (cdef : List (List Char)) (np : Pos)
    (g : Grammar) (cfg : RCfg) (ld : LoadedR) (h : loadR v v2 cdef np g cfg = ok ld) :
    cfg.users.length ≤ 14 ∧ (cfg.users ≠ [] → ld.g.pos.length ≤ 65536) := by
  obtain ⟨_, _, f⟩ := loadR_typed h
  exact ⟨Nat.le_of_succ_le_succ f.count, f.size⟩

/-! ## where the matrix dimensions (`≤ 65535` above) come from -/

/-- `matrix_dims_bounded`: the matrix every range check compares against is the one `Grammar::parse` +
`ConnectionMatrix::from_offset_size` + `CowArray::from_bytes` build from the dictionary bytes.  If that
reader succeeds on a header whose two `i16` numbers are not negative — the builder never writes a
negative one (`ConnBuffer::read` / `write_to` refuse it), and a DEBUG build enforces it by itself as soon
as the first number is not 0, because `2 * left_id_size as usize * right_id_size as usize` overflows —
then `num_left = ` the first number `≤ 32767`, `num_right = ` the second `≤ 32767`, the matrix has
exactly `num_left * num_right` cells (`Matrix.WF`), the POS list has at most 65 535 entries of six
components each.  These are the hypotheses `hnl`, `hnr`, `hwf`, `PosWF`, `hsz` of every theorem above.
With the repair of the header (`hdr = true`: a negative number is refused) the statement
holds WITHOUT any hypothesis on the header, in both builds. -/
theorem matrix_dims_bounded (hdr dbg : Bool) (buf : Codec.Bytes) (offset : Nat) (g : GParsed)
    (hb : ∀ b ∈ buf, b < 256) (h : grammarParse hdr dbg buf offset = ok g)
    (hd : hdr = true ∨ (dbg = true ∧ 0 < g.rawL) ∨ (g.rawL < 32768 ∧ g.rawR < 32768)) :
    g.grammar.conn.nl = g.rawL ∧ g.grammar.conn.nr = g.rawR ∧
    g.grammar.conn.nl ≤ 32767 ∧ g.grammar.conn.nr ≤ 32767 ∧ g.grammar.conn.WF ∧
    PosWF g.grammar.pos ∧ g.grammar.pos.length ≤ 65535 := by
  have f := grammarParse_facts hb h hd
  refine ⟨f.nl_eq, f.nr_eq, f.nl_le, f.nr_le, f.cells_len, ?_, ?_⟩
  · exact List.forall_mem_map.mpr fun q hq => (List.length_map _).trans (f.pos_wf q hq)
  · exact Nat.le_trans (Nat.le_of_eq (List.length_map _)) f.pos_len

/-- The writer's half of "the header is not negative": a connection-matrix text that the builder's
`ConnBuffer::read` accepts (C06's model of it, `Build.readConn`, any of its code variants) declares both
sizes in `0 … 32767` — `parse_i16` and the two `< 0` tests —, and `write_to` writes exactly these two `i16`s.
So every dictionary the builder produced satisfies the hypothesis of `matrix_dims_bounded`. -/
theorem builder_header_in_range (v : Build.Variant) (buf buf' : Build.ConnBuf) (lines : List (Option Build.Str))
    (h : Build.readConn v buf lines = (buf', .ok ())) :
    0 ≤ buf'.conn.nl ∧ buf'.conn.nl ≤ 32767 ∧ 0 ≤ buf'.conn.nr ∧ buf'.conn.nr ≤ 32767 :=
  BuildSide.readConn_sizes h

/-- Without the hypothesis on the header the bound is FALSE — the reader casts the `i16` header numbers
with `as usize` and never tests their sign: the six bytes "no POS, header (0, −1)" are accepted by BOTH
builds as a matrix with `num_right = 2^64 − 1` and no cell, and "header (−1, 0)" is accepted by a
release build (`num_left = 2^64 − 1`) while a debug build panics on the overflowing product instead of
returning an error.  (Files the builder cannot write; not a configuration parameter — an observation
about `Grammar::parse`, not a finding about plugin parameters.) -/
theorem matrix_dims_negative_header_counterexample :
    (∀ dbg, ∃ g, grammarParse false dbg [0, 0, 0, 0, 255, 255] 0 = ok g ∧ g.nl = 0 ∧ g.nr = 18446744073709551615 ∧ g.cells = []) ∧
    (∃ g, grammarParse false false [0, 0, 255, 255, 0, 0] 0 = ok g ∧ g.nl = 18446744073709551615 ∧ g.nr = 0) ∧
    grammarParse false true [0, 0, 255, 255, 0, 0] 0 = crash ∧
    -- a matrix cut short between `size` and `2 * size` bytes passes `end > data.len()` (elements
    -- against bytes) and panics in the slice of `CowArray::from_bytes`, in both builds
    (∀ dbg, grammarParse false dbg [0, 0, 2, 0, 2, 0, 1, 0, 2, 0] 0 = crash) ∧
    -- the repaired reader returns an error value for all three
    (∀ dbg, grammarParse true dbg [0, 0, 0, 0, 255, 255] 0 = err .grammar ∧
      grammarParse true dbg [0, 0, 255, 255, 0, 0] 0 = err .grammar ∧
      grammarParse true dbg [0, 0, 2, 0, 2, 0, 1, 0, 2, 0] 0 = err .grammar) := by
  refine ⟨fun dbg => ?_, ⟨_, rfl, rfl, rfl⟩, by decide, fun dbg => ?_, fun dbg => ?_⟩
  · cases dbg
    · exact ⟨_, rfl, rfl, rfl, rfl⟩
    · exact ⟨_, rfl, rfl, rfl, rfl⟩
  · cases dbg <;> decide
  · cases dbg <;> exact ⟨by decide, by decide, by decide⟩

/-- `grammar_parse_never_panics`, full statement, true for the repaired reader (`hdr = true`, described at `Params.grammarParse`):
for every buffer and every offset `Grammar::parse` returns a grammar or an error value — no overflowing
product, no slice outside the buffer, no `CowArray` over fewer bytes than it claims —, in both builds; and
a grammar it returns has dimensions `≤ 32767`, exactly `num_left * num_right` cells and a well-formed POS
list.  (For `hdr = false` the statement is refuted by the counterexample above.) -/
theorem grammar_parse_never_panics (dbg : Bool) (buf : Codec.Bytes) (offset : Nat)
    (hb : ∀ b ∈ buf, b < 256) (hlen : buf.length < 4611686018427387904) :
    (∃ g, grammarParse true dbg buf offset = ok g ∧ g.grammar.conn.nl ≤ 32767 ∧ g.grammar.conn.nr ≤ 32767 ∧
      g.grammar.conn.WF ∧ PosWF g.grammar.pos ∧ g.grammar.pos.length ≤ 65535) ∨
    (∃ k, grammarParse true dbg buf offset = err k) := by
  rcases isSafe_iff.mp (grammarParse_repaired_safe dbg buf offset hlen) with ⟨g, hp⟩ | hk
  · obtain ⟨_, _, r⟩ := matrix_dims_bounded true dbg buf offset g hb hp (Or.inl rfl)
    exact Or.inl ⟨g, hp, r⟩
  · exact Or.inr hk

/-- The consequence clause with the reader in front (all repairs, square matrix): the dictionary bytes
are parsed, the configuration is loaded against the parsed grammar, and the lattice over candidates
from validated lexicon entries and loaded providers never indexes outside the matrix — no hypothesis
on the size or the well-formedness of the matrix is left, only on the two header numbers: equal, not 0,
and not negative (the last is not needed for the repaired reader). -/
theorem no_oob_in_analysis_loaded (v : Variant) (hv1 : v.jsonGe = true) (hv2 : v.unkGe = true)
    (hdr dbg0 : Bool) (buf : Codec.Bytes) (offset : Nat) (gp : GParsed) (hb : ∀ b ∈ buf, b < 256)
    (hparse : grammarParse hdr dbg0 buf offset = ok gp) (hneg : hdr = true ∨ (gp.rawL < 32768 ∧ gp.rawR < 32768))
    (hsq : gp.rawL = gp.rawR) (hpos : 0 < gp.rawL)
    (cdef : List (List Char)) (cfg : Cfg) (ld : Loaded) (h : load v cdef gp.grammar cfg = ok ld)
    (len : Nat) (nodes : List LNode)
    (hnodes : ∀ nd ∈ nodes, nd.b ≤ len ∧ nd.e ≤ len ∧
      ((nd.left < gp.rawL ∧ nd.right < gp.rawL) ∨ ∃ p ∈ ld.provs, ∃ e ∈ provNodes p, nd.left = e.l ∧ nd.right = e.r))
    (dbg : Bool) :
    ∃ c, buildLattice dbg ld.g.conn len nodes (bosEnds len) = ok c := by
  obtain ⟨e1, e2, b1, _, hwf, _, _⟩ := matrix_dims_bounded hdr dbg0 buf offset gp hb hparse
    (hneg.elim Or.inl (fun h => Or.inr (Or.inr h)))
  exact no_oob_in_analysis v hv1 hv2 cdef gp.grammar cfg ld gp.rawL e1 (by rw [e2, hsq]) hpos (by omega) hwf h len
    nodes hnodes dbg

/-! ## non-vacuity of the hypotheses -/

/-- a 2 × 2 dictionary, one Simple provider and one inhibited pair: the load succeeds for the
repaired variant (so `inhibit_checked` / `no_oob_in_analysis` are not vacuous), the pair `(1, 0)`
is written to cell `(1, 0)` only. -/
example :
    let g : Grammar := ⟨[[['a'], ['b'], ['c'], ['d'], ['e'], ['f']]], ⟨2, 2, [1, 2, 3, 4]⟩⟩
    let cfg : Cfg := ⟨[[(1, 0)]], [.simple [['a'], ['b'], ['c'], ['d'], ['e'], ['f']] 1 1 (-7) .forbid], []⟩
    g.conn.WF ∧
    (∃ ld, load (repaired true) [] g cfg = ok ld ∧ ld.g.conn.cells = [1, 32767, 3, 4] ∧
      ld.provs.map provNodes = [[⟨1, 1, -7, 0⟩]]) := by
  refine ⟨by simp [Matrix.WF], _, rfl, by decide, by decide⟩

/-- the hypotheses of the POS theorems are satisfiable: a POS the list lacks is not found, one it has is found at its index -/
example : getPosId [[['a'], ['b'], ['c'], ['d'], ['e'], ['f']]] [['x'], ['b'], ['c'], ['d'], ['e'], ['f']] = none ∧
    getPosId [[['a'], ['b'], ['c'], ['d'], ['e'], ['f']]] [['a'], ['b'], ['c'], ['d'], ['e'], ['f']] = some 0 := by
  refine ⟨by decide, by decide⟩

/-- `accepted_in_range` is not vacuous: `2` is accepted on a 3 × 3 matrix by both comparisons -/
example : checkLeftId (repaired true) ⟨3, 3, []⟩ 2 = ok 2 ∧ checkLeftId (cur true) ⟨3, 3, []⟩ 2 = ok 2 ∧
    checkLeftId (repaired true) ⟨3, 3, []⟩ 3 = err .dataFormat := by
  refine ⟨by decide, by decide, by decide⟩

/-- the raw layer is not vacuous: a configuration with every bundled plugin kind and a fitting user
dictionary loads in the fully repaired variant; `maxLength = 2^64 − 1` is accepted, harmless at offset 0
and fatal at offset 1 only for the unrepaired addition -/
example :
    let pos : Pos := [['a'], ['b'], ['c'], ['d'], ['e'], ['f']]
    let g : Grammar := ⟨[pos], ⟨2, 2, [1, 2, 3, 4]⟩⟩
    let cfg : RCfg := ⟨[.pairs [[.int 1, .int 0]]], [.prolonged (.strs [['-']]) .absent, .yomigana (.strs [['(']]) (.strs [[')']]) (.int 4) 27864],
      [.regex (.strs pos) (.int 1) (.int 1) (.int (-7)) (.str "forbid".toList) (.int 18446744073709551615) (.str "relaxed".toList)
        (.str ['.']) .absent true],
      [.katakana (.strs pos) (.int 2), .numeric .null], [⟨[], [(1, 1), (-1, -1)]⟩]⟩
    (∃ ld, loadR (repaired true) ⟨true, true⟩ [] pos g cfg = ok ld ∧ ld.g.conn.cells = [1, 32767, 3, 4] ∧
      ld.provs.map (·.2) = [⟨18446744073709551615, true, true⟩]) ∧
    regexAsk false true ⟨18446744073709551615, true, true⟩ 0 6 = ok (some 1) ∧
    regexAsk false true ⟨18446744073709551615, true, true⟩ 1 6 = crash ∧
    regexAsk true true ⟨18446744073709551615, true, true⟩ 1 6 = ok (some 2) := by
  refine ⟨⟨_, rfl, by decide, by decide⟩, by decide, by decide, by decide⟩

/-- the hypotheses of the parameter theorems are satisfiable -/
example : setUpInput (.yomigana (.strs [['(']]) (.strs [[')']]) (.int 4) 27864) = ok () ∧
    setUpInput (.yomigana (.strs [['(']]) (.strs [[')']]) (.int 0) 27864) = err .plugin ∧
    setUpInput (.yomigana (.strs []) (.strs [[')']]) (.int 4) 27864) = err .plugin ∧
    setUpInput (.yomigana (.strs [['(']]) (.strs [[')']]) (.int (-1)) 27864) = err .serde ∧
    setUpInput (.yomigana (.strs [['(']]) (.strs [[')']]) (.int 27864) 27864) = ok () ∧
    setUpInput (.yomigana (.strs [['(']]) (.strs [[')']]) (.int 27865) 27864) = err .plugin ∧
    setUpInput (.prolonged (.strs [['-']]) .null) = ok () ∧
    setUpInput (.prolonged (.strs [['a', 'b']]) .null) = err .serde ∧
    deUsizeD 32 .absent = some 32 ∧ deUsize .float = none ∧
    deInh (.pairs [[.int 1, .int 0], [.int (-32768), .int 32767]]) = some [(1, 0), (-32768, 32767)] ∧
    deInh (.pairs [[.int 1]]) = none ∧ deInh (.pairs [[.int 1, .int 2, .int 3]]) = none ∧ deInh (.pairs [[.int 1, .float]]) = none ∧
    deInh (.pairs [[.int 32768, .int 0]]) = none ∧ deInh .absent = none ∧ deInh (.pairs []) = some [] := by
  refine ⟨by decide, by decide, by decide, by decide, by decide, by decide, by decide, by decide, by decide, by decide,
    by decide, by decide, by decide, by decide, by decide, by decide, by decide⟩

/-- `swapped_checks_sound` / `no_oob_in_analysis_nonsquare` are not vacuous: on a 4 × 2 matrix the swapped
check accepts left id 1 and rejects left id 3 -/
example : checkId true 2 1 = ok 1 ∧ checkId true 2 3 = err .dataFormat ∧ checkId true 4 3 = ok 3 := by
  refine ⟨by decide, by decide, by decide⟩

/-- the hypotheses of the POS-list and reader theorems are satisfiable: a 2 × 2 dictionary parsed from its bytes (one POS of six
one-letter components, header (2, 2), four cells) satisfies the hypothesis of `matrix_dims_bounded` in
both forms; a provider with a NEW POS under `allow` loads and registers it behind the dictionary's
(`dict_pos_ids_stable`, `provider_pos_resolved` are not vacuous); under `forbid` it is rejected -/
example :
    let buf : Codec.Bytes := [1, 0, 1, 97, 0, 1, 98, 0, 1, 99, 0, 1, 100, 0, 1, 101, 0, 1, 102, 0, 2, 0, 2, 0, 1, 0, 2, 0, 3, 0, 255, 255]
    let newp : Pos := [['x'], ['b'], ['c'], ['d'], ['e'], ['f']]
    (∃ g, grammarParse false true buf 0 = ok g ∧ grammarParse true false buf 0 = ok g ∧ 0 < g.rawL ∧ g.rawL < 32768 ∧ g.rawR < 32768 ∧
      g.grammar.pos = [[['a'], ['b'], ['c'], ['d'], ['e'], ['f']]] ∧ g.grammar.conn = ⟨2, 2, [1, 2, 3, -1]⟩ ∧
      (∃ ld, load (repaired true) [] g.grammar ⟨[], [.simple newp 1 1 0 .allow], [[newp]]⟩ = ok ld ∧
        ld.g.pos = g.grammar.pos ++ [newp] ++ [newp] ∧ ld.provs.map provNodes = [[⟨1, 1, 0, 1⟩]]) ∧
      load (repaired true) [] g.grammar ⟨[], [.simple newp 1 1 0 .forbid], []⟩ = err .pos) ∧
    ProvCfg.allows (.simple newp 1 1 0 .forbid) = false ∧ PosWF [newp] := by
  refine ⟨⟨_, rfl, rfl, by decide, by decide, by decide, by decide, by decide, ⟨_, rfl, by decide, by decide⟩, rfl⟩,
    rfl, fun q hq => ?_⟩
  simp only [List.mem_singleton] at hq
  subst hq; rfl

/-- `unguarded_lookup_counterexample` and `too_many_user_dictionaries_rejected` are not vacuous: a truncated
POS is a prefix of an entry; 14 user dictionaries load, the 15th is `LexiconSetError` -/
example :
    let pos : Pos := [['a'], ['b'], ['c'], ['d'], ['e'], ['f']]
    let g : Grammar := ⟨[pos], ⟨2, 2, [1, 2, 3, 4]⟩⟩
    let oov : List ROov := [.simple (.strs pos) (.int 0) (.int 0) (.int 0) .absent]
    ([['a'], ['b']] : Pos) <+: pos ∧ getPosIdU [pos] [['a'], ['b']] = some 0 ∧ getPosIdU [pos] [] = some 0 ∧
    (∃ ld, loadR (repaired true) ⟨true, true⟩ [] pos g ⟨[], [], oov, [], List.replicate 14 ⟨[], []⟩⟩ = ok ld) ∧
    loadR (repaired true) ⟨true, true⟩ [] pos g ⟨[], [], oov, [], List.replicate 15 ⟨[], []⟩⟩ = err .lexSet := by
  refine ⟨⟨[['c'], ['d'], ['e'], ['f']], rfl⟩, by decide, by decide, ⟨_, rfl⟩, rfl⟩

/-- `builder_header_in_range` is not vacuous: the builder reads the header `2 2`; `-1 2` is refused -/
example : (Build.readConn Build.Variant.landed Build.ConnBuf.new [some ['2', ' ', '2', '\n']]).2 = .ok () ∧
    (Build.readConn Build.Variant.landed Build.ConnBuf.new [some ['2', ' ', '2', '\n']]).1.conn.nl = 2 ∧
    (Build.readConn Build.Variant.landed Build.ConnBuf.new [some ['-', '1', ' ', '2', '\n']]).2 = .err .InvalidConnSize 0 := by
  refine ⟨rfl, by decide, rfl⟩

/-- `regex_setting_checked` is not vacuous: a pattern the crate refuses is `ConfigError` (after the POS was accepted),
a `regex` that is not a string or a `debug` that is not a boolean is `SerdeError`, a forbidden POS comes first -/
example :
    let pos : Pos := [['a'], ['b'], ['c'], ['d'], ['e'], ['f']]
    let newp : Pos := [['x'], ['b'], ['c'], ['d'], ['e'], ['f']]
    let g : Grammar := ⟨[pos], ⟨2, 2, [1, 2, 3, 4]⟩⟩
    let rx (p : Pos) (m rx d : JF) (ok : Bool) : ROov := .regex (.strs p) (.int 1) (.int 1) (.int 0) m .absent .absent rx d ok
    (∃ r, setUpROov (repaired true) [] g (rx pos .absent (.str ['.']) .absent true) = ok r) ∧
    setUpROov (repaired true) [] g (rx pos .absent (.str ['(']) .absent false) = err .config ∧
    setUpROov (repaired true) [] g (rx newp (.str "allow".toList) (.str ['(']) .bool false) = err .config ∧
    setUpROov (repaired true) [] g (rx newp .absent (.str ['(']) .absent false) = err .pos ∧
    setUpROov (repaired true) [] g (rx pos .absent (.int 5) .absent true) = err .serde ∧
    setUpROov (repaired true) [] g (rx pos .absent .absent .absent true) = err .serde ∧
    setUpROov (repaired true) [] g (rx pos .absent (.str ['.']) .null true) = err .serde := by
  refine ⟨⟨_, rfl⟩, rfl, rfl, rfl, rfl, rfl, rfl⟩

end C20
