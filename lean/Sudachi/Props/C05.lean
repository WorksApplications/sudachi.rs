import Sudachi.Model.Codec
import Sudachi.Model.CodecBuild
import Sudachi.Proofs.Codec
import Sudachi.Proofs.CodecLayout
import Sudachi.Proofs.CodecFile
import Sudachi.Proofs.CodecCsv
import Sudachi.Proofs.CodecFields
import Sudachi.Proofs.CodecSubset
import Sudachi.Props.C11
/-!
# C05 — compile-then-load round trip preserves every dictionary field, deterministically

Model: `Codec` (`Model/Codec.lean`: writers of `dic/build/primitives.rs`, `lexicon.rs write_word_info`,
`conn.rs write_elem`, readers of `dic/read/*`, `lexicon/word_infos.rs`, `connect.rs`, `grammar.rs`,
`header.rs`; `Model/CodecBuild.lean`: CSV field parsers, resolver, layout of `DictBuilder::compile`;
`Model/CodecCsv.lean`: the csv reader `LexiconReader::read_bytes` configures, for the three `csv_…` theorems;
`Model/Subset.lean`, C11's reader with a field subset, through `Proofs/CodecSubset.lean`, for the last section).
Quantifiers: every string of Unicode scalar values, every length `0..32767`, every array of up to 127
`u32`s, every well-formed entry, every matrix shape and every list of in-range matrix lines.
-/
namespace C05
open Codec

/-- Clause "length prefix: 1 byte below 127, else 2 bytes with the high bit; the reader accepts both".
For every length the writer accepts (`0..=i16::MAX`) the reader returns it and leaves the rest
untouched — 126/127/128 are not special cases. -/
theorem len_roundtrip (n : Nat) (hn : n ≤ 32767) (rest : Bytes) :
    writeLen n = .ok (encLen n) ∧ stringLength (encLen n ++ rest) = some (n, rest) ∧
      (encLen n).length = (if n < 127 then 1 else 2) :=
  ⟨writeLen_ok n hn, stringLength_encLen n hn rest, encLen_length n⟩

/-- the writer rejects every longer length (no silent truncation of the 15-bit prefix) -/
theorem len_too_long (n : Nat) (hn : n > 32767) : writeLen n = .err "InvalidSize" :=
  if_pos hn

/-- Clause "UTF-16 strings incl. surrogate pairs": one scalar value, BMP or astral, followed by
anything, decodes to itself. -/
theorem utf16_roundtrip (c : Nat) (hc : IsScalar c) (us : List Nat) :
    decodeUtf16 (encodeUtf16 c ++ us) = (decodeUtf16 us).map (c :: ·) :=
  decodeUtf16_encode c hc us

/-- Whole strings: `utf16_string_parser (Utf16Writer::write s ++ rest) = (s, rest)` for every string of
scalar values with at most 32767 UTF-16 code units. -/
theorem string_roundtrip (s : Str) (hs : Scalars s) (hl : (units s).length ≤ 32767) (rest : Bytes) :
    utf16StringParser (encStr s ++ rest) = some (s, rest) :=
  utf16StringParser_encStr s hs hl rest

/-- Clause "up to 127 array items": `u32_array_parser (write_u32_array xs ++ rest) = (xs, rest)`
(split units, word structure and synonym groups all use this codec; `WordId::from_raw` is the identity). -/
theorem u32array_roundtrip (xs : List Nat) (hl : xs.length ≤ 127) (h : ∀ x ∈ xs, x < 4294967296) (rest : Bytes) :
    writeU32Array xs = .ok (encU32s xs) ∧ u32ArrayParser (encU32s xs ++ rest) = some (xs, rest) :=
  ⟨writeU32Array_ok xs hl, u32ArrayParser_encU32s xs h rest⟩

/-- Clause "field order and encodings of the writer mirror the reader" + "forms equal to the headword
are stored empty and restored on access".  For every well-formed entry, parsing the record written by
`write_word_info` (followed by any bytes) and reading it through the `WordInfo` accessors yields the
declared headword, key length, POS id, dictionary-form id, split units, word structure and synonym
groups; the normalised form and the reading come back as declared **unless declared empty**, in which
case the accessor answers the headword (see `empty_form_counterexample`). -/
theorem wordinfo_roundtrip (e : Entry) (wf : e.WF) (rest : Bytes) :
    ∃ wi, parseWordInfo (encWordInfo e ++ rest) = some wi ∧
      wi.surface = e.headwordS ∧
      wi.headWordLength = utf8LenStr e.surface ∧
      wi.posId = e.pos ∧
      wi.normalizedFormA = (if e.normS = [] then e.headwordS else e.normS) ∧
      wi.readingFormA = (if e.readingS = [] then e.headwordS else e.readingS) ∧
      wi.dicFormWordId = u32ToI e.dicForm ∧
      wi.aUnitSplit = e.splitsA ∧ wi.bUnitSplit = e.splitsB ∧
      wi.wordStructure = e.wordStructure ∧ wi.synonymGroupIds = e.synonyms := by
  exact ⟨_, parseWordInfo_enc e wf rest, rfl, rfl, rfl, stored_accessor _ _, stored_accessor _ _, rfl, rfl, rfl, rfl, rfl⟩

/-- the checked writer accepts every well-formed entry and emits exactly `encWordInfo`: the byte-size guard of
`Utf16Writer::write` (256 KiB of UTF-8) cannot fire for a string of at most 32767 UTF-16 units (`utf8LenStr_le`:
at most three bytes per unit), so well-formedness alone suffices -/
theorem wordinfo_written (e : Entry) (wf : e.WF) : writeWordInfo e = .ok (encWordInfo e) :=
  writeWordInfo_ok e wf

/-- a concrete entry (`あ`, reading declared empty) -/
def emptyReadingEntry : Entry :=
  { left := 0, right := 0, cost := 0, surface := [12354], headword := none, dicForm := INVALID_WID, normForm := none,
    pos := 0, splitsA := [], splitsB := [], reading := some [], wordStructure := [], synonyms := [] }

/-- The property's "exactly the declared data" is FALSE for an empty declared reading (same for the
normalised form): the binary format uses the empty string for "equal to the headword", so a row that
declares the empty reading is loaded with the headword as its reading.  Kernel-checked witness, also
reproduced on the implementation (finding `c05:empty-form`). -/
theorem empty_form_counterexample :
    emptyReadingEntry.readingS = [] ∧
    (parseWordInfo (encWordInfo emptyReadingEntry)).map (·.readingFormA) = some [12354] := by
  decide +kernel

/-- F-EMPTY is a property of the FORMAT, not of one line of the writer: for EVERY entry, declaring the reading
(resp. the normalised form) empty and not declaring it at all (= equal to the headword) produce byte-identical
records, so no reader can tell them apart; a repair needs a format change (a flag or a sentinel), or the builder
must refuse an empty declared form. -/
theorem empty_form_indistinguishable (e : Entry) :
    encWordInfo { e with reading := some [] } = encWordInfo { e with reading := none } ∧
    encWordInfo { e with normForm := some [] } = encWordInfo { e with normForm := none } := by
  have a : ∀ hw : Str, stored [] hw = stored hw hw := by
    intro hw; unfold stored; split <;> simp
  exact ⟨encWordInfo_congr _ _ rfl rfl rfl rfl rfl (a _) rfl rfl rfl rfl,
    encWordInfo_congr _ _ rfl rfl rfl (a _) rfl rfl rfl rfl rfl rfl⟩

/-- a minimal entry with headword `s` and dictionary-form id `df` -/
def plainEntry (s : Str) (df : Nat) : Entry :=
  { left := 0, right := 0, cost := 0, surface := s, headword := none, dicForm := df, normForm := none,
    pos := 0, splitsA := [], splitsB := [], reading := none, wordStructure := [], synonyms := [] }

/-- the lexicon section holding `es` (as `LexiconWriter::write` lays it out at offset 0) -/
def lexOf (es : List Entry) : Lexicon :=
  { bytes := lexiconBytes es (es.map encWordInfo) 0, trieOff := 0, trieSize := 0, widTableOff := 0, widTableSize := 0,
    paramsOff := 4, size := es.length, infosOff := 4 + 6 * es.length, hasSynonyms := true }

/-- D8, first half (kernel-checked witness on the model; reproduced on the implementation, finding
`c05:user-dicform:panic`).  A USER dictionary row `あ` declaring the dictionary form `U0` passes
`validate_entries` (user word 0 exists), is written with the raw id `0x10000000`, and
`WordInfos::get_word_info` then indexes the offsets table of the same lexicon with that raw id: panic. -/
theorem user_dicform_counterexample :
    validateEntries false 1 1 (some 5) [plainEntry [12354] (widNew 1 0)] = true ∧
    (lexOf [plainEntry [12354] (widNew 1 0)]).getWordInfo 0 = .panic "slice:word_id_to_offset" := by
  decide +kernel

/-- D8, second half (finding `c05:user-dicform:wrong`).  A user row `あ` declaring the dictionary form
`1` (= SYSTEM word 1 for the validator: 5 system words exist) gets the headword of USER word 1 (`い`)
as its dictionary form, whatever system word 1 is. -/
theorem user_dicform_wrong_counterexample :
    validateEntries false 1 1 (some 5) [plainEntry [12354] 1, plainEntry [12356] INVALID_WID] = true ∧
    ((lexOf [plainEntry [12354] 1, plainEntry [12356] INVALID_WID]).getWordInfo 0).bind (fun wi => .ok wi.dictionaryFormA)
      = .ok [12356] := by
  decide +kernel

/-- Clause "the connection cost of every id pair equals the matrix text" (`write_elem` at
`right*num_left+left`, read with the same formula).  For every shape and every list of in-range lines
written in file order onto the zero matrix, the cost read for `(l, r)` is the cost of the last line
naming that pair, or 0. -/
theorem matrix_roundtrip (nl nr : Nat) (lines : List (Int × Int × Int)) (hok : LinesOk nl nr lines)
    (l r : Nat) (hl : l < nl) (hr : r < nr) :
    ∃ m, writeAll nl lines (List.replicate (nl * nr * 2) 0) = .ok m ∧ m.length = nl * nr * 2 ∧
      connCost m nl nr l r = .ok (declared lines l r 0) := by
  obtain ⟨m, hm, hlen, hcost⟩ := writeAll_zero_cost nl nr lines hok
  exact ⟨m, hm, hlen, hcost l r hl hr⟩

/-- Lexicon section alone, for ANY bytes `pre` in front of it (the whole file is `dict_roundtrip`
below): any list of well-formed entries and a file below 4 GiB, the offsets table written by
`LexiconWriter::write` (`offset_base = offset + 10·n + 4`) leads `WordInfos::parse_word_info(i)` to exactly the
fields of entry `i`. -/
theorem lexicon_records_roundtrip (pre : Bytes) (es : List Entry) (hwf : ∀ e ∈ es, e.WF)
    (hsize : (pre ++ lexiconBytes es (es.map encWordInfo) pre.length).length < 4294967296)
    (i : Nat) (e : Entry) (hi : es[i]? = some e) :
    (lexAt pre es).parseWordInfo i = .ok
      { surface := e.headwordS, headWordLength := utf8LenStr e.surface, posId := e.pos,
        normalizedForm := stored e.normS e.headwordS, dicFormWordId := u32ToI e.dicForm,
        readingForm := stored e.readingS e.headwordS, aUnitSplit := e.splitsA, bUnitSplit := e.splitsB,
        wordStructure := e.wordStructure, synonymGroupIds := e.synonyms } :=
  parseWordInfo_over (lexAt_over pre es hwf hsize) i e hi

/-- Header clause: `Header::parse (Header::write_to h ++ rest)` returns the version and the creation time as
written and the description **up to its first NUL byte** (`nul_terminated_str_from_slice`); for a NUL-free
description of at most 256 bytes that is the description itself (256 bytes exactly: no terminator is stored and
none is needed). -/
theorem header_roundtrip (v t : Nat) (desc rest : Bytes) (hv : IsVersion v) (ht : t < 18446744073709551616)
    (hd : desc.length ≤ 256) :
    writeHeader v t desc = .ok (hdrBytes v t desc) ∧ (hdrBytes v t desc).length = 272 ∧
    parseHeader (hdrBytes v t desc ++ rest) = .ok { version := v, createTime := t, description := desc.takeWhile (· ≠ 0) } ∧
    ((∀ b ∈ desc, b ≠ 0) → desc.takeWhile (· ≠ 0) = desc) := by
  exact ⟨writeHeader_ok v t desc hd, hdrBytes_length v t desc hd, parseHeader_hdrBytes v t desc rest hv ht hd,
    takeWhile_no_zero desc⟩

/-- the writer refuses a longer description (no silent truncation) -/
theorem header_too_long (v t : Nat) (desc : Bytes) (hd : desc.length > 256) : writeHeader v t desc = .err "InvalidDataFormat" :=
  if_pos hd

/-- a description with an embedded NUL is written in full and loaded truncated (outside the property's list of
declared data; reported as an observation) -/
theorem header_nul_counterexample :
    (writeHeader SYSTEM_DICT_VERSION_2 0 [120, 0, 121]).bind parseHeader
      = .ok { version := SYSTEM_DICT_VERSION_2, createTime := 0, description := [120] } := by
  decide +kernel

/-- Grammar clause, POS table: `pos_list_parser (write_pos_table rows ++ rest) = (rows, rest)` for every list of
fewer than 65536 rows of six strings of at most 32767 UTF-16 units each (1-byte and 2-byte length prefixes alike). -/
theorem pos_table_roundtrip (pos : List (List Str)) (startPos : Nat) (h : PosOk (pos.drop startPos)) (rest : Bytes) :
    writePosTable pos startPos = .ok (posTableBytes (pos.drop startPos)) ∧
    posListParser (posTableBytes (pos.drop startPos) ++ rest) = some (pos.drop startPos, rest) :=
  ⟨writePosTable_ok pos startPos h, posListParser_enc _ h rest⟩

/-- **Whole-file clause** (`dict_roundtrip`, full).  For every builder state within the limits of the format
(`FileOk`, a decidable predicate: description ≤ 256 bytes, `u64` time, `u16` number of POS rows with six strings
each, strings of scalar values with ≤ 32767 UTF-16 units, keys ≤ 32767 bytes, `i16` matrix sizes with one cell per
pair, `i16` parameters, `u16` POS ids, `u32` ids, ≤ 127 items per array, ≤ 127 indexed entries per key, trie a
multiple of four bytes, file < 4 GiB) whose references are valid (`validateEntries`, the compiler's own check),
system or user dictionary alike:

* `DictBuilder::compile` succeeds and writes `fileBytes c` = header ++ POS table ++ matrix ++ index ++ lexicon;
* `read_any_dictionary` (and `read_system_dictionary` resp. `read_user_dictionary`) loads these bytes;
* the header carries the version of the dictionary kind, the creation time and the description (up to a NUL);
* the grammar carries exactly the POS rows the dictionary adds, the matrix sizes, and EVERY cell of the matrix
  (`conn_matrix().cost(l, r)` for any contents `v` the matrix bytes hold);
* the trie region and the word-id table region of the loaded lexicon are the trie blob and the table the builder
  wrote (`Lexicon::parse` offsets);
* for EVERY entry `i`: `get_params(i)` is its (left, right, cost) and `parse_word_info(i)` returns its headword,
  key length, POS id, stored normalised form and reading, dictionary-form id, split units, word structure and
  synonym groups (`wordinfo_roundtrip` turns the stored forms into the declared ones).

The dictionary-form id is the id as `write_word_info` stores it (`storeDf`, code variant `c.dfFix`): the declared id
itself for the code as it stands (`storeDf_cur`) and, in both variants, for `*` and every reference of a system
dictionary (`storeDf_sys`); the repaired writer stores `UN` as `N` (`storeDf_user`). -/
theorem dict_roundtrip (c : CompileInput) (hok : FileOk c)
    (hval : validateEntries c.dfOwn c.maxLeft c.maxRight c.numSystem c.entries = true) :
    ∃ ld g,
      compile c = .ok (fileBytes c) ∧
      readAny (fileBytes c) 0 = .ok ld ∧
      (if c.user then readUser (fileBytes c) 0 else readSystem (fileBytes c) 0) = .ok ld ∧
      -- header
      ld.header.version = versionOf c.user ∧ ld.header.createTime = c.time ∧
      ld.header.description = c.desc.takeWhile (· ≠ 0) ∧
      ((∀ b ∈ c.desc, b ≠ 0) → ld.header.description = c.desc) ∧
      -- grammar section
      ld.grammar = some g ∧ g.posList = c.pos.drop c.startPos ∧
      g.numLeft = c.conn.numLeft.toNat ∧ g.numRight = c.conn.numRight.toNat ∧
      (∀ v, Holds c.conn.matrix c.conn.numLeft.toNat c.conn.numRight.toNat v →
        ∀ l r, l < c.conn.numLeft.toNat → r < c.conn.numRight.toNat → g.cost l r = .ok (v l r)) ∧
      -- index
      (ld.lexicon.bytes.drop ld.lexicon.trieOff).take (4 * ld.lexicon.trieSize) = c.trie ∧
      (ld.lexicon.bytes.drop ld.lexicon.widTableOff).take ld.lexicon.widTableSize = widTableBytes c.entries ∧
      -- lexicon section
      ld.lexicon.size = c.entries.length ∧
      ∀ i e, c.entries[i]? = some e →
        ld.lexicon.getParams i = .ok (e.left, e.right, e.cost) ∧
        ld.lexicon.parseWordInfo i = .ok
          { surface := e.headwordS, headWordLength := utf8LenStr e.surface, posId := e.pos,
            normalizedForm := stored e.normS e.headwordS, dicFormWordId := u32ToI (storeDf c.dfFix e).dicForm,
            readingForm := stored e.readingS e.headwordS, aUnitSplit := e.splitsA, bUnitSplit := e.splitsB,
            wordStructure := e.wordStructure, synonymGroupIds := e.synonyms } := by
  obtain ⟨ld, g, hread, h⟩ := readAny_file c hok
  refine ⟨ld, g, compile_ok c hok hval, hread, readKind_loaded c ld g _ hread h, ?_, ?_, ?_, ?_, h.grammar, h.posList,
    h.numLeft, h.numRight, ?_, h.trie, h.widTable, by rw [h.size, storedEntries_length], ?_⟩
  · rw [h.header]
  · rw [h.header]
  · rw [h.header]
  · intro hz; rw [h.header]; exact takeWhile_no_zero c.desc hz
  · intro v hv l r hl hr; exact cost_loaded c ld g h v hv l r hl hr
  · intro i e hi
    have hs := storedEntries_get c i e hi
    have hp := getParams_over (h.over hok) i _ hs (storedEntries_ok c hok.entries _ (List.mem_of_getElem? hs)).2
    have hw := parseWordInfo_over (h.over hok) i _ hs
    -- the stored entry is `e` but for its dictionary-form id
    rw [storeDf_eq c.dfFix e] at hp hw
    exact ⟨hp, hw⟩

/-- Whole file + matrix TEXT: when the matrix bytes of the builder state are what the lines of the matrix text
write onto the zero matrix (`write_elem` in file order), every cost the loaded grammar answers is the cost of the
last line naming the pair, or 0. -/
theorem dict_roundtrip_matrix (c : CompileInput) (hok : FileOk c)
    (lines : List (Int × Int × Int)) (hlines : LinesOk c.conn.numLeft.toNat c.conn.numRight.toNat lines)
    (hm : writeAll c.conn.numLeft.toNat lines (List.replicate (c.conn.numLeft.toNat * c.conn.numRight.toNat * 2) 0) = .ok c.conn.matrix) :
    ∃ ld g, readAny (fileBytes c) 0 = .ok ld ∧ ld.grammar = some g ∧
      ∀ l r, l < c.conn.numLeft.toNat → r < c.conn.numRight.toNat → g.cost l r = .ok (declared lines l r 0) := by
  obtain ⟨ld, g, hread, h⟩ := readAny_file c hok
  obtain ⟨m, hm', hh⟩ := writeAll_holds _ _ lines hlines _ _ (holds_zero _ _)
  rw [hm] at hm'
  cases hm'
  exact ⟨ld, g, hread, h.grammar, fun l r hl hr => cost_loaded c ld g h _ hh l r hl hr⟩

/-- Matrix TEXT clause (`ConnBuffer::read`): for a text whose first non-blank line is the header `nl nr` and whose
further non-blank lines all parse to in-range triples `t`, `read_conn` succeeds with sizes `nl x nr` and a matrix in
which every cell holds the cost of the last line naming it, or 0 (line loop = `write_elem` in file order onto the
zero matrix).  With `dict_roundtrip_matrix` this carries the matrix text through the file to `cost(l, r)`. -/
theorem conn_text_roundtrip (text h : Str) (rest : List Str) (nl nr : Nat) (t : List (Int × Int × Int))
    (hbody : (readLines text).dropWhile isEmptyLine = h :: rest)
    (hhdr : (splitnWhite 2 (trim h)).map parseI16 = [some (nl : Int), some (nr : Int)])
    (hlines : lineTriples rest = some t) (hok : LinesOk nl nr t) :
    ∃ m, readConn text = .ok { matrix := m, numLeft := nl, numRight := nr } ∧
      writeAll nl t (List.replicate (nl * nr * 2) 0) = .ok m ∧ m.length = nl * nr * 2 ∧
      ∀ l r, l < nl → r < nr → connCost m nl nr l r = .ok (declared t l r 0) := by
  obtain ⟨m, hm, hlen, hcost⟩ := writeAll_zero_cost nl nr t hok
  refine ⟨m, ?_, hm, hlen, hcost⟩
  unfold readConn
  simp only [hbody, hhdr]
  have hneg : ¬ ((nl : Int) < 0 ∨ (nr : Int) < 0) := by omega
  simp only [hneg, if_false, Int.toNat_natCast]
  rw [parseConnLines_eq nl rest t _ hlines, hm]

/-- Whole file + dictionary forms: `get_word_info(i)` on the loaded file resolves the STORED dictionary-form id `d`
inside the same lexicon and reports the headword of entry `d`.  For a system dictionary `d` is the declared id
(`storeDf_sys`), so this is the clause "dictionary forms resolved to the intended entries"; for a user dictionary
see `user_dicform_repaired` (variant `fix`) and `user_dicform_counterexample` (variant `cur`). -/
theorem dict_roundtrip_dicform (c : CompileInput) (hok : FileOk c)
    (i : Nat) (e : Entry) (hi : c.entries[i]? = some e) (target : Option Entry)
    (hdf : ((storeDf c.dfFix e).dicForm = INVALID_WID ∧ target = none) ∨ ((storeDf c.dfFix e).dicForm = i ∧ target = none) ∨
           ((storeDf c.dfFix e).dicForm < 2147483648 ∧ (storeDf c.dfFix e).dicForm ≠ i ∧
              ∃ t, c.entries[(storeDf c.dfFix e).dicForm]? = some t ∧ target = some t)) :
    ∃ ld wi, readAny (fileBytes c) 0 = .ok ld ∧ ld.lexicon.getWordInfo i = .ok wi ∧ wi.surface = e.headwordS ∧
      wi.dictionaryFormA = (match target with
        | none => e.headwordS
        | some t => if t.headwordS = [] then e.headwordS else t.headwordS) := by
  obtain ⟨ld, g, hread, h⟩ := readAny_file c hok
  have hs := storedEntries_get c i e hi
  have hdf' : ((storeDf c.dfFix e).dicForm = INVALID_WID ∧ target.map (storeDf c.dfFix) = none) ∨
      ((storeDf c.dfFix e).dicForm = i ∧ target.map (storeDf c.dfFix) = none) ∨
      ((storeDf c.dfFix e).dicForm < 2147483648 ∧ (storeDf c.dfFix e).dicForm ≠ i ∧
        ∃ t, (storedEntries c)[(storeDf c.dfFix e).dicForm]? = some t ∧ target.map (storeDf c.dfFix) = some t) := by
    rcases hdf with ⟨h1, h2⟩ | ⟨h1, h2⟩ | ⟨h1, h2, t, ht, h3⟩
    · exact Or.inl ⟨h1, by rw [h2]; rfl⟩
    · exact Or.inr (Or.inl ⟨h1, by rw [h2]; rfl⟩)
    · exact Or.inr (Or.inr ⟨h1, h2, _, storedEntries_get c _ t ht, by rw [h3]; rfl⟩)
  obtain ⟨wi, hwi, h1, h2⟩ := getWordInfo_over (h.over hok) i _ hs _ hdf'
  refine ⟨ld, wi, hread, hwi, by rw [h1, storeDf_headwordS], ?_⟩
  cases target with
  | none => rw [h2]; exact storeDf_headwordS _ e
  | some t => rw [h2]; simp only [Option.map_some, storeDf_headwordS]

/-- D8 first half REPAIRED (variant `fix` = `fix_D8.patch`): in a user dictionary compiled by the repaired writer,
a row that names the own entry `k` as `Uk` is loaded with the headword of entry `k` as its dictionary form
(for the code as it stands the same row panics: `user_dicform_counterexample`).  A plain `N` in a user dictionary
keeps meaning "whatever own entry N is" to the reader and "system word N" to the validator (second half of D8,
`user_dicform_wrong_counterexample`, unchanged: what the column should mean there is the maintainers' call). -/
theorem user_dicform_repaired (c : CompileInput) (hok : FileOk c) (hfix : c.dfFix = true)
    (i k : Nat) (e t : Entry) (hi : c.entries[i]? = some e) (hk : k < 268435456) (hne : k ≠ i)
    (hdf : e.dicForm = widNew 1 k) (ht : c.entries[k]? = some t) (hnonempty : t.headwordS ≠ []) :
    ∃ ld wi, readAny (fileBytes c) 0 = .ok ld ∧ ld.lexicon.getWordInfo i = .ok wi ∧ wi.surface = e.headwordS ∧
      wi.dictionaryFormA = t.headwordS := by
  have hd : (storeDf c.dfFix e).dicForm = k := by rw [hfix]; exact storeDf_user e k hk hdf
  obtain ⟨ld, wi, h1, h2, h3, h4⟩ := dict_roundtrip_dicform c hok i e hi (some t)
    (Or.inr (Or.inr ⟨by rw [hd]; omega, by rw [hd]; exact hne, t, by rw [hd]; exact ht, rfl⟩))
  exact ⟨ld, wi, h1, h2, h3, by rw [h4]; simp [hnonempty]⟩

/-- D8 second half under the candidate repair `fix_D8b.patch` (validator variant `dfOwn`, together with the landed
repair of the first half, writer variant `dfFix`).  In a USER dictionary that passes `validate_entries`, EVERY row that
declares a dictionary form - `N` or `UN` - is loaded without panic, and `get_word_info` reports the headword of the
dictionary's OWN entry `N` (which exists): validator, writer and reader agree on what the column names.  For the code
as it stands (`dfOwn = false`) the validator checks `N` against the SYSTEM dictionary while the reader resolves it in
the user dictionary: `user_dicform_wrong_counterexample`. -/
theorem user_dicform_own_repaired (c : CompileInput) (hok : FileOk c) (hfix : c.dfFix = true) (hown : c.dfOwn = true)
    (n : Nat) (huser : c.numSystem = some n)
    (hval : validateEntries c.dfOwn c.maxLeft c.maxRight c.numSystem c.entries = true)
    (i : Nat) (e : Entry) (hi : c.entries[i]? = some e) (hdf : e.dicForm ≠ INVALID_WID) :
    ∃ ld wi t, readAny (fileBytes c) 0 = .ok ld ∧ ld.lexicon.getWordInfo i = .ok wi ∧ wi.surface = e.headwordS ∧
      c.entries[widWord e.dicForm]? = some t ∧
      wi.dictionaryFormA = (if t.headwordS = [] then e.headwordS else t.headwordS) := by
  have hk28 : widWord e.dicForm < 268435456 := widWord_eq_mod _ ▸ Nat.mod_lt _ (by decide)
  -- the validator saw the own entry
  have hlen : widWord e.dicForm < c.entries.length := by
    have hmem := List.mem_of_getElem? hi
    rw [hown, huser] at hval
    simp only [validateEntries, List.all_eq_true] at hval
    have he := hval e hmem
    simp only [validateEntry, Bool.and_eq_true, Bool.or_eq_true, decide_eq_true_eq] at he
    obtain ⟨⟨⟨⟨_, hd⟩, _⟩, _⟩, _⟩ := he
    rcases hd with hd | hd
    · exact absurd hd hdf
    · obtain ⟨_, h2, h3⟩ := widNew_user (widWord e.dicForm) hk28
      simp only [dfCheckId, Option.isSome, Bool.and_self, if_true, validateWid, h2, h3] at hd
      simpa using hd
  -- the writer stored the index
  have hst : (storeDf c.dfFix e).dicForm = widWord e.dicForm := by
    rw [hfix]
    by_cases hz : widDic e.dicForm = 0
    · rw [storeDf_sys true e (Or.inr hz)]; exact (widWord_of_dic_zero _ hz).symm
    · unfold storeDf; simp [hdf, hz]
  obtain ⟨t, ht⟩ : ∃ t, c.entries[widWord e.dicForm]? = some t := ⟨c.entries[widWord e.dicForm], by simp [hlen]⟩
  by_cases hself : widWord e.dicForm = i
  · obtain ⟨ld, wi, h1, h2, h3, h4⟩ := dict_roundtrip_dicform c hok i e hi none (Or.inr (Or.inl ⟨by rw [hst]; exact hself, rfl⟩))
    have hte : t = e := by rw [hself, hi] at ht; exact (Option.some.inj ht).symm
    exact ⟨ld, wi, t, h1, h2, h3, ht, by rw [h4, hte]; simp⟩
  · obtain ⟨ld, wi, h1, h2, h3, h4⟩ := dict_roundtrip_dicform c hok i e hi (some t)
      (Or.inr (Or.inr ⟨by rw [hst]; omega, by rw [hst]; exact hself, t, by rw [hst]; exact ht, rfl⟩))
    exact ⟨ld, wi, t, h1, h2, h3, ht, h4⟩

/-- Clause "dictionary forms resolved to the intended entries", SYSTEM dictionaries: `get_word_info(i)`
reports as dictionary form the headword of the entry the row names (`*` or a self reference: its own
headword; an empty headword of the target cannot be told from "none").  For USER dictionaries this is
false: `user_dicform_counterexample`. -/
theorem dicform_roundtrip (pre : Bytes) (es : List Entry) (hwf : ∀ e ∈ es, e.WF)
    (hsize : (pre ++ lexiconBytes es (es.map encWordInfo) pre.length).length < 4294967296)
    (i : Nat) (e : Entry) (hi : es[i]? = some e) (target : Option Entry)
    (hdf : (e.dicForm = INVALID_WID ∧ target = none) ∨ (e.dicForm = i ∧ target = none) ∨
           (e.dicForm < 2147483648 ∧ e.dicForm ≠ i ∧ ∃ t, es[e.dicForm]? = some t ∧ target = some t)) :
    ∃ wi, (lexAt pre es).getWordInfo i = .ok wi ∧ wi.surface = e.headwordS ∧
      wi.dictionaryFormA = (match target with
        | none => e.headwordS
        | some t => if t.headwordS = [] then e.headwordS else t.headwordS) :=
  getWordInfo_over (lexAt_over pre es hwf hsize) i e hi target hdf

/-- Clause "compiling the same inputs with the same timestamp twice yields byte-identical output",
as far as a model can say it: the model compiler is a function of (entries in order, POS table in
insertion order, matrix, timestamp, description, trie blob) and nothing else.  That the Rust keeps
to insertion-ordered containers is what the byte-exact correspondence run checks. -/
theorem compile_deterministic (a b : CompileInput) (h : a = b) : compile a = compile b := by
  rw [h]

/-- The same for the whole pipeline `read_conn` + `read_lexicon` + `resolve` + `compile`: the bytes are a function
of (creation time, description, matrix text, CSV records in order, trie blob) and of the code variant `v`; the
creation time is a parameter (`set_compile_time`), never read from a clock. -/
theorem build_deterministic (v : Bool) (t1 t2 : Nat) (d1 d2 : Bytes) (m1 m2 : Str) (r1 r2 : List (Array Str)) (tr1 tr2 : Bytes)
    (h : t1 = t2 ∧ d1 = d2 ∧ m1 = m2 ∧ r1 = r2 ∧ tr1 = tr2) :
    buildSystem v t1 d1 m1 r1 tr1 = buildSystem v t2 d2 m2 r2 tr2 := by
  obtain ⟨rfl, rfl, rfl, rfl, rfl⟩ := h; rfl

/-- Clause "the result does not depend on the memory alignment of the loaded bytes": the loader reads
the bytes of the dictionary only, wherever they start in the enclosing buffer. -/
theorem load_alignment_free (pad bytes : Bytes) :
    readAny (pad ++ bytes) pad.length = readAny bytes 0 ∧
    readSystem (pad ++ bytes) pad.length = readSystem bytes 0 ∧
    readUser (pad ++ bytes) pad.length = readUser bytes 0 := by
  have h : readAny (pad ++ bytes) pad.length = readAny bytes 0 := by
    unfold readAny
    simp only [List.drop_left, List.drop_zero]
  refine ⟨h, ?_, ?_⟩
  · unfold readSystem; rw [h]
  · unfold readUser; rw [h]

/-! ## the CSV side: `LexiconReader::read_bytes` -/

/-- Record-level contract of the lexicon reader, RFC 4180 direction (full).  `csvRecords` is the reader
`LexiconReader::read_bytes` configures (csv-core's automaton for delimiter `,`, quote `"` with `""`, NO comment
character, no trimming, terminators `\r` / `\n` / `\r\n`, records of any length), executed by the driver on the CSV
TEXT of every case.  For EVERY list of non-empty records, whatever the fields contain (`#` at the start of a line,
quotes, commas, line breaks, U+FEFF, spaces), written as RFC 4180 writes them (every field in quotes, `"` doubled,
any of the three terminators after each record), the reader returns exactly these records, in order: every written
line is one record, nothing is a comment, nothing is trimmed, no record is merged or dropped. -/
theorem csv_records_roundtrip (rs : List (List Str × CsvTerm)) (hne : ∀ r ∈ rs, r.1 ≠ []) :
    csvRecords (csvRender rs) = rs.map (·.1) := by
  unfold csvRecords
  rw [csvStripBom_render rs hne]
  obtain ⟨s', hs', h⟩ := csv_all_records rs hne .startRecord (Or.inl rfl) []
  have h' : (csvRender rs).foldl csvStep {} = { st := s', cur := [], fields := [], recs := (rs.map (·.1)).reverse ++ [] } := h
  rw [h']
  rcases hs' with rfl | rfl <;> simp [csvFinal]

/-- The same contract on the shapes an RFC 4180 writer does NOT produce but the reader accepts (kernel-evaluated on
the model; each shape is generated by the harness and compared with the real reader on every run): a line that starts
with `#` is a record (no comment lines - seeded change C05d); a `"` inside an unquoted field is text; text after a
closing quote is appended; a trailing comma adds an empty field; a byte order mark is dropped at the very start only;
blank lines (`\n`, `\r\n`, bare `\r`) are no records; the last record needs no terminator; an unterminated quote runs
to the end of the input; spaces are kept. -/
theorem csv_special_shapes :
    csvRecords (lit "#a,b\n#\n") = [[lit "#a", lit "b"], [lit "#"]] ∧
    csvRecords (lit "a\"b,\"c\"d\n") = [[lit "a\"b", lit "cd"]] ∧
    csvRecords (lit "a,b,\n") = [[lit "a", lit "b", []]] ∧
    csvRecords (0xFEFF :: lit "a\n") = [[lit "a"]] ∧ csvRecords (lit "a," ++ 0xFEFF :: lit "b\n") = [[lit "a", 0xFEFF :: lit "b"]] ∧
    csvRecords (lit "\n\r\n\ra\r\r\nb\n\n") = [[lit "a"], [lit "b"]] ∧
    csvRecords (lit "a,b") = [[lit "a", lit "b"]] ∧ csvRecords (lit "a,") = [[lit "a", []]] ∧
    csvRecords (lit "\"a\nb") = [[lit "a\nb"]] ∧
    csvRecords (lit " a , b \n") = [[lit " a ", lit " b "]] ∧
    csvRecords (lit "\"\"\n") = [[[]]] ∧ csvRecords [] = [] := by
  decide +kernel

/-- Determinism from the source TEXT: the bytes are a function of (code variant, creation time, description, matrix
text, CSV text, trie blob) - `read_bytes` has no other input (no clock, no environment, no hash order). -/
theorem build_text_deterministic (v : Bool) (t1 t2 : Nat) (d1 d2 : Bytes) (m1 m2 c1 c2 : Str) (tr1 tr2 : Bytes)
    (h : t1 = t2 ∧ d1 = d2 ∧ m1 = m2 ∧ c1 = c2 ∧ tr1 = tr2) :
    buildSystemText v t1 d1 m1 c1 tr1 = buildSystemText v t2 d2 m2 c2 tr2 := by
  obtain ⟨rfl, rfl, rfl, rfl, rfl⟩ := h; rfl

/-! ## the CSV FIELD layer: `parse.rs`, `lexicon.rs parse_record / parse_split / pos_of`, `resolve.rs` -/

/-- Clause "`\u` escapes" (`parse.rs unescape / unescape_cow / unescape_slow`), full.

* `check_str_len`: a field of more than 32767 UTF-8 bytes is refused, before anything else;
* a field without a backslash is returned as it is;
* GENERAL FORM: for every text cut into units `ts` - a character written as itself, `\uXXXX` (exactly four hex digits,
  either case), `\u{H}` (one to six hex digits) - in which no backslash written as itself begins a literal (`noAccident`;
  every text has exactly one such cutting: the leftmost-first matches of `UNICODE_LITERAL`), the result is the list of
  the units' values, and it is the error `InvalidCharLiteral` iff some literal names no scalar value (a surrogate, or
  above U+10FFFF);
* the three step equations the general form is made of (`\uXXXX` whatever follows - a fifth hex digit is text;
  `\u{H}`; a backslash that begins no literal - MALFORMED forms such as `\u12`, `\u{}`, `\u{1234567}`, `\u{12`,
  `\U0041`, `\\` - is copied and the scan goes on with the NEXT character, so `\\u0041` is a backslash and `A`);
* kernel-evaluated witnesses of each case, the ones of the unit tests in `parse.rs` included. -/
theorem unescape_spec :
    (∀ s : Str, utf8LenStr s > 32767 → unescape s = none) ∧
    (∀ s : Str, 92 ∉ s → utf8LenStr s ≤ 32767 → unescape s = some s) ∧
    (∀ ts : List Tok, (∀ t ∈ ts, t.shapeOk = true) → noAccident ts = true → utf8LenStr (toksText ts) ≤ 32767 →
      unescape (toksText ts) = if ts.all Tok.valOk then some (ts.map Tok.val) else none) ∧
    (∀ (f : Nat) (h rest : Str), h.all isHex = true → h.length = 4 →
      unescapeGo (f + 1) (92 :: 117 :: (h ++ rest)) =
        if isScalar (hexNum h) then (unescapeGo f rest).map (hexNum h :: ·) else none) ∧
    (∀ (f : Nat) (h rest : Str), h.all isHex = true → 1 ≤ h.length → h.length ≤ 6 →
      unescapeGo (f + 1) (92 :: 117 :: 123 :: (h ++ 125 :: rest)) =
        if isScalar (hexNum h) then (unescapeGo f rest).map (hexNum h :: ·) else none) ∧
    (∀ (f : Nat) (rest : Str), startsEsc rest = false →
      unescapeGo (f + 1) (92 :: rest) = (unescapeGo f rest).map (92 :: ·)) ∧
    (unescape (lit "\\u0020") = some [32] ∧ unescape (lit "\\u{20}f") = some [32, 102] ∧
     unescape (lit "\\u{1f49e}") = some [0x1f49e] ∧ unescape (lit "\\u100056") = some (0x1000 :: lit "56") ∧
     unescape (lit "a\\u002Cc") = some (lit "a,c") ∧ unescape (lit "\\u{10FFFF}") = some [0x10FFFF] ∧
     unescape (lit "\\u{110000}") = none ∧ unescape (lit "\\u{FFFFFF}") = none ∧ unescape (lit "\\ud800") = none ∧
     unescape (lit "\\udfff") = none ∧ unescape (lit "\\ue000") = some [0xE000] ∧
     unescape (lit "\\u12") = some (lit "\\u12") ∧ unescape (lit "\\u{}") = some (lit "\\u{}") ∧
     unescape (lit "\\u{1234567}") = some (lit "\\u{1234567}") ∧ unescape (lit "\\u{12") = some (lit "\\u{12") ∧
     unescape (lit "\\U0041") = some (lit "\\U0041") ∧ unescape (lit "\\\\u0041") = some (lit "\\A") ∧
     unescape (lit "\\u{0041}\\u0041") = some (lit "AA") ∧ unescape (lit "\\u004g\\") = some (lit "\\u004g\\") ∧
     unescape [] = some []) := by
  refine ⟨?_, ?_, ?_, unescapeGo_u4, unescapeGo_brace, unescapeGo_backslash, by decide +kernel⟩
  · intro s h; exact if_pos h
  · intro s hs hl
    rw [unescape_of_le s hl]
    exact unescapeGo_no_backslash s _ hs (Nat.le_succ _)
  · intro ts hs hn hl
    rw [unescape_of_le _ hl]
    exact unescapeGo_toks ts _ hs hn (Nat.le_succ _)

/-- `unescape` undoes the REFERENCE ESCAPER the generator uses (`esc_text` in `harness/src/c05.rs`): every character of
the declared string is written, by an arbitrary per-character choice, as itself, as `\uXXXX` (BMP only; four digits,
upper or lower case) or as `\u{H}` (any width from the minimal one to six, zero padded, upper or lower case).  For
EVERY string of scalar values and EVERY such choice whose text is a legal field (`EStr.ok`, decidable: the choices are
in range, no backslash written as itself begins a literal - the generator's `has_escape` test -, at most 32767 bytes)
the builder reads back exactly the declared string.  Second part: writing every backslash as a literal is always
safe (no side condition on the text other than its length). -/
theorem unescape_escape_roundtrip :
    (∀ e : EStr, e.ok = true → unescape e.text = some e.val) ∧
    (∀ e : EStr, (∀ x ∈ e, isScalar x.1 = true ∧ choiceOk x.1 x.2 = true ∧ (x.1 = 92 → x.2 ≠ Choice.raw)) →
      utf8LenStr e.text ≤ 32767 → unescape e.text = some e.val) := by
  refine ⟨unescape_estr, ?_⟩
  intro e h hl
  apply unescape_estr
  simp only [EStr.ok, Bool.and_eq_true, List.all_eq_true, decide_eq_true_eq]
  exact ⟨⟨fun x hx => ⟨(h x hx).1, (h x hx).2.1⟩, noAccident_of_no_raw_backslash e fun x hx => (h x hx).2.2⟩, hl⟩

/-- Clause "split units and word structure resolved to the intended entries" (`resolve.rs`, `lexicon.rs resolve_splits`).

* a numeric reference (`N`, `UN`) is taken by number: the resolver never looks at it;
* an inline reference `surface,pos…,reading` is answered by the FIRST row (in entry order) of the dictionary's OWN
  entries whose key (column 0), POS id and reading (`None` when equal to the key) agree, and only when NO own row
  agrees by the first such row of the SYSTEM dictionary (`ChainedResolver`);
* own row `i` is entry `i` of this dictionary under the word id `(dic, i)`, `dic` = 1 for a user dictionary;
* a reference no row answers makes `resolve` fail (`InvalidSplitWordReference`): no entry list is produced;
* when `resolve` succeeds every unit of every entry is the id its reference resolves to, everything else untouched. -/
theorem split_resolution_spec (own sys : List ResolverRow) :
    (∀ w, resolveUnit own sys (.ref w) = some w) ∧
    (∀ s p r w, resolveUnit own sys (.inline s p r) = some w ↔
      (∃ i row, own[i]? = some row ∧ rowMatches s p r row = true ∧ row.2.2.2 = w ∧
        ∀ (j : Nat) (row' : ResolverRow), j < i → own[j]? = some row' → rowMatches s p r row' = false) ∨
      ((∀ row ∈ own, rowMatches s p r row = false) ∧
        ∃ i row, sys[i]? = some row ∧ rowMatches s p r row = true ∧ row.2.2.2 = w ∧
          ∀ (j : Nat) (row' : ResolverRow), j < i → sys[j]? = some row' → rowMatches s p r row' = false)) ∧
    (∀ s p r, resolveUnit own sys (.inline s p r) = none ↔
      (∀ row ∈ own, rowMatches s p r row = false) ∧ (∀ row ∈ sys, rowMatches s p r row = false)) ∧
    (∀ (es : List RawEntry) (user : Bool) (i : Nat) (e : RawEntry), es[i]? = some e →
      (rawResolverRows es user)[i]? = some (e.surface, e.pos, (if e.surface = e.readingS then none else some e.readingS),
        widNew (if user then 1 else 0) i)) ∧
    (∀ (es : List RawEntry) (e : RawEntry) (u : SplitUnit), e ∈ es → u ∈ e.splitsA ++ e.splitsB →
      resolveUnit own sys u = none → resolveSplits own sys es = none) ∧
    (∀ (es : List RawEntry) (out : List Entry), resolveSplits own sys es = some out →
      ∃ ids : RawEntry → List Nat × List Nat, out = es.map (fun e => toEntry e (ids e).1 (ids e).2) ∧
        ∀ e ∈ es, e.splitsA.map (resolveUnit own sys) = (ids e).1.map some ∧
          e.splitsB.map (resolveUnit own sys) = (ids e).2.map some) := by
  refine ⟨fun _ => rfl, ?_, ?_, ?_, ?_, ?_⟩
  · intro s p r w
    simp only [resolveUnit, Option.orElse_eq_or, Option.or_eq_some_iff, resolveInline_eq_some_iff, resolveInline_eq_none_iff]
  · intro s p r
    simp only [resolveUnit, Option.orElse_eq_or, Option.or_eq_none_iff, resolveInline_eq_none_iff]
  · intro es user i e hi
    rw [rawResolverRows_getElem?, hi]; rfl
  · intro es e u he hu hnone
    unfold resolveSplits
    rw [allSome_eq_none_iff, List.mem_map]
    refine ⟨e, he, ?_⟩
    rcases List.mem_append.1 hu with h | h
    · rw [(allSome_eq_none_iff _).2 (List.mem_map.2 ⟨u, h, hnone⟩)]
    · rw [(allSome_eq_none_iff _).2 (List.mem_map.2 ⟨u, h, hnone⟩)]
      cases Wire.allSome (e.splitsA.map (resolveUnit own sys)) <;> rfl
  · intro es out h
    exact ⟨resolvedIds own sys, resolveSplits_some own sys es out h⟩

/-- POS interning (`lexicon.rs pos_of`, `preload_pos`, `write_pos_table`), full.  For every reader state whose table has
no duplicate row (true of the empty table and of a loaded grammar's list; preserved):

* the six strings get the id = INDEX OF THEIR FIRST OCCURRENCE in the table after the call, no earlier row is equal;
* a row already present (own or preloaded SYSTEM row) is reused and nothing changes; a new row is appended, so ids are
  handed out in first-seen order and every id handed out before stays valid (the old table is a prefix of the new one);
* a USER dictionary starts from the system's rows (`startPos` = their number): a new row gets an id `≥ startPos`, and
  it sits at position `id - startPos` of the rows `write_pos_table` writes (`pos.drop startPos`) - the loader appends
  these after the system's, which is the "offset by the system count" (with `pos_table_roundtrip`);
* the call fails (`PosLimitExceeded`) exactly when the row is new and the table already holds more than 32767 rows;
* nothing else of the reader changes. -/
theorem pos_interning_spec (rd : Reader) (p : List Str) (hnd : rd.pos.toList.Nodup) :
    (∀ i rd', posOf rd p = some (i, rd') →
      rd'.pos.toList[i]? = some p ∧ (∀ j, j < i → rd'.pos.toList[j]? ≠ some p) ∧
      rd.pos.toList <+: rd'.pos.toList ∧ rd'.pos.toList.Nodup ∧
      (p ∈ rd.pos.toList → rd' = rd) ∧
      (p ∉ rd.pos.toList → i = rd.pos.size ∧ rd'.pos.toList = rd.pos.toList ++ [p] ∧
        (rd.startPos ≤ rd.pos.size → rd.startPos ≤ i ∧ (rd'.pos.toList.drop rd.startPos)[i - rd.startPos]? = some p ∧
          rd'.pos.toList.drop rd.startPos = rd.pos.toList.drop rd.startPos ++ [p])) ∧
      rd'.startPos = rd.startPos ∧ rd'.entries = rd.entries ∧ rd'.unresolved = rd.unresolved ∧
      rd'.maxLeft = rd.maxLeft ∧ rd'.maxRight = rd.maxRight ∧ rd'.numSystem = rd.numSystem) ∧
    (posOf rd p = none ↔ p ∉ rd.pos.toList ∧ rd.pos.size > 32767) := by
  obtain ⟨h1, h2, h3⟩ := posOf_spec rd p
  by_cases hmem : p ∈ rd.pos.toList
  · obtain ⟨i0, e0, hget, hfirst⟩ := h1 hmem
    refine ⟨?_, ?_⟩
    · intro i rd' h
      rw [e0] at h
      cases h
      exact ⟨hget, hfirst, List.prefix_refl _, hnd, fun _ => rfl, fun hn => absurd hmem hn, rfl, rfl, rfl, rfl, rfl, rfl⟩
    · rw [e0]; simp [hmem]
  · by_cases hsz : rd.pos.size ≤ 32767
    · have e0 := h2 hmem hsz
      refine ⟨?_, ?_⟩
      · intro i rd' h
        rw [e0] at h
        cases h
        have hlen : rd.pos.toList.length = rd.pos.size := by simp
        refine ⟨by simp, ?_, by simp, ?_, fun hm => absurd hm hmem, ?_, rfl, rfl, rfl, rfl, rfl, rfl⟩
        · intro j hj hc
          simp only [Array.toList_push] at hc
          rw [List.getElem?_append_left (by omega)] at hc
          exact hmem (List.mem_of_getElem? hc)
        · simp only [Array.toList_push]
          rw [List.nodup_append]
          refine ⟨hnd, by simp, ?_⟩
          intro a ha b hb
          simp only [List.mem_singleton] at hb
          subst hb
          intro e; exact hmem (e ▸ ha)
        · intro _
          refine ⟨rfl, by simp, ?_⟩
          intro hsp
          have hd : (rd.pos.toList ++ [p]).drop rd.startPos = rd.pos.toList.drop rd.startPos ++ [p] := by
            rw [List.drop_append_of_le_length (by omega)]
          refine ⟨hsp, ?_, by simpa using hd⟩
          simp only [Array.toList_push]
          rw [hd, List.getElem?_append_right (by simp), List.length_drop]
          simp [hlen]
      · rw [e0]; simp; omega
    · have e0 := h3 hmem (by omega)
      refine ⟨?_, ?_⟩
      · intro i rd' h; rw [e0] at h; cases h
      · rw [e0]; simp [hmem]; omega

/-- **Row text → declared entry** (`lexicon.rs parse_record` + `parse.rs`), for every declared row within the limits of
the row format (`DeclRow.ok`, decidable: every string a legal escaped field of scalar values, `i16` ids and cost,
references below 2^28, at most 127 items per list, `u32` synonym groups, a mode column `parse_mode` accepts, no splits
on an `A` row, key non-empty and free of U+0000).  The 19 fields the REFERENCE RENDERER writes (`csv_of` of the
generator: strings through the reference escaper with any per-character choice, numbers by `to_string`, the
dictionary form `*` / `N` / `UN`, lists joined by `/`, `*` for an empty list) are parsed by `parse_record` to exactly the
declared entry: key, ids, cost, headword / normalised form / reading through `none_if_equal`, dictionary-form id,
split units and word structure by number (`N` → system/own id, `UN` → `(1, N)`), synonym groups, and the POS id is the
id `pos_of` interns the six DECLARED strings under (`pos_interning_spec`); the reader's other state is untouched and the
call fails exactly when `pos_of` does.

PARTIAL in one respect - the full statement has `splitsA splitsB : List (numeric reference | inline reference
surface,pos1..6,reading written through the escaper with `,` and `/` forced)`: inline units in the two split columns
are not in `DeclRow` (the proof needs `splitn(8, ",")` over the joined unit and the interleaving of `pos_of` calls for
the units' POS rows before the row's own); they are executed by the model from the raw text and tied by correspondence
+ the inline-reference oracle on every run; their resolution is `split_resolution_spec`. -/
theorem fields_roundtrip_partial (rd : Reader) (d : DeclRow) (h : d.ok = true) :
    parseRecord rd d.fields = (posOf rd d.posKey).map (fun x =>
      { x.2 with unresolved := x.2.unresolved + 0 + 0, entries := x.2.entries.push (d.raw x.1) }) ∧
    (d.raw 0).headwordS = d.headword.val ∧ (d.raw 0).readingS = d.reading.val ∧
    (toEntry (d.raw 0) [] []).normS = d.norm.val := by
  refine ⟨parseRecord_fields rd d h, ?_, ?_, ?_⟩
  · simp only [RawEntry.headwordS, DeclRow.raw, noneIfEqual_getD]
  · simp only [RawEntry.readingS, RawEntry.headwordS, DeclRow.raw, noneIfEqual_getD]
  · simp only [Entry.normS, Entry.headwordS, toEntry, DeclRow.raw, noneIfEqual_getD]

/-- **CSV TEXT → records → entries = the declared data**, ONE theorem whose only hypothesis is the decidable limits
predicate of the rows: for every list of declared rows (each with the terminator written after it), the text the
reference renderer produces (RFC 4180 quoting of the 19 rendered fields, `csv_records_roundtrip`) is split by the
modelled csv reader into exactly these records, and `read_record` over them (`fields_roundtrip_partial`, POS interning
threaded through the rows in order) leaves in the reader exactly the declared entries, in order, each under the POS id
of its six declared strings - or fails at the first row whose new POS row exceeds the table limit, and never otherwise.
No hypothesis about the text: it is computed from the declared data.

The whole first sentence of the property as one theorem (planned name csv_text_to_loaded_fields; no such theorem
exists) is this theorem followed by
`split_resolution_spec` (numeric references pass through the resolver unchanged: `resolve_refs`), `dict_roundtrip`
(entries → file bytes → loader → `get_params` / `parse_word_info` of every entry, every matrix cell, POS rows, header)
and `wordinfo_roundtrip` (stored forms → accessors; F-EMPTY and D8's second half excluded by name there).  The
composition itself is NOT stated as a single theorem yet (`_partial`): what is missing is (i) the glue
`buildSystemText = stage chain` with `FileOk (the compile input the declared rows denote)` as the limits predicate,
(ii) inline units (see `fields_roundtrip_partial`), (iii) the matrix text by a renderer instead of the hypotheses of
`conn_text_roundtrip`. -/
theorem csv_text_to_entries_partial (rows : List (DeclRow × CsvTerm)) (rd : Reader) (h : ∀ r ∈ rows, r.1.ok = true) :
    readRecords rd ((csvRecords (csvRender (rows.map (fun r => (r.1.fields.toList, r.2))))).map List.toArray)
      = declRead rd (rows.map (·.1)) := by
  rw [csv_records_roundtrip _ (by
    intro r hr; simp only [List.mem_map] at hr; obtain ⟨x, _, rfl⟩ := hr; simp [DeclRow.fields])]
  simp only [List.map_map]
  have : (List.toArray ∘ (fun x : List Str × CsvTerm => x.1) ∘ fun r : DeclRow × CsvTerm => (r.1.fields.toList, r.2))
      = DeclRow.fields ∘ (·.1) := by
    funext r; simp
  rw [this, ← List.map_map]
  exact readRecords_fields _ rd (by
    intro d hd; simp only [List.mem_map] at hd; obtain ⟨r, hr, rfl⟩ := hd; exact h r hr)

/-! ## non-vacuity of the hypotheses of the sections above -/

example : (127 : Nat) ≤ 32767 ∧ stringLength (encLen 127 ++ [9]) = some (127, [9]) ∧ encLen 126 = [126] ∧ encLen 127 = [128, 127] ∧ encLen 128 = [128, 128] := by decide +kernel
example : IsScalar 0x20BB7 ∧ encodeUtf16 0x20BB7 = [0xD842, 0xDFB7] ∧ decodeUtf16 [0xD842, 0xDFB7] = some [0x20BB7] := by
  refine ⟨Or.inr (by decide), by decide, by decide⟩
example : LinesOk 2 3 [(1, 2, -5), (0, 0, 7), (1, 2, 9)] ∧ declared [(1, 2, -5), (0, 0, 7), (1, 2, 9)] 1 2 0 = 9 := by
  refine ⟨?_, by decide⟩
  intro x hx; simp at hx; rcases hx with rfl | rfl | rfl <;> decide
set_option maxRecDepth 100000 in
example : (lexAt [7, 7, 7] [emptyReadingEntry]).parseWordInfo 0 = .ok
    { surface := [12354], headWordLength := 3, dicFormWordId := -1 } ∧
    ([7, 7, 7] ++ lexiconBytes [emptyReadingEntry] ([emptyReadingEntry].map encWordInfo) 3).length < 4294967296 := by decide +kernel
example : emptyReadingEntry.WF := by decide +kernel

/-- a small builder state within the limits: two entries (the second names the first as its dictionary form), one
POS row with an empty and an astral string, a 2 x 1 matrix holding 5 and -5 -/
def sampleInput : CompileInput :=
  { user := false, time := 1600000000, desc := [118], pos := [[[97], [98], [], [42], [42], [0x20BB7]]], startPos := 0,
    conn := { matrix := [5, 0, 251, 255], numLeft := 2, numRight := 1 },
    entries := [plainEntry [12354] INVALID_WID, plainEntry [12354, 12356] 0],
    maxLeft := 2, maxRight := 1, numSystem := none, trie := [1, 2, 3, 4] }

set_option maxRecDepth 100000 in
example : FileOk sampleInput ∧
    validateEntries sampleInput.dfOwn sampleInput.maxLeft sampleInput.maxRight sampleInput.numSystem sampleInput.entries = true := by decide +kernel
set_option maxRecDepth 100000 in
example : FileOk { sampleInput with user := true, numSystem := some 1, startPos := 1, conn := {}, entries := [plainEntry [12354] 0] } := by decide +kernel
set_option maxRecDepth 100000 in
example : LinesOk 2 1 [(0, 0, 5), (1, 0, -5)] ∧
    writeAll sampleInput.conn.numLeft.toNat [(0, 0, 5), (1, 0, -5)]
      (List.replicate (sampleInput.conn.numLeft.toNat * sampleInput.conn.numRight.toNat * 2) 0) = .ok sampleInput.conn.matrix := by
  refine ⟨?_, by decide⟩
  intro x hx; simp at hx; rcases hx with rfl | rfl <;> decide
example : ∃ t, sampleInput.entries[1]? = some (plainEntry [12354, 12356] 0) ∧ (plainEntry [12354, 12356] 0).dicForm < 2147483648 ∧
    (plainEntry [12354, 12356] 0).dicForm ≠ 1 ∧ sampleInput.entries[(plainEntry [12354, 12356] 0).dicForm]? = some t :=
  ⟨_, rfl, by decide, by decide, rfl⟩
/-- a user dictionary compiled by the repaired writer: row 0 (`あ`) names row 1 (`い`) as `U1` -/
def repairedUserInput : CompileInput :=
  { user := true, dfFix := true, time := 1600000000, desc := [117], pos := [[[97], [98], [], [42], [42], [0x20BB7]]], startPos := 1,
    conn := { matrix := [], numLeft := 0, numRight := 0 },
    entries := [plainEntry [12354] (widNew 1 1), plainEntry [12356] INVALID_WID],
    maxLeft := 2, maxRight := 1, numSystem := some 5, trie := [1, 2, 3, 4] }
set_option maxRecDepth 100000 in
example : FileOk repairedUserInput ∧ repairedUserInput.dfFix = true ∧
    validateEntries repairedUserInput.dfOwn repairedUserInput.maxLeft repairedUserInput.maxRight repairedUserInput.numSystem repairedUserInput.entries = true ∧
    repairedUserInput.entries[0]? = some (plainEntry [12354] (widNew 1 1)) ∧ (plainEntry [12354] (widNew 1 1)).dicForm = widNew 1 1 ∧
    repairedUserInput.entries[1]? = some (plainEntry [12356] INVALID_WID) ∧ (plainEntry [12356] INVALID_WID).headwordS ≠ [] := by decide +kernel
set_option maxRecDepth 100000 in
/-- the same two rows, stored by the writer as it stands and by the repaired one -/
example : (lexOf ([plainEntry [12354] (widNew 1 1), plainEntry [12356] INVALID_WID].map (storeDf false))).getWordInfo 0
      = .panic "slice:word_id_to_offset" ∧
    ((lexOf ([plainEntry [12354] (widNew 1 1), plainEntry [12356] INVALID_WID].map (storeDf true))).getWordInfo 0).bind
      (fun wi => .ok wi.dictionaryFormA) = .ok [12356] := by decide +kernel
example : IsVersion SYSTEM_DICT_VERSION_2 ∧ IsVersion USER_DICT_VERSION_3 ∧ versionOf false = SYSTEM_DICT_VERSION_2 :=
  ⟨Or.inr (Or.inl rfl), Or.inr (Or.inr (Or.inr (Or.inr rfl))), rfl⟩
example : PosOk ([[[97], [98], [], [42], [42], [0x20BB7]]] : List (List Str)) := by decide +kernel
set_option maxRecDepth 100000 in
/-- the matrix text `2 1\n0 0 5\n\n1 0 -5\n` -/
example : (readLines (lit "2 1\n0 0 5\n\n1 0 -5\n")).dropWhile isEmptyLine = lit "2 1\n" :: [lit "0 0 5\n", lit "\n", lit "1 0 -5\n"] ∧
    (splitnWhite 2 (trim (lit "2 1\n"))).map parseI16 = [some ((2 : Nat) : Int), some ((1 : Nat) : Int)] ∧
    lineTriples [lit "0 0 5\n", lit "\n", lit "1 0 -5\n"] = some [(0, 0, 5), (1, 0, -5)] := by decide +kernel
example : Holds (List.replicate (2 * 3 * 2) 0) 2 3 (fun _ _ => 0) := holds_zero 2 3
set_option maxRecDepth 100000 in
/-- two records with every CSV-special character, written with three different terminators -/
example : (∀ r ∈ [([lit "#x", lit "a\"b,c\nd"], CsvTerm.crlf), ([[], 0xFEFF :: lit "y"], CsvTerm.cr), ([lit " z "], CsvTerm.lf)], r.1 ≠ []) ∧
    csvRecords (csvRender [([lit "#x", lit "a\"b,c\nd"], CsvTerm.crlf), ([[], 0xFEFF :: lit "y"], CsvTerm.cr), ([lit " z "], CsvTerm.lf)])
      = [[lit "#x", lit "a\"b,c\nd"], [[], 0xFEFF :: lit "y"], [lit " z "]] := by decide +kernel
/-- a user dictionary under both repairs: row 0 (`あ`) names own entry 1 (`い`) by the plain id `1`, row 1 names row 0 as `U0` -/
def ownUserInput : CompileInput :=
  { user := true, dfFix := true, dfOwn := true, time := 1600000000, desc := [117], pos := [[[97], [98], [], [42], [42], [0x20BB7]]], startPos := 1,
    conn := { matrix := [], numLeft := 0, numRight := 0 },
    entries := [plainEntry [12354] 1, plainEntry [12356] (widNew 1 0)],
    maxLeft := 2, maxRight := 1, numSystem := some 1, trie := [1, 2, 3, 4] }
set_option maxRecDepth 100000 in
example : FileOk ownUserInput ∧ ownUserInput.dfFix = true ∧ ownUserInput.dfOwn = true ∧ ownUserInput.numSystem = some 1 ∧
    validateEntries ownUserInput.dfOwn ownUserInput.maxLeft ownUserInput.maxRight ownUserInput.numSystem ownUserInput.entries = true ∧
    ownUserInput.entries[0]? = some (plainEntry [12354] 1) ∧ (plainEntry [12354] 1).dicForm ≠ INVALID_WID ∧
    -- the code as it stands refuses this dictionary (system word 1 does not exist) ...
    validateEntries false ownUserInput.maxLeft ownUserInput.maxRight ownUserInput.numSystem ownUserInput.entries = false ∧
    -- ... and accepts `5` with six system words, which the reader cannot resolve; the repaired validator refuses it
    validateEntries false 2 1 (some 6) [plainEntry [12354] 5] = true ∧ validateEntries true 2 1 (some 6) [plainEntry [12354] 5] = false := by decide +kernel

set_option maxRecDepth 100000 in
/-- `a` raw, `,` as `,`, U+20BB7 as `\u{020bb7}`, a backslash written as itself in front of `u1` (no literal) -/
example : EStr.ok [(97, .raw), (44, .u4 true), (0x20BB7, .br 6 false), (92, .raw), (117, .raw), (49, .raw)] = true ∧
    EStr.text [(97, .raw), (44, .u4 true), (0x20BB7, .br 6 false), (92, .raw), (117, .raw), (49, .raw)] = lit "a\\u002C\\u{020bb7}\\u1" ∧
    -- a raw backslash that WOULD begin a literal is outside the escaper's range (the generator's `has_escape`)
    EStr.ok [(92, .raw), (117, .raw), (48, .raw), (48, .raw), (52, .raw), (49, .raw)] = false := by decide +kernel
/-- a declared row: key `東`, headword `東京` with `京` escaped, reading = headword, dictionary form `U3`, splits `1/U2`, synonyms 7/8 -/
def sampleRow : DeclRow :=
  { surface := EStr.plain [26481], left := 1, right := -1, cost := -32768, headword := [(26481, .raw), (20140, .u4 false)],
    p1 := EStr.plain [97], p2 := [], p3 := EStr.plain [42], p4 := EStr.plain [42], p5 := EStr.plain [42], p6 := [(44, .br 2 true)],
    reading := EStr.plain [26481, 20140], norm := [], dicForm := some (true, 3), mode := lit " BC ",
    splitsA := [(false, 1), (true, 2)], splitsB := [], ws := [(false, 0)], syn := [7, 8] }
set_option maxRecDepth 100000 in
example : sampleRow.ok = true ∧ sampleRow.fields[4]? = some (lit "東\\u4eac") ∧
    (sampleRow.raw 0).reading = none ∧ (sampleRow.raw 0).normForm = some [] := by decide +kernel
example : (({} : Reader).pos.toList).Nodup := by simp
example (own sys : List ResolverRow) : resolveUnit own sys (.ref 5) = some 5 := rfl
/-- own row before system row, first own row wins, unresolved = none -/
example : resolveUnit [([1], 0, none, 7), ([1], 0, none, 8)] [([1], 0, none, 9)] (.inline [1] 0 none) = some 7 ∧
    resolveUnit [([2], 0, none, 7)] [([1], 0, none, 9)] (.inline [1] 0 none) = some 9 ∧
    resolveUnit [([2], 0, none, 7)] [([1], 0, none, 9)] (.inline [1] 1 none) = none := by decide +kernel

/-! ## the round trip through PARTIAL field subsets (composition with the C11 reader model)

`wordinfo_roundtrip` reads the written record with all fields.  The loaded dictionary hands fields out through partial
requests as well (`WordInfoParser::subset`: the lattice asks for POS_ID, the user-dictionary resolver for
SURFACE|READING_FORM|POS_ID, ...); there the reader SKIPS what was not asked for (`skip_u16_string`, `skip_wid_array`,
`skip_u32_array` - transcribed byte for byte in `Model/Subset.lean`: `skipU16String` goes through `string_length_parser`
and so honours the two-byte prefix, `skipArray` takes a one-byte count and panics on a short slice).  The bridge
`CodecSubset.encodeBytes_toSub` shows that the bytes `write_word_info` writes (`Codec.encWordInfo`, this property's
writer model) are exactly the record `C11.subset_fields_eq` is stated about. -/

/-- **Clause "loading yields for every entry exactly the declared data", for EVERY request.**  For every well-formed
declared entry `e`, every request `T` (any of the 1024 masks, junk bits included) and any bytes after the record: the
subset parser succeeds on what `write_word_info` wrote, and every field IN the request is the declared one - headword,
key length, POS id, dictionary-form id, split units, word structure, synonym groups as stored values; the normalised
form and the reading through the accessors `normalized_form()` / `reading_form()` whenever the request also holds the
headword they fall back to (declared value **unless declared empty**, as in `wordinfo_roundtrip`: F-EMPTY).  Strings
of 127..32767 UTF-16 units (two-byte length prefix) are not special cases: `Entry.WF` allows every length `0..32767`
for each of the three strings, whether the string is asked for (parsed) or not (skipped). -/
theorem subset_roundtrip (e : Entry) (wf : e.WF) (T : Nat) (rest : Bytes) :
    ∃ wi, Subset.parse T (encWordInfo e ++ rest) = .ok wi ∧
      (T.testBit Subset.SURFACE = true → wi.surface = e.headwordS) ∧
      (T.testBit Subset.HEAD_WORD_LENGTH = true → wi.headWordLength = utf8LenStr e.surface) ∧
      (T.testBit Subset.POS_ID = true → wi.posId = e.pos) ∧
      (T.testBit Subset.NORMALIZED_FORM = true → T.testBit Subset.SURFACE = true →
        Subset.accNormalizedForm wi = (if e.normS = [] then e.headwordS else e.normS)) ∧
      (T.testBit Subset.DIC_FORM_WORD_ID = true → wi.dictionaryFormWordId = u32ToI e.dicForm) ∧
      (T.testBit Subset.READING_FORM = true → T.testBit Subset.SURFACE = true →
        Subset.accReadingForm wi = (if e.readingS = [] then e.headwordS else e.readingS)) ∧
      (T.testBit Subset.SPLIT_A = true → wi.aUnitSplit = e.splitsA) ∧
      (T.testBit Subset.SPLIT_B = true → wi.bUnitSplit = e.splitsB) ∧
      (T.testBit Subset.WORD_STRUCTURE = true → wi.wordStructure = e.wordStructure) ∧
      (T.testBit Subset.SYNONYM_GROUP_ID = true → wi.synonymGroupIds = e.synonyms) := by
  obtain ⟨i1, _, e1, _, _, hf⟩ := C11.subset_fields_eq (CodecSubset.toSub e) (CodecSubset.toSub_wf e wf) T rest
  rw [CodecSubset.encodeBytes_toSub e wf] at e1
  refine ⟨i1, e1, hf.surface, hf.headWordLength, hf.posId, ?_, hf.dictionaryFormWordId, ?_, hf.aUnitSplit, hf.bUnitSplit,
    hf.wordStructure, hf.synonymGroupIds⟩
  · intro h3 h0
    rw [Subset.accNormalizedForm, hf.normalizedForm h3, hf.surface h0]
    exact stored_accessor _ _
  · intro h5 h0
    rw [Subset.accReadingForm, hf.readingForm h5, hf.surface h0]
    exact stored_accessor _ _

/-- **The same at the level the analyser uses it** (`set_subset` / `InfoSubset::normalize`, both code variants of
`normalize`): what is loaded for a request `S` is `normalize S`; every field `f ∈ S` - the two forms through their
accessors, with the fall-back to the headword that `normalize` makes available - equals the declared value. -/
theorem subset_roundtrip_normalized (v : Subset.NzVariant) (e : Entry) (wf : e.WF) (S : Nat) (rest : Bytes) :
    ∃ wi, Subset.parse (Subset.normalize v S) (encWordInfo e ++ rest) = .ok wi ∧
      (S.testBit Subset.SURFACE = true → wi.surface = e.headwordS) ∧
      (S.testBit Subset.HEAD_WORD_LENGTH = true → wi.headWordLength = utf8LenStr e.surface) ∧
      (S.testBit Subset.POS_ID = true → wi.posId = e.pos) ∧
      (S.testBit Subset.NORMALIZED_FORM = true →
        Subset.accNormalizedForm wi = (if e.normS = [] then e.headwordS else e.normS)) ∧
      (S.testBit Subset.DIC_FORM_WORD_ID = true → wi.dictionaryFormWordId = u32ToI e.dicForm) ∧
      (S.testBit Subset.READING_FORM = true →
        Subset.accReadingForm wi = (if e.readingS = [] then e.headwordS else e.readingS)) ∧
      (S.testBit Subset.SPLIT_A = true → wi.aUnitSplit = e.splitsA) ∧
      (S.testBit Subset.SPLIT_B = true → wi.bUnitSplit = e.splitsB) ∧
      (S.testBit Subset.WORD_STRUCTURE = true → wi.wordStructure = e.wordStructure) ∧
      (S.testBit Subset.SYNONYM_GROUP_ID = true → wi.synonymGroupIds = e.synonyms) := by
  obtain ⟨wi, h, f0, f1, f2, f3, f4, f5, f6, f7, f8, f9⟩ := subset_roundtrip e wf (Subset.normalize v S) rest
  have up := fun b hb => Subset.testBit_normalize_of v S b hb
  exact ⟨wi, h, fun hb => f0 (up _ hb), fun hb => f1 (up _ hb), fun hb => f2 (up _ hb),
    fun hb => f3 (up _ hb) (Subset.normalize_surface_of_forms v S (Or.inr hb)), fun hb => f4 (up _ hb),
    fun hb => f5 (up _ hb) (Subset.normalize_surface_of_forms v S (Or.inl hb)), fun hb => f6 (up _ hb),
    fun hb => f7 (up _ hb), fun hb => f8 (up _ hb), fun hb => f9 (up _ hb)⟩

/-- **The 127/128 boundary, spelled out.**  When the headword has 127 or more UTF-16 units the record BEGINS with a
two-byte length prefix (first byte `0x80 | hi`, second byte `lo`), and a request that does not hold the headword - so
that the reader must skip exactly `2 + 2 * units` bytes - still returns every later field it asks for; stated for the
POS id (the lattice's request) and the synonym groups (the last field: everything before it is skipped). -/
theorem subset_skips_two_byte_prefix (e : Entry) (wf : e.WF) (hlong : 127 ≤ (units e.headwordS).length)
    (T : Nat) (_hT : T.testBit Subset.SURFACE = false) (rest : Bytes) :
    (∃ b0 b1 tl, encWordInfo e = b0 :: b1 :: tl ∧ 128 ≤ b0 ∧ (b0 - 128) * 256 + b1 = (units e.headwordS).length) ∧
    ∃ wi, Subset.parse T (encWordInfo e ++ rest) = .ok wi ∧
      (T.testBit Subset.POS_ID = true → wi.posId = e.pos) ∧
      (T.testBit Subset.SYNONYM_GROUP_ID = true → wi.synonymGroupIds = e.synonyms) := by
  refine ⟨?_, ?_⟩
  · have hlen := encLen_long _ (Nat.not_lt.2 hlong) wf.hw.2
    obtain ⟨tl, htl⟩ : ∃ tl, encWordInfo e = ((units e.headwordS).length / 256 + 128) :: ((units e.headwordS).length % 256) :: tl := by
      rw [encWordInfo, encStr, hlen]
      simp only [List.cons_append, List.nil_append, List.append_assoc]
      exact ⟨_, rfl⟩
    exact ⟨_, _, tl, htl, Nat.le_add_left .., by rw [Nat.add_sub_cancel, Nat.div_add_mod']⟩
  · obtain ⟨wi, h, _, _, f2, _, _, _, _, _, _, f9⟩ := subset_roundtrip e wf T rest
    exact ⟨wi, h, f2, f9⟩

/-- an entry whose three strings sit on both sides of the boundary: headword 128 units, normalised form 127 units,
reading 126 units (key `a`), with a split unit, a word-structure unit and two synonym groups -/
def boundaryEntry : Entry :=
  { left := 0, right := 0, cost := 0, surface := [97], headword := some (List.replicate 128 97), dicForm := INVALID_WID,
    normForm := some (List.replicate 127 98), pos := 5, splitsA := [3], splitsB := [], reading := some (List.replicate 126 12354),
    wordStructure := [2], synonyms := [7, 8] }

/-- non-vacuity of `Entry.WF` at the boundary -/
theorem boundaryEntry_wf : boundaryEntry.WF := by decide +kernel

/-- the lattice's request on the boundary entry: POS id 5 comes back although a 128-unit headword (prefix `[128, 128]`)
is skipped -/
example (rest : Bytes) : ∃ wi, Subset.parse (2 ^ Subset.POS_ID) (encWordInfo boundaryEntry ++ rest) = .ok wi ∧ wi.posId = 5 := by
  obtain ⟨wi, h, _, _, f2, _⟩ := subset_roundtrip boundaryEntry boundaryEntry_wf (2 ^ Subset.POS_ID) rest
  exact ⟨wi, h, f2 (by decide)⟩
set_option maxRecDepth 100000 in
/-- the resolver's request: headword (128 units, parsed), POS id, reading (126 units, parsed), the 127-unit normalised
form in between skipped -/
example (rest : Bytes) : ∃ wi, Subset.parse (2 ^ Subset.SURFACE ||| 2 ^ Subset.READING_FORM ||| 2 ^ Subset.POS_ID)
      (encWordInfo boundaryEntry ++ rest) = .ok wi ∧
    wi.surface = List.replicate 128 97 ∧ Subset.accReadingForm wi = List.replicate 126 12354 ∧ wi.posId = 5 := by
  obtain ⟨wi, h, f0, _, f2, _, _, f5, _⟩ :=
    subset_roundtrip boundaryEntry boundaryEntry_wf (2 ^ Subset.SURFACE ||| 2 ^ Subset.READING_FORM ||| 2 ^ Subset.POS_ID) rest
  refine ⟨wi, h, f0 (by decide), ?_, f2 (by decide)⟩
  rw [f5 (by decide) (by decide)]
  decide +kernel
set_option maxRecDepth 100000 in
/-- hypotheses of `subset_skips_two_byte_prefix` are satisfiable, and its first claim is about real bytes -/
example : 127 ≤ (units boundaryEntry.headwordS).length ∧ (2 ^ Subset.POS_ID).testBit Subset.SURFACE = false ∧
    (encWordInfo boundaryEntry).take 2 = [128, 128] := by decide +kernel
set_option maxRecDepth 100000 in
/-- `normalize` in front: asking for the normalised form alone loads the headword too -/
example (rest : Bytes) : ∃ wi, Subset.parse (Subset.normalize .fix (2 ^ Subset.NORMALIZED_FORM)) (encWordInfo boundaryEntry ++ rest) = .ok wi ∧
    Subset.accNormalizedForm wi = List.replicate 127 98 := by
  obtain ⟨wi, h, _, _, _, f3, _⟩ := subset_roundtrip_normalized .fix boundaryEntry boundaryEntry_wf (2 ^ Subset.NORMALIZED_FORM) rest
  refine ⟨wi, h, ?_⟩
  rw [f3 (by decide)]
  decide +kernel

/-- the dictionary form a row of a SYSTEM dictionary declares: the headword of the entry column 13 names, the own
headword for `*` (stored -1) and for a row naming itself (an empty headword of the named entry cannot be told from "none") -/
def declDicForm (es : List Entry) (k : Nat) (e : Entry) : Str :=
  if u32ToI e.dicForm ≥ 0 ∧ u32ToI e.dicForm ≠ (k : Int) then
    match es[(u32ToI e.dicForm).toNat]? with
    | some t => if t.headwordS = [] then e.headwordS else t.headwordS
    | none => e.headwordS
  else e.headwordS

/-- **Dictionary form through a partial request, at `WordInfos::get_word_info`** (composition with
`Subset.getWordInfo_spec`, the spec behind `C11.get_word_info_fields_eq`).  In a lexicon whose records are what
`write_word_info` wrote for well-formed declared entries `es` with dictionary-form references inside the lexicon (a
system dictionary that passed `validate_entries`), for every entry `k` and EVERY request `T` that holds the
dictionary-form id and the headword (what `normalize` makes of a request for the dictionary form): the call succeeds,
the id is the declared one and `dictionary_form()` is the headword of the entry the row names - whatever else `T`
asks for or skips, whatever the lengths of the strings in between. -/
theorem subset_dicform_roundtrip (es : List Entry) (hwf : ∀ e ∈ es, e.WF)
    (hdf : ∀ e ∈ es, u32ToI e.dicForm < 0 ∨ (u32ToI e.dicForm).toNat < es.length)
    (k : Nat) (hk : k < es.length) (T : Nat)
    (h4 : T.testBit Subset.DIC_FORM_WORD_ID = true) (h0 : T.testBit Subset.SURFACE = true) :
    ∃ wi, Subset.getWordInfo ⟨es.map encWordInfo, true⟩ k T = .ok wi ∧
      wi.dictionaryFormWordId = u32ToI es[k].dicForm ∧
      Subset.accDictionaryForm wi = declDicForm es k es[k] := by
  have hrecs : (es.map CodecSubset.toSub).map Subset.encodeBytes = es.map encWordInfo := by
    rw [List.map_map]
    exact List.map_congr_left (fun e he => CodecSubset.encodeBytes_toSub e (hwf e he))
  have hwf' : ∀ w ∈ es.map CodecSubset.toSub, Subset.WF w := by
    intro w hw
    obtain ⟨e, he, rfl⟩ := List.mem_map.mp hw
    exact CodecSubset.toSub_wf e (hwf e he)
  have hdf' : Subset.DfOk (es.map CodecSubset.toSub) := by
    intro w hw
    obtain ⟨e, he, rfl⟩ := List.mem_map.mp hw
    simpa [CodecSubset.toSub] using hdf e he
  have hk' : k < (es.map CodecSubset.toSub).length := by simpa using hk
  obtain ⟨wi, e1, l1, _, d1, _⟩ := Subset.getWordInfo_spec (es.map CodecSubset.toSub) hwf' hdf' true k hk' T
  have eff : Subset.effSubset true T = T := by simp [Subset.effSubset]
  rw [eff] at l1 d1
  have L4 : Subset.Loaded T 4 := ⟨by omega, Or.inl h4⟩
  have L0 : Subset.Loaded T 0 := ⟨by omega, Or.inl h0⟩
  have s0 := l1 0 L0
  have s4 := l1 4 L4
  have dd := d1 L4
  simp only [Subset.proj] at s0 s4
  simp [CodecSubset.toSub] at s0 s4
  refine ⟨wi, ?_, s4, ?_⟩
  · rw [← hrecs]; exact e1
  · simp only [Subset.accDictionaryForm, dd, s0, Subset.dicFormOf, declDicForm, List.getElem_map, CodecSubset.toSub,
      List.getElem?_map, List.isEmpty_iff]
    split
    · cases es[(u32ToI es[k].dicForm).toNat]? with
      | none => simp
      | some t =>
        simp only [Option.map_some, Option.getD_some]
        have hs : (CodecSubset.toSub t).surface = t.headwordS := rfl
        by_cases ht : t.headwordS = []
        · simp [ht, hs]
        · simp [ht, hs]
    · simp

set_option maxRecDepth 100000 in
/-- non-vacuity: two entries, the second (headword of 128 units) names the first as its dictionary form -/
example : (Subset.getWordInfo ⟨[plainEntry [12354] INVALID_WID, { boundaryEntry with dicForm := 0 }].map encWordInfo, true⟩ 1
      (2 ^ Subset.DIC_FORM_WORD_ID ||| 2 ^ Subset.SURFACE ||| 2 ^ Subset.SYNONYM_GROUP_ID)).bind
      (fun wi => .ok (Subset.accDictionaryForm wi, wi.dictionaryFormWordId, wi.synonymGroupIds, wi.posId)) =
    .ok ([12354], 0, [7, 8], 5) := by decide +kernel

/-- the hypotheses of `subset_dicform_roundtrip` are satisfiable (a one-entry lexicon, dictionary form `*`) and the
theorem then answers the own 128-unit headword -/
example : ∃ wi, Subset.getWordInfo ⟨[boundaryEntry].map encWordInfo, true⟩ 0 (2 ^ Subset.DIC_FORM_WORD_ID ||| 2 ^ Subset.SURFACE) = .ok wi ∧
    Subset.accDictionaryForm wi = List.replicate 128 97 := by
  obtain ⟨wi, h, _, hd⟩ := subset_dicform_roundtrip [boundaryEntry]
    (fun e he => by simp at he; subst he; exact boundaryEntry_wf) (fun e he => by simp at he; subst he; exact Or.inl (by decide))
    0 (by simp) (2 ^ Subset.DIC_FORM_WORD_ID ||| 2 ^ Subset.SURFACE) (by decide) (by decide)
  refine ⟨wi, h, ?_⟩
  rw [hd]
  decide +kernel

/-- for contrast, the skip of seeded change C05e (`skip_prefixed`: ONE-byte count times the item size, `OutOfBounds`
instead of the slice panic) - right for the arrays, not for strings -/
def skipOneByteCount (itemSize : Nat) (input : Bytes) : Subset.Res Bytes :=
  match Subset.leU8 input with
  | .ok (length, rest) => if rest.length < length * itemSize then .err else .ok (rest.drop (length * itemSize))
  | .err => .err
  | .panic => .panic

/-- **Why the skip must read the prefix the way the writer wrote it.**  Kernel-checked witness: on a 126-unit string
the one-byte-count skip and `skip_u16_string` agree; on the 127-unit string (written `[128, 127]`) `skip_u16_string`
lands behind the string, while the one-byte-count skip takes the first prefix byte `128` for the length and consumes
256 bytes - the second prefix byte, the 254 bytes of the string and ONE BYTE OF THE NEXT FIELD - so that the key length
and the POS id read next are garbage (with longer strings it stops inside the string instead).  The arrays are
unaffected (one-byte count on both sides). -/
theorem skip_one_byte_count_counterexample :
    skipOneByteCount 2 (encStr (List.replicate 126 97) ++ [5, 0, 9]) = .ok [5, 0, 9] ∧
    Subset.skipU16String (encStr (List.replicate 127 97) ++ [5, 0, 9]) = .ok [5, 0, 9] ∧
    skipOneByteCount 2 (encStr (List.replicate 127 97) ++ [5, 0, 9]) = .ok [0, 9] ∧
    skipOneByteCount 4 (encU32s (List.replicate 127 7) ++ [5, 0]) = Subset.skipArray (encU32s (List.replicate 127 7) ++ [5, 0]) := by
  decide +kernel

end C05
