import Sudachi.Proofs.Build
import Sudachi.Proofs.BuildTotal
import Sudachi.Proofs.BuildLimits
import Sudachi.Proofs.BuildKept
import Sudachi.Proofs.BuildShape
import Sudachi.Proofs.BuildCodec
import Sudachi.Props.C05
import Sudachi.Props.C03
/-!
# C06 — the dictionary compiler is total and never emits an invalid dictionary

Model: `Build.build` (`DictBuilder`: ANY sequence of `read_conn` / `read_lexicon` / `resolve` calls
— `Input.ops`, e.g. several lexicon parts with a `resolve` after some of them — and then `compile`)
over the records the `csv` reader delivers and the lines of the matrix text, with the writer as a
script executed against a sink that accepts `limit` bytes.  `Op.connIgn` is a `read_conn` whose `Err`
the caller ignores, `Op.lexIgn` a `read_lexicon` whose `Err` the caller ignores: the builder goes on
with the rows parsed before the malformed one (`readLexB`, `readLexiconP`, `parseRecordLeft`).

A `Variant` has one switch per repair (`true` = repaired).  The named ones:
* `Variant.current` — no switch set: the unrepaired code;
* `Variant.staleFlag` — D1–D5 (DESIGN §2.7);
* `Variant.repaired` — D1–D5 and `rf` (`read_lexicon` clears the builder's `resolved` flag);
* `Variant.landed` — the delivered tree: also N1 (no matrix read: limits 0), N3 (`read_conn` on a user
  builder keeps the system sizes), S4 (the matrix buffer is zeroed), S5 (the line buffer is cleared),
  S6 (the sizes follow the matrix buffer also when `read_conn` failed);
* `Variant.full` — also `s7` (the counter is raised after the last check of `parse_record`) and `la`
  (S8: a lexicon text is read completely or not at all), the two repairs proposed for what a failing
  read leaves behind.

Theorem groups: the sink, totality, validity of what is emitted, the matrix buffer between calls, the
rows a failed `read_lexicon` keeps, and that the emitted dictionary loads and analyses.
-/
namespace C06
open Build

/-! ## witnesses (concrete inputs) -/

/-- a 19-field lexicon row `surface,left,right,100,surface,名詞,普通名詞,一般,*,*,*,surface,surface,*,A,*,*,*,*` -/
def row (s l r : Str) : List Str :=
  [s, l, r, ['1', '0', '0'], s, ['名', '詞'], ['普', '通', '名', '詞'], ['一', '般'], ['*'], ['*'], ['*'],
   s, s, ['*'], ['A'], ['*'], ['*'], ['*'], ['*']]

/-- the matrix text `2 2\n0 0 1\n1 1 4\n` -/
def m22 : List (Option Str) :=
  [some ['2', ' ', '2', '\n'], some ['0', ' ', '0', ' ', '1', '\n'], some ['1', ' ', '1', ' ', '4', '\n']]

def x0 : Ext := ⟨[]⟩

/-- the records of one lexicon text, numbered from line 1 -/
def part (recs : List (List Str)) : Op := .lex ((List.range recs.length).map (· + 1) |>.zip recs) none

/-- the usual pipeline: read_conn (when there is a matrix) → read_lexicon → resolve → compile -/
def input (conn : Option (List (Option Str))) (recs : List (List Str)) : Input :=
  { base := Base.system, ops := (conn.map Op.conn).toList ++ [part recs, .resolve],
    descLen := 5, trieLen := 1024 }

/-- the inline split unit `あ,名詞,普通名詞,一般,*,*,*,あ` -/
def inlA : Str :=
  ['あ', ',', '名', '詞', ',', '普', '通', '名', '詞', ',', '一', '般', ',', '*', ',', '*', ',', '*', ',', 'あ']

/-- a C-mode row whose split-A field is `units` -/
def rowC (s : Str) (units : Str) : List Str := ((row s ['0'] ['0']).set 14 ['C']).set 15 units

/-- the witness of the stale `resolved` flag: `あ` and `ああ` (inline split `あ/あ`), `resolve()`,
then a second lexicon text `あああ` (inline split `あ/あ/あ`), compile -/
def staleInput : Input :=
  { base := Base.system,
    ops := [.conn m22, part [row ['あ'] ['0'] ['0'], rowC ['あ', 'あ'] (inlA ++ ['/'] ++ inlA)], .resolve,
            part [rowC ['あ', 'あ', 'あ'] (inlA ++ ['/'] ++ inlA ++ ['/'] ++ inlA)]],
    descLen := 5, trieLen := 1024 }

/-- `resolve()` before any lexicon text sets the flag as well -/
def resolveFirstInput : Input :=
  { base := Base.system,
    ops := [.conn m22, .resolve, part [row ['あ'] ['0'] ['0'], rowC ['あ', 'あ'] (inlA ++ ['/'] ++ inlA)]],
    descLen := 5, trieLen := 1024 }

set_option maxRecDepth 100000

/-! ## a sink failure is never reported as success -/

/-- **sink_failure** (full).  For every input and every failure offset `k` smaller than the size
of the dictionary the unlimited compilation produces, compiling into a sink that fails after `k`
bytes is an I/O error — never success, never another outcome. -/
theorem sink_failure (v : Variant) (x : Ext) (inp : Input) (n cnt k : Nat) (d : Dict)
    (h : build v x inp none = .ok n cnt d) (hk : k < n) :
    build v x inp (some k) = .err .compile .Io 0 := by
  obtain ⟨b, hp, hc⟩ := (build_ok_iff ..).1 h
  unfold build
  simp only [hp, finish, compile_sink hc, if_neg (Nat.not_le.2 hk)]

/-- **sink_success_only_if_everything_fits** (full).  Whatever the input, if compiling into a sink that accepts `k` bytes
reports success then everything was written: the unlimited run succeeds with the same size and
that size is at most `k`. -/
theorem sink_success_only_if_everything_fits (v : Variant) (x : Ext) (inp : Input) (n cnt k : Nat) (d : Dict)
    (h : build v x inp (some k) = .ok n cnt d) :
    build v x inp none = .ok n cnt d ∧ n ≤ k := by
  obtain ⟨b, hp, hc⟩ := (build_ok_iff ..).1 h
  have := compile_sink_ok v b _ _ n k d hc
  exact ⟨(build_ok_iff ..).2 ⟨b, hp, this.1⟩, this.2⟩

/-- a sink that accepts at least the size of the dictionary does not change the outcome -/
theorem sink_large_enough (v : Variant) (x : Ext) (inp : Input) (n cnt k : Nat) (d : Dict)
    (h : build v x inp none = .ok n cnt d) (hk : n ≤ k) :
    build v x inp (some k) = .ok n cnt d := by
  obtain ⟨b, hp, hc⟩ := (build_ok_iff ..).1 h
  exact (build_ok_iff ..).2 ⟨b, hp, (compile_sink hc k).trans (if_pos hk)⟩

/-- non-vacuity of `sink_failure`: a two-word dictionary compiles to 1412 bytes (the size the real
compiler produces for this input, see the directed case `valid-2x2` of the harness) -/
example : ∃ d, build Variant.current x0 (input (some m22) [row ['あ'] ['0'] ['0'], row ['い'] ['1'] ['1']]) none
    = .ok 1412 0 d := ⟨_, build_of_desc (by decide) rfl⟩

/-! ## totality: counterexamples for `Variant.current` and `Variant.staleFlag` -/

/-- D1: the empty matrix text makes `ConnBuffer::read` panic (`todo!()`) -/
theorem compile_total_counterexample_d1 :
    build Variant.current x0 (input (some []) [row ['あ'] ['0'] ['0']]) none = .panic .conn .todoEmptyConn := by
  rfl

/-- D1 also for a text that consists of blank lines only -/
theorem compile_total_counterexample_d1_blank :
    build Variant.current x0 (input (some [some ['\n'], some [' ', '\n']]) []) none = .panic .conn .todoEmptyConn := by
  rfl

/-- D2: `2 2\n5 5 1\n` — coordinates beyond the declared size: index panic in `write_elem` -/
theorem compile_total_counterexample_d2 :
    build Variant.current x0
      (input (some [some ['2', ' ', '2', '\n'], some ['5', ' ', '5', ' ', '1', '\n']]) []) none
      = .panic .conn .connIndex := by
  rfl

/-- D2: a negative coordinate -/
theorem compile_total_counterexample_d2_negative :
    build Variant.current x0
      (input (some [some ['2', ' ', '2', '\n'], some ['-', '1', ' ', '0', ' ', '1', '\n']]) []) none
      = .panic .conn .connIndex := by
  rfl

/-- D4: a lexicon without an indexable row: assertion panic inside the trie builder -/
theorem compile_total_counterexample_d4 :
    build Variant.current x0 (input (some m22) [row ['あ'] ['-', '1'] ['-', '1']]) none
      = .panic .compile .emptyKeys :=
  build_of_desc (by decide) rfl

/-- D4: the empty lexicon -/
theorem compile_total_counterexample_d4_empty :
    build Variant.current x0 (input (some m22) []) none = .panic .compile .emptyKeys :=
  build_of_desc (by decide) rfl

/-- D5: a surface with `\u0000` reaches the trie builder -/
theorem compile_total_counterexample_d5 :
    build Variant.current x0
      (input (some m22) [row ['あ', '\\', 'u', '0', '0', '0', '0'] ['0'] ['0']]) none
      = .panic .compile .nulKey :=
  build_of_desc (by decide) rfl

/-- the same inputs are errors after the repairs -/
theorem repaired_witnesses :
    build Variant.repaired x0 (input (some []) [row ['あ'] ['0'] ['0']]) none = .err .conn .InvalidConnSize 0 ∧
    build Variant.repaired x0
      (input (some [some ['2', ' ', '2', '\n'], some ['5', ' ', '5', ' ', '1', '\n']]) []) none
      = .err .conn .InvalidConnSize 2 ∧
    build Variant.repaired x0 (input (some m22) [row ['あ'] ['-', '1'] ['-', '1']]) none
      = .err .compile .TrieBuildFailure 0 ∧
    build Variant.repaired x0
      (input (some m22) [row ['あ', '\\', 'u', '0', '0', '0', '0'] ['0'] ['0']]) none
      = .err .lex .EmptySurface 1 := by
  exact ⟨rfl, rfl, build_of_desc (by decide) rfl, rfl⟩

/-- the `resolved` flag goes stale: with D1–D5 repaired and the flag as the code has it (`resolve`
sets it, nothing clears it) a second `read_lexicon` with an inline split after `resolve()` passes
`check_if_resolved` and reaches `panic!("at this point there must not be unresolved splits")` of
`validate_entries` -/
theorem compile_total_counterexample_stale_resolved :
    build Variant.staleFlag x0 staleInput none = .panic .compile .unresolvedSplit := by
  rfl

/-- the same with `resolve()` called before the only lexicon text -/
theorem compile_total_counterexample_resolve_first :
    build Variant.staleFlag x0 resolveFirstInput none = .panic .compile .unresolvedSplit := by
  rfl

/-- with the flag cleared by `read_lexicon` both are the error `UnresolvedSplits`; calling
`resolve()` again after the last text compiles (7 resolved units in all) -/
theorem stale_resolved_repaired :
    build Variant.repaired x0 staleInput none = .err .compile .UnresolvedSplits 0 ∧
    build Variant.repaired x0 resolveFirstInput none = .err .compile .UnresolvedSplits 0 ∧
    ∃ n d, build Variant.repaired x0 { staleInput with ops := staleInput.ops ++ [.resolve] } none = .ok n 5 d := by
  exact ⟨rfl, rfl, _, _, build_of_desc (by decide) rfl⟩

/-- **compile_total** (full for the repaired code).  With the repairs of the panics in place
(D1 `todo!()`, D2 unchecked matrix index, D4 empty key set, D5 NUL in an indexed surface, and the
`resolved` flag cleared by `read_lexicon`) the compilation of *every* input — ANY sequence of
`read_conn` / `read_lexicon` / `resolve` calls with any matrix lines, any records, any csv
failure, the `Err` of a `read_conn` or `read_lexicon` propagated or IGNORED (`Op.connIgn`,
`Op.lexIgn`: the builder goes on with what the failed call left, e.g. the rows before the malformed
one), then `compile` with any description and any sink limit — ends in `ok` or `err`, never in
a panic: in particular the `panic!` branches of `validate_entries` / `validate_wid` are
unreachable.  For `Variant.current` the statement is false:
`compile_total_counterexample_d1/_d2/_d4/_d5`, and with only D1–D5 repaired
`compile_total_counterexample_stale_resolved`. -/
theorem compile_total (v : Variant) (x : Ext) (inp : Input) (limit : Option Nat)
    (h1 : v.d1 = true) (h2 : v.d2 = true) (h4 : v.d4 = true) (h5 : v.d5 = true) (hrf : v.rf = true) :
    ∀ s w, build v x inp limit ≠ .panic s w := by
  intro s w h
  rcases build_panic_kind h with ⟨_, ⟨_, hv⟩ | ⟨_, hv⟩⟩ | ⟨_, ⟨_, hv⟩ | ⟨_, hv⟩ | ⟨_, hv⟩⟩
  · rw [h1] at hv; cases hv
  · rw [h2] at hv; cases hv
  · rw [h4] at hv; cases hv
  · rw [h5] at hv; cases hv
  · rw [hrf] at hv; cases hv

/-- instance for `Variant.repaired` (D1–D5 and `rf`; the variant with every repair is `Variant.full`) -/
theorem compile_total_repaired (x : Ext) (inp : Input) (limit : Option Nat) :
    ∀ s w, build Variant.repaired x inp limit ≠ .panic s w :=
  compile_total Variant.repaired x inp limit rfl rfl rfl rfl rfl

/-- **compile_total** for any variant, in particular `Variant.current` (**partial**: the full
statement is `compile_total`; it is false for `Variant.current` and `Variant.staleFlag`).  Whatever
the sequence of calls and their inputs, a panic can only be one of the matrix reader (stage `conn`:
D1, D2), one of the two panics of the index step (D4 when the repair is absent, D5 when the repair
is absent) or — when `read_lexicon` does not clear the `resolved` flag — the `panic!` of
`validate_entries` about an unresolved split: reading the lexicon and resolving never panic, and
the `panic!` branch of `validate_wid` is unreachable. -/
theorem compile_total_partial (v : Variant) (x : Ext) (inp : Input) (limit : Option Nat) (s : Stage) (w : PanicWhy)
    (h : build v x inp limit = .panic s w) :
    s = .conn ∨ (s = .compile ∧ ((w = .emptyKeys ∧ v.d4 = false) ∨ (w = .nulKey ∧ v.d5 = false) ∨
      (w = .unresolvedSplit ∧ v.rf = false))) :=
  (build_panic_kind h).imp And.left id

/-! ## success ⇒ valid dictionary -/

/-- what `build` guarantees on success, in terms of the sizes the ids were validated against -/
theorem build_ok_valid {v : Variant} {x : Ext} {inp : Input} {limit : Option Nat} {n cnt : Nat} {d : Dict}
    (h : build v x inp limit = .ok n cnt d) :
    IdsUpper d ∧ (v.d3 = true → RightNonneg d) ∧ RefsOk d ∧
    (SizesFollowMatrix v inp → d.maxLeft = d.conn.nl ∧ d.maxRight = d.conn.nr) ∧
    (SizesStay v inp → d.maxLeft = inp.base.initLeft v ∧ d.maxRight = inp.base.initRight v) ∧
    ((∀ lines, Op.conn lines ∉ inp.ops ∧ Op.connIgn lines ∉ inp.ops) → d.conn = Conn.empty) := by
  obtain ⟨b, hp, hc, rfl⟩ := build_ok h
  obtain ⟨h1, h2, h3⟩ := compile_ok_valid hc
  obtain ⟨_, p2, p3, p4⟩ := prepare_conn hp
  exact ⟨h1, h2, h3, p2, p3, p4⟩

/-- **compile_valid**, connection ids (full for the repaired right-id check, `v.d3`).  If the
compilation succeeds and the ids were validated against the matrix that is written
(`SizesFollowMatrix`: for `Variant.current` that needs a `read_conn` and no ignored `Err`), every
indexed entry's connection ids lie inside the matrix that is written. -/
theorem compile_valid_ids (v : Variant) (x : Ext) (inp : Input) (limit : Option Nat) (n cnt : Nat) (d : Dict)
    (h3 : v.d3 = true) (hconn : SizesFollowMatrix v inp)
    (h : build v x inp limit = .ok n cnt d) :
    ∀ e ∈ d.entries, e.shouldIndex = true →
      0 ≤ e.left ∧ e.left < d.conn.nl ∧ 0 ≤ e.right ∧ e.right < d.conn.nr := by
  obtain ⟨hu, hr, _, hm, _⟩ := build_ok_valid h
  intro e he hi
  obtain ⟨a, b, c⟩ := ids_within hu (hm hconn) he hi
  exact ⟨a, b, hr h3 e he hi, c⟩

/-- **compile_valid**, connection ids, with N1 and S6 repaired (full): for a SYSTEM dictionary
there is no hypothesis about the calls — no `read_conn`, `read_conn` late or twice,
`Err`s of `read_conn` ignored: whenever `compile` succeeds every indexed entry's connection ids
lie inside the matrix that is written.  False for `Variant.current`: `no_matrix_counterexample`
(N1), `failed_read_conn_counterexample` (S6). -/
theorem compile_valid_ids_repaired (v : Variant) (x : Ext) (inp : Input) (limit : Option Nat) (n cnt : Nat) (d : Dict)
    (h3 : v.d3 = true) (hn1 : v.n1 = true) (hs6 : v.s6 = true) (hsys : inp.base.isUser = false)
    (h : build v x inp limit = .ok n cnt d) :
    ∀ e ∈ d.entries, e.shouldIndex = true →
      0 ≤ e.left ∧ e.left < d.conn.nl ∧ 0 ≤ e.right ∧ e.right < d.conn.nr :=
  compile_valid_ids v x inp limit n cnt d h3 (sizesFollow_repaired v inp hn1 hs6 hsys) h

/-- the same for any variant, without the clause `0 ≤ right` (**partial**: the full
statement is `compile_valid_ids`; it fails for `Variant.current`, see
`compile_valid_counterexample_d3`) -/
theorem compile_valid_ids_partial (v : Variant) (x : Ext) (inp : Input) (limit : Option Nat) (n cnt : Nat) (d : Dict)
    (hconn : SizesFollowMatrix v inp)
    (h : build v x inp limit = .ok n cnt d) :
    ∀ e ∈ d.entries, e.shouldIndex = true → 0 ≤ e.left ∧ e.left < d.conn.nl ∧ e.right < d.conn.nr := by
  obtain ⟨hu, _, _, hm, _⟩ := build_ok_valid h
  exact fun e he hi => ids_within hu (hm hconn) he hi

/-- D3: for `Variant.current` a row with `left_id = 0, right_id = -1` compiles: an indexed
entry whose right id is outside the matrix -/
theorem compile_valid_counterexample_d3 :
    ∃ n d, build Variant.current x0 (input (some m22) [row ['あ'] ['0'] ['-', '1']]) none = .ok n 0 d ∧
      ∃ e ∈ d.entries, e.shouldIndex = true ∧ e.right < 0 :=
  ⟨_, _, build_of_desc (by decide) rfl, _, List.mem_cons_self, rfl, by decide⟩

/-- … and is rejected after the repair -/
theorem compile_valid_d3_repaired :
    build Variant.repaired x0 (input (some m22) [row ['あ'] ['0'] ['-', '1']]) none
      = .err .compile .InvalidFieldSize 0 := by
  rfl

/-- user dictionaries: ids are inside the system dictionary's matrix (sizes of `Base`) — as the
code stands when no `read_conn` was made on the user builder (`SizesStay`) -/
theorem compile_valid_ids_user (v : Variant) (x : Ext) (inp : Input) (limit : Option Nat) (n cnt : Nat) (d : Dict)
    (h3 : v.d3 = true) (huser : inp.base.isUser = true) (hconn : SizesStay v inp)
    (h : build v x inp limit = .ok n cnt d) :
    ∀ e ∈ d.entries, e.shouldIndex = true →
      0 ≤ e.left ∧ e.left < inp.base.maxLeft ∧ 0 ≤ e.right ∧ e.right < inp.base.maxRight := by
  obtain ⟨hu, hr, _, _, hm, _⟩ := build_ok_valid h
  have hs := hm hconn
  simp only [Base.initLeft, Base.initRight, huser, ↓reduceIte] at hs
  intro e he hi
  obtain ⟨a, b, c⟩ := ids_within hu hs he hi
  exact ⟨a, b, hr h3 e he hi, c⟩

/-- user dictionaries with N3 repaired (full): whatever calls were made on the user builder —
`read_conn` included, its `Err` ignored or not — a dictionary that compiles has the connection ids
of its indexed entries inside the SYSTEM dictionary's matrix, the one the analyser connects user
words through.  False for `Variant.current`: `userdict_read_conn_counterexample`. -/
theorem compile_valid_ids_user_repaired (v : Variant) (x : Ext) (inp : Input) (limit : Option Nat) (n cnt : Nat) (d : Dict)
    (h3 : v.d3 = true) (hn3 : v.n3 = true) (huser : inp.base.isUser = true)
    (h : build v x inp limit = .ok n cnt d) :
    ∀ e ∈ d.entries, e.shouldIndex = true →
      0 ≤ e.left ∧ e.left < inp.base.maxLeft ∧ 0 ≤ e.right ∧ e.right < inp.base.maxRight :=
  compile_valid_ids_user v x inp limit n cnt d h3 huser (Or.inl ⟨hn3, huser⟩) h

/-- **compile_valid**, references (full, every variant).  On success the dictionary form, every
split unit and every word-structure item of every entry points to an existing entry, and no
unresolved (inline) split is left. -/
theorem compile_valid_refs (v : Variant) (x : Ext) (inp : Input) (limit : Option Nat) (n cnt : Nat) (d : Dict)
    (h : build v x inp limit = .ok n cnt d) : RefsOk d :=
  (build_ok_valid h).2.2.1

/-- **compile_valid**, format limits (full, every variant).  On success every string written for
an entry has at most 32 767 UTF-16 units (the key at most 32 767 bytes), every array (splits, word
structure, synonym groups) and every homograph group of the index at most 127 items; the index is
not empty and no indexed key contains U+0000 (for `Variant.current` the last two are what the
external trie builder needs in order not to panic / not to build a corrupt trie). -/
theorem compile_valid_limits (v : Variant) (x : Ext) (inp : Input) (limit : Option Nat) (n cnt : Nat) (d : Dict)
    (h : build v x inp limit = .ok n cnt d) : LimitsOk d := by
  obtain ⟨b, _, hc⟩ := (build_ok_iff ..).1 h
  exact compile_ok_limits hc

/-- **compile_valid** (full for the repaired right-id check): all clauses together for a dictionary
whose ids were validated against the matrix that is written (for `Variant.current`: a matrix was read
and no `Err` of `read_conn` ignored; with N1 and S6 repaired: every system dictionary,
`sizesFollow_repaired`). -/
theorem compile_valid (v : Variant) (x : Ext) (inp : Input) (limit : Option Nat) (n cnt : Nat) (d : Dict)
    (h3 : v.d3 = true) (hconn : SizesFollowMatrix v inp)
    (h : build v x inp limit = .ok n cnt d) :
    (∀ e ∈ d.entries, e.shouldIndex = true →
      0 ≤ e.left ∧ e.left < d.conn.nl ∧ 0 ≤ e.right ∧ e.right < d.conn.nr) ∧ RefsOk d ∧ LimitsOk d :=
  ⟨compile_valid_ids v x inp limit n cnt d h3 hconn h, compile_valid_refs v x inp limit n cnt d h,
   compile_valid_limits v x inp limit n cnt d h⟩

/-- non-vacuity of `compile_valid`: the hypotheses hold for the two-word dictionary -/
example : ∃ n d, Variant.repaired.d3 = true ∧
    SizesFollowMatrix Variant.repaired (input (some m22) [row ['あ'] ['0'] ['0'], row ['い'] ['1'] ['1']]) ∧
    build Variant.repaired x0 (input (some m22) [row ['あ'] ['0'] ['0'], row ['い'] ['1'] ['1']]) none = .ok n 0 d :=
  ⟨_, _, rfl, sizesFollow_pinned _ _ rfl m22 List.mem_cons_self (by intro l h; simp [input, part] at h), build_of_desc (by decide) rfl⟩

/-- … and for a lexicon read in two parts with a `resolve()` after each (the second part refers to
the first by an inline split and by a word id) -/
example : ∃ n d, Op.conn m22 ∈ ({ staleInput with ops := staleInput.ops ++ [.resolve] } : Input).ops ∧
    build Variant.repaired x0 { staleInput with ops := staleInput.ops ++ [.resolve] } none = .ok n 5 d :=
  let ⟨n, d, h⟩ := stale_resolved_repaired.2.2
  ⟨n, d, List.mem_cons_self, h⟩

/-- the ids as the analyser uses them (`conn.cost(left.right_id, right.left_id)` with the first
argument bounded by `num_left`, the second by `num_right`) -/
def UseOk (d : Dict) : Prop :=
  ∀ e ∈ d.entries, e.shouldIndex = true → 0 ≤ e.right ∧ e.right < d.conn.nl ∧ 0 ≤ e.left ∧ e.left < d.conn.nr

/-- with a square matrix validated ids are usable ids -/
theorem square_use_ok (v : Variant) (x : Ext) (inp : Input) (limit : Option Nat) (n cnt : Nat) (d : Dict)
    (h3 : v.d3 = true) (hconn : SizesFollowMatrix v inp)
    (h : build v x inp limit = .ok n cnt d) (hsq : d.conn.nl = d.conn.nr) : UseOk d := by
  intro e he hi
  have := compile_valid_ids v x inp limit n cnt d h3 hconn h e he hi
  omega

/-- D17: with the non-square matrix `3 1` the row `left_id = 2, right_id = 0` passes the
validation (also after the repairs) but its left id is outside the dimension the analyser bounds
it by -/
theorem nonsquare_use_counterexample :
    ∃ n d, build Variant.repaired x0
        (input (some [some ['3', ' ', '1', '\n'], some ['2', ' ', '0', ' ', '7', '\n']])
          [row ['あ'] ['2'] ['0']]) none = .ok n 0 d ∧ ¬ UseOk d :=
  ⟨_, _, build_of_desc (by decide) rfl, fun h => absurd (h _ List.mem_cons_self rfl).2.2.2 (by decide)⟩

/-- N1: a system dictionary compiled without `read_conn` (the matrix is optional in the API)
gets a 0×0 matrix while ids are checked against `i16::MAX`: every indexed entry is outside
(`Variant.repaired` = D1–D5 and the `resolved` flag repaired) -/
theorem no_matrix_counterexample :
    ∃ n d, build Variant.repaired x0 (input none [row ['あ'] ['0'] ['0']]) none = .ok n 0 d ∧
      d.conn = Conn.empty ∧ ∃ e ∈ d.entries, e.shouldIndex = true ∧ ¬ e.left < d.conn.nl :=
  ⟨_, _, build_of_desc (by decide) rfl, rfl, _, List.mem_cons_self, rfl, by decide⟩

/-- a user-dictionary builder over a system dictionary with 7 words and a 3×3 matrix -/
def userBase : Base := ⟨[[['名', '詞'], ['普', '通', '名', '詞'], ['一', '般'], ['*'], ['*'], ['*']]], 3, 3, some 7, []⟩

/-- D8: a user-dictionary row that declares the dictionary form `U0` compiles (the validator reads
it as the reference (1, 0)); the stored raw value 0x10000000 is what the reader later uses as an
index into the user lexicon itself, far beyond its two entries -/
theorem userdict_dicform_counterexample :
    ∃ n d, build Variant.repaired x0
        { input none [row ['大', '阪'] ['0'] ['0'],
            (row ['大', '阪', '府'] ['1'] ['1']).set 13 ['U', '0']] with base := userBase } none = .ok n 0 d ∧
      ∃ e ∈ d.entries, e.dicForm ≠ WID_INVALID ∧ d.entries.length ≤ e.dicForm :=
  ⟨_, _, build_of_desc (by decide) rfl, _, List.mem_cons_of_mem _ List.mem_cons_self, by decide, by decide⟩

/-- N3: `read_conn` on a user-dictionary builder replaces the sizes of the system dictionary's
matrix (here 3×3) the ids are validated against by those of the text it reads (9×9), although the
analyser connects user words through the system matrix: the row `left_id = 5, right_id = 5`
compiles (also after the repairs) -/
theorem userdict_read_conn_counterexample :
    ∃ n d, build Variant.repaired x0
        { input (some [some ['9', ' ', '9', '\n']]) [row ['大', '阪'] ['5'] ['5']] with base := userBase } none = .ok n 0 d ∧
      ∃ e ∈ d.entries, e.shouldIndex = true ∧ ¬ e.left < userBase.maxLeft :=
  ⟨_, _, build_of_desc (by decide) rfl, _, List.mem_cons_self, rfl, by decide⟩

/-- non-vacuity of `compile_valid_ids_user`: the usual pipeline without a matrix has no `read_conn` -/
example : userBase.isUser = true ∧ SizesStay Variant.repaired { input none [row ['あ'] ['0'] ['0']] with base := userBase } := by
  refine ⟨rfl, Or.inr ?_⟩
  intro lines
  constructor <;> (intro h; simp [input, part] at h)

/-! ## N1, N3 repaired -/

/-- N1 repaired: without a matrix no connection id is valid — the witness of
`no_matrix_counterexample` is rejected by `validate_entries` -/
theorem no_matrix_repaired :
    build Variant.full x0 (input none [row ['あ'] ['0'] ['0']]) none = .err .compile .InvalidFieldSize 0 := by
  rfl

/-- N3 repaired: the row of `userdict_read_conn_counterexample` is rejected (as it is without the
`read_conn`), the row with ids inside the system matrix still compiles -/
theorem userdict_read_conn_repaired :
    build Variant.full x0
        { input (some [some ['9', ' ', '9', '\n']]) [row ['大', '阪'] ['5'] ['5']] with base := userBase } none
      = .err .compile .InvalidFieldSize 0 ∧
    ∃ n d, build Variant.full x0
        { input (some [some ['9', ' ', '9', '\n']]) [row ['大', '阪'] ['1'] ['2']] with base := userBase } none
      = .ok n 0 d :=
  ⟨rfl, _, _, build_of_desc (by decide) rfl⟩

/-- non-vacuity of `compile_valid_ids_repaired` / `compile_valid_ids_user_repaired` -/
example : Variant.full.d3 = true ∧ Variant.full.n1 = true ∧ Variant.full.s6 = true ∧ Variant.full.n3 = true ∧
    Base.system.isUser = false ∧ userBase.isUser = true ∧
    ∃ n d, build Variant.full x0 (input (some m22) [row ['あ'] ['0'] ['0'], row ['い'] ['1'] ['1']]) none = .ok n 0 d :=
  ⟨rfl, rfl, rfl, rfl, rfl, rfl, _, _, build_of_desc (by decide) rfl⟩

/-! ## the matrix buffer between calls: S4 (stale cells), S5 (stale line), S6 (stale sizes) -/

/-- the matrix text `2 2\n0 0 7\n1 1 9\n` -/
def m22a : List (Option Str) :=
  [some ['2', ' ', '2', '\n'], some ['0', ' ', '0', ' ', '7', '\n'], some ['1', ' ', '1', ' ', '9', '\n']]

/-- calls, then one lexicon text and `resolve()` -/
def inputOps (ops : List Op) (recs : List (List Str)) : Input :=
  { base := Base.system, ops := ops ++ [part recs, .resolve], descLen := 5, trieLen := 1024 }

/-- S4: `read_conn("2 2\n0 0 7\n1 1 9\n")` then `read_conn("2 2\n")` — the second text lists no
cell, the matrix that is written still has the costs 7 and 9 of the first (`Vec::resize` keeps
them) -/
theorem stale_cells_counterexample :
    ∃ n d, build Variant.repaired x0
        (inputOps [.conn m22a, .conn [some ['2', ' ', '2', '\n']]] [row ['あ'] ['0'] ['0']]) none = .ok n 0 d ∧
      d.conn.cell 0 = 7 ∧ d.conn.cell 3 = 9 ∧
      (readConn Variant.repaired ConnBuf.new [some ['2', ' ', '2', '\n']]).1.conn.cell 0 = 0 :=
  ⟨_, _, build_of_desc (by decide) rfl, rfl, rfl, rfl⟩

/-- S5, a retry fails: `read_conn("2 2\n0 0 x\n")` is an error (ignored by the caller), the
CORRECT text `2 2\n0 0 1\n` read next is rejected too — its header is appended to the line the
first call failed on — although a new builder accepts it -/
theorem stale_line_counterexample_retry :
    build Variant.repaired x0
        (inputOps [.connIgn [some ['2', ' ', '2', '\n'], some ['0', ' ', '0', ' ', 'x', '\n']],
                   .conn [some ['2', ' ', '2', '\n'], some ['0', ' ', '0', ' ', '1', '\n']]]
          [row ['あ'] ['0'] ['0']]) none = .err .conn .InvalidI16Literal 1 ∧
    ∃ n d, build Variant.repaired x0
        (inputOps [.conn [some ['2', ' ', '2', '\n'], some ['0', ' ', '0', ' ', '1', '\n']]]
          [row ['あ'] ['0'] ['0']]) none = .ok n 0 d :=
  ⟨rfl, _, _, build_of_desc (by decide) rfl⟩

/-- S5, an invalid text is accepted: `read_conn("5 \n")` is an error (one number), then the text
`7\n0 0 1\n`, which a new builder rejects, is read as a 5×7 matrix and a row with ids (4, 6)
compiles -/
theorem stale_line_counterexample_accepts :
    (∃ n d, build Variant.repaired x0
        (inputOps [.connIgn [some ['5', ' ', '\n']],
                   .conn [some ['7', '\n'], some ['0', ' ', '0', ' ', '1', '\n']]]
          [row ['あ'] ['4'] ['6']]) none = .ok n 0 d ∧ d.conn.nl = 5 ∧ d.conn.nr = 7) ∧
    build Variant.repaired x0
        (inputOps [.conn [some ['7', '\n'], some ['0', ' ', '0', ' ', '1', '\n']]]
          [row ['あ'] ['4'] ['6']]) none = .err .conn .SplitFormatError 1 :=
  ⟨⟨_, _, build_of_desc (by decide) rfl, rfl, rfl⟩, rfl⟩

/-- S6: `read_conn("3 3\n")`, then `read_conn("1 1\n0 0 x\n")` fails AFTER the buffer was resized to
1×1 (the `Err` is ignored); the row with ids (2, 2) is validated against 3×3 and compiles into a
dictionary whose matrix is 1×1 -/
theorem failed_read_conn_counterexample :
    ∃ n d, build Variant.repaired x0
        (inputOps [.conn [some ['3', ' ', '3', '\n']],
                   .connIgn [some ['1', ' ', '1', '\n'], some ['0', ' ', '0', ' ', 'x', '\n']]]
          [row ['あ'] ['2'] ['2']]) none = .ok n 0 d ∧
      d.conn.nl = 1 ∧ ∃ e ∈ d.entries, e.shouldIndex = true ∧ ¬ e.left < d.conn.nl :=
  ⟨_, _, build_of_desc (by decide) rfl, rfl, _, List.mem_cons_self, rfl, by decide⟩

/-- the same inputs with S4, S5, S6 repaired: the second matrix is all zeros; the retry succeeds;
the invalid text is rejected; the row outside the 1×1 matrix is rejected -/
theorem stale_buffer_repaired :
    (∃ n d, build Variant.full x0
        (inputOps [.conn m22a, .conn [some ['2', ' ', '2', '\n']]] [row ['あ'] ['0'] ['0']]) none = .ok n 0 d ∧
      d.conn.cells = []) ∧
    (∃ n d, build Variant.full x0
        (inputOps [.connIgn [some ['2', ' ', '2', '\n'], some ['0', ' ', '0', ' ', 'x', '\n']],
                   .conn [some ['2', ' ', '2', '\n'], some ['0', ' ', '0', ' ', '1', '\n']]]
          [row ['あ'] ['0'] ['0']]) none = .ok n 0 d) ∧
    build Variant.full x0
        (inputOps [.connIgn [some ['5', ' ', '\n']],
                   .conn [some ['7', '\n'], some ['0', ' ', '0', ' ', '1', '\n']]]
          [row ['あ'] ['4'] ['6']]) none = .err .conn .SplitFormatError 1 ∧
    build Variant.full x0
        (inputOps [.conn [some ['3', ' ', '3', '\n']],
                   .connIgn [some ['1', ' ', '1', '\n'], some ['0', ' ', '0', ' ', 'x', '\n']]]
          [row ['あ'] ['2'] ['2']]) none = .err .compile .InvalidFieldSize 0 :=
  ⟨⟨_, _, build_of_desc (by decide) rfl, rfl⟩, ⟨_, _, build_of_desc (by decide) rfl⟩, rfl, rfl⟩

/-- **read_conn is a function of the text** — S5 repaired (full for the result): whether
`ConnBuffer::read` accepts a text, the error and line it rejects it with, the sizes of the matrix
and what it leaves in the line buffer are those a new `ConnBuffer` gives, whatever earlier calls
(failed or not) left behind.  False for `Variant.current`: `stale_line_counterexample_retry`,
`stale_line_counterexample_accepts`. -/
theorem read_conn_result_fresh (v : Variant) (h5 : v.s5 = true) (buf : ConnBuf) (lines : List (Option Str)) :
    (readConn v buf lines).2 = (readConn v ConnBuf.new lines).2 ∧
    (readConn v buf lines).1.line = (readConn v ConnBuf.new lines).1.line ∧
    ((readConn v buf lines).2 = .ok () →
      (readConn v buf lines).1.conn.nl = (readConn v ConnBuf.new lines).1.conn.nl ∧
      (readConn v buf lines).1.conn.nr = (readConn v ConnBuf.new lines).1.conn.nr ∧
      (readConn v buf lines).1.conn.bytes = (readConn v ConnBuf.new lines).1.conn.bytes) := by
  rw [readConn_line h5 buf, readConn_line h5 ConnBuf.new]
  rcases readConn_cases v [] lines with ⟨hd, r, hne, _, hc⟩ | ⟨hd, l, r, n, rest, _, _, _, hc⟩
  · rw [hc, hc]; exact ⟨rfl, rfl, fun h => absurd h hne⟩
  · rw [hc, hc]
    obtain ⟨a1, a2, _⟩ := readBody_cells v ⟨l, r, l.toNat * r.toNat * 2, []⟩ rest n
      (resizeCells v buf.conn.cells (l.toNat * r.toNat))
    obtain ⟨b1, b2, _⟩ := readBody_cells v ⟨l, r, l.toNat * r.toNat * 2, []⟩ rest n
      (resizeCells v ConnBuf.new.conn.cells (l.toNat * r.toNat))
    exact ⟨a1.trans b1.symm, a2.trans b2.symm, fun _ => ⟨rfl, rfl, rfl⟩⟩

/-- … S4 and S5 repaired (full): and when it accepts the text, the whole buffer — sizes and every
cell — is the one a new `ConnBuffer` holds after reading the same text.  False as the code
stands: `stale_cells_counterexample`. -/
theorem read_conn_fresh (v : Variant) (h4 : v.s4 = true) (h5 : v.s5 = true) (buf : ConnBuf) (lines : List (Option Str)) :
    (readConn v buf lines).2 = (readConn v ConnBuf.new lines).2 ∧
    ((readConn v buf lines).2 = .ok () → (readConn v buf lines).1 = (readConn v ConnBuf.new lines).1) := by
  refine ⟨(read_conn_result_fresh v h5 buf lines).1, ?_⟩
  rw [readConn_line h5 buf, readConn_line h5 ConnBuf.new]
  rcases readConn_cases v [] lines with ⟨hd, r, hne, _, hc⟩ | ⟨hd, l, r, n, rest, _, _, _, hc⟩
  · rw [hc, hc]; exact fun h => absurd h hne
  · rw [hc, hc]; simp only [resizeCells, h4, if_true, implies_true]

/-- **the matrix that is written is the matrix of the last text** (S4, S5 repaired; full): if the
calls are `… read_conn(text)? …` with no `read_conn` after it and `compile` succeeds, the matrix
of the dictionary (sizes and every cell) is what a new `ConnBuffer` holds after reading `text` —
nothing of earlier texts, accepted or rejected, is left in it.  False for `Variant.current`:
`stale_cells_counterexample`, `stale_line_counterexample_accepts`. -/
theorem compile_matrix_is_last_text (v : Variant) (x : Ext) (inp : Input) (limit : Option Nat) (n cnt : Nat) (d : Dict)
    (h4 : v.s4 = true) (h5 : v.s5 = true) (pre post : List Op) (lines : List (Option Str))
    (hops : inp.ops = pre ++ Op.conn lines :: post)
    (hpost : ∀ l, Op.conn l ∉ post ∧ Op.connIgn l ∉ post)
    (h : build v x inp limit = .ok n cnt d) :
    (readConn v ConnBuf.new lines).2 = .ok () ∧ d.conn = (readConn v ConnBuf.new lines).1.conn := by
  obtain ⟨b, hp, hc, rfl⟩ := build_ok h
  obtain ⟨buf, hok, hb⟩ := prepare_last_conn hp hops hpost
  obtain ⟨f1, f2⟩ := read_conn_fresh v h4 h5 buf lines
  exact ⟨f1 ▸ hok, hb.trans (congrArg ConnBuf.conn (f2 hok))⟩

/-- non-vacuity of `compile_matrix_is_last_text`: the witness of `stale_cells_counterexample` has
the shape and compiles -/
example : ∃ n d, build Variant.full x0
      (inputOps [.conn m22a, .conn [some ['2', ' ', '2', '\n']]] [row ['あ'] ['0'] ['0']]) none = .ok n 0 d ∧
    (inputOps [.conn m22a, .conn [some ['2', ' ', '2', '\n']]] [row ['あ'] ['0'] ['0']]).ops
      = [.conn m22a] ++ Op.conn [some ['2', ' ', '2', '\n']] :: [part [row ['あ'] ['0'] ['0']], .resolve] :=
  let ⟨n, d, h, _⟩ := stale_buffer_repaired.1
  ⟨n, d, h, rfl⟩

/-! ## a `read_lexicon` that FAILS and whose `Err` the caller ignores (`Op.lexIgn`)

`LexiconReader::read_bytes` pushes every row it parsed before the malformed one; those rows have
raised `unresolved` and registered their POS; `DictBuilder::read_lexicon` clears `resolved` before it
looks at the result.  `Variant.landed` is the delivered tree. -/

/-- the matrix text `1 1\n0 0 0\n` -/
def m11 : List (Option Str) := [some ['1', ' ', '1', '\n'], some ['0', ' ', '0', ' ', '0', '\n']]

/-- a row cut off after two fields, `い,0`: `NoRawField` -/
def shortRow : List Str := [['い'], ['0']]

/-- like `part`, but the caller ignores an `Err` -/
def partIgn (recs : List (List Str)) : Op := .lexIgn ((List.range recs.length).map (· + 1) |>.zip recs) none

/-- `read_conn`, `read_lexicon(あ ; ああ with inline あ/あ)`, `resolve()`, then a lexicon text whose
first row `あああ` (inline `あ/あ/あ`) is fine and whose second row is cut off — the `Err` is ignored —
then `compile` (the shape of seeded change C06b) -/
def failedReadInput : Input :=
  { base := Base.system,
    ops := [.conn m11, part [row ['あ'] ['0'] ['0'], rowC ['あ', 'あ'] (inlA ++ ['/'] ++ inlA)], .resolve,
            partIgn [rowC ['あ', 'あ', 'あ'] (inlA ++ ['/'] ++ inlA ++ ['/'] ++ inlA), shortRow]],
    descLen := 5, trieLen := 1024 }

/-- if the flag is NOT cleared by the failing `read_lexicon` (`rf = false`: nothing but `resolve`
touches it — for a failing read that is also what `let n = collect_r(result)?; if n > 0 { resolved =
false }` does) the row kept from the failed text reaches `validate_entries` with its inline units:
`compile` panics -/
theorem compile_total_counterexample_failed_read :
    build Variant.staleFlag x0 failedReadInput none = .panic .compile .unresolvedSplit := by
  rfl

/-- the delivered tree (`Variant.landed`): the failing read has cleared the flag, `compile` answers `UnresolvedSplits`;
after one more `resolve()` the dictionary compiles and the row kept from the failed text is its
third entry (5 units resolved in all) -/
theorem failed_read_landed :
    build Variant.landed x0 failedReadInput none = .err .compile .UnresolvedSplits 0 ∧
    ∃ n d, build Variant.landed x0 { failedReadInput with ops := failedReadInput.ops ++ [.resolve] } none = .ok n 5 d ∧
      surfaces d.entries = [['あ'], ['あ', 'あ'], ['あ', 'あ', 'あ']] :=
  ⟨rfl, _, _, build_of_desc (by decide) rfl, rfl⟩

/-- **read_lexicon clears the flag whatever its result** (full; `rf`): after `read_lexicon` — `Ok` or
`Err`, rows kept or not — `resolved` is `false`, and nothing but the reader and the flag changed -/
theorem read_lexicon_clears_flag (v : Variant) (x : Ext) (b : Builder) (recs : List (Nat × List Str)) (ce : Option Nat)
    (hrf : v.rf = true) :
    (readLexB v x b recs ce).1.resolved = false ∧
    (readLexB v x b recs ce).1.conn = b.conn ∧ (readLexB v x b recs ce).1.maxLeft = b.maxLeft ∧
    (readLexB v x b recs ce).1.maxRight = b.maxRight ∧ (readLexB v x b recs ce).1.connLine = b.connLine := by
  obtain ⟨L, e⟩ := readLexB_frame v x b recs ce
  rw [e, hrf]; exact ⟨rfl, rfl, rfl, rfl, rfl⟩

/-- **what a failed read_lexicon keeps** (full; `la = false`, as in `Variant.landed`).  If
`read_lexicon` returns `Err(k)` at `line`, then either the csv reader failed — and ALL records it had
delivered are in the builder, exactly as a successful read of them leaves it — or the records split
into `pre`, the malformed record at `line`, and `post`, such that: every record of `pre` parsed
(state `st1` = what reading `pre` alone gives: one entry per record appended to the entries the
builder had); `parse_record` rejects the malformed record with `k` in that state; the entries left
are EXACTLY those of `st1` — nothing of the malformed record, nothing of `post`; every POS registered
up to `st1` keeps its id (the table left extends `st1.pos`: the malformed row may have registered
more); `unresolved` is at least `st1`'s (equal after the repair S7). -/
theorem failed_read_keeps (v : Variant) (x : Ext) (b : Builder) (recs : List (Nat × List Str)) (ce : Option Nat)
    (k : ErrKind) (line : Nat) (hla : v.la = false) (h : (readLexB v x b recs ce).2 = .err k line) :
    (k = .Csv ∧ ce = some line ∧ readLexicon v x b.lex recs = .ok (readLexB v x b recs ce).1.lex) ∨
    ∃ pre bad post st1, recs = pre ++ (line, bad) :: post ∧ readLexicon v x b.lex pre = .ok st1 ∧
      parseRecord v x st1 bad = .error k ∧
      (readLexB v x b recs ce).1.lex.entries = st1.entries ∧
      (∃ es, es.length = pre.length ∧ st1.entries = b.lex.entries ++ es) ∧
      st1.pos <+: (readLexB v x b recs ce).1.lex.pos ∧
      st1.unresolved ≤ (readLexB v x b recs ce).1.lex.unresolved ∧
      (v.s7 = true → (readLexB v x b recs ce).1.lex.unresolved = st1.unresolved) := by
  obtain ⟨L, r, he, hc⟩ := readLexB_cases v x b recs ce
  rw [he] at h ⊢
  subst h
  rcases hc with ⟨h, _⟩ | ⟨_, rfl, hp | ⟨l, rfl, hl, hp⟩⟩
  · cases h
  · right
    obtain ⟨pre, bad, post, st1, h1, h2, h3, h4⟩ := readLexiconP_err hp.symm
    obtain ⟨tab, u, he, g4, g2, g3⟩ := parseRecordLeft_kept v x st1 bad
    obtain ⟨k1, _, _⟩ := readLexicon_kept h2
    simp only [hla, Bool.false_eq_true, ↓reduceIte, h4, he]
    exact ⟨pre, bad, post, st1, h1, h2, h3, rfl, k1, g4.prefix, g2, g3⟩
  · cases hl
    refine Or.inl ⟨rfl, rfl, ?_⟩
    simp only [hla, Bool.false_eq_true, ↓reduceIte]
    exact readLexicon_ok_iff.2 (Prod.ext rfl hp)

/-- **a failed read_lexicon leaves nothing** — S8 repaired (`la`; full): entries, POS table and
`unresolved` are what they were before the call (only `resolved` is cleared).  False as the code
stands: `failed_read_retry_duplicates_counterexample`. -/
theorem failed_read_atomic (v : Variant) (x : Ext) (b : Builder) (recs : List (Nat × List Str)) (ce : Option Nat)
    (hla : v.la = true) (h : (readLexB v x b recs ce).2 ≠ .ok ()) :
    (readLexB v x b recs ce).1.lex = b.lex := by
  obtain ⟨L, r, he, hc⟩ := readLexB_cases v x b recs ce
  rw [he] at h ⊢
  rcases hc with ⟨hr, _⟩ | ⟨_, rfl, _⟩
  · exact absurd hr h
  · exact if_pos hla

/-- **compile_total for pipelines with ignored read_lexicon failures** (full): with the panic
repairs and the flag cleared by `read_lexicon`, a sequence of calls that contains a `read_lexicon`
whose `Err` is ignored — whatever it kept — never makes the pipeline panic; the ignored call itself
does not panic and leaves the flag cleared.  (Instance of `compile_total`, which quantifies over all
sequences; stated for the shape the seeded change needs.)  False when the flag survives a failing
read: `compile_total_counterexample_failed_read`. -/
theorem compile_total_ignored_failures (v : Variant) (x : Ext) (inp : Input) (limit : Option Nat)
    (h1 : v.d1 = true) (h2 : v.d2 = true) (h4 : v.d4 = true) (h5 : v.d5 = true) (hrf : v.rf = true)
    (pre post : List Op) (recs : List (Nat × List Str)) (ce : Option Nat)
    (_hops : inp.ops = pre ++ Op.lexIgn recs ce :: post) :
    (∀ s w, build v x inp limit ≠ .panic s w) ∧
    ∀ b, (readLexB v x b recs ce).2.isPanic = false ∧ (readLexB v x b recs ce).1.resolved = false :=
  ⟨compile_total v x inp limit h1 h2 h4 h5 hrf,
   fun b => ⟨readLexB_no_panic v x b recs ce, (read_lexicon_clears_flag v x b recs ce hrf).1⟩⟩

/-- **compile_valid over pipelines with ignored read_lexicon failures** (full for the repaired
right-id check).  If the calls are `pre`, a `read_lexicon` whose `Err` is ignored, `post`, and
`compile` succeeds, then the rows the failed call left in the builder ARE rows of the dictionary
(their surfaces, in order, begin the dictionary's), and the dictionary is valid like any other:
connection ids of indexed entries inside the matrix, every reference resolved and pointing to an
existing entry, format limits respected — the rows kept from the failed text went through
`validate_entries` like the rest. -/
theorem compile_valid_ignored_failures (v : Variant) (x : Ext) (inp : Input) (limit : Option Nat) (n cnt : Nat) (d : Dict)
    (h3 : v.d3 = true) (hconn : SizesFollowMatrix v inp)
    (pre post : List Op) (recs : List (Nat × List Str)) (ce : Option Nat)
    (hops : inp.ops = pre ++ Op.lexIgn recs ce :: post)
    (h : build v x inp limit = .ok n cnt d) :
    (∃ b0 c0, runOps v x (Builder.init v inp.base, 0) pre = .ok (b0, c0) ∧
      surfaces (readLexB v x b0 recs ce).1.lex.entries <+: surfaces d.entries) ∧
    (∀ e ∈ d.entries, e.shouldIndex = true →
      0 ≤ e.left ∧ e.left < d.conn.nl ∧ 0 ≤ e.right ∧ e.right < d.conn.nr) ∧ RefsOk d ∧ LimitsOk d := by
  obtain ⟨b, hp, _, rfl⟩ := build_ok h
  exact ⟨prepare_lexIgn hp hops, compile_valid v x inp limit n cnt _ h3 hconn h⟩

/-- non-vacuity of `compile_total_ignored_failures`, `compile_valid_ignored_failures` and
`failed_read_keeps`: the witness has the shape, the ignored call fails with `NoRawField` at line 2
having kept a row, the flags of `Variant.landed` are the ones asked for, and with one more
`resolve()` it compiles under `SizesFollowMatrix` -/
example : failedReadInput.ops = [.conn m11, part [row ['あ'] ['0'] ['0'], rowC ['あ', 'あ'] (inlA ++ ['/'] ++ inlA)], .resolve]
      ++ Op.lexIgn ((List.range 2).map (· + 1) |>.zip [rowC ['あ', 'あ', 'あ'] (inlA ++ ['/'] ++ inlA ++ ['/'] ++ inlA), shortRow]) none :: [] ∧
    Variant.landed.d1 = true ∧ Variant.landed.d3 = true ∧ Variant.landed.rf = true ∧ Variant.landed.la = false ∧
    SizesFollowMatrix Variant.landed { failedReadInput with ops := failedReadInput.ops ++ [.resolve] } ∧
    (∃ n d, build Variant.landed x0 { failedReadInput with ops := failedReadInput.ops ++ [.resolve] } none = .ok n 5 d) ∧
    (readLexB Variant.landed x0 (Builder.init Variant.landed Base.system)
      ((List.range 2).map (· + 1) |>.zip [rowC ['あ', 'あ', 'あ'] (inlA ++ ['/'] ++ inlA ++ ['/'] ++ inlA), shortRow]) none).2
      = .err .NoRawField 2 :=
  ⟨rfl, rfl, rfl, rfl, rfl, sizesFollow_repaired _ _ rfl rfl rfl, let ⟨n, d, h, _⟩ := failed_read_landed.2; ⟨n, d, h⟩, rfl⟩

/-- non-vacuity of `failed_read_atomic` -/
example : Variant.full.la = true ∧
    (readLexB Variant.full x0 (Builder.init Variant.full Base.system) [(1, row ['あ'] ['0'] ['0']), (2, shortRow)] none).2 ≠ .ok () :=
  ⟨rfl, by
    rw [show (readLexB Variant.full x0 (Builder.init Variant.full Base.system)
      [(1, row ['あ'] ['0'] ['0']), (2, shortRow)] none).2 = .err .NoRawField 2 from rfl]
    simp⟩

/-- calls, then `compile` (no `resolve()` appended) -/
def inputRaw (ops : List Op) : Input := { base := Base.system, ops := ops, descLen := 5, trieLen := 1024 }

/-- the row `,0,0,100,あ,…,C,<あ inline>/<あ inline>,*,*,*`: empty surface, two inline units -/
def emptySurfaceRow : List Str := (rowC [] (inlA ++ ['/'] ++ inlA)).set 4 ['あ']

/-- S7: the row rejected for its empty surface has raised `unresolved` (the `+=` sits before the
check): `compile` answers `UnresolvedSplits` although no entry has an inline unit — `resolve()`
finds nothing to resolve and then it compiles; after the repair S7 it compiles at once -/
theorem failed_row_bumps_unresolved_counterexample :
    build Variant.landed x0 (inputRaw [.conn m11, part [row ['あ'] ['0'] ['0']], partIgn [emptySurfaceRow]]) none
      = .err .compile .UnresolvedSplits 0 ∧
    (∃ n d, build Variant.landed x0 (inputRaw [.conn m11, part [row ['あ'] ['0'] ['0']], partIgn [emptySurfaceRow], .resolve]) none
      = .ok n 0 d) ∧
    (∃ n d, build { Variant.landed with s7 := true } x0
        (inputRaw [.conn m11, part [row ['あ'] ['0'] ['0']], partIgn [emptySurfaceRow]]) none = .ok n 0 d) :=
  ⟨rfl, ⟨_, _, build_of_desc (by decide) rfl⟩, ⟨_, _, build_of_desc (by decide) rfl⟩⟩

/-- the row `い,…,新品詞,…,A,0,…`: a new POS, A-mode with a split (`InvalidSplit`, detected after `pos_of`) -/
def newPosBadRow : List Str := ((row ['い'] ['0'] ['0']).set 5 ['新', '品', '詞']).set 15 ['0']

/-- the malformed row itself is half-registered: its POS stays in the table — the dictionary has
one entry and two POS rows; after the repair S8 one -/
theorem failed_row_registers_pos_counterexample :
    (∃ n d, build Variant.landed x0
        (inputRaw [.conn m11, part [row ['あ'] ['0'] ['0']], partIgn [newPosBadRow], .resolve]) none = .ok n 0 d ∧
      d.entries.length = 1 ∧ d.pos.length = 2) ∧
    (∃ n d, build Variant.full x0
        (inputRaw [.conn m11, part [row ['あ'] ['0'] ['0']], partIgn [newPosBadRow], .resolve]) none = .ok n 0 d ∧
      d.entries.length = 1 ∧ d.pos.length = 1) :=
  ⟨⟨_, _, build_of_desc (by decide) rfl, rfl, rfl⟩, ⟨_, _, build_of_desc (by decide) rfl, rfl, rfl⟩⟩

/-- S8: a text `あ ; い ; <cut-off row>` fails, the caller corrects it and reads `あ ; い ; う`: the
two rows the failed call kept are there twice (5 entries); after the repair S8 the dictionary has
the 3 rows of the corrected text -/
theorem failed_read_retry_duplicates_counterexample :
    (∃ n d, build Variant.landed x0
        (inputRaw [.conn m11, partIgn [row ['あ'] ['0'] ['0'], row ['い'] ['0'] ['0'], shortRow],
                   part [row ['あ'] ['0'] ['0'], row ['い'] ['0'] ['0'], row ['う'] ['0'] ['0']], .resolve]) none = .ok n 0 d ∧
      surfaces d.entries = [['あ'], ['い'], ['あ'], ['い'], ['う']]) ∧
    (∃ n d, build Variant.full x0
        (inputRaw [.conn m11, partIgn [row ['あ'] ['0'] ['0'], row ['い'] ['0'] ['0'], shortRow],
                   part [row ['あ'] ['0'] ['0'], row ['い'] ['0'] ['0'], row ['う'] ['0'] ['0']], .resolve]) none = .ok n 0 d ∧
      surfaces d.entries = [['あ'], ['い'], ['う']]) :=
  ⟨⟨_, _, build_of_desc (by decide) rfl, rfl⟩, ⟨_, _, build_of_desc (by decide) rfl, rfl⟩⟩

/-- a row kept from a failed text is validated like any other: `あ` declares the dictionary form 2,
the row with that number comes after the malformed one and was never read — `compile` rejects the
entry (`InvalidFieldSize` at entry 0) instead of emitting a dangling reference -/
theorem failed_read_kept_row_validated :
    build Variant.landed x0
      (inputRaw [.conn m11, partIgn [(row ['あ'] ['0'] ['0']).set 13 ['2'], shortRow, row ['う'] ['0'] ['0']], .resolve]) none
      = .err .compile .InvalidFieldSize 0 := by
  rfl


/-! ## success ⇒ the dictionary LOADS and ANALYSES (last clause of the property): the builder model composed with
C05's writer / loader (`Model/Codec*.lean`, `C05.dict_roundtrip`) and C03's pipeline (`Model/Total.lean`,
`C03.tokenize_total`) through `BuildLoad.toCodec` (`Model/BuildLoad.lean`, executed by the driver on every successful
case and compared with the real `DictionaryLoader`: token `load=` of the answer line)

Parameters of the file C06's builder model does not keep (`BuildLoad.Aux`): creation time (`u64`), description bytes
(C06 keeps their number: `hdesc`), trie blob of the external builder (C06 keeps its length; an array of `u32` units:
`htrie`), code variant of `write_word_info`.  `hbase`: the POS table a user builder starts from has at most 32768 rows
(what a dictionary built by this builder has; 0 for a system builder).  `hsize`: the file is smaller than 4 GiB (the
offsets are `u32`; nothing in the builder checks it - it bounds the trie blob as much as the input). -/

open BuildLoad in
/-- **compile_output_is_codec_file** (FULL).  For every sequence of calls the compiler accepts (any variant with the
right-id check `d3`; any sink), the emitted entries / POS table / matrix are a builder state of C05's writer model
that lies within the limits of the binary format (`Codec.FileOk`: `i16` parameters and matrix sizes, one `i16` per
cell, `u16` POS ids and POS-row count, six strings per POS row, strings of scalar values with ≤ 32767 UTF-16 units,
keys ≤ 32767 bytes, `u32` ids, ≤ 127 items per array and per homograph group, description ≤ 256 bytes) and passes
C05's `validateEntries`: the format limits are exactly what C06's `compile_valid` (limits, references, ids) plus the
types of the parsers establish. -/
theorem compile_output_is_codec_file (v : Variant) (x : Ext) (inp : Input) (limit : Option Nat) (n cnt : Nat) (d : Dict)
    (a : Aux) (h3 : v.d3 = true) (h : build v x inp limit = .ok n cnt d)
    (hbase : inp.base.pos0.length ≤ 32768)
    (hdesc : a.desc.length = inp.descLen) (htime : a.time < 18446744073709551616) (htrie : a.trie.length % 4 = 0)
    (hsize : (Codec.fileBytes (toCodec d inp.base.pos0.length a)).length < 4294967296) :
    Codec.FileOk (toCodec d inp.base.pos0.length a) ∧
    Codec.validateEntries (toCodec d inp.base.pos0.length a).dfOwn (toCodec d inp.base.pos0.length a).maxLeft
      (toCodec d inp.base.pos0.length a).maxRight (toCodec d inp.base.pos0.length a).numSystem
      (toCodec d inp.base.pos0.length a).entries = true := by
  obtain ⟨b, hp, hc, rfl⟩ := build_ok h
  obtain ⟨hsh, hb⟩ := prepare_shape hp
  rw [← hb] at hbase hsize ⊢
  exact ⟨fileOk_of_compile a hsh (prepare_inv hp) hc hbase hdesc htime htrie hsize,
    validateEntries_bridge h3 ((compile_ok_iff ..).1 hc).2.1⟩

open BuildLoad in
/-- **compile_ok_loads** (FULL).  `compile … = ok` ⇒ C05's writer emits the file for the same builder state, the
loader model (`read_system_dictionary` / `read_user_dictionary`: header, grammar block, lexicon block, every offset in
range) succeeds on it and returns what was declared: the POS rows the dictionary adds, the matrix sizes and EVERY cell
(`cellCost`: the last cost written to the cell, 0 if none), one word per entry, and for every entry its parameters
and its word-info record (headword, key length, POS id, split units, word structure, synonym groups).  These are the
quantities of the `load=` / `par=` tokens the driver prints and the harness compares with the real loader. -/
theorem compile_ok_loads (v : Variant) (x : Ext) (inp : Input) (limit : Option Nat) (n cnt : Nat) (d : Dict)
    (a : Aux) (h3 : v.d3 = true) (h : build v x inp limit = .ok n cnt d)
    (hbase : inp.base.pos0.length ≤ 32768)
    (hdesc : a.desc.length = inp.descLen) (htime : a.time < 18446744073709551616) (htrie : a.trie.length % 4 = 0)
    (hsize : (Codec.fileBytes (toCodec d inp.base.pos0.length a)).length < 4294967296) :
    ∃ ld g,
      Codec.compile (toCodec d inp.base.pos0.length a) = .ok (Codec.fileBytes (toCodec d inp.base.pos0.length a)) ∧
      loadFile d.numSystem.isSome (Codec.fileBytes (toCodec d inp.base.pos0.length a)) = .ok ld ∧
      ld.grammar = some g ∧
      g.posList = (d.pos.map (fun k => k.map str)).drop inp.base.pos0.length ∧
      g.numLeft = d.conn.nl.toNat ∧ g.numRight = d.conn.nr.toNat ∧
      (∀ l r, l < d.conn.nl.toNat → r < d.conn.nr.toNat → g.cost l r = .ok (cellCost d.conn l r)) ∧
      ld.lexicon.size = d.entries.length ∧
      ∀ i e, d.entries[i]? = some e →
        ld.lexicon.getParams i = .ok (e.left, e.right, e.cost) ∧
        ∃ wi, ld.lexicon.parseWordInfo i = .ok wi ∧ wi.surface = str e.headwordStr ∧
          wi.headWordLength = Build.utf8Len e.surface ∧ wi.posId = e.pos ∧
          wi.aUnitSplit = e.splitsA.map unitRaw ∧ wi.bUnitSplit = e.splitsB.map unitRaw ∧
          wi.wordStructure = e.wordStructure ∧ wi.synonymGroupIds = e.synonyms := by
  obtain ⟨hok, hval⟩ := compile_output_is_codec_file v x inp limit n cnt d a h3 h hbase hdesc htime htrie hsize
  obtain ⟨ld, g, c1, _, c3, _, _, _, _, g1, g2, g3, g4, g5, _, _, s1, s2⟩ :=
    C05.dict_roundtrip (toCodec d inp.base.pos0.length a) hok hval
  refine ⟨ld, g, c1, ?_, g1, g2, g3, g4, ?_, by rw [s1]; simp [toCodec], ?_⟩
  · unfold loadFile; exact c3
  · intro l r hl hr
    exact g5 (cellCost d.conn) (holds_matrixBytes d.conn) l r hl hr
  · intro i e hi
    have hi' : (toCodec d inp.base.pos0.length a).entries[i]? = some (entry e) := by simp [toCodec, hi]
    obtain ⟨p1, p2⟩ := s2 i (entry e) hi'
    refine ⟨p1, _, p2, entry_headwordS e, ?_, rfl, rfl, rfl, rfl, rfl⟩
    show Codec.utf8LenStr (str e.surface) = Build.utf8Len e.surface
    exact utf8Len_str e.surface

open BuildLoad in
/-- **compiled_dictionary_analyses** (FULL for system dictionaries with a square matrix; D8 and D17 are the two
exclusions, see below).  A system dictionary (`hsys`) compiled with ids validated against the matrix that is written
(`hconn`) whose matrix is square (`hsq`) loads (`compile_ok_loads`) and gives C03's analysis model what
`C03.tokenize_total` asks of a lexicon and a grammar:

* (ids, as USED by `connect`: `conn.cost(previous.right_id, next.left_id)`, first argument bounded by `num_left`, second
  by `num_right`, BOS/EOS have id 0) for every pair of indexed words and for BOS/EOS next to any indexed word the
  loaded matrix answers a cost without its debug assertion or a slice failure, and the cost is an `i16`;
* (references = `LexClosed`) `get_word_info(i)` (all fields, dictionary form resolved inside the lexicon) succeeds for
  every word;
* (`i16` costs) every word's cost is an `i16`; key lengths and unit counts are representable (`compile_ok_loads`);
* hence, for ANY analysis configuration whose lexicon and connection function are the loaded ones (`lexWords`,
  `connFn`), tokenizing any text never panics under the remaining named hypotheses of `C03.tokenize_total`
  (character definition `hmk`, providers `hprov`/`hregex`/`hprovcost`, plugins `hplug`/`hutf`/`hrew`/`hkeep`, D7
  `hbound`, `hrowsz`), which are not about the dictionary file.

Exclusions, each with its kernel-checked counterexample kept: **D17** non-square matrix -
`nonsquare_use_counterexample` (accepted ids outside the dimension the analyser bounds them by), so `hsq`; **D8** user
dictionary with a declared dictionary form - `userdict_dicform_counterexample`, `C05.user_dicform_counterexample`
(`get_word_info` panics), so `hsys` (a user dictionary is analysed through the layered lexicon set, C12's model). -/
theorem compiled_dictionary_analyses (v : Variant) (x : Ext) (inp : Input) (limit : Option Nat) (n cnt : Nat) (d : Dict)
    (a : Aux) (h3 : v.d3 = true) (hconn : SizesFollowMatrix v inp) (h : build v x inp limit = .ok n cnt d)
    (hsys : inp.base.numSystem = none) (hsq : d.conn.nl = d.conn.nr)
    (hbase : inp.base.pos0.length ≤ 32768)
    (hdesc : a.desc.length = inp.descLen) (htime : a.time < 18446744073709551616) (htrie : a.trie.length % 4 = 0)
    (hsize : (Codec.fileBytes (toCodec d inp.base.pos0.length a)).length < 4294967296) :
    ∃ ld g,
      Codec.readSystem (Codec.fileBytes (toCodec d inp.base.pos0.length a)) 0 = .ok ld ∧ ld.grammar = some g ∧
      -- connection ids as used
      (∀ e1 ∈ d.entries, ∀ e2 ∈ d.entries, e1.shouldIndex = true → e2.shouldIndex = true →
        (∃ c, g.cost e1.right.toNat e2.left.toNat = .ok c ∧ Total.I16 c) ∧
        (∃ c, g.cost 0 e2.left.toNat = .ok c ∧ Total.I16 c) ∧ (∃ c, g.cost e1.right.toNat 0 = .ok c ∧ Total.I16 c)) ∧
      -- word infos
      (∀ i, i < d.entries.length → ∃ wi, ld.lexicon.getWordInfo i = .ok wi) ∧
      -- costs
      (∀ w ∈ lexWords d, Total.I16 w.c) ∧ Total.I16Conn (connFn g) ∧
      -- analysis
      ∀ (lv : EditM.LenV) (cfg : Total.Cfg) (orig : List Nat) (rv : Oov.Variant) (bowFix : Bool) (tab : List (Nat × Nat)),
        cfg.lex = lexWords d → cfg.conn = connFn g →
        (∀ chars, Oov.mkBufV rv bowFix tab chars = some (cfg.mkBuf chars)) →
        cfg.providers ≠ [] →
        (∀ p ∈ cfg.providers, ∀ c, p = .regex c → c.skipEmpty = true) →
        (∀ p ∈ cfg.providers, Total.ProviderCostOk p) →
        (∀ p ∈ cfg.inputPlugins, ∀ t, Total.NoPanic (p t)) →
        (∀ l0 l, EditM.startBuild orig = some l0 → Total.rewriteInput lv cfg.inputPlugins l0 = .ok l →
          Wire.utf8Decode (EditM.textOf l) ≠ none) →
        (∀ chars, Total.Reaches lv cfg orig chars → chars.length ≤ 32767) →
        (∀ chars nodes, Total.Reaches lv cfg orig chars →
          Oov.buildLattice cfg.providers cfg.lex (cfg.mkBuf chars) = .ok nodes →
          ∀ e, (nodes.map Total.toVit).countP (fun n => n.e == e) ≤ 4294967295) →
        (∀ path, Total.NoPanic (cfg.rewrite path)) →
        (∀ (nb : Nat) path path', (∀ q ∈ path, q.eb ≤ nb) → cfg.rewrite path = .ok path' → ∀ p ∈ path', p.1.eb ≤ nb) →
        Total.NoPanic (Total.tokenize .d6fix lv cfg orig) := by
  obtain ⟨hok, _⟩ := compile_output_is_codec_file v x inp limit n cnt d a h3 h hbase hdesc htime htrie hsize
  obtain ⟨ld, g, hread, hLA⟩ := Codec.readAny_file _ hok
  have hnl : g.numLeft = d.conn.nl.toNat := hLA.numLeft
  have hnr : g.numRight = d.conn.nr.toNat := hLA.numRight
  have hcost : ∀ l r, l < d.conn.nl.toNat → r < d.conn.nr.toNat → g.cost l r = .ok (cellCost d.conn l r) :=
    Codec.cost_loaded _ ld g hLA _ (holds_matrixBytes d.conn)
  obtain ⟨b, hp, _, hd⟩ := build_ok h
  obtain ⟨⟨⟨_, hents⟩, _⟩, hb⟩ := prepare_shape hp
  have hdns : d.numSystem = none := by subst hd; exact hb ▸ hsys
  have hrange : ∀ e ∈ d.entries, EntryRange e := by subst hd; exact fun e he => (hents e he).1
  have huse := square_use_ok v x inp limit n cnt d h3 hconn h hsq
  have hrefs := compile_valid_refs v x inp limit n cnt d h
  have hrd : Codec.readSystem (Codec.fileBytes (toCodec d inp.base.pos0.length a)) 0 = .ok ld := by
    simpa [toCodec, hdns] using Codec.readKind_loaded _ ld g _ hread hLA
  -- a cost inside the matrix
  have hin : ∀ l r : Int, 0 ≤ l → l < d.conn.nl → 0 ≤ r → r < d.conn.nr →
      ∃ c, g.cost l.toNat r.toNat = .ok c ∧ Total.I16 c := by
    intro l r l0 l1 r0 r1
    exact ⟨_, hcost l.toNat r.toNat (by omega) (by omega), cellCost_range d.conn _ _⟩
  have hlexI : ∀ w ∈ lexWords d, Total.I16 w.c := by
    intro w hw
    simp only [lexWords, List.mem_map, List.mem_filter] at hw
    obtain ⟨e, ⟨he, _⟩, rfl⟩ := hw
    exact (hrange e he).2.2.1
  have hconnI : Total.I16Conn (connFn g) := by
    intro l r
    unfold connFn
    by_cases hlr : l < d.conn.nl.toNat ∧ r < d.conn.nr.toNat
    · rw [hcost l r hlr.1 hlr.2]; exact cellCost_range d.conn l r
    · have : g.cost l r = .panic "debug_assert:conn" := by
        unfold Codec.Grammar.cost Codec.connCost
        rw [hnl, hnr]
        have : l ≥ d.conn.nl.toNat ∨ r ≥ d.conn.nr.toNat := by omega
        rw [if_pos this]
      rw [this]; exact ⟨by decide, by decide⟩
  refine ⟨ld, g, hrd, hLA.grammar, ?_, ?_, hlexI, hconnI, ?_⟩
  · intro e1 he1 e2 he2 i1 i2
    obtain ⟨a1, a2, _, _⟩ := huse e1 he1 i1
    obtain ⟨_, _, b3, b4⟩ := huse e2 he2 i2
    have hpos : (0 : Int) < d.conn.nl ∧ (0 : Int) < d.conn.nr := by omega
    refine ⟨hin _ _ a1 a2 b3 b4, ?_, ?_⟩
    · simpa using hin 0 _ (Int.le_refl 0) hpos.1 b3 b4
    · simpa using hin _ 0 a1 a2 (Int.le_refl 0) hpos.2
  · intro i hi
    obtain ⟨e, he⟩ : ∃ e, d.entries[i]? = some e := ⟨d.entries[i], by simp [hi]⟩
    have hi' : (toCodec d inp.base.pos0.length a).entries[i]? = some (entry e) := by simp [toCodec, he]
    -- the dictionary form of a system dictionary: `*` or an existing entry of the same lexicon
    have hdf := (hrefs e (List.mem_of_getElem? he)).1
    have hst : Codec.storeDf (toCodec d inp.base.pos0.length a).dfFix (entry e) = entry e := by
      apply Codec.storeDf_sys
      rcases hdf with h0 | h0
      · left; exact h0
      · right
        rw [(wid_bridge _).1]; exact (h0.of_system hdns).1
    have hs := Codec.storedEntries_get _ i (entry e) hi'
    rw [hst] at hs
    -- `get_word_info` fetches the dictionary form (`target`) unless it is `*` or the word itself
    have hw := fun target ht => (Codec.getWordInfo_over (hLA.over hok) i _ hs target ht).imp fun _ => And.left
    by_cases hinv : e.dicForm = WID_INVALID
    · exact hw none (Or.inl ⟨hinv, rfl⟩)
    · by_cases hself : e.dicForm = i
      · exact hw none (Or.inr (Or.inl ⟨hself, rfl⟩))
      · obtain ⟨_, hlt, h28⟩ := (hdf.resolve_left hinv).of_system hdns
        exact hw _ (Or.inr (Or.inr ⟨Nat.lt_trans h28 (by decide), hself, _,
          Codec.storedEntries_get (toCodec d inp.base.pos0.length a) e.dicForm (entry d.entries[e.dicForm]) (by simp [toCodec, hlt]), rfl⟩))
  · intro lv cfg orig rv bowFix tab hlex hcn hmk hprov hregex hprovcost hplug hutf hbound hrowsz hrew hkeep
    rw [← hlex] at hlexI
    rw [← hcn] at hconnI
    exact C03.tokenize_total lv cfg orig rv bowFix tab hmk hprov hregex hlexI hprovcost hconnI hplug hutf hbound hrowsz
      hrew hkeep

/-! non-vacuity of the hypotheses of the three theorems above -/

/-- the two-word dictionary of `sink_failure`'s example (`あ` (0,0), `い` (1,1), matrix `2 2`) -/
def twoWords : Input := input (some m22) [row ['あ'] ['0'] ['0'], row ['い'] ['1'] ['1']]

/-- creation time, a 5-byte description, a 1024-byte trie blob (`twoWords.descLen`, `twoWords.trieLen`), repaired writer -/
def twoAux : BuildLoad.Aux := ⟨1600000000, List.replicate 5 97, List.replicate 1024 0, true⟩

set_option maxRecDepth 1000000 in
/-- all hypotheses of `compile_output_is_codec_file` / `compile_ok_loads` / `compiled_dictionary_analyses` hold together
for it on the delivered tree (`Variant.landed`); and the file C05's writer emits for the translated state has exactly the
1412 bytes C06's script counts (the size of the real compiler's output for this input) -/
example : ∃ d, Variant.landed.d3 = true ∧ build Variant.landed x0 twoWords none = .ok 1412 0 d ∧
    SizesFollowMatrix Variant.landed twoWords ∧ twoWords.base.numSystem = none ∧ d.conn.nl = d.conn.nr ∧
    twoWords.base.pos0.length ≤ 32768 ∧ twoAux.desc.length = twoWords.descLen ∧ twoAux.time < 18446744073709551616 ∧
    twoAux.trie.length % 4 = 0 ∧
    (Codec.fileBytes (BuildLoad.toCodec d twoWords.base.pos0.length twoAux)).length = 1412 :=
  ⟨_, rfl, build_of_desc (by decide) rfl, sizesFollow_repaired _ _ rfl rfl (by simp [twoWords, input, Base.system, Base.isUser]), rfl, rfl, by decide, rfl, by decide, rfl, by decide +kernel⟩

/-- a configuration of the analysis model whose lexicon and connection function are the loaded ones exists (the other
hypotheses of `compiled_dictionary_analyses` are those of `C03.tokenize_total`, inhabited together there) -/
example (d : Dict) (g : Codec.Grammar) : ∃ cfg : Total.Cfg, cfg.lex = BuildLoad.lexWords d ∧ cfg.conn = BuildLoad.connFn g :=
  ⟨{ inputPlugins := [], mkBuf := fun _ => ⟨[], [], [], []⟩, providers := [], lex := BuildLoad.lexWords d, conn := BuildLoad.connFn g,
     rewrite := fun p => .ok (p.map (fun n => (n, []))) }, rfl, rfl⟩

end C06
