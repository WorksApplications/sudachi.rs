import Sudachi.Proofs.Basic
import Sudachi.Proofs.Cli
import Sudachi.Proofs.PySession
import Sudachi.Proofs.Edit
/-!
# C19 — Python bindings and the CLI report exactly what the core library computes

Model: `Cli.run` (`sudachi-cli`: read-line loop, `strip_eol`, the analysis modes, `Simple`/`Wakachi`
writers) with the library (sentence splitter, tokenizer, morpheme fields) as a parameter, and
`Cli.pyRun` (Python `Tokenizer.tokenize(text, mode=…)`: override + scope-guard restore).
What the library computes is C01–C16; that the real binary/extension prints exactly what the model
says for the library's answers is the correspondence run of this check.  Python SESSIONS (lists sharing
input cells, `out=` reuse, staleness, what reading a stale list gives) are `Model/PySession.lean` on C10's
`Recycle.World`; see the section on sessions and `stale_read_never_crashes` after it.  "No sequence of Python calls crashes the interpreter" is proved over
that model (no observation is `crash`, every list always has a cell); for the REAL interpreter it stays a
runtime claim, exercised by the Python run of the check (every list and kept morpheme is read after every
call) and labelled partial.
-/
namespace C19
open Cli

/-- **Line terminators are removed** (repaired guards `len > 0`): LF and CRLF are stripped, a line
without terminator is untouched; in particular a blank line is analysed as the empty text. -/
theorem strip_eol_spec (l : Bytes) :
    (l.getLast? ≠ some 13 → stripEolFix (l ++ [10]) = l) ∧
    stripEolFix (l ++ [13, 10]) = l ∧
    (l.getLast? ≠ some 10 → stripEolFix l = l) := by
  refine ⟨fun h => ?_, ?_, fun h => if_neg fun hc => h hc.2⟩
  · rw [stripEolFix_lf, if_neg fun hc => h hc.2]
  · rw [show l ++ [13, 10] = (l ++ [13]) ++ [10] from (List.append_assoc l [13] [10]).symm, stripEolFix_lf,
      if_pos ⟨by rw [List.length_append]; exact Nat.succ_pos _, List.getLast?_concat⟩, List.dropLast_concat]

/-- **The code as it stands violates the blank-line clause** (D14): a blank line keeps its
terminator, a blank CRLF line keeps the CR, so the line is analysed as a one-character text. -/
theorem strip_eol_counterexample :
    stripEolCur [10] = [10] ∧ stripEolCur [13, 10] = [13] ∧ stripEolFix [10] = [] ∧ stripEolFix [13, 10] = [] := by
  decide +kernel

/-- what the code as it stands does guarantee: non-blank lines are stripped correctly -/
theorem strip_eol_cur_partial (l : Bytes) (hne : l ≠ []) :
    (l.getLast? ≠ some 13 → stripEolCur (l ++ [10]) = l) ∧
    stripEolCur (l ++ [13, 10]) = l ∧
    (l.getLast? ≠ some 10 → stripEolCur l = l) := by
  refine ⟨fun h => ?_, ?_, fun h => if_neg fun hc => h hc.2⟩
  · rw [stripEolCur_lf l hne, if_neg fun hc => h hc.2]
  · rw [show l ++ [13, 10] = (l ++ [13]) ++ [10] from (List.append_assoc l [13] [10]).symm,
      stripEolCur_lf _ (List.append_ne_nil_of_right_ne_nil _ (List.cons_ne_nil _ _)),
      if_pos ⟨by rw [List.length_append]; exact Nat.succ_lt_succ (List.length_pos_iff.mpr hne), List.getLast?_concat⟩,
      List.dropLast_concat]

/-- **Every byte of the input is analysed exactly once, line by line**: the lines read by the loop
concatenate to the file, none is empty, each ends with its only `\n` or (the last one) has none. -/
theorem lines_partition (file : Bytes) :
    (lines file).flatten = file ∧ (∀ l ∈ lines file, l ≠ []) ∧
    (∀ l ∈ lines file, (∃ body, l = body ++ [10] ∧ ∀ b ∈ body, b ≠ 10) ∨ (∀ b ∈ l, b ≠ 10)) := by
  have h := linesGo_spec file [] nofun
  exact ⟨h.1, fun l hl => (h.2 l hl).1, fun l hl => (h.2 l hl).2⟩

/-- **Output of one line = per sentence, the formatted library result** (all texts accepted): in the default mode a
line whose stripped text splits into sentences `ss` makes the writer receive the formats of the tokenisations of `ss`
in order; with sentence splitting off the format of the whole line; with `only` the sentences themselves, unseparated. -/
theorem line_output (lib : Lib) (f : Flags) (text : Bytes) (h : ∀ s ∈ unitsOf lib f text, Accepts lib s) :
    (analyzeLine lib f text).outs = specLine lib f text ∧ (analyzeLine lib f text).exit = .ok ∧
    (f.split = .none → specLine lib f text = fmtRes f (lib.tokenize subsetAll text)) ∧
    (f.split = .default → specLine lib f text = ((lib.split text).map (fun s => fmtRes f (lib.tokenize subsetAll s))).flatten) ∧
    (f.split = .only → specLine lib f text = (lib.split text).flatten) := by
  rw [analyzeLine_ok lib f text h]
  refine ⟨rfl, rfl, ?_, ?_, ?_⟩ <;> intro hs <;> simp [specLine, unitsOf, hs]

/-- **END TO END: what the tool delivers is exactly the formatted library morphemes, per line, per sentence.**
For every library behaviour, every flag combination (format, `-a`, split mode, `-d`,
`-o`), every input (file or stdin: the model does not distinguish them) in which the library accepts every text handed
to it: the process exits 0; with `-o` the file holds exactly `spec` = the concatenation over the lines read, over the
sentences of the stripped line, of `format (tokenize ALL-FIELDS sentence)` and stdout holds only the debug dumps (nothing
without `-d`); without `-o` stdout holds, line by line, the dumps of the line followed by `spec` of the line — so without
`-d` stdout is exactly `spec`.  The analysis runs with `InfoSubset::all()`: `SudachiOutput::subset()` is dead code. -/
theorem cli_output_is_library_output (lib : Lib) (f : Flags) (outOk : Bool) (file : Bytes)
    (hout : f.toFile = true → outOk = true)
    (hacc : ∀ l ∈ lines file, ∀ s ∈ unitsOf lib f (stripEol f.strip l), Accepts lib s) :
    let spec := ((lines file).map (fun l => specLine lib f (stripEol f.strip l))).flatten
    let r := run lib f true outOk file
    r.exit = .ok ∧
    (f.toFile = true → r.file = some spec ∧
      r.stdout = ((lines file).map (fun l => dumpsLine lib f (stripEol f.strip l))).flatten) ∧
    (f.toFile = false → r.file = none ∧
      r.stdout = ((lines file).map (fun l => dumpsLine lib f (stripEol f.strip l) ++ specLine lib f (stripEol f.strip l))).flatten) ∧
    (f.toFile = false → f.debug = false → r.stdout = spec) ∧
    (f.debug = false → ∀ l, dumpsLine lib f l = []) := by
  intro spec r
  have hrun := runLines_append lib f (lines file) [] hacc
  rw [List.append_nil, show runLines lib f [] = [] from rfl, List.append_nil] at hrun
  have hexit : exitOf (runLines lib f (lines file)) = .ok := by
    rw [hrun, exitOf_eq, List.map_map]; exact getLastD_all_ok _ (List.forall_mem_map.mpr fun _ _ => rfl)
  have hd : f.debug = false → ∀ l, dumpsLine lib f l = [] := by intro h l; simp [dumpsLine, h]
  refine ⟨?_, fun htf => ?_, fun htf => ?_, fun htf hdb => ?_, hd⟩
  · cases htf : f.toFile <;> simp [r, run, htf, hout, hexit]
  · simp [r, run, htf, hout htf, hrun, spec, List.map_map, Function.comp_def]
  · simp [r, run, htf, hrun, List.map_map, Function.comp_def]
  · simp [r, run, htf, hrun, spec, List.map_map, Function.comp_def, hd hdb]

/-- **A text the library rejects stops the tool** (e.g. a line above 49 149 bytes with `--split-sentences=none`, or one
of its sentences otherwise): if the lines `pre` are accepted and the next line `l` has accepted sentences `us1` followed
by a rejected sentence `s`, the process exits with the panic status (101), the writer has received exactly the results
of `pre` and of `us1` (flushed by the `BufWriter`'s drop), and nothing that follows — neither the rest of the line nor
the remaining lines `post` — is analysed: the outcome is the same for every `post`. -/
theorem cli_stops_at_first_error (lib : Lib) (f : Flags) (file : Bytes) (pre post : List Bytes) (l s d : Bytes) (us1 us2 : List Bytes)
    (hlines : lines file = pre ++ l :: post) (hsplit : f.split = .default)
    (hpre : ∀ x ∈ pre, ∀ u ∈ unitsOf lib f (stripEol f.strip x), Accepts lib u)
    (hunits : lib.split (stripEol f.strip l) = us1 ++ s :: us2) (hus1 : ∀ u ∈ us1, Accepts lib u)
    (hs : lib.tokenize subsetAll s = .err d) (htf : f.toFile = false) (hdb : f.debug = false) :
    let r := run lib f true true file
    r.exit = .panic ∧
    r.stdout = (pre.map (fun x => specLine lib f (stripEol f.strip x))).flatten ++
      (us1.map (fun u => fmtRes f (lib.tokenize subsetAll u))).flatten := by
  intro r
  have hline := analyzeLine_err lib f _ s d us1 us2 (by rw [hsplit]; nofun) (by rw [unitsOf, hsplit]; exact hunits) hus1 hs
  have h := run_stops lib f file pre post l _ hlines hpre hline nofun htf hdb
  exact ⟨h.1, h.2.trans (by rw [hdb]; rfl)⟩

/-- the same with sentence splitting off: the rejected line itself ends the run -/
theorem cli_stops_at_first_error_nosplit (lib : Lib) (f : Flags) (file : Bytes) (pre post : List Bytes) (l d : Bytes)
    (hlines : lines file = pre ++ l :: post) (hsplit : f.split = .none)
    (hpre : ∀ x ∈ pre, ∀ u ∈ unitsOf lib f (stripEol f.strip x), Accepts lib u)
    (hs : lib.tokenize subsetAll (stripEol f.strip l) = .err d) (htf : f.toFile = false) (hdb : f.debug = false) :
    let r := run lib f true true file
    r.exit = .panic ∧ r.stdout = (pre.map (fun x => specLine lib f (stripEol f.strip x))).flatten := by
  intro r
  have hline := analyzeLine_err lib f _ _ d [] [] (by rw [hsplit]; nofun) (by rw [unitsOf, hsplit]; rfl) nofun hs
  have h := run_stops lib f file pre post l _ hlines hpre hline nofun htf hdb
  exact ⟨h.1, h.2.trans (by rw [hdb]; exact List.append_nil _)⟩

/-- **`-o` and `-d` do not change what is delivered**: for EVERY input and library behaviour (errors included) the file
written with `-o` (with or without `-d`) is byte for byte the stdout of the plain run, the exit status is the same, and
with `-o` but without `-d` nothing is printed on stdout. -/
theorem output_file_and_debug_do_not_change_results (lib : Lib) (f : Flags) (d : Bool) (file : Bytes) :
    let plain := run lib { f with debug := false, toFile := false } true true file
    let r := run lib { f with debug := d, toFile := true } true true file
    r.file = some plain.stdout ∧ r.exit = plain.exit ∧ (d = false → r.stdout = []) := by
  intro plain r
  -- the events of the plain run are those of the `-o` run without their dumps
  have hev : runLines lib { f with debug := false, toFile := false } (lines file) =
      (runLines lib { f with debug := d, toFile := true } (lines file)).map noDump :=
    (congrFun (runLines_congr lib lib { f with debug := false, toFile := false } { f with debug := false, toFile := true }
      rfl rfl rfl rfl rfl (fun _ => rfl) (fun _ => rfl)) _).trans
      (runLines_debug_off lib { f with debug := d, toFile := true } (lines file))
  refine ⟨?_, ?_, ?_⟩
  · simp [r, plain, run, hev, List.map_map, Function.comp_def, noDump]
  · simp [r, plain, run, hev, exitOf_eq, List.map_map, Function.comp_def, noDump]
  · intro hd
    subst hd
    simp [r, run, runLines_debug_off lib { f with toFile := true }, List.map_map, Function.comp_def, noDump]

/-- **Only the ALL-FIELDS answers of the library reach the output**: two libraries that agree on sentence splitting and
on the analysis with `InfoSubset::all()` give the same run, whatever they answer for any other subset (in particular for
the subset `SudachiOutput::subset()` declares, which for `--wakati` is empty: `outputSubset`). -/
theorem cli_subset_is_full (lib lib' : Lib) (f : Flags) (i o : Bool) (file : Bytes)
    (ht : ∀ t, lib.tokenize subsetAll t = lib'.tokenize subsetAll t) (hsp : ∀ t, lib.split t = lib'.split t) :
    run lib f i o file = run lib' f i o file ∧ cliSubset f = subsetAll ∧ (f.wakati = true → outputSubset f = 0) := by
  refine ⟨?_, rfl, ?_⟩
  · simp only [run]; rw [runLines_congr lib lib' f f rfl rfl rfl rfl rfl ht hsp]
  · intro h; simp [outputSubset, h]

/-- **A file that cannot be opened**: the input is opened first, the output second, both before the dictionary is
loaded; either failure is a panic (status 101) with nothing written and — for a missing input — no output file created. -/
theorem open_failure (lib : Lib) (f : Flags) (o : Bool) (file : Bytes) :
    run lib f false o file = ⟨[], none, .panic⟩ ∧ (f.toFile = true → run lib f true false file = ⟨[], none, .panic⟩) := by
  constructor
  · simp [run]
  · intro h; simp [run, h]

/-- an empty analysis prints `EOS` alone in the column format and an empty line with `--wakati` -/
theorem empty_analysis_output (all : Bool) :
    simpleOut all [] = asciiBytes "EOS\n" ∧ wakatiOut [] = [10] := by
  constructor <;> rfl

/-- **A per-call mode override never affects later calls**: after any sequence of `tokenize` calls,
with or without override, succeeding or failing, the tokenizer holds the mode it was created with;
and every call ran in its override if given, else in that mode. -/
theorem mode_restored (t : PyTok) (calls : List (Option Mode × Bool)) :
    (pyRun t calls).1.mode = t.mode ∧
    (pyRun t calls).2 = calls.map (fun c => c.1.getD t.mode) := by
  induction calls generalizing t with
  | nil => exact ⟨rfl, rfl⟩
  | cons c rest ih =>
    obtain ⟨o, f⟩ := c
    -- whatever the override, the call hands on a tokenizer in the mode it found
    have hc : pyTokenize t o f = (⟨t.mode⟩, o.getD t.mode) := by cases o <;> rfl
    have := ih ⟨t.mode⟩
    simp only [pyRun, hc, List.map_cons]
    exact ⟨this.1, by rw [this.2]⟩

/-- non-vacuity: a three-line file with a blank line and a CRLF line -/
example : lines [97, 10, 10, 98, 13, 10, 99] = [[97, 10], [10], [98, 13, 10], [99]] ∧
    (lines [97, 10, 10, 98, 13, 10, 99]).map stripEolFix = [[97], [], [98], [99]] ∧
    (lines [97, 10, 10, 98, 13, 10, 99]).map stripEolCur = [[97], [10], [98], [99]] := by
  decide +kernel

/-- non-vacuity of `cli_output_is_library_output` / `cli_stops_at_first_error*`: a library that accepts `a`, rejects `b` -/
def exLib : Lib where
  split := fun t => if t = [97, 46, 98] then [[97, 46], [98]] else [t]
  tokenize := fun _ t => if t = [98] then .err [33] else .ok [⟨t, [[80]], t, t, t, 0, [], false⟩] [100, 10]

example : (run exLib ⟨true, false, .default, .fix, false, false⟩ true true [97, 10, 99, 10]).exit = .ok ∧
    (run exLib ⟨true, false, .default, .fix, false, false⟩ true true [97, 10, 99, 10]).stdout = [97, 10, 99, 10] := by decide +kernel
example : run exLib ⟨true, false, .default, .fix, false, false⟩ true true [99, 10, 97, 46, 98, 10, 99, 10] =
    ⟨[99, 10, 97, 46, 10], none, .panic⟩ := by decide +kernel
example : run exLib ⟨true, false, .none, .fix, false, false⟩ true true [99, 10, 98, 10, 99, 10] = ⟨[99, 10], none, .panic⟩ := by decide +kernel
/-- `-d` on stdout: dumps of the line first, then its results; `-d -o`: dumps on stdout, results in the file -/
example : run exLib ⟨true, false, .default, .fix, true, false⟩ true true [97, 10] = ⟨[100, 10, 97, 10], none, .ok⟩ ∧
    run exLib ⟨true, false, .default, .fix, true, true⟩ true true [97, 10] = ⟨[100, 10], some [97, 10], .ok⟩ := by decide +kernel

/-! ## Python glue (`Model/PyGlue.lean`) -/
open PyGlue in
/-- **"No crash", over the model of the argument handling**: whatever Python passes — any subscript (negative, out of
range, a slice, a string, an int beyond `isize`), a `Morpheme` whose list was reused for a shorter or another result, byte
offsets that are no character boundary, `out=` the morpheme's own list, a mode that is no mode, an unknown field name,
path totals whose difference leaves `i32` — every modelled entry point answers with a value, a Python exception or
(stale objects) an unspecified value/exception; none of them returns `crash`.  PARTIAL for the real extension: that a Rust
panic is turned into `PanicException` by PyO3 and that the `unsafe` lifetime extension of `PyMorpheme::morph` is sound are
exercised by the session runs (the interpreter must answer every call and exit normally), not proved. -/
theorem py_never_crashes :
    (∀ len a, getitem len a ≠ .crash) ∧ (∀ n i st v, access n i st v ≠ .crash) ∧ (∀ t bb be, offsets t bb be ≠ .crash) ∧
    (∀ a, (split a).1 ≠ .crash) ∧ (∀ mo mb fl, create mo mb fl ≠ .crash) ∧ (∀ ts, internalCost ts ≠ .crash) := by
  -- every leaf of every entry point is written as a value, an exception or `unspecified`
  refine ⟨?_, ?_, ?_, ?_, ?_, ?_⟩
  · intro len a
    cases a with
    | int i => exact ite_ne nofun nofun
    | _ => nofun
  · intro n i st v; exact ite_ne nofun (ite_ne nofun nofun)
  · intro t bb be; unfold offsets; split <;> nofun
  · intro a
    simp only [split, apply_ite Prod.fst]
    exact ite_ne nofun <| ite_ne nofun <| ite_ne nofun <| ite_ne nofun <| ite_ne nofun <| ite_ne nofun nofun
  · intro mo mb fl
    refine ite_ne nofun ?_
    cases parseFields fl <;> nofun
  · intro ts
    cases ts with
    | nil => nofun
    | cons a r => exact ite_ne nofun nofun

open PyGlue in
/-- **`MorphemeList[i]` is Python sequence indexing for ints and an exception for everything else** (slices are not
supported), and iteration yields exactly `len` items. -/
theorem getitem_spec (len : Nat) (i : Int) :
    (0 ≤ i → i < len → getitem len (.int i) = .val (toString i)) ∧
    (i < 0 → 0 ≤ i + len → getitem len (.int i) = .val (toString (i + len))) ∧
    ((len : Int) ≤ i ∨ i + len < 0 → getitem len (.int i) = .exc "IndexError") ∧
    getitem len .other = .exc "TypeError" ∧ getitem len .huge = .exc "OverflowError" ∧ (iterate len).length = len := by
  have hlen : (0 : Int) ≤ len := Int.natCast_nonneg len
  refine ⟨fun h0 h1 => ?_, fun h0 h1 => ?_, fun h => ?_, rfl, rfl, List.length_range⟩
  · show (if (if i < 0 then i + (len : Int) else i) < 0 ∨ _ then _ else _) = _
    rw [if_neg (Int.not_lt.mpr h0), if_neg (fun h => h.elim (Int.not_lt.mpr h0) (Int.not_le.mpr h1))]
  · show (if (if i < 0 then i + (len : Int) else i) < 0 ∨ _ then _ else _) = _
    have h2 : i + (len : Int) < len := by have := Int.add_lt_add_right h0 (len : Int); rwa [Int.zero_add] at this
    rw [if_pos h0, if_neg (fun h => h.elim (Int.not_lt.mpr h1) (Int.not_le.mpr h2))]
  · show (if (if i < 0 then i + (len : Int) else i) < 0 ∨ _ then _ else _) = _
    by_cases hn : i < 0
    · rw [if_pos hn, if_pos (h.imp_left fun h1 => absurd (Int.le_trans hlen h1) (Int.not_le.mpr hn)).symm]
    · rw [if_neg hn, if_pos (h.imp_right fun h2 => absurd (Int.add_nonneg (Int.not_lt.mp hn) hlen) (Int.not_le.mpr h2)).symm]

open PyGlue EditM in
/-- **`Morpheme.begin()/end()` are CODE-POINT offsets: the conversion is the one C08 describes.**  For byte offsets
`bb`, `be` of the Rust API that are character boundaries of the original text `t` (C08 `m2o_inv`: every morpheme offset
is one), Python reports the number of code points of `t` before `bb`, before `be`, and `len(m)` = their difference —
by `C08.origB2C_counts`, the table `begin_c/end_c` consult. -/
theorem py_offsets_are_codepoints (t : List Nat) (hne : 0 < nchars t) (bb be : Nat) (hb : BoOf t bb) (he : BoOf t be) :
    offsets t bb be = .val (toString (nchars (t.take bb)) ++ ":" ++ toString (nchars (t.take be)) ++ ":" ++
      toString (nchars (t.take be) - nchars (t.take bb))) := by
  simp [offsets, EditM.origB2C_counts t hne bb hb, EditM.origB2C_counts t hne be he]

open PyGlue in
/-- **`Morpheme.split(mode, out, add_single)` list handling**: with a valid mode, a live morpheme and `out` not its own
list, the returned list holds the declared units when there are any, else the morpheme itself unless `add_single=False`
(the default is True), else nothing — and a given `out` list is cleared and holds exactly that; `out=` the morpheme's own
list and an invalid mode are Python exceptions that leave `out` untouched. -/
theorem split_list_handling (a : SplitArgs) :
    (a.modeOk = true → a.out ≠ .own → a.indexOk = true → a.stale = false →
      split a = (if a.nsplits ≠ 0 then (.val (toString a.nsplits), .filled a.nsplits)
                 else if a.addSingle = some false then (.val "0", .cleared) else (.val "1", .filled 1))) ∧
    (a.modeOk = true → a.out = .own → split a = (.exc "Exception", .untouched)) ∧
    (a.modeOk = false → split a = (.exc "SudachiError", .untouched)) := by
  refine ⟨?_, ?_, ?_⟩
  · intro h1 h2 h3 h4
    simp only [split, h1, h2, h3, h4]
    by_cases hn : a.nsplits ≠ 0
    · simp [hn]
    · simp only [hn]
      cases hadd : a.addSingle with
      | none => simp [addSingleOf]
      | some b => cases b <;> simp [addSingleOf]
  · intro h1 h2; simp [split, h1, h2]
  · intro h1; simp [split, h1]

open PyGlue in
/-- **`Dictionary.create(fields=…)`**: no `fields` means all fields; every documented name maps to its `InfoSubset` bit
(`pos` and `pos_id` to the same one) and the tokenizer receives their union, closed by `set_subset` (a form pulls in the
surface, a split the head-word length, the mode its own split); an unknown name is a `SudachiError`. -/
theorem fields_subset :
    parseFields none = some 1023 ∧
    (∀ names, (∃ n ∈ names, fieldBit n = none) → ∀ mb, create true mb (some names) = .exc "SudachiError") ∧
    parseFields (some ["pos", "pos_id"]) = some 4 ∧ parseFields (some []) = some 0 ∧
    create true 64 (some ["dictionary_form", "pos"]) = .val "87" ∧ create true 0 none = .val "1023" := by
  refine ⟨rfl, ?_, by decide +kernel, by decide +kernel, by decide +kernel, by decide +kernel⟩
  intro names ⟨n, hn, hb⟩ mb
  have : parseFields (some names) = none :=
    congrArg (Option.map orBits) ((Wire.allSome_eq_none_iff _).2 (List.mem_map.mpr ⟨n, hn, hb⟩))
  show (match parseFields (some names) with | none => _ | some b => _) = _
  rw [this]

/-- non-vacuity (Python glue): `あい` = 6 bytes; byte offsets 3..6 are characters 1..2; a morpheme without units -/
example : PyGlue.offsets [0xe3, 0x81, 0x82, 0xe3, 0x81, 0x84] 3 6 = .val "1:2:1" := by decide +kernel
example : EditM.BoOf [0xe3, 0x81, 0x82, 0xe3, 0x81, 0x84] 3 := Or.inr ⟨by decide, by decide⟩
example : PyGlue.split ⟨true, .other, none, true, 0, false⟩ = (.val "1", .filled 1) ∧
    PyGlue.split ⟨true, .other, some false, true, 0, false⟩ = (.val "0", .cleared) ∧
    PyGlue.split ⟨true, .own, none, true, 2, false⟩ = (.exc "Exception", .untouched) ∧
    PyGlue.split ⟨true, .other, none, false, 2, false⟩ = (.exc "PanicException", .cleared) := by decide +kernel
example : PyGlue.getitem 3 (.int (-1)) = .val "2" ∧ PyGlue.getitem 3 (.int 3) = .exc "IndexError" ∧ PyGlue.getitem 0 (.int 0) = .exc "IndexError" := by decide +kernel
/-- the split-made total `i32::MAX` against a negative first total: overflow -/
example : PyGlue.internalCost [-246, 2147483647] = .exc "PanicException" ∧ PyGlue.internalCost [5, 9, 20] = .val "15" := by decide +kernel

/-! ## Python SESSIONS: result lists sharing input cells (`Model/PySession.lean`, on C10's `Recycle.World`) -/
section Session
open Recycle PySession
variable {E : Type}

/-- the `out=` argument of a call -/
def outOf : Call E → Option Nat
  | .tokenize _ out _ => out
  | .split _ _ a => a.out
  | .lookup _ out => out

/-- whether the call rewrites the CONTENT of the cell of `out` (`split` only re-points `out`) -/
def rewritesCell : Call E → Bool
  | .split _ _ _ => false
  | _ => true

/-- **(a) The result of `tokenize` does not depend on which list is passed as `out`** (a reused list, a list sharing
its cell with others, a stale list, or none).  For every state of a session (`ListsOk`: an invariant, see
`session_lists_always_have_a_cell`), text, per-call mode and two choices `out`, `out'`: both calls raise the same
exception class, or both return their list and what every accessor reads from it — the nodes and the content of its
cell — is THE SAME, namely the result path and input buffer of the tokenizer's analysis of `text` in the effective mode.
That this analysis depends only on (text, mode, field request) and not on the session's history is
`C10.observable_result_history_free`; the mode is restored by `C10.py_tokenize_restores_mode`. -/
theorem tokenize_result_independent_of_out (v : ResetVariant) (P : Payload E) (w : World E) (hok : ListsOk w)
    (mode : Option Recycle.Mode) (text : List E) (out out' : Option Nat)
    (ho : ∀ j, out = some j → j < w.lists.length) (ho' : ∀ j, out' = some j → j < w.lists.length) :
    let r := tokenize v P w mode out text
    let r' := tokenize v P w mode out' text
    (∃ e, r.2 = .exc e ∧ r'.2 = .exc e) ∨
    (r.2 = .list (outIdx w out) ∧ r'.2 = .list (outIdx w out') ∧
      view r.1 (outIdx w out) = view r'.1 (outIdx w out') ∧ (view r.1 (outIdx w out)).isSome = true) := by
  intro r r'
  have a := tokenize_view v P w hok mode out text ho
  have b := tokenize_view v P w hok mode out' text ho'
  cases hx : tokResult v P w mode text with
  | error e => rw [hx] at a b; exact .inl ⟨e, a, b⟩
  | ok x => rw [hx] at a b; exact .inr ⟨a.1, b.1, a.2.1.trans b.2.1.symm, by rw [a.2.1]; rfl⟩

/-- **(b) Lists that do not share a cell with `out` are unaffected by a call** — `tokenize`, `split`, `lookup`, with or
without `out=`, succeeding or raising.  Every list `k` other than the one the call writes reads after the call exactly
what it read before (same nodes, same cell, same cell content) unless the call rewrites a cell content (`tokenize`,
`lookup`) and `k` shares the cell of `out`.  In particular `split(out=o)` NEVER changes what any other list reads,
sharing or not: it re-points `o` and touches no cell. -/
theorem unshared_lists_unaffected (v : ResetVariant) (P : Payload E) (w : World E) (hok : ListsOk w) (c : Call E)
    (k : Nat) (hk : k < w.lists.length) (hne : k ≠ outIdx w (outOf c))
    (hns : rewritesCell c = true → ∀ o, outOf c = some o → shares w o k = false) :
    cellOf (step v P w c).1 k = cellOf w k := by
  have hps : ∀ (out : Option Nat), (∀ o, out = some o → shares w o k = false) →
      ∀ L, w.lists[k]? = some L → ¬ (partOf w (outIdx w out) = some L.part ∧ out.isSome = true) := by
    intro out hs L hL ⟨hp, hsome⟩
    obtain ⟨o, rfl⟩ := Option.isSome_iff_exists.mp hsome
    have hk' : partOf w k = some L.part := by unfold partOf; rw [hL]; rfl
    exact Bool.false_ne_true ((hs o rfl).symm.trans ((shares_eq_true w o k).mpr ⟨by rw [hk']; rfl, hp.trans hk'.symm⟩))
  cases c with
  | tokenize mode out text =>
    exact (tokenize_touch v P w mode out text).cellOf_eq hok k hne hk (hps out (hns rfl))
  | split i idx a =>
    exact (split_touch P w i idx a).cellOf_eq hok k hne hk (fun _ _ h => h)
  | lookup q out =>
    exact (dictLookup_touch P w q out).cellOf_eq hok k hne hk (hps out (hns rfl))

/-- **Staleness, exactly**: after `tokenize(text, out=o)` returned, a list `k` that shares the cell of `o` keeps its
nodes and its cell, and the cell now holds the NEW text — `k` reads the content `o` reads (it is stale when it has
morphemes), and `o` still points to the same cell (the swap exchanges contents, not cells). -/
theorem sharing_lists_read_the_new_text (v : ResetVariant) (P : Payload E) (w : World E) (hok : ListsOk w)
    (mode : Option Recycle.Mode) (text : List E) (o k : Nat) (ho : o < w.lists.length) (hk : k < w.lists.length) (hne : k ≠ o)
    (hsh : shares w o k = true) (hret : (tokenize v P w mode (some o) text).2 = .list o) :
    let r := tokenize v P w mode (some o) text
    r.1.lists[k]? = w.lists[k]? ∧ partOf r.1 o = partOf w o ∧
    (cellOf r.1 k).map (·.2) = (cellOf r.1 o).map (·.2) := by
  intro r
  have hl : r.1.lists[k]? = w.lists[k]? := (tokenize_touch v P w mode (some o) text).2.2.1 k hne hk
  have hpo : partOf r.1 o = partOf w o := by
    have a := tokenize_view v P w hok mode (some o) text (fun j hj => Option.some.inj hj ▸ ho)
    cases hx : tokResult v P w mode text with
    | error e => rw [hx] at a; exact nomatch a.symm.trans hret
    | ok x => rw [hx] at a; exact a.2.2 o rfl
  refine ⟨hl, hpo, ?_⟩
  rw [cellOf_text, cellOf_text, partOf_congr hl, hpo, ((shares_eq_true w o k).mp hsh).2]

/-- **`split(out=o)` re-points `o` to the parent's cell exactly when it writes** (units, or the morpheme itself for
`add_single`, whose default is True): then `o` holds the units and shares the parent's cell; when nothing is written `o`
is only cleared and KEEPS its own cell.  (Valid mode, `o` another existing list, index in range, parent not stale.) -/
theorem split_repoints_only_when_writing (P : Payload E) (w : World E) (i idx o : Nat) (a : SplitArgs)
    (Li Lo : MList E) (p : Part E) (node : E)
    (hm : a.modeOk = true) (hout : a.out = some o) (hoi : o ≠ i) (hu : a.unwinds = false)
    (hLi : w.lists[i]? = some Li) (hLo : w.lists[o]? = some Lo) (hn : Li.nodes[idx]? = some node)
    (hp : w.parts[Li.part]? = some p) :
    let units := P.splitNodes a.mode p.subset p.input.view node
    let r := split P w i idx a
    r.2 = .list o ∧
    (units ≠ [] → r.1.lists[o]? = some ⟨Li.part, units⟩) ∧
    (units = [] → a.addSingle ≠ some false → r.1.lists[o]? = some ⟨Li.part, [node]⟩) ∧
    (units = [] → a.addSingle = some false → r.1.lists[o]? = some ⟨Lo.part, []⟩) := by
  intro units r
  have ho : o < w.lists.length := (List.getElem?_eq_some_iff.mp hLo).1
  have hr : r = _ := split_eq P w i idx o a Li Lo p node hm hout hoi hu hLi hLo hn hp
  rw [hr]
  refine ⟨rfl, fun hne => ?_, fun he hadd => ?_, fun he hadd => ?_⟩ <;>
    refine (List.getElem?_set_self ho).trans (congrArg some ?_)
  · rw [if_neg (fun h => hne (List.isEmpty_iff.mp h))]
  · rw [if_pos (List.isEmpty_iff.mpr he), if_pos]
    cases hadd' : a.addSingle with
    | none => rfl
    | some b => cases b with
      | true => rfl
      | false => exact absurd hadd' hadd
  · rw [if_pos (List.isEmpty_iff.mpr he), hadd]; rfl

/-- **Every list always has a cell** (the model's counterpart of "the `Rc` a list holds is never dangling"): after ANY
session of `tokenize` / `split` / `lookup` calls — with any `out=` arguments, reused, shared or stale lists, calls that
raise, lists dropped with an exception — started from a new tokenizer, every existing list points to an existing cell, so
reading any list (`cellOf`) always finds nodes and a text to read them against. -/
theorem session_lists_always_have_a_cell (v : ResetVariant) (m : Recycle.Mode) (calls : List (Payload E × Call E)) (k : Nat)
    (hk : k < (run v (World.init m) calls).1.lists.length) :
    ListsOk (run v (World.init m) calls).1 ∧ (cellOf (run v (World.init m) calls).1 k).isSome = true := by
  have h := PySession.run_listsOk v calls (World.init m) (ListsOk.init m)
  exact ⟨h, cellOf_isSome _ h k hk⟩

end Session

open PySession PyGlue in
/-- **(c) Reading a stale list never crashes the model: it answers with data of the NEW text or an exception.**  For
ANY index tables `t` (the content the list's cell holds NOW, whatever text that is) and ANY node (offsets made for another
text, out of range, inside a character): `begin()`, `end()` and `raw_surface()` answer a value or `PanicException`, never
`crash`; a surface that is returned is a contiguous slice of the cell's CURRENT `original` text that starts and ends on
character boundaries of it; an offset that is returned is an entry of the current text's `orig_b2c` table (not the
`usize::MAX` filler); and a kept `Morpheme` whose index is beyond the list's current length raises.  PARTIAL for the
real extension as `py_never_crashes`: PyO3's panic-to-exception conversion is exercised (every list and every kept
morpheme is read after every call of every session and compared with this model), not proved. -/
theorem stale_read_never_crashes (t : Tabs) (n : NodeR) (nodes : List Nat) (ix : Nat) :
    (∀ o ∈ readNode t n, o ≠ .crash) ∧ (∀ o ∈ readKept t nodes ix, o ≠ .crash) ∧
    (∀ s, origSlice t n.bb n.eb = some s → ∃ a b, a ≤ b ∧ b ≤ t.orig.length ∧ s = (t.orig.drop a).take (b - a) ∧
      isBoundary t.orig a = true ∧ isBoundary t.orig b = true) ∧
    (∀ c, origCharIdx t n.bc = some c → c ∈ t.ob2c ∧ c ≠ usizeMax ∧ t.state ≠ 0) ∧
    (nodes.length ≤ ix → readKept t nodes ix = [.exc "PanicException", .exc "PanicException", .exc "PanicException"]) := by
  have hrn : ∀ n, ∀ o ∈ readNode t n, o ≠ .crash := by
    intro n o ho
    simp only [readNode, List.mem_cons, List.not_mem_nil, or_false] at ho
    rcases ho with rfl | rfl | rfl <;> exact obsOf_ne_crash _ _
  refine ⟨hrn n, ?_, ?_, ?_, ?_⟩
  · intro o ho
    unfold readKept at ho
    cases hn : nodes[ix]? with
    | none =>
      simp only [hn, List.mem_cons, List.not_mem_nil, or_false] at ho
      rcases ho with rfl | rfl | rfl <;> nofun
    | some m => rw [hn] at ho; exact hrn _ o ho
  · intro s hs
    obtain ⟨_, a, b, _, _, hab, hb, ha', hb', e⟩ := origSlice_eq_some hs
    exact ⟨a, b, hab, hb, e, ha', hb'⟩
  · intro c hc
    obtain ⟨h0, hu, _, b', _, _, hr⟩ := origCharIdx_eq_some hc
    exact ⟨List.mem_of_getElem? hr, hu, h0⟩
  · intro hlen
    unfold readKept
    rw [List.getElem?_eq_none hlen]

/-- non-vacuity (sessions): the tables of `あい` (6 bytes, 2 characters).  A node made for it reads `0:1:あ`; a node made for
a longer text (characters 2..3, bytes 6..9) still gets `2` from `begin()` (the sentinel entry of the tables) and raises on
`end()` and `raw_surface()`; a node that ends inside `い` (byte 4) raises on `raw_surface` only. -/
example :
    let t : PySession.Tabs := ⟨2, [0xe3, 0x81, 0x82, 0xe3, 0x81, 0x84], [0xe3, 0x81, 0x82, 0xe3, 0x81, 0x84],
      [0, 1, 2, 3, 4, 5, 6], [0, 3, 6], [0, PySession.usizeMax, PySession.usizeMax, 1, PySession.usizeMax, PySession.usizeMax, 2]⟩
    PySession.readNode t ⟨0, 1, 0, 3⟩ = [.val "0", .val "1", .val "e38182"] ∧
    PySession.readNode t ⟨2, 3, 6, 9⟩ = [.val "2", .exc "PanicException", .exc "PanicException"] ∧
    PySession.readNode t ⟨0, 1, 0, 4⟩ = [.val "0", .val "1", .exc "PanicException"] := by decide +kernel

end C19
