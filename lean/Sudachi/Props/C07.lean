import Sudachi.Proofs.Normalize
import Sudachi.Proofs.NormalizeBuf
import Sudachi.Proofs.NormalizeRegex
import Sudachi.Proofs.NormalizeParse
/-!
# C07 — Text normalisation is the specified context-free function of the input

Model: `Normalize` (`Model/Normalize.lean`): `defaultEdits` = `DefaultInputTextPlugin::rewrite_impl`
(`replaceFast` / `replaceSlow`, path chosen by `useSlow`), `psmEdits` = `ProlongedSoundMarkPlugin`,
`yomiEdits` = `IgnoreYomiganaPlugin`, `applyEdits` = `resolve_edits` on code points.
Specification: `normSpec` (`Proofs/Normalize.lean`).  Further down: the recycled `InputBuffer` (`RBuf`, `Analyser`; proofs in
`Proofs/NormalizeBuf.lean`), the two regular expressions against their language (`RE`, `Proofs/NormalizeRegex.lean`) and
the reader of `rewrite.def` (`parseDef`, `Proofs/NormalizeParse.lean`).

Parameters: the Unicode facts `U : Uni` (arbitrary, constrained only by the explicit predicate
`CharOk`, which `UniOk` implies), the rewrite table `T`, and `earliest : Bool` — `false` is the present code
(`.anchored(Yes)`, leftmost-longest), `true` the code before `cc0ddd6`, which searched with
`.anchored(Yes).earliest(true)` (DESIGN §2.7 D9).  Likewise `U.isUpper` stands for the present `has_lowercase_form`;
with `char::is_uppercase`, the predicate before `becf425`, `CharOk` fails (`lower_skipped_counterexample`).
Quantifiers: all texts, all tables, all mark/bracket sets.
-/
namespace C07
open Normalize

/-- facts for `Ｚ` (U+FF3A: upper case, lower case `ｚ` U+FF5A, NFKC `Z`/`z`); everything else inert -/
def Uz : Uni where
  isUpper c := c == 0xFF3A
  lower c := if c = 0xFF3A then [0xFF5A] else [c]
  nfkc s := s.map (fun c => if c = 0xFF5A then 0x7A else if c = 0xFF3A then 0x5A else c)
  qc c := if c = 0xFF3A ∨ c = 0xFF5A then QC.no else QC.yes
  ccc _ := 0

/-- the table of DESIGN §2.7 D9: `a → x`, `ab → y` -/
def Tab : Table := ⟨[], [([97], [120]), ([97, 98], [121])]⟩

/-- facts for `ǅ` (U+01C5, title case: `is_uppercase` false, lower case `ǆ` U+01C6,
NFKC `D` `ž`; NFKC of `ǆ` = `d` `ž`) -/
def Udz : Uni where
  isUpper _ := false
  lower c := if c = 0x1C5 then [0x1C6] else [c]
  nfkc s := if s = [0x1C5] then [0x44, 0x17E] else if s = [0x1C6] then [0x64, 0x17E] else s
  qc c := if c = 0x1C5 ∨ c = 0x1C6 then QC.no else QC.yes
  ccc _ := 0

theorem uz_ok : UniOk Uz where
  lower_id c h := if_neg (ne_of_beq_false h)
  nfkc_id c h := by
    have hne : ¬ (c = 0xFF3A ∨ c = 0xFF5A) := by
      intro hc
      rw [isNfkcQuick_single, show Uz.qc c = QC.no from if_pos hc,
        if_neg (by rcases hc with rfl | rfl <;> decide)] at h
      cases h
    show [if c = 0xFF5A then 0x7A else if c = 0xFF3A then 0x5A else c] = [c]
    rw [if_neg (fun e => hne (.inr e)), if_neg (fun e => hne (.inl e))]
  lower_nfkc c h hq := by
    cases eq_of_beq h
    exact absurd hq (by decide)
  lower_ne c := by
    show (if c = 0xFF3A then [0xFF5A] else [c]) ≠ []
    split <;> exact List.cons_ne_nil _ _
  nfkc_ne s h := mt List.map_eq_nil_iff.mp h
  lower_head c ds h := by
    by_cases hc : c = 0xFF3A
    · rw [show Uz.lower c = [0xFF5A] from if_pos hc, hc] at h; cases h
    · rw [show Uz.lower c = [c] from if_neg hc] at h; exact (List.cons.inj h).2.symm
  nfkc_head c ds h := (List.cons.inj h).2.symm
  nfkcl_head c ds h := by
    by_cases hc : c = 0xFF3A
    · rw [show Uz.lower c = [0xFF5A] from if_pos hc] at h; exact (List.cons.inj h).2.symm
    · rw [show Uz.lower c = [c] from if_neg hc] at h; exact (List.cons.inj h).2.symm

/-! ### clause 1: the longest table key starting at a position -/

/-- What the code looks up at a position is a table entry whose key is a non-empty
prefix of the remaining text and no shorter than any other such key; it finds nothing only when
no key starts there. -/
theorem longest_key (ps : List Pair) (s : List Nat) :
    (∀ p, longestAt ps s = some p →
      p ∈ ps ∧ p.1 ≠ [] ∧ p.1 <+: s ∧ ∀ q ∈ ps, q.1 ≠ [] → q.1 <+: s → q.1.length ≤ p.1.length) ∧
    (longestAt ps s = none → ∀ q ∈ ps, q.1 ≠ [] → ¬ q.1 <+: s) :=
  ⟨fun p h =>
    have ⟨hmem, hkey, hmax⟩ := longestAt_some h
    ⟨hmem, ((isKeyAt_iff p s).mp hkey).1, ((isKeyAt_iff p s).mp hkey).2,
      fun q hq hne hpre => hmax q hq ((isKeyAt_iff q s).mpr ⟨hne, hpre⟩)⟩,
   fun h q hq hne hpre => by
    have := longestAt_eq_none.mp h q hq
    rw [(isKeyAt_iff q s).mpr ⟨hne, hpre⟩] at this; cases this⟩

/-! ### clause 2: the rewrite is `normSpec` -/

/-- General code path, present code (`earliest = false`): for every table, every text and all
Unicode facts satisfying `CharOk`, applying the edits of `replace_slow` yields exactly the
specification — scanning left to right, longest key → value, any other character lower-cased and
(unless exempt) NFKC-normalised, nothing else changed. -/
theorem slow_eq_spec (U : Uni) (hU : CharOk U) (T : Table) (s : List Nat) :
    applyEdits (replaceSlow U T false s) s = some (normSpec U T s) :=
  scanSpec_charOk hU T s ▸ (slowGo_rewrites U T false s 0 0 (Nat.zero_le _)).2

/-- The earlier code (`earliest = true`).  The full statement,
`∀ U T s, CharOk U → applyEdits (replaceSlow U T true s) s = some (normSpec U T s)`,
is FALSE (`slow_earliest_counterexample`).  Proved: it holds for every table in which no key is a prefix of
the key of another entry (`PrefixFree`; two entries with the same key are excluded too), which includes the
shipped `rewrite.def`. -/
theorem slow_eq_spec_partial (U : Uni) (hU : CharOk U) (T : Table) (hpf : PrefixFree T.pairs)
    (s : List Nat) : applyEdits (replaceSlow U T true s) s = some (normSpec U T s) := by
  rw [← scanSpec_charOk hU T s, ← funext (shortestAt_eq_longestAt hpf)]
  exact (slowGo_rewrites U T true s 0 0 (Nat.zero_le _)).2

/-- D9: with keys `a → x`, `ab → y` the text `abcＺ` (slow path because of `Ｚ`) is rewritten to
`xbcz` by the earlier code (`earliest = true`), while the specification (longest key) gives `ycz`. -/
theorem slow_earliest_counterexample :
    applyEdits (replaceSlow Uz Tab true [97, 98, 99, 0xFF3A]) [97, 98, 99, 0xFF3A] = some [120, 98, 99, 122] ∧
    normSpec Uz Tab [97, 98, 99, 0xFF3A] = [121, 99, 122] ∧
    applyEdits (replaceSlow Uz Tab true [97, 98, 99, 0xFF3A]) [97, 98, 99, 0xFF3A] ≠
      some (normSpec Uz Tab [97, 98, 99, 0xFF3A]) := by
  have h1 : applyEdits (replaceSlow Uz Tab true [97, 98, 99, 0xFF3A]) [97, 98, 99, 0xFF3A] =
      some [120, 98, 99, 122] := by decide
  have h2 : normSpec Uz Tab [97, 98, 99, 0xFF3A] = [121, 99, 122] := by
    rw [normSpec_some Uz Tab 97 _ ([97, 98], [121]) (by decide)]
    simp only [List.length_cons, List.length_nil, List.drop_succ_cons, List.drop_zero]
    rw [normSpec_none Uz Tab 99 _ (by decide), normSpec_none Uz Tab 0xFF3A _ (by decide), normSpec_nil]
    decide
  exact ⟨h1, h2, by rw [h1, h2]; decide⟩

/-- The hypothesis `UniOk.lower_id` cannot be dropped, and with `char::is_uppercase` for `isUpper` (the
predicate before `becf425`) real Unicode data violates it: for the title-case letter `ǅ` (`is_uppercase` false,
`to_lowercase` = `ǆ`) that code writes NFKC(`ǅ`) = `Dž`, the specification NFKC(lower(`ǅ`)) = `dž`.  The present
predicate `has_lowercase_form` is true of `ǅ`.  (Both instances of `earliest`; the table is empty.) -/
theorem lower_skipped_counterexample (e : Bool) :
    applyEdits (replaceSlow Udz ⟨[], []⟩ e [0x1C5]) [0x1C5] = some [0x44, 0x17E] ∧
    normSpec Udz ⟨[], []⟩ [0x1C5] = [0x64, 0x17E] := by
  constructor
  · cases e <;> decide
  · rw [normSpec_none Udz ⟨[], []⟩ 0x1C5 [] (by decide), normSpec_nil]
    decide

/-- Optimised code path: on a text for which `rewrite_impl` chooses it (whole-text quick check
passes, no upper-case character) the edits of `replace_fast` yield the specification. -/
theorem fast_eq_spec (U : Uni) (hU : CharOk U) (T : Table) (s : List Nat) (hfast : useSlow U s = false) :
    applyEdits (replaceFast T s) s = some (normSpec U T s) :=
  scanSpec_charOk hU T s ▸ scanSpec_fast hfast _ T.ignore ▸ (fastGo_rewrites T.pairs 0 s).2

/-- The whole-text quick check implies every character's own quick check (the path is chosen by
the former, characters are treated according to the latter). -/
theorem quick_all_implies_each (U : Uni) (s : List Nat) (h : isNfkcQuick U s = QC.yes) :
    ∀ c ∈ s, isNfkcQuick U [c] = QC.yes :=
  (quickGo_yes U s 0 QC.yes h).2

/-- The plugin as a whole (present code): the text used for lookup is `normSpec` of the input
— a pure function of the input and the table. -/
theorem rewrite_eq_spec (U : Uni) (hU : CharOk U) (T : Table) (s : List Nat) :
    applyEdits (defaultEdits U T false s) s = some (normSpec U T s) :=
  defaultEdits_spec U hU T s

/-- The same for the earlier code (`earliest = true`), for tables without prefix-related keys.  The full
statement (all tables) is false by `slow_earliest_counterexample`. -/
theorem rewrite_eq_spec_partial (U : Uni) (hU : CharOk U) (T : Table) (hpf : PrefixFree T.pairs)
    (s : List Nat) : applyEdits (defaultEdits U T true s) s = some (normSpec U T s) := by
  -- without prefix-related keys the shortest key at a position is the longest: the two searches are one function
  exact scanSpec_charOk hU T s ▸ (defaultEdits_rewrites U T true s (funext (shortestAt_eq_longestAt hpf))).2

/-! ### what is assumed of the Unicode tables (`unicode-normalization`, std case mapping) -/

/-- The eight facts of `UniOk` (not `is_uppercase`-like ⇒ own lower case; quick-check Yes ⇒ own NFKC; lower
case of a clean upper-case character is NFKC; lower case and NFKC never empty; "first output = input ⇒
whole output = input" for the three iterators) imply the per-character assumption `CharOk` under which
all theorems of this file are stated. -/
theorem uni_ok_suffices (U : Uni) (hU : UniOk U) : CharOk U :=
  fun ignore c => charOut_eq_spec U hU ignore 0 c

/-- `CharOk` is EXACTLY what the code needs of the tables: the default plugin meets the specification
for every table and every text if and only if, for every character and either exemption status, the
character's own treatment (`need_lowercase`/`need_nfkc` match, `to_lowercase`, `nfkc`, "first output equals
input ⇒ no edit") gives lower-casing followed — unless exempt — by NFKC.  The harness evaluates `CharOk`
and every clause of `UniOk` on the real tables for every character it ships (`unihyp:*`; a violated
clause is a failure of the run); the thorough tier does so for all 1 112 064 scalar values. -/
theorem uni_assumption_exact (U : Uni) :
    CharOk U ↔ ∀ (T : Table) (s : List Nat), applyEdits (defaultEdits U T false s) s = some (normSpec U T s) := by
  constructor
  · intro hC T s; exact defaultEdits_spec U hC T s
  · intro h ignore c
    -- over a table without keys the plugin writes `charOut` for a one-character text, whatever `U` is
    have h1 := (defaultEdits_rewrites U ⟨ignore, []⟩ false [c] rfl).2.symm.trans (h ⟨ignore, []⟩ [c])
    rw [scanSpec_none _ (by rfl), scanSpec, normSpec_none U ⟨ignore, []⟩ c [] (by rfl), normSpec_nil] at h1
    exact List.append_cancel_right (Option.some.inj h1)

/-! ### clause "a pure function of the input": long-lived (recycled) analysers -/

/-- **History freedom of the input part of an analysis.**  `RBuf` transcribes `InputBuffer` (`reset`,
`start_build`, `refresh_chars`, `commit` with its length guard and the scratch-pair swap, `build`).  For EVERY
state `b` of a buffer — whatever it analysed before, also after analyses that were rejected at `start_build`
or in the middle of `rewrite_input` —, every list of plugins (each reading `original()`, `current()`, the offset
map and `current_chars()`) and every text: `reset` + `push_str(t)` + `start_build` + the plugins + `build` give
the same text and offset map after every plugin, the same outcome and the same final buffer (the scratch
pair `modified_2`/`m2o_2` aside, which nothing reads before clearing it) as a new buffer.  Why: `reset` clears
`original`, `modified`, `m2o` and `mod_chars`, and these are all the fields a later step reads before writing. -/
theorem rewrite_recycled_eq_new (ps : List Plug) (b : RBuf) (t : List Nat) :
    (b.analyse .cur ps t).1.view = (RBuf.new.analyse .cur ps t).1.view ∧
    (b.analyse .cur ps t).2 = (RBuf.new.analyse .cur ps t).2 :=
  RBuf.analyse_congr .cur ps (by rw [RBuf.reset_view, RBuf.reset_view]) t

/-- ... lifted to the way analysers are used: ONE tokenizer and ONE result list, `collect_results` swapping
their buffers after every successful analysis (so a text meets the buffer of the call before last), any
earlier state, any history of accepted and rejected texts: the stages and the outcome of the next text are
those of a new buffer. -/
theorem analyser_history_free (ps : List Plug) (a : Analyser) (hist : List (List Nat)) (t : List Nat) :
    ((Analyser.run .cur ps a hist).tok.analyse .cur ps t).2 = (RBuf.new.analyse .cur ps t).2 :=
  (rewrite_recycled_eq_new ps _ t).2

/-- `refresh_chars` recomputes `mod_chars` only when it is empty.  That is sound: after `start_build` on a
reset buffer the cache is empty-or-current (`Coherent`) and every plugin's `rewrite` keeps it so; hence the
default plugin, which chooses its path from `current_chars()` but edits `current()`, chooses from the
current text: its edits on the buffer are `defaultEdits` of the current text. -/
theorem chars_cache_coherent (p : Plug) (b : RBuf) (hb : b.Coherent) (U : Uni) (T : Table) (e : Bool) :
    (b.rewrite p).1.Coherent ∧
    b.rewrite (defaultPlug U T e) = b.refreshChars.commit (defaultEdits U T e b.modified) :=
  ⟨RBuf.rewrite_coherent p hb, RBuf.rewrite_default hb U T e⟩

/-- **End to end on a recycled buffer**: for every previous state of the buffer, every table, all tables
of Unicode facts satisfying `CharOk`, every text within the input limit whose rewrite is within the
rewrite limit, the text the real pipeline (default plugin) leaves for lookup is `normSpec` of the input. -/
theorem recycled_rewrite_eq_spec (U : Uni) (hC : CharOk U) (T : Table) (b : RBuf) (t : List Nat)
    (h1 : bytes t ≤ 49149) (h2 : newLen t (defaultEdits U T false t) ≤ 65535) :
    ∃ m, (b.analyse .cur [defaultPlug U T false] t).2 = ([(normSpec U T t, m)], none) ∧
         (b.analyse .cur [defaultPlug U T false] t).1.modified = normSpec U T t :=
  RBuf.default_on_recycled_eq_spec U hC T b t h1 h2

/-- The seeded change C07b of DESIGN.md §6 (the index tables, `mod_chars` among them, cleared at the start of `build()`
instead of in `reset()`; `ResetV.lateClear`) is refuted in the kernel: after the already-normalised text `a`
the same buffer leaves `Ｚ` as it is (the path is chosen from the stale characters of `a`), a new buffer
gives `z`. -/
theorem late_clear_counterexample :
    ((RBuf.new.analyse .lateClear [defaultPlug Uz ⟨[], []⟩ false] [97]).1.analyse .lateClear
        [defaultPlug Uz ⟨[], []⟩ false] [0xFF3A]).2.1.map (·.1) = [[0xFF3A]] ∧
    (RBuf.new.analyse .lateClear [defaultPlug Uz ⟨[], []⟩ false] [0xFF3A]).2.1.map (·.1) = [[0x7A]] := by
  constructor
  · -- the stale characters choose the fast path, which over a table without keys has no edit
    simp only [defaultPlug, defaultEditsOn, replaceFast, fastGo_nil_table]
    decide
  · decide

/-! ### clause 3: context freedom; the two code paths agree -/

/-- The optimised and the general code path agree wherever the optimised one is chosen. -/
theorem paths_agree (U : Uni) (hU : CharOk U) (T : Table) (s : List Nat) (hfast : useSlow U s = false) :
    applyEdits (replaceFast T s) s = applyEdits (replaceSlow U T false s) s := by
  rw [fast_eq_spec U hU T s hfast, slow_eq_spec U hU T s]

/-- ... but not in the earlier code (`earliest = true`): on `abc` the fast path gives `yc`, the slow path `xbc`. -/
theorem paths_agree_counterexample :
    applyEdits (replaceFast Tab [97, 98, 99]) [97, 98, 99] = some [121, 99] ∧
    applyEdits (replaceSlow Uz Tab true [97, 98, 99]) [97, 98, 99] = some [120, 98, 99] :=
  -- the fast path is evaluated through the slow path with `earliest = false`, with which it agrees (`paths_agree`)
  ⟨(paths_agree Uz (uni_ok_suffices Uz uz_ok) Tab _ (by decide)).trans (by decide), by decide⟩

/-- How a span is rewritten never depends on unrelated characters elsewhere: if no key occurrence
starting in `u` reaches into `v`, the rewrite of `u ++ v` is the rewrite of `u` followed by the
rewrite of `v` — in particular whether `v` (or `u`) forces the slow path is irrelevant. -/
theorem context_free (U : Uni) (hU : CharOk U) (T : Table) (u v : List Nat) (hns : NoSpan T u v) :
    ∃ a b, applyEdits (defaultEdits U T false u) u = some a ∧
           applyEdits (defaultEdits U T false v) v = some b ∧
           applyEdits (defaultEdits U T false (u ++ v)) (u ++ v) = some (a ++ b) :=
  ⟨normSpec U T u, normSpec U T v, rewrite_eq_spec U hU T u, rewrite_eq_spec U hU T v, by
    rw [rewrite_eq_spec U hU T (u ++ v), normSpec_append U T u v hns]⟩

/-- The earlier code (`earliest = true`) is not context free: `abc` alone ↦ `yc`, but `abc` followed by the
unrelated `Ｚ` ↦ `xbc` + `z`. -/
theorem context_free_counterexample :
    applyEdits (defaultEdits Uz Tab true [97, 98, 99]) [97, 98, 99] = some [121, 99] ∧
    applyEdits (defaultEdits Uz Tab true [0xFF3A]) [0xFF3A] = some [122] ∧
    applyEdits (defaultEdits Uz Tab true [97, 98, 99, 0xFF3A]) [97, 98, 99, 0xFF3A] = some [120, 98, 99, 122] := by
  refine ⟨?_, by decide, by decide⟩
  have hf : useSlow Uz [97, 98, 99] = false := by decide
  unfold defaultEdits
  rw [hf]
  exact paths_agree_counterexample.1

/-! ### clause 4: the other two plugins rewrite exactly the spans their definitions describe -/

/-- Prolonged-sound-mark collapsing: the edits apply without panic and the result is related to the
input by `PsmRel` — non-marks and isolated marks are copied, every maximal run of two or more
marks becomes one replacement symbol, nothing else changes. -/
theorem psm_spec (marks rep : List Nat) (s : List Nat) :
    ∃ out, applyEdits (psmEdits marks rep s) s = some out ∧ PsmRel marks rep s out :=
  have ⟨out, h, hr⟩ := psmGo_rewrites marks rep 0 s
  ⟨out, h.2, hr⟩

/-- Yomigana removal, full strength: the edits apply without panic and the result is related to the
input by `YomiSpec` — scanning left to right, a character is copied only where no described span
(`kanji · left bracket · 1..n readings · right bracket`) starts; where one starts, the one with the
longest admissible reading is taken, only its bracketed group is deleted, and scanning resumes
after the right bracket. -/
theorem yomigana_spec (Y : Yomi) (s : List Nat) :
    ∃ out, applyEdits (yomiEdits Y s) s = some out ∧ YomiSpec Y s out :=
  have ⟨out, h, hr⟩ := yomiGo_rewrites Y 0 s
  ⟨out, h.2, hr⟩

/-- the matcher reports a span iff a described span starts at the position, and then the one with
the longest reading -/
theorem yomigana_match_complete (Y : Yomi) (s : List Nat) :
    (yomiAt Y s = none → ∀ n, ¬ YomiMatch Y s n) ∧
    (∀ n, yomiAt Y s = some n → YomiMatch Y s n ∧ ∀ n', YomiMatch Y s n' → n' ≤ n) :=
  ⟨yomiAt_none, fun _ h => ⟨yomiAt_sound h, yomiAt_longest h⟩⟩

/-- each reported yomigana match is a described span -/
theorem yomigana_match_sound (Y : Yomi) (s : List Nat) (n : Nat) (h : yomiAt Y s = some n) :
    YomiMatch Y s n :=
  yomiAt_sound h

/-! ### the two regular expressions, against a declarative specification of the pattern -/

/-- `[marks]{2,}` with `find_iter`: the run the model computes at a position (`takeWhile`) is the longest
prefix in the LANGUAGE of the pattern (`RE.lang (rePsm marks)`) when it has two or more marks, otherwise no
prefix is in the language; and the plugin's edits are exactly the `find_iter` matches (leftmost, then
continue behind the match), each replaced by the replacement symbol. -/
theorem psm_regex_spec (marks rep : List Nat) (s : List Nat) :
    ((2 ≤ (s.takeWhile marks.contains).length →
        LongestPrefix (rePsm marks).lang s (s.takeWhile marks.contains).length) ∧
     (¬ 2 ≤ (s.takeWhile marks.contains).length → ∀ n, ¬ LongestPrefix (rePsm marks).lang s n)) ∧
    FindIter (LongestPrefix (rePsm marks).lang) 0 s ((psmEdits marks rep s).map (fun e => (e.s, e.e))) ∧
    (∀ e ∈ psmEdits marks rep s, e.rep = rep) :=
  ⟨psm_run_spec marks s, psmGo_find_iter marks rep 0 s⟩

/-- `K(L R{1,n} B)` with `captures_iter`, group 1 deleted: `YomiMatch` (the span predicate of
`yomigana_spec`) is membership of the prefix of `n + 3` characters in the language of the pattern; the
matcher reports `n` iff that prefix is the LONGEST one in the language (nothing iff none is); the plugin's
edits are the `captures_iter` matches, of each the part after the one-character kanji replaced by nothing. -/
theorem yomigana_regex_spec (Y : Yomi) (s : List Nat) :
    (∀ n, YomiMatch Y s n ↔ n + 3 ≤ s.length ∧ (reYomi Y).lang (s.take (n + 3))) ∧
    (∀ n, yomiAt Y s = some n → LongestPrefix (reYomi Y).lang s (n + 3)) ∧
    (yomiAt Y s = none → ∀ m, ¬ LongestPrefix (reYomi Y).lang s m) ∧
    FindIter (LongestPrefix (reYomi Y).lang) 0 s ((yomiEdits Y s).map (fun e => (e.s - 1, e.e))) ∧
    (∀ e ∈ yomiEdits Y s, e.rep = [] ∧ 1 ≤ e.s) :=
  ⟨yomiMatch_iff_lang Y s, (yomiAt_regex_spec Y s).1, (yomiAt_regex_spec Y s).2, yomiGo_captures_iter Y 0 s⟩

/-! ### `rewrite.def`: the reader, line by line -/

/-- `read_rewrite_lists` as a function of the file: with `classify` = the kind of a line after `trim` and
`split_whitespace` (blank or `#…` = skipped; one column of one scalar = exempt character; two columns =
key/value; one column of several scalars, three or more columns = malformed): the read SUCCEEDS iff no line
is malformed and no key is defined twice, and then the key/value list is exactly the two-column lines in
file order and the exempt set exactly the one-column characters — the table every theorem above is about
(`Table.pairs`, `Table.ignore`).  The reader is total: it returns a table or `InvalidDataFormat`. -/
theorem read_rewrite_def_spec (text : List Nat) :
    (∀ T, parseDef text = some T →
      (∀ l ∈ splitLines text, classify l ≠ .bad) ∧ T.pairs = (splitLines text).filterMap pairOf ∧
      T.ignore = ((splitLines text).filterMap exemptOf).reverse ∧ (T.pairs.map (·.1)).Nodup) ∧
    ((∀ l ∈ splitLines text, classify l ≠ .bad) → (((splitLines text).filterMap pairOf).map (·.1)).Nodup →
      ∃ T, parseDef text = some T) := by
  have key := fun T => parseLines_eq_some (splitLines text) ⟨[], []⟩ T List.nodup_nil
  simp only [List.nil_append, List.append_nil] at key
  exact ⟨fun T h => by obtain ⟨h1, h2, rfl⟩ := (key T).mp h; exact ⟨h1, rfl, rfl, h2⟩,
    fun h1 h2 => ⟨_, (key _).mpr ⟨h1, h2, rfl⟩⟩⟩

/-- columns: every column `split_whitespace` yields is non-empty and free of Unicode white space (U+3000,
TAB, CR, NBSP … included), and the columns concatenated are the line without its white space -/
theorem columns_spec (line : List Nat) :
    (∀ w ∈ wordsOf line, w ≠ [] ∧ ∀ c ∈ w, isWhite c = false) ∧
    (wordsOf line).flatten = line.filter (fun c => !isWhite c) :=
  ⟨wordsOf_ok line, wordsOf_flatten line⟩

/-! ### the edit lists handed to `resolve_edits` (C01/C08 take the first three: `Utf8Inv.cpEdits_ok`, `Utf8Inv.editsOk_bytes`) -/

/-- default plugin, both instances, any Unicode facts: edits sorted, non-overlapping, in range
(code-point indices, hence on character boundaries) -/
theorem default_edits_ok (U : Uni) (T : Table) (e : Bool) (s : List Nat) :
    EditsOk s.length 0 (defaultEdits U T e s) :=
  defaultEdits_ok U T e s

theorem psm_edits_ok (marks rep : List Nat) (s : List Nat) : EditsOk s.length 0 (psmEdits marks rep s) :=
  Nat.zero_add s.length ▸ psmGo_edits_ok marks rep 0 s

theorem yomigana_edits_ok (Y : Yomi) (s : List Nat) : EditsOk s.length 0 (yomiEdits Y s) :=
  Nat.zero_add s.length ▸ yomiGo_edits_ok Y 0 s

/-- transport to byte offsets for an arbitrary width function: an `EditsOk` list of code-point
ranges is an `EditsOk` list of byte ranges whose ends are prefix sums of widths, i.e. character
boundaries (`Normalize.off`) -/
theorem edits_ok_bytes (w : Nat → Nat) (s : List Nat) (es : List Edit) (h : EditsOk s.length 0 es) :
    EditsOk (off w s s.length) 0 (es.map (Edit.toBytes w s)) :=
  EditsOk.bytes w s es 0 h

/-- `resolve_edits` does not panic on an `EditsOk` list -/
theorem edits_ok_apply_total (es : List Edit) (s : List Nat) (h : EditsOk s.length 0 es) :
    (applyEdits es s).isSome :=
  applyGo_isSome es 0 s ((Nat.zero_add _).symm ▸ h)

/-! ### non-vacuity of the hypotheses -/

/-- `UniOk` is satisfiable by facts under which the slow path does real work -/
example : UniOk Uz ∧ applyEdits (replaceSlow Uz Tab false [97, 98, 99, 0xFF3A]) [97, 98, 99, 0xFF3A] = some [121, 99, 122] :=
  ⟨uz_ok, by decide⟩

/-- `PrefixFree` holds for a table with keys `a`, `b`; it fails for D9's table -/
example : PrefixFree [([97], [120]), ([98], [121])] ∧ ¬ PrefixFree Tab.pairs := by
  unfold PrefixFree; decide

/-- `useSlow = false` (fast path) is reachable with a key present -/
example : useSlow Uz [97, 98, 99] = false := by decide

/-- `NoSpan`: the key `ab` inside `u = abc` does not reach into `v = Ｚ` -/
example : NoSpan Tab [97, 98, 99] [0xFF3A] := by
  intro i hi p hp hne hpre
  rcases List.mem_cons.mp hp with rfl | hp
  · exact hi
  · -- the key `ab` fits unless it starts at the last character, where it does not occur
    cases List.mem_singleton.mp hp
    match i, hi, hpre with
    | 0, _, _ => decide
    | 1, _, _ => decide
    | 2, _, hpre => exact absurd hpre (by decide)

/-- a described yomigana span exists: `漢(か)` with brackets `(`/`)`, maximum 2 -/
example : yomiAt ⟨fun c => c == 0x6F22, fun c => c == 0x304B, [40], [41], 2⟩ [0x6F22, 40, 0x304B, 41] = some 1 := by
  decide

/-- the prolonged-sound-mark plugin on a concrete text: the run `ー--` collapses, the isolated `-` stays -/
example : applyEdits (psmEdits [0x30FC, 45] [0x30FC] [97, 0x30FC, 45, 45, 98, 45]) [97, 0x30FC, 45, 45, 98, 45] =
    some [97, 0x30FC, 98, 45] := by
  simp [applyEdits, psmEdits, psmGo, applyGo, lenLt]

/-- `CharOk` is satisfiable (facts of `Ｚ`) -/
example : CharOk Uz := uni_ok_suffices Uz uz_ok

/-- a new buffer is `Coherent`; the two limits of `recycled_rewrite_eq_spec` hold for small texts -/
example : RBuf.new.Coherent ∧ bytes [97, 98, 99, 0xFF3A] ≤ 49149 :=
  ⟨Or.inl rfl, by decide⟩

example : newLen [97, 98] [⟨0, 1, [120, 121]⟩] ≤ 65535 := by decide

/-- the hypotheses of `read_rewrite_def_spec` on a concrete file: `a x⏎ab y⏎` parses to the D9 table -/
example : (parseDef [97, 32, 120, 10, 97, 98, 0x3000, 121, 10]).map (·.pairs) = some Tab.pairs := by decide

/-- a duplicate key is rejected -/
example : (parseDef [97, 32, 120, 10, 97, 32, 121]).isNone = true := by decide

/-- the languages are inhabited: `ーー` is in `[ー-]{2,}`, `漢(か)` in the yomigana pattern -/
example : (rePsm [0x30FC, 45]).lang [0x30FC, 0x30FC] := (psm_lang _ _).mpr ⟨Nat.le_refl 2, by decide⟩

example : (reYomi ⟨fun c => c == 0x6F22, fun c => c == 0x304B, [40], [41], 2⟩).lang [0x6F22, 40, 0x304B, 41] :=
  (yomi_lang _ _).mpr ⟨0x6F22, 40, [0x304B], 41, rfl, rfl, rfl, Nat.le_refl 1, by decide, by decide, rfl⟩

end C07
