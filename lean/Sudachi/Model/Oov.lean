import Sudachi.Model.Wire
import Sudachi.Model.CharCat
/-!
# Model of the out-of-vocabulary machinery (property C13)

Mirrors, as written:
* `input_text/buffer/mod.rs`: `build` (the `can_bow` state machine), `fill_cat_continuity`
  (**backward, narrowing** = the code that exists; **forward** = the candidate repair; the
  declarative left-to-right `runsSpec`), `get_word_candidate_length`;
* `analysis/created.rs`: `CreatedWords` (64-bit mask, saturating shift, `Yes/No/Maybe`);
* `plugin/oov/{mecab_oov,simple_oov,regex_oov}/mod.rs`: the definition-file readers and `provide_oov`;
* `analysis/stateful_tokenizer.rs`: `LatticeBuilder::build_lattice` / `provide_oovs` (provider loop, skip at
  NOOOVBOW/NOOOVBOW2, re-invocation of the last provider, `EosBosDisconnect`), OOV word-info synthesis of
  `resolve_best_path` together with the accessors of `WordInfo`/`Morpheme`/`WordId` it is read through;
* `bitflags 2.5` `Flags::iter` (order in which the classes of a character are visited).

Character classes come from `CharCat` (C17).  Positions are code-point indices exactly as in the Rust
(`offset - char idx`); the byte-indexed `mod_bow` is rebuilt from the per-character flags and the UTF-8
widths only for the `buf` observation.
-/
namespace Oov

/-! ## outcomes -/

inductive Outcome (α : Type) where
  | ok (a : α)
  | err (kind : String)
  | panic (why : String)
deriving Repr, DecidableEq

def Outcome.bind {α β : Type} (x : Outcome α) (f : α → Outcome β) : Outcome β :=
  match x with
  | .ok a => f a
  | .err k => .err k
  | .panic w => .panic w

instance : Monad Outcome where
  pure := Outcome.ok
  bind := Outcome.bind

/-! ## category constants (`dic/category_type.rs`) -/

def NOOOVBOW : Nat := 1073741824      -- 1 << 30
def NOOOVBOW2 : Nat := 2147483648     -- 1 << 31
def ALL : Nat := 1073741823           -- 0x3fffffff
def ALPHA : Nat := 32
def GREEK : Nat := 512
def CYRILLIC : Nat := 1024
/-- `ALPHA | GREEK | CYRILLIC` -/
def nonStarting : Nat := 1568

/-- the named flags in declaration order (`Flags::FLAGS`) -/
def flagDefs : List Nat :=
  [1, 2, 4, 8, 16, 32, 64, 128, 256, 512, 1024, 2048, 4096, 8192, 16384, NOOOVBOW, NOOOVBOW2, ALL]

/-- `bitflags::iter::Iter::next` unrolled: named flags contained in `source` that still intersect
`remaining`, in declaration order; whatever is left is yielded as one final value. -/
def iterGo (source : Nat) : List Nat → Nat → List Nat
  | [], rem => if rem ≠ 0 then [rem] else []
  | f :: fs, rem =>
    if rem = 0 then []
    else if source &&& f = f ∧ rem &&& f ≠ 0 then f :: iterGo source fs (rem ^^^ (rem &&& f))
    else iterGo source fs rem

/-- `CategoryType::iter` -/
def flagsIter (cat : Nat) : List Nat := iterGo cat flagDefs cat

/-! ## `InputBuffer::build`: word-start permission -/

/-- the `can_bow` chain of `build`, one flag per character; state = (`next_bow`, `prev_cat`).
`chainBan = false`: the pinned code — a character banned by the preceding NOOOVBOW2 character resets
the flag without looking at its own class; `chainBan = true`: the repaired code — such a character, when
it is NOOOVBOW2 itself, bans its successor too. -/
def bowGoV (chainBan : Bool) : List Nat → Bool → Nat → List Bool
  | [], _, _ => []
  | cat :: rest, nextBow, prev =>
    if !nextBow then false :: bowGoV chainBan rest (if chainBan then cat &&& NOOOVBOW2 == 0 else true) cat
    else if cat &&& NOOOVBOW2 ≠ 0 then false :: bowGoV chainBan rest false cat
    else if cat &&& NOOOVBOW ≠ 0 then false :: bowGoV chainBan rest true cat
    else if cat &&& nonStarting ≠ 0 then (cat &&& prev == 0) :: bowGoV chainBan rest true cat
    else true :: bowGoV chainBan rest true cat

/-- the pinned code -/
def bowGo : List Nat → Bool → Nat → List Bool := bowGoV false

def bowTable (cats : List Nat) : List Bool := bowGo cats true 0

/-- the repaired code -/
def bowTableFix (cats : List Nat) : List Bool := bowGoV true cats true 0

def utf8Width (c : Nat) : Nat := if c < 0x80 then 1 else if c < 0x800 then 2 else if c < 0x10000 then 3 else 4

/-- `mod_bow`: `resize(len, false)` then `mod_bow[bidx] = can_bow` at every character start -/
def bowBytes : List Nat → List Bool → List Bool
  | c :: cs, b :: bs => b :: List.replicate (utf8Width c - 1) false ++ bowBytes cs bs
  | _, _ => []

/-! ## `fill_cat_continuity` -/

/-- the loop `for i in (0..len-1).rev()` over the reversed prefix; `k` = `mod_cat_continuity[i+1]` -/
def bwdLoop : List Nat → Nat → Nat → List Nat → List Nat
  | [], _, _, acc => acc
  | cur :: more, cat, k, acc =>
    if cur &&& cat ≠ 0 then bwdLoop more (cur &&& cat) (k + 1) ((k + 1) :: acc)
    else bwdLoop more cur 1 (1 :: acc)

/-- the code that exists: single pass from the back, narrowing the running class set -/
def fillCatContinuityBackward (cats : List Nat) : List Nat :=
  match cats.reverse with
  | [] => []
  | last :: revRest => bwdLoop revRest last 1 [1]

/-- inner `while end < len` of the forward pass: how many further characters join the run -/
def scan (cat : Nat) : List Nat → Nat
  | [] => 0
  | c :: rest => if cat &&& c = 0 then 0 else 1 + scan (cat &&& c) rest

theorem scan_le (cat : Nat) (l : List Nat) : scan cat l ≤ l.length := by
  induction l generalizing cat with
  | nil => simp [scan]
  | cons c rest ih =>
    simp only [scan]
    split
    · omega
    · have := ih (cat &&& c); simp only [List.length_cons]; omega

/-- `for i in start..end { cont[i] = end - i }` -/
def countdown : Nat → List Nat
  | 0 => []
  | k + 1 => (k + 1) :: countdown k

/-- the candidate repair: greedy left-to-right pass -/
def fillCatContinuityForward : List Nat → List Nat
  | [] => []
  | c :: rest => countdown (scan c rest + 1) ++ fillCatContinuityForward (rest.drop (scan c rest))
termination_by l => l.length
decreasing_by simp only [List.length_drop, List.length_cons]; omega

/-! ### the declarative left-to-right run computation (`runsSpec`) -/

/-- some class is shared by all characters of the (non-empty) stretch -/
def hasCommon : List Nat → Bool
  | [] => false
  | c :: l => l.foldl (· &&& ·) c != 0

/-- the largest `k' ≤ k` such that the first `k'` characters keep a class in common; a run is never
shorter than one character -/
def largestCommon (cats : List Nat) : Nat → Nat
  | 0 => 1
  | k + 1 => if hasCommon (cats.take (k + 1)) then k + 1 else largestCommon cats k

theorem largestCommon_pos (cats : List Nat) (k : Nat) : 1 ≤ largestCommon cats k := by
  induction k with
  | zero => simp [largestCommon]
  | succ k ih => simp only [largestCommon]; split <;> omega

/-- length of the run that starts at the head of `cats`: the maximal stretch with a common class -/
def runLen (cats : List Nat) : Nat := largestCommon cats cats.length

/-- runs determined left to right from the start of the text; every position gets the distance to
the end of its run -/
def runsSpec : List Nat → List Nat
  | [] => []
  | c :: rest => countdown (runLen (c :: rest)) ++ runsSpec (rest.drop (runLen (c :: rest) - 1))
termination_by l => l.length
decreasing_by
  have := largestCommon_pos (c :: rest) (c :: rest).length
  simp only [List.length_drop, List.length_cons]; omega

inductive Variant where
  | backward | forward | spec
deriving Repr, DecidableEq

/-- what the current tree does -/
def defaultVariant : Variant := .backward

def fillCatContinuity (v : Variant) (cats : List Nat) : List Nat :=
  match v with
  | .backward => fillCatContinuityBackward cats
  | .forward => fillCatContinuityForward cats
  | .spec => runsSpec cats

/-! ## the built buffer -/

structure Buf where
  chars : List Nat
  cats : List Nat
  cont : List Nat
  bow : List Bool      -- per character (value of `mod_bow` at the character's first byte)
deriving Repr, DecidableEq

def mkBufV (v : Variant) (bowFix : Bool) (tab : List (Nat × Nat)) (chars : List Nat) : Option Buf :=
  match Wire.allSome (chars.map (CharCat.lookup tab)) with
  | none => none
  | some cats => some ⟨chars, cats, fillCatContinuity v cats, if bowFix then bowTableFix cats else bowTable cats⟩

def mkBuf (v : Variant) (tab : List (Nat × Nat)) (chars : List Nat) : Option Buf := mkBufV v false tab chars

/-- number of leading characters that cannot start a word -/
def nextBow : List Bool → Nat
  | [] => 0
  | b :: bs => if b then 0 else 1 + nextBow bs

/-- `get_word_candidate_length`; `none` = `char_len - char_idx` underflows (debug panic) -/
def wordCandidateLength (bow : List Bool) (idx : Nat) : Option Nat :=
  if idx < bow.length then some (1 + nextBow (bow.drop (idx + 1)))
  else if idx = bow.length then some 0 else none

/-! ## `CreatedWords` -/

inductive HasWord where
  | yes | no | maybe
deriving Repr, DecidableEq

/-- `CreatedWords::single` for a positive length -/
def single (len : Nat) : Nat := 1 <<< (min (len - 1) 63)

def addWord (m len : Nat) : Nat := m ||| single len

def hasWord (m len : Nat) : HasWord :=
  if m &&& single len = 0 then .no else if len ≥ 64 then .maybe else .yes

/-! ## nodes -/

structure Node where
  b : Nat
  e : Nat
  l : Nat
  r : Nat
  c : Int
  oov : Bool
  pos : Nat      -- `WordId::oov(pos).word()` for OOV nodes; 0 for lexicon nodes
deriving Repr, DecidableEq

/-! ## MeCab provider -/

structure CatInfo where
  ctype : Nat
  invoke : Bool
  group : Bool
  length : Nat
deriving Repr, DecidableEq

structure OovDef where
  l : Nat
  r : Nat
  c : Int
  pos : Nat
deriving Repr, DecidableEq

structure MecabCfg where
  cats : List (Nat × CatInfo)          -- HashMap keyed by the parsed class set
  oovs : List (Nat × List OovDef)      -- HashMap class -> lines in file order
  /-- which `provide_oov_gen` is modelled: `false` = the pinned code (at the end of the text `char_distance` saturates and
  the 1..n loop pushes the last candidate again for every further `i`), `true` = the repair `fix: the MeCab OOV provider
  stops its 1..n candidates at the end of the text` (`|| sublength < i`).  Not a setting of the plugin: the harness probes
  `plugin/oov/mecab_oov/mod.rs` and puts `mstop=1` on the case line for the repaired tree. -/
  stopAtEnd : Bool := false
deriving Repr, DecidableEq

def findKey {α : Type} (k : Nat) : List (Nat × α) → Option α
  | [] => none
  | (k', v) :: rest => if k' = k then some v else findKey k rest

/-- `get_oov_node` -/
def mkNode (b e : Nat) (d : OovDef) : Node := ⟨b, e, d.l, d.r, d.c, true, d.pos⟩

/-- `for i in 1..=length { sublength = char_distance(offset, i); if sublength > llength {break}; … }`;
`cnt` = iterations left, `i` = loop variable; `stop` = the repaired test `sublength > llength || sublength < i` -/
def lenLoop (stop : Bool) (oovs : List OovDef) (offset n llength : Nat) : Nat → Nat → List Node
  | 0, _ => []
  | cnt + 1, i =>
    let sub := min (offset + i) n - offset
    if sub > llength || (stop && sub < i) then []
    else oovs.map (mkNode offset (offset + sub)) ++ lenLoop stop oovs offset n llength cnt (i + 1)

/-- body of `for ctype in input.cat_at_char(offset).iter()` -/
def mecabClass (cfg : MecabCfg) (n offset charLen : Nat) (created : Nat) (ct : Nat) : List Node :=
  match findKey ct cfg.cats with
  | none => []
  | some ci =>
    if !ci.invoke && created ≠ 0 then []
    else match findKey ci.ctype cfg.oovs with
      | none => []
      | some oovs =>
        let grp := if ci.group then oovs.map (mkNode offset (offset + charLen)) else []
        let llength := if ci.group then charLen - 1 else charLen
        grp ++ lenLoop cfg.stopAtEnd oovs offset n llength ci.length 1

/-- `MeCabOovPlugin::provide_oov_gen`; indexing out of range panics -/
def mecabProvide (cfg : MecabCfg) (buf : Buf) (offset created : Nat) : Outcome (List Node) :=
  match buf.cont[offset]?, buf.cats[offset]? with
  | some charLen, some cat =>
    if charLen = 0 then .ok []
    else .ok ((flagsIter cat).flatMap (mecabClass cfg buf.chars.length offset charLen created))
  | _, _ => .panic "index"

/-! ## Simple provider -/

structure SimpleCfg where
  l : Nat
  r : Nat
  c : Int
  pos : Nat
deriving Repr, DecidableEq

def simpleProvide (cfg : SimpleCfg) (buf : Buf) (offset created : Nat) : Outcome (List Node) :=
  if created ≠ 0 then .ok []
  else match wordCandidateLength buf.bow offset with
    | none => .panic "underflow"
    | some len => .ok [⟨offset, offset + len, cfg.l, cfg.r, cfg.c, true, cfg.pos⟩]

/-! ## Regex provider

The `regex` crate is not modelled; the harness only configures patterns of the shape
`[set]{min,max}` or `[set]{min,max}|[set']{min',max'}` (`set` spelled with `\x{…}` escapes), whose
leftmost-first match on the slice is computed directly: `set_up` prefixes `^`, which anchors the
first alternative only. -/

structure Alt where
  set : List Nat
  min : Nat
  max : Option Nat
deriving Repr, DecidableEq

/-- greedy `[set]{0,max}` prefix length -/
def greedy (set : List Nat) : Option Nat → List Nat → Nat
  | some 0, _ => 0
  | _, [] => 0
  | mx, c :: rest => if set.contains c then 1 + greedy set (mx.map (· - 1)) rest else 0

def altMatch (a : Alt) (s : List Nat) : Option Nat :=
  let k := greedy a.set a.max s
  if k ≥ a.min then some k else none

/-- `regex.find(slice)` followed by the `m.start() != 0 → Ok(0)` test: `some k` = a match `[0,k)` -/
def regexFind (alts : List Alt) (s : List Nat) : Option Nat :=
  alts.findSome? (fun a => altMatch a s)

structure RegexCfg where
  l : Nat
  r : Nat
  c : Int
  pos : Nat
  alts : List Alt
  maxLength : Nat
  strict : Bool
  /-- which `provide_oov` is modelled: `false` = the pinned code (an empty match reaches
  `CreatedWords::single(0)`: debug assertion), `true` = the repair `fix: the regex OOV provider ignores an empty
  match` (`if match_length == 0 { return Ok(0) }`).  Not a setting of the plugin: the harness probes
  `plugin/oov/regex_oov/mod.rs` and puts `rxempty=skip` on the case line for the repaired tree. -/
  skipEmpty : Bool := false
deriving Repr, DecidableEq

/-- the strict-boundary test at the head of `provide_oov`: `some false` = "no discontinuity" (return `Ok(0)`);
`none` = index panic -/
def regexAtBoundary (cfg : RegexCfg) (buf : Buf) (offset : Nat) : Option Bool :=
  if cfg.strict && offset > 0 then
    match buf.cont[offset]?, buf.cont[offset - 1]? with
    | some t, some p => some (t + 1 != p)
    | _, _ => none
  else some true

def regexNode (cfg : RegexCfg) (offset k : Nat) : Node := ⟨offset, offset + k, cfg.l, cfg.r, cfg.c, true, cfg.pos⟩

/-- the rest of `provide_oov`: slice of at most `max_length` characters, match, created-length test
(with the linear scan over `result` for `Maybe`) -/
def regexCore (cfg : RegexCfg) (buf : Buf) (offset created : Nat) (existing : List Node) : Outcome (List Node) :=
  if offset > buf.chars.length then .panic "slice" else
  match regexFind cfg.alts ((buf.chars.take (min buf.chars.length (offset + cfg.maxLength))).drop offset) with
  | none => .ok []
  | some k =>
    if k = 0 then (if cfg.skipEmpty then .ok [] else .panic "CreatedWords::single(0)") else
    match hasWord created k with
    | .yes => .ok []
    | .no => .ok [regexNode cfg offset k]
    | .maybe => if existing.any (fun x => x.e == offset + k) then .ok [] else .ok [regexNode cfg offset k]

/-- `RegexOovProvider::provide_oov`; `existing` = the nodes already in the buffer (`result`) -/
def regexProvide (cfg : RegexCfg) (buf : Buf) (offset created : Nat) (existing : List Node) : Outcome (List Node) :=
  match regexAtBoundary cfg buf offset with
  | none => .panic "index"
  | some false => .ok []
  | some true => regexCore cfg buf offset created existing

/-! ## providers and the lattice builder -/

inductive Provider where
  | mecab (cfg : MecabCfg)
  | simple (cfg : SimpleCfg)
  | regex (cfg : RegexCfg)
deriving Repr, DecidableEq

def provide (p : Provider) (buf : Buf) (offset created : Nat) (existing : List Node) : Outcome (List Node) :=
  match p with
  | .mecab cfg => mecabProvide cfg buf offset created
  | .simple cfg => simpleProvide cfg buf offset created
  | .regex cfg => regexProvide cfg buf offset created existing

/-- `for idx in start_size..start_size+num_provided { other = other.add_word(len) … }` -/
def addAll (created : Nat) (nodes : List Node) : Nat :=
  nodes.foldl (fun m x => addWord m (x.e - x.b)) created

/-- `provide_oovs`: state = (`created`, node buffer) -/
def provideOovs (p : Provider) (buf : Buf) (offset : Nat) (st : Nat × List Node) : Outcome (Nat × List Node) :=
  match provide p buf offset st.1 st.2 with
  | .ok new => .ok (addAll st.1 new, st.2 ++ new)
  | .err k => .err k
  | .panic w => .panic w

def provideAll (ps : List Provider) (buf : Buf) (offset : Nat) (st : Nat × List Node) : Outcome (Nat × List Node) :=
  match ps with
  | [] => .ok st
  | p :: rest =>
    match provideOovs p buf offset st with
    | .ok st' => provideAll rest buf offset st'
    | .err k => .err k
    | .panic w => .panic w

structure Word where
  surface : List Nat
  l : Nat
  r : Nat
  c : Int
deriving Repr, DecidableEq

def isPrefix : List Nat → List Nat → Bool
  | [], _ => true
  | _ :: _, [] => false
  | a :: as, b :: bs => a == b && isPrefix as bs

/-- `lexicon.lookup(bytes, byte_off)` entered by its specification (C04: exactly the indexed entries that
are prefixes of the rest of the text), followed by the builder's `can_bow(e.end)` filter -/
def lexNodes (lex : List Word) (buf : Buf) (offset : Nat) : List Node :=
  let rest := buf.chars.drop offset
  let n := buf.chars.length
  (lex.filter (fun w => !w.surface.isEmpty && isPrefix w.surface rest)).filterMap (fun w =>
    let e := offset + w.surface.length
    let node : Node := ⟨offset, e, w.l, w.r, w.c, false, 0⟩
    if e < n then
      match buf.bow[e]? with
      | some false => none
      | _ => some node
    else some node)

/-- dictionary words, then `for provider in oov_providers` unless the character is NOOOVBOW/NOOOVBOW2 -/
def afterLoop (ps : List Provider) (lex : List Word) (buf : Buf) (offset cat : Nat) : Outcome (Nat × List Node) :=
  if cat &&& (NOOOVBOW ||| NOOOVBOW2) = 0 then
    provideAll ps buf offset (addAll 0 (lexNodes lex buf offset), lexNodes lex buf offset)
  else .ok (addAll 0 (lexNodes lex buf offset), lexNodes lex buf offset)

/-- `if created.is_empty() { provider = oov_providers.last().unwrap(); … }` -/
def fallback (ps : List Provider) (buf : Buf) (offset : Nat) (st : Nat × List Node) : Outcome (Nat × List Node) :=
  if st.1 = 0 then
    match ps.getLast? with
    | none => .panic "unwrap"
    | some p => provideOovs p buf offset st
  else .ok st

/-- `if created.is_empty() { return Err(EosBosDisconnect) }` -/
def finish (st : Nat × List Node) : Outcome (List Node) :=
  if st.1 = 0 then .err "Disconnect" else .ok st.2

/-- one iteration of the `for (ch_off, byte_off)` loop for a position with a previous node -/
def stepAt (ps : List Provider) (lex : List Word) (buf : Buf) (offset : Nat) : Outcome (List Node) :=
  match buf.cats[offset]? with
  | none => .panic "index"
  | some cat => (afterLoop ps lex buf offset cat).bind (fun st1 => (fallback ps buf offset st1).bind finish)

/-- `has_previous_node(p)`: the BOS entry at 0 or a node ending at `p` -/
def reachable (nodes : List Node) (p : Nat) : Bool := p == 0 || nodes.any (fun x => x.e == p)

/-- the position loop of `build_lattice`; `nodes` = everything inserted so far -/
def buildFrom (ps : List Provider) (lex : List Word) (buf : Buf) : List Nat → List Node → Outcome (List Node)
  | [], nodes => .ok nodes
  | p :: rest, nodes =>
    if !reachable nodes p then buildFrom ps lex buf rest nodes
    else match stepAt ps lex buf p with
      | .ok new => buildFrom ps lex buf rest (nodes ++ new)
      | .err k => .err k
      | .panic w => .panic w

/-- `build_lattice` (connection costs do not influence which nodes exist; `connect_eos` fails when no
node ends at the end of the text) -/
def buildLattice (ps : List Provider) (lex : List Word) (buf : Buf) : Outcome (List Node) :=
  match buildFrom ps lex buf (List.range buf.chars.length) [] with
  | .ok nodes => if reachable nodes buf.chars.length then .ok nodes else .err "Disconnect"
  | .err k => .err k
  | .panic w => .panic w

/-! ## the builder with its provider calls recorded

`build_lattice` decides per position (i) whether the provider list is run at all — by the CLASS of the
character at the position (`cat_at_char(ch_off)` ∩ {NOOOVBOW, NOOOVBOW2}), not by `can_bow` —, (ii) in which
order and with which `created` mask / node buffer every provider is called, (iii) whether the last provider
is called once more.  The functions below are the same loop as `stepAt`/`buildFrom`/`buildLattice` but keep
every `provide_oov` call (`Call`); `Proofs/OovLattice.lean` shows that forgetting the calls gives back
`stepAt`/`buildLattice` (`stepAtT_nodes`, `buildLatticeT_nodes`).  The driver prints the calls, the harness
observes them on the real builder through wrapped providers. -/

/-- one `plugin.provide_oov(input, offset, other_words, result)` made by `provide_oovs` -/
structure Call where
  /-- position of the provider in `oov_providers` -/
  idx : Nat
  /-- `char_offset` -/
  offset : Nat
  /-- `other_words` -/
  created : Nat
  /-- `result.len()` on entry (`start_size`) -/
  pre : Nat
  /-- the nodes the provider pushed -/
  out : List Node
deriving Repr, DecidableEq

/-- `provide_oovs` for the provider at index `i` -/
def provideOovsT (i : Nat) (p : Provider) (buf : Buf) (offset : Nat) (st : Nat × List Node) :
    Outcome ((Nat × List Node) × Call) :=
  match provide p buf offset st.1 st.2 with
  | .ok new => .ok ((addAll st.1 new, st.2 ++ new), ⟨i, offset, st.1, st.2.length, new⟩)
  | .err k => .err k
  | .panic w => .panic w

/-- `for provider in self.oov_providers`; `i` = index of the head of `ps` in the configured list -/
def provideAllT (ps : List Provider) (i : Nat) (buf : Buf) (offset : Nat) (st : Nat × List Node) :
    Outcome ((Nat × List Node) × List Call) :=
  match ps with
  | [] => .ok (st, [])
  | p :: rest =>
    match provideOovsT i p buf offset st with
    | .ok (st', c) =>
      match provideAllT rest (i + 1) buf offset st' with
      | .ok (st'', cs) => .ok (st'', c :: cs)
      | .err k => .err k
      | .panic w => .panic w
    | .err k => .err k
    | .panic w => .panic w

/-- what happened at one position that has a previous node -/
structure PosTrace where
  pos : Nat
  /-- the character's class allowed the provider loop (`!cat.intersects(NOOOVBOW | NOOOVBOW2)`) -/
  asked : Bool
  /-- dictionary words (after the `can_bow(e.end)` filter) -/
  lexN : List Node
  /-- the calls of the provider loop, in order -/
  calls : List Call
  /-- the extra call of the last provider when nothing had been created -/
  fb : Option Call
  /-- everything inserted into the lattice at this position -/
  nodes : List Node
deriving Repr, DecidableEq

/-- `the character at `offset` lets the provider loop run` -/
def asksProviders (cat : Nat) : Bool := cat &&& (NOOOVBOW ||| NOOOVBOW2) == 0

/-- one iteration of the position loop, calls recorded -/
def stepAtT (ps : List Provider) (lex : List Word) (buf : Buf) (offset : Nat) : Outcome PosTrace :=
  match buf.cats[offset]? with
  | none => .panic "index"
  | some cat =>
    let lexN := lexNodes lex buf offset
    let st0 : Nat × List Node := (addAll 0 lexN, lexN)
    let loop : Outcome ((Nat × List Node) × List Call) :=
      if asksProviders cat then provideAllT ps 0 buf offset st0 else .ok (st0, [])
    match loop with
    | .err k => .err k
    | .panic w => .panic w
    | .ok (st1, calls) =>
      if st1.1 = 0 then
        match ps.getLast? with
        | none => .panic "unwrap"
        | some p =>
          match provideOovsT (ps.length - 1) p buf offset st1 with
          | .err k => .err k
          | .panic w => .panic w
          | .ok (st2, c) =>
            if st2.1 = 0 then .err "Disconnect"
            else .ok ⟨offset, asksProviders cat, lexN, calls, some c, st2.2⟩
      else .ok ⟨offset, asksProviders cat, lexN, calls, none, st1.2⟩

/-- the position loop, one `PosTrace` per position with a previous node -/
def buildFromT (ps : List Provider) (lex : List Word) (buf : Buf) :
    List Nat → List Node → List PosTrace → Outcome (List Node × List PosTrace)
  | [], nodes, tr => .ok (nodes, tr)
  | p :: rest, nodes, tr =>
    if !reachable nodes p then buildFromT ps lex buf rest nodes tr
    else match stepAtT ps lex buf p with
      | .ok t => buildFromT ps lex buf rest (nodes ++ t.nodes) (tr ++ [t])
      | .err k => .err k
      | .panic w => .panic w

def buildLatticeT (ps : List Provider) (lex : List Word) (buf : Buf) : Outcome (List Node × List PosTrace) :=
  match buildFromT ps lex buf (List.range buf.chars.length) [] [] with
  | .ok (nodes, tr) => if reachable nodes buf.chars.length then .ok (nodes, tr) else .err "Disconnect"
  | .err k => .err k
  | .panic w => .panic w

/-- every `provide_oov` call of a run, in the order they were made -/
def allCalls (tr : List PosTrace) : List Call :=
  tr.flatMap (fun t => t.calls ++ t.fb.toList)

/-! ## the builder with its provider calls recorded ALSO when the run fails

`buildLatticeT` drops the trace when a step returns `Err`/panics.  The functions below are the same loop once more,
returning the completed `provide_oov` calls (those that returned `Ok`, in the order they were made) TOGETHER with the
outcome, so that the calls made before an `EosBosDisconnect` / a panic are part of the answer as well.
`Proofs/OovLattice.lean` shows: the outcome is `buildLattice`'s, and on success the calls are `allCalls` of
`buildLatticeT` (`buildLatticeP_outcome`, `buildLatticeP_calls`). -/

/-- `for provider in self.oov_providers`, calls kept on failure (a call that fails is not a completed call) -/
def provideAllP (ps : List Provider) (i : Nat) (buf : Buf) (offset : Nat) (st : Nat × List Node) :
    List Call × Outcome (Nat × List Node) :=
  match ps with
  | [] => ([], .ok st)
  | p :: rest =>
    match provideOovsT i p buf offset st with
    | .ok (st', c) =>
      let r := provideAllP rest (i + 1) buf offset st'
      (c :: r.1, r.2)
    | .err k => ([], .err k)
    | .panic w => ([], .panic w)

/-- one iteration of the position loop: completed calls + outcome -/
def stepAtP (ps : List Provider) (lex : List Word) (buf : Buf) (offset : Nat) : List Call × Outcome (List Node) :=
  match buf.cats[offset]? with
  | none => ([], .panic "index")
  | some cat =>
    let lexN := lexNodes lex buf offset
    let st0 : Nat × List Node := (addAll 0 lexN, lexN)
    let loop : List Call × Outcome (Nat × List Node) :=
      if asksProviders cat then provideAllP ps 0 buf offset st0 else ([], .ok st0)
    match loop.2 with
    | .err k => (loop.1, .err k)
    | .panic w => (loop.1, .panic w)
    | .ok st1 =>
      if st1.1 = 0 then
        match ps.getLast? with
        | none => (loop.1, .panic "unwrap")
        | some p =>
          match provideOovsT (ps.length - 1) p buf offset st1 with
          | .err k => (loop.1, .err k)
          | .panic w => (loop.1, .panic w)
          | .ok (st2, c) =>
            if st2.1 = 0 then (loop.1 ++ [c], .err "Disconnect")
            else (loop.1 ++ [c], .ok st2.2)
      else (loop.1, .ok st1.2)

/-- the position loop: all completed calls so far + outcome -/
def buildFromP (ps : List Provider) (lex : List Word) (buf : Buf) :
    List Nat → List Node → List Call → List Call × Outcome (List Node)
  | [], nodes, cs => (cs, .ok nodes)
  | p :: rest, nodes, cs =>
    if !reachable nodes p then buildFromP ps lex buf rest nodes cs
    else
      let r := stepAtP ps lex buf p
      match r.2 with
      | .ok new => buildFromP ps lex buf rest (nodes ++ new) (cs ++ r.1)
      | .err k => (cs ++ r.1, .err k)
      | .panic w => (cs ++ r.1, .panic w)

/-- `build_lattice`: every completed `provide_oov` call + the outcome (`connect_eos` makes no call) -/
def buildLatticeP (ps : List Provider) (lex : List Word) (buf : Buf) : List Call × Outcome (List Node) :=
  let r := buildFromP ps lex buf (List.range buf.chars.length) [] []
  match r.2 with
  | .ok nodes => if reachable nodes buf.chars.length then (r.1, .ok nodes) else (r.1, .err "Disconnect")
  | .err k => (r.1, .err k)
  | .panic w => (r.1, .panic w)

/-! ## OOV word info (`resolve_best_path`, `WordId`, `WordInfo`, `Morpheme`) -/

/-- `WordId::oov(pos_id)` = `WordId::new(0xF, pos_id)` -/
def wordIdOov (pos : Nat) : Nat := 15 * 268435456 + pos % 268435456
def widDic (raw : Nat) : Nat := raw / 268435456
def widWord (raw : Nat) : Nat := raw % 268435456
def widIsOov (raw : Nat) : Bool := widDic raw == 15

structure OovInfo where
  isOov : Bool
  dictionaryId : Int
  posId : Nat
  surface : List Nat
  normalizedForm : List Nat
  dictionaryForm : List Nat
  readingForm : List Nat
deriving Repr, DecidableEq

/-- what a morpheme built from an OOV node `[b,e)` with raw word id `raw` reports: the synthesised
`WordInfoData { pos_id: word() as u16, surface: curr_slice_c(b..e), ..Default::default() }` read through the
accessors (empty form = surface) -/
def oovInfo (chars : List Nat) (b e raw : Nat) : OovInfo :=
  let slice := (chars.take e).drop b
  let normalized : List Nat := []
  let dictionary : List Nat := []
  let reading : List Nat := []
  { isOov := widIsOov raw
    dictionaryId := if widIsOov raw then -1 else Int.ofNat (widDic raw)
    posId := widWord raw % 65536
    surface := slice
    normalizedForm := if normalized.isEmpty then slice else normalized
    dictionaryForm := if dictionary.isEmpty then slice else dictionary
    readingForm := if reading.isEmpty then slice else reading }

end Oov
